import IOptProofs.HillRows
/-! Kernel-evaluated certificates (V), (G), (P), (L) of the Hill functions 400..499, twenty rows per evaluation. -/
namespace Hill
theorem hill_block_20 : ∀ i ∈ List.range' 400 20, hillOK i = true := hill_block _ _ (by decide +kernel)
theorem hill_block_21 : ∀ i ∈ List.range' 420 20, hillOK i = true := hill_block _ _ (by decide +kernel)
theorem hill_block_22 : ∀ i ∈ List.range' 440 20, hillOK i = true := hill_block _ _ (by decide +kernel)
theorem hill_block_23 : ∀ i ∈ List.range' 460 20, hillOK i = true := hill_block _ _ (by decide +kernel)
theorem hill_block_24 : ∀ i ∈ List.range' 480 20, hillOK i = true := hill_block _ _ (by decide +kernel)
end Hill

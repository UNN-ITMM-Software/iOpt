import IOptProofs.EnclDefs
import IOptGen.GrishaginTables
/-!
# Grishagin functions: the kernel-evaluable certificate checker `grishOK` (no Mathlib)

`grishOK k` checks, for row `k` (1..100) of the regenerated tables, by one adaptive bisection of `[0,1]²`
into dyadic squares with first-order mean-value leaf tests, the table claims (V), (G), (P) of property C10.
Soundness (`grishOK k = true → …` over `ℝ`) is `Grish.grishOK_sound` in `GrishSound7.lean`
(`GrishSound1`: trigonometric data, `2`: exactness of the integer arithmetic, `3`: the leaf bound,
`4`: table row → real coefficients, `5`: bisection, `6`: the row check, `7`: the function `-√S` and C10).

With `θ = πx`, `φ = πy`, `d(x,y) = Σ_{m,l=1..7} α_ml sin mθ sin lφ + β_ml cos mθ cos lφ` (for `d1`: `α = af`, `β = bf`;
for `d2`: `α = cf`, `β = -df`) and `S = d1² + d2²` (the function is `-√S`).  On a square of half-width `h` with
centre `c`: `d_k = A_k + π g_k·δ + ρ_k`, `|ρ_k| ≤ π² w_k h² + E0` (`w_k = ½ Σ (m+l)² (|α_ml| + |β_ml|)`, `E0 = 2^-27`
covers the enclosure error of the trigonometric values), hence
`S ≤ A1² + A2² + 2π(|Γx| + |Γy|)h + Σ_k [(π(|g_kx| + |g_ky|)h + r_k)² + 2|A_k| r_k]`, `Γ = A1 g1 + A2 g2` (`supS`).

Formats (everything is exact integer arithmetic after the trigonometric enclosure):
* trigonometric values: biased `x·2^64 + B`, `B = 2^65` (`EnclDefs`);
* coefficients: `α·2^36 + BA`, `BA = 2^40` (the table entries are multiples of `2^-36` of modulus `≤ 1`; checked);
* inner sums over `l` (functions of `y`): `p·2^100 + BI`, `BI = 2^106`;
* the six values `d, ∂x d/π, ∂y d/π` at the centre: positive and negative parts in units `2^-164`.
Sharing: the data that depend on one coordinate only (`trigs`, `yStage`) are closed sub-terms that are
syntactically equal for all leaves of the same column / row, so that the kernel's reduction cache evaluates
them once (measured: about 1.5 ms per leaf, 2000..7000 leaves and 3..10 s per function).
-/

namespace Grish
open Encl

/-- seven naturals -/
structure V7 where
  a1 : Nat
  a2 : Nat
  a3 : Nat
  a4 : Nat
  a5 : Nat
  a6 : Nat
  a7 : Nat

def dot7 (p q : V7) : Nat :=
  Nat.add (Nat.add (Nat.add (Nat.add (Nat.add (Nat.add (Nat.mul p.a1 q.a1) (Nat.mul p.a2 q.a2))
    (Nat.mul p.a3 q.a3)) (Nat.mul p.a4 q.a4)) (Nat.mul p.a5 q.a5)) (Nat.mul p.a6 q.a6)) (Nat.mul p.a7 q.a7)

def sum7 (p : V7) : Nat :=
  Nat.add (Nat.add (Nat.add (Nat.add (Nat.add (Nat.add p.a1 p.a2) p.a3) p.a4) p.a5) p.a6) p.a7

/-- weights `1..7` -/
def mw7 (p : V7) : V7 :=
  ⟨p.a1, Nat.mul 2 p.a2, Nat.mul 3 p.a3, Nat.mul 4 p.a4, Nat.mul 5 p.a5, Nat.mul 6 p.a6, Nat.mul 7 p.a7⟩

/-- biased `sin mθ` (`s`) and `cos mθ` (`c`), `m = 1..7` -/
structure TD where
  s : V7
  c : V7

/-- trigonometric data of the point `x = num/2^k`: `θ = πx = 2π·num/2^(k+1)` -/
def trigs (num k : Nat) : TD :=
  trig num (Nat.add k 1) fun X1 U1 =>
  (fun X2 U2 =>
  (fun X3 U3 =>
  (fun X4 U4 =>
  (fun X5 U5 =>
  (fun X6 U6 =>
  (fun X7 U7 => TD.mk ⟨U1, U2, U3, U4, U5, U6, U7⟩ ⟨X1, X2, X3, X4, X5, X6, X7⟩)
    (cmulRe X6 X1 U6 U1) (cmulIm X6 X1 U6 U1))
    (cmulRe X5 X1 U5 U1) (cmulIm X5 X1 U5 U1))
    (cmulRe X4 X1 U4 U1) (cmulIm X4 X1 U4 U1))
    (cmulRe X3 X1 U3 U1) (cmulIm X3 X1 U3 U1))
    (cmulRe X2 X1 U2 U1) (cmulIm X2 X1 U2 U1))
    (cmulRe X1 X1 U1 U1) (cmulIm X1 X1 U1 U1)

/-- `2^40`: bias of a coefficient (format `2^-36`) -/
def BA : Nat := 1099511627776
/-- `2^106`: bias of an inner sum (format `2^-100`) -/
def BI : Nat := 81129638414606681695789005144064
/-- `7·BA·B + BI` -/
def K1 : Nat := 365083372865730067631050523148288
/-- `14·BI·B` -/
def C14 : Nat := 41904174945551648470736051523641266739574897872207872

/-- `Σ_l α̃_l ṽ_l + BI` for a biased coefficient row `co` and biased trigonometric values `v` -/
def inner (co v : V7) : Nat :=
  Nat.sub (Nat.add K1 (dot7 co v)) (Nat.add (Nat.mul B (sum7 co)) (Nat.mul BA (sum7 v)))

/-- row `m` of a coefficient matrix pair: `α_m·`, `β_m·`, `l·α_ml`, `l·β_ml` (biased) -/
structure Row where
  al : V7
  be : V7
  lal : V7
  lbe : V7

structure Mat where
  r1 : Row
  r2 : Row
  r3 : Row
  r4 : Row
  r5 : Row
  r6 : Row
  r7 : Row

/-- inner sums (index `m = 1..7`): `P_m = Σ_l α_ml sin lφ`, `Q_m = Σ_l β_ml cos lφ`,
`dP_m = Σ_l l α_ml cos lφ`, `dQ_m = Σ_l l β_ml sin lφ` -/
structure YS where
  P : V7
  Q : V7
  dP : V7
  dQ : V7

def yStage (M : Mat) (t : TD) : YS :=
  ⟨⟨inner M.r1.al t.s, inner M.r2.al t.s, inner M.r3.al t.s, inner M.r4.al t.s, inner M.r5.al t.s,
      inner M.r6.al t.s, inner M.r7.al t.s⟩,
   ⟨inner M.r1.be t.c, inner M.r2.be t.c, inner M.r3.be t.c, inner M.r4.be t.c, inner M.r5.be t.c,
      inner M.r6.be t.c, inner M.r7.be t.c⟩,
   ⟨inner M.r1.lal t.c, inner M.r2.lal t.c, inner M.r3.lal t.c, inner M.r4.lal t.c, inner M.r5.lal t.c,
      inner M.r6.lal t.c, inner M.r7.lal t.c⟩,
   ⟨inner M.r1.lbe t.s, inner M.r2.lbe t.s, inner M.r3.lbe t.s, inner M.r4.lbe t.s, inner M.r5.lbe t.s,
      inner M.r6.lbe t.s, inner M.r7.lbe t.s⟩⟩

/-- value of `d` at the centre, units `2^-164`, as `valPos - valNeg` -/
def valPos (ys : YS) (xs : TD) : Nat :=
  Nat.add C14 (Nat.add (dot7 ys.P xs.s) (dot7 ys.Q xs.c))
def valNeg (ys : YS) (xs : TD) : Nat :=
  Nat.add (Nat.mul B (Nat.add (sum7 ys.P) (sum7 ys.Q))) (Nat.mul BI (Nat.add (sum7 xs.s) (sum7 xs.c)))

/-- `∂x d/π` at the centre, units `2^-164` -/
def gxPos (ys : YS) (xs : TD) : Nat :=
  Nat.add (Nat.add (dot7 (mw7 ys.P) xs.c) (Nat.mul B (sum7 (mw7 ys.Q)))) (Nat.mul BI (sum7 (mw7 xs.s)))
def gxNeg (ys : YS) (xs : TD) : Nat :=
  Nat.add (Nat.add (dot7 (mw7 ys.Q) xs.s) (Nat.mul B (sum7 (mw7 ys.P)))) (Nat.mul BI (sum7 (mw7 xs.c)))

/-- `∂y d/π` at the centre, units `2^-164` -/
def gyPos (ys : YS) (xs : TD) : Nat :=
  Nat.add (Nat.add (dot7 ys.dP xs.s) (Nat.mul B (sum7 ys.dQ))) (Nat.mul BI (sum7 xs.c))
def gyNeg (ys : YS) (xs : TD) : Nat :=
  Nat.add (Nat.add (dot7 ys.dQ xs.c) (Nat.mul B (sum7 ys.dP))) (Nat.mul BI (sum7 xs.s))

/-- `⌈π·2^20⌉` -/
def PH : Nat := 3294199
/-- `2^137`: bound (units `2^-164`) of the enclosure error of the affine model on a leaf -/
def E0T : Nat := 174224571863520493293247799005065324265472

/-- per-function constants -/
structure Ctx where
  m1 : Mat
  m2 : Mat
  /-- `½ Σ (m+l)² (|α_ml| + |β_ml|)` in units `2^-164`, for `d1`, `d2` -/
  w1 : Nat
  w2 : Nat
  /-- `⌊(1.002·|v|)²·2^328⌋` -/
  gthr : Nat
  /-- lower bound of `S(w)·2^328` at the witness point -/
  swlo : Nat
  pxN : Nat
  pxK : Nat
  pyN : Nat
  pyK : Nat

/-- `|a - b|` -/
def adiff (a b : Nat) : Nat := Nat.add (Nat.sub a b) (Nat.sub b a)

/-- `S ≤ Sup` on the square of half-width `2^-lam` (all in units `2^-(328 + 4·lam + 80)`), from
the parts of `d_k`, `∂x d_k/π`, `∂y d_k/π` at the centre -/
def supS (w1 w2 lam pa1 na1 px1 nx1 py1 ny1 pa2 na2 px2 nx2 py2 ny2 : Nat) : Nat :=
  (fun r1 r2 sh =>
    (fun u1 u2 =>
      Nat.add
        (Nat.add
          (Nat.shiftLeft (Nat.add (Nat.mul (Nat.add pa1 na1) (Nat.add pa1 na1)) (Nat.mul (Nat.add pa2 na2) (Nat.add pa2 na2)))
            (Nat.mul 2 sh))
          (Nat.shiftLeft
            (Nat.mul (Nat.mul 2 PH)
              (Nat.add
                (adiff (Nat.add (Nat.add (Nat.mul pa1 px1) (Nat.mul na1 nx1)) (Nat.add (Nat.mul pa2 px2) (Nat.mul na2 nx2)))
                       (Nat.add (Nat.add (Nat.mul pa1 nx1) (Nat.mul na1 px1)) (Nat.add (Nat.mul pa2 nx2) (Nat.mul na2 px2))))
                (adiff (Nat.add (Nat.add (Nat.mul pa1 py1) (Nat.mul na1 ny1)) (Nat.add (Nat.mul pa2 py2) (Nat.mul na2 ny2)))
                       (Nat.add (Nat.add (Nat.mul pa1 ny1) (Nat.mul na1 py1)) (Nat.add (Nat.mul pa2 ny2) (Nat.mul na2 py2))))))
            (Nat.add (Nat.mul 3 lam) 60)))
        (Nat.add
          (Nat.add (Nat.mul u1 u1) (Nat.mul u2 u2))
          (Nat.shiftLeft (Nat.mul 2 (Nat.add (Nat.mul (Nat.add pa1 na1) r1) (Nat.mul (Nat.add pa2 na2) r2))) sh)))
      (Nat.add (Nat.shiftLeft (Nat.mul PH (Nat.add (Nat.add px1 nx1) (Nat.add py1 ny1))) (Nat.add lam 20)) r1)
      (Nat.add (Nat.shiftLeft (Nat.mul PH (Nat.add (Nat.add px2 nx2) (Nat.add py2 ny2))) (Nat.add lam 20)) r2))
    (Nat.add (Nat.mul (Nat.mul PH PH) w1) (Nat.shiftLeft E0T (Nat.add (Nat.mul 2 lam) 40)))
    (Nat.add (Nat.mul (Nat.mul PH PH) w2) (Nat.shiftLeft E0T (Nat.add (Nat.mul 2 lam) 40)))
    (Nat.add (Nat.mul 2 lam) 40)

/-- `supS` at the centre `((2nx+1)/2^(lev+1), (2ny+1)/2^(lev+1))` of the square of side `2^-lev` -/
def leafSup (ctx : Ctx) (lev nx ny : Nat) : Nat :=
  (fun (xs : TD) (y1 y2 : YS) =>
    supS ctx.w1 ctx.w2 (Nat.add lev 1)
      (Nat.sub (valPos y1 xs) (valNeg y1 xs)) (Nat.sub (valNeg y1 xs) (valPos y1 xs))
      (Nat.sub (gxPos y1 xs) (gxNeg y1 xs)) (Nat.sub (gxNeg y1 xs) (gxPos y1 xs))
      (Nat.sub (gyPos y1 xs) (gyNeg y1 xs)) (Nat.sub (gyNeg y1 xs) (gyPos y1 xs))
      (Nat.sub (valPos y2 xs) (valNeg y2 xs)) (Nat.sub (valNeg y2 xs) (valPos y2 xs))
      (Nat.sub (gxPos y2 xs) (gxNeg y2 xs)) (Nat.sub (gxNeg y2 xs) (gxPos y2 xs))
      (Nat.sub (gyPos y2 xs) (gyNeg y2 xs)) (Nat.sub (gyNeg y2 xs) (gyPos y2 xs)))
    (trigs (Nat.add (Nat.mul 2 nx) 1) (Nat.add lev 1))
    (yStage ctx.m1 (trigs (Nat.add (Nat.mul 2 ny) 1) (Nat.add lev 1)))
    (yStage ctx.m2 (trigs (Nat.add (Nat.mul 2 ny) 1) (Nat.add lev 1)))

/-- the interval `[n/2^k, (n+1)/2^k]` lies inside `[p - 1/R, p + 1/R]`, `p = pN/2^pK` -/
def inside (pN pK R k n : Nat) : Bool :=
  Nat.ble (Nat.shiftLeft (Nat.mul R pN) k)
          (Nat.add (Nat.shiftLeft (Nat.mul R n) pK) (Nat.shiftLeft 1 (Nat.add k pK))) &&
  Nat.ble (Nat.shiftLeft (Nat.mul R (Nat.add n 1)) pK)
          (Nat.add (Nat.shiftLeft (Nat.mul R pN) k) (Nat.shiftLeft 1 (Nat.add k pK)))

/-- leaf test: `S < S(w)` on the square, or the square lies in the 0.005-neighbourhood of `p` and `S ≤ gthr` -/
def leafOK (ctx : Ctx) (lev nx ny : Nat) : Bool :=
  (fun sup sh =>
    Nat.blt sup (Nat.shiftLeft ctx.swlo sh) ||
    (Nat.ble sup (Nat.shiftLeft ctx.gthr sh) &&
      (inside ctx.pxN ctx.pxK 200 lev nx && inside ctx.pyN ctx.pyK 200 lev ny)))
  (leafSup ctx lev nx ny) (Nat.add (Nat.mul 4 lev) 84)

/-- adaptive bisection of the square `[nx/2^lev, (nx+1)/2^lev] × [ny/2^lev, (ny+1)/2^lev]`; no tests above level 5 -/
def bnb (ctx : Ctx) : Nat → Nat → Nat → Nat → Bool
  | 0, _, _, _ => false
  | fuel+1, lev, nx, ny =>
    (Nat.ble 5 lev && leafOK ctx lev nx ny) ||
    (bnb ctx fuel (Nat.add lev 1) (Nat.mul 2 nx) (Nat.mul 2 ny) &&
     bnb ctx fuel (Nat.add lev 1) (Nat.mul 2 nx) (Nat.add (Nat.mul 2 ny) 1) &&
     bnb ctx fuel (Nat.add lev 1) (Nat.add (Nat.mul 2 nx) 1) (Nat.mul 2 ny) &&
     bnb ctx fuel (Nat.add lev 1) (Nat.add (Nat.mul 2 nx) 1) (Nat.add (Nat.mul 2 ny) 1))

/-! ## per-function constants from the table row -/

/-- entry `(i, j)` (0-based) of matrix `mat` (0 = af, 1 = bf, 2 = cf, 3 = df) of the packed table row -/
def ent (row mat i j : Nat) : Dy := Dy.get row (1 + 49 * mat + 7 * i + j)

/-- `d·2^36` (an integer for the table entries) -/
def scaled (d : Dy) : Int := (d.1 * (2:Int)^36) / (2:Int)^d.2
/-- `d·2^36` is an integer of absolute value `≤ 2^36` -/
def coefOK (d : Dy) : Bool := (d.1 * (2:Int)^36) % (2:Int)^d.2 == 0 && (scaled d).natAbs ≤ 68719476736
def enc (z : Int) : Nat := (z + (BA : Int)).toNat

def v7 (f : Nat → Nat) : V7 := ⟨f 0, f 1, f 2, f 3, f 4, f 5, f 6⟩

/-- row `i` (0-based) of the pair (`α` = matrix `ma`, `β` = `sg`·matrix `mb`) -/
def mkRow (row ma mb : Nat) (sg : Int) (i : Nat) : Row :=
  ⟨v7 fun j => enc (scaled (ent row ma i j)),
   v7 fun j => enc (sg * scaled (ent row mb i j)),
   v7 fun j => enc ((j + 1 : Nat) * scaled (ent row ma i j)),
   v7 fun j => enc ((j + 1 : Nat) * (sg * scaled (ent row mb i j)))⟩

def mkMat (row ma mb : Nat) (sg : Int) : Mat :=
  ⟨mkRow row ma mb sg 0, mkRow row ma mb sg 1, mkRow row ma mb sg 2, mkRow row ma mb sg 3,
   mkRow row ma mb sg 4, mkRow row ma mb sg 5, mkRow row ma mb sg 6⟩

/-- `Σ_{i,j} (i+j+2)² (|α̃_ij| + |β̃_ij|)` -/
def wSum (row ma mb : Nat) : Nat :=
  (List.range 7).foldl (fun acc i => (List.range 7).foldl (fun acc j =>
    acc + (i + j + 2) * (i + j + 2) * ((scaled (ent row ma i j)).natAbs + (scaled (ent row mb i j)).natAbs)) acc) 0

def allCoefOK (row : Nat) : Bool :=
  (List.range 196).all fun n => coefOK (Dy.get row (1 + n))

/-- `|d_k|` at a point (units `2^-164`) -/
def absVal (M : Mat) (xs ty : TD) : Nat :=
  adiff (valPos (yStage M ty) xs) (valNeg (yStage M ty) xs)

/-- lower / upper bound of `S·2^328` at the point with trigonometric data `xs`, `ty` -/
def sLo (m1 m2 : Mat) (xs ty : TD) : Nat :=
  Nat.add (Nat.mul (Nat.sub (absVal m1 xs ty) E0T) (Nat.sub (absVal m1 xs ty) E0T))
          (Nat.mul (Nat.sub (absVal m2 xs ty) E0T) (Nat.sub (absVal m2 xs ty) E0T))
def sHi (m1 m2 : Mat) (xs ty : TD) : Nat :=
  Nat.add (Nat.mul (Nat.add (absVal m1 xs ty) E0T) (Nat.add (absVal m1 xs ty) E0T))
          (Nat.mul (Nat.add (absVal m2 xs ty) E0T) (Nat.add (absVal m2 xs ty) E0T))

/-- witness points `w` (numerators over `2^32`): refined maximisers of `S`, used for clause (P) -/
def witnessTab : List (Nat × Nat) := [
  (2590077060, 1753788598), (2804548913, 1376926968), (4294967296, 0), (284246411, 2502184872), (3883974689, 3747964320),
  (1479087664, 2254571544), (0, 4294967296), (4072875680, 3809794658), (970850034, 2234035361), (1467728840, 848766229),
  (297487385, 1850931236), (0, 4294967296), (1942560964, 313041162), (2490564703, 199473465), (0, 4294967296),
  (1332218329, 4294967296), (3907375470, 3977969172), (1866441569, 3545952099), (287158810, 3309324949), (2754525877, 580636706),
  (3801119944, 1676198752), (2790207178, 1779318985), (612568885, 675723852), (3706357373, 4294967296), (1977240328, 4265522412),
  (1628665827, 2955360967), (3630540369, 1823445561), (1894773655, 72161269), (4294967296, 4294967296), (1302642287, 578643856),
  (467701447, 1136804132), (4294967296, 0), (2550036650, 2160415777), (2984599628, 4294967296), (223230315, 1758091929),
  (539722774, 2228950273), (0, 0), (666207049, 1025161092), (2306718127, 1983471379), (476674032, 3941892714),
  (4294967296, 0), (3333306523, 3284435447), (375232199, 2910403513), (1323011789, 2302578768), (180829129, 2420679687),
  (1236812507, 680894851), (1940995838, 729457681), (3800032045, 1053723195), (205205442, 737160530), (0, 1786543008),
  (825092273, 1304761857), (2380064704, 3478152967), (3928826943, 2325673783), (2847711682, 3984531759), (4142494335, 1868218640),
  (0, 0), (2646067349, 2406371912), (1889308848, 1476265297), (936879028, 2908528716), (4294967296, 4294967296),
  (851024750, 1365260500), (3761846991, 2806068026), (987809719, 1444161809), (727097857, 66879181), (3264491423, 3891387433),
  (3019115577, 1324566561), (1569248158, 1212586227), (1348659310, 2797631103), (1020861020, 1607921142), (2504474441, 2173760045),
  (0, 0), (1646342080, 4294967296), (3350509277, 445754830), (1504374886, 2435007560), (3429676435, 2056017859),
  (1364035785, 299231192), (3074903789, 3027012291), (2418217802, 1900774832), (2426987048, 1385628904), (630215219, 2192612837),
  (0, 2332881333), (895650366, 1950986178), (666195579, 4176126348), (0, 4294967296), (1445113144, 3904368054),
  (2448175378, 3901839090), (1272558025, 2321763528), (741018129, 1430113438), (0, 4294967296), (4294967296, 0),
  (4294967296, 4294967296), (2895021264, 3736446368), (4294967296, 4294967296), (3661505695, 2737088505), (3768495022, 1716798745),
  (3589058601, 3229606973), (2892165982, 3553797953), (3572350904, 1576764591), (2585378624, 3154571292), (0, 0)]

def witness (k : Nat) : Nat × Nat := witnessTab.getD (k - 1) (0, 0)

def mkCtx (row : Nat) (wx wy : Nat) : Ctx :=
  { m1 := mkMat row 0 1 1
    m2 := mkMat row 2 3 (-1)
    w1 := Nat.shiftLeft (wSum row 0 1) 127
    w2 := Nat.shiftLeft (wSum row 2 3) 127
    gthr := Nat.shiftLeft ((501 * (Dy.get row 199).1.natAbs) ^ 2) 328 / (500 * 2 ^ (Dy.get row 199).2) ^ 2
    swlo := sLo (mkMat row 0 1 1) (mkMat row 2 3 (-1)) (trigs wx 32) (trigs wy 32)
    pxN := (Dy.get row 197).1.toNat
    pxK := (Dy.get row 197).2
    pyN := (Dy.get row 198).1.toNat
    pyK := (Dy.get row 198).2 }

/-- (V): `(|v| - 1e-4)² ≤ S(p) ≤ (|v| + 1e-4)²`, `v = vn/2^vk` -/
def valueOK (ctx : Ctx) (vn vk : Nat) : Bool :=
  (fun lo hi =>
    Nat.ble (Nat.shiftLeft 1 vk) (10000 * vn) &&
    Nat.ble (Nat.shiftLeft ((10000 * vn - 2 ^ vk) ^ 2) 328) (lo * (10000 * 2 ^ vk) ^ 2) &&
    Nat.ble (hi * (10000 * 2 ^ vk) ^ 2) (Nat.shiftLeft ((10000 * vn + 2 ^ vk) ^ 2) 328))
  (sLo ctx.m1 ctx.m2 (trigs ctx.pxN ctx.pxK) (trigs ctx.pyN ctx.pyK))
  (sHi ctx.m1 ctx.m2 (trigs ctx.pxN ctx.pxK) (trigs ctx.pyN ctx.pyK))

/-- the complete check of one table row -/
def rowOK (row wx wy : Nat) : Bool :=
  allCoefOK row &&
  decide (0 ≤ (Dy.get row 197).1) && decide (0 ≤ (Dy.get row 198).1) &&
  Nat.ble (Dy.get row 197).1.toNat (2 ^ (Dy.get row 197).2) &&
  Nat.ble (Dy.get row 198).1.toNat (2 ^ (Dy.get row 198).2) &&
  Nat.ble wx (2 ^ 32) && Nat.ble wy (2 ^ 32) &&
  decide ((Dy.get row 199).1 < 0) &&
  Nat.ble (2 ^ (Dy.get row 199).2) (Dy.get row 199).1.natAbs &&
  (fun ctx =>
    valueOK ctx (Dy.get row 199).1.natAbs (Dy.get row 199).2 &&
    Nat.ble ctx.swlo ctx.gthr &&
    bnb ctx 24 0 0 0) (mkCtx row wx wy)

def grishOK (k : Nat) : Bool :=
  rowOK (Gen.grishaginRows[k - 1]!) (witness k).1 (witness k).2

end Grish

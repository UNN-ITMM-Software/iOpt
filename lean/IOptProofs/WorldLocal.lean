import IOptProofs.World
/-!
# C12 helpers: what the local step does to a closed component

`Piece i c c' ws as` collects the facts that compose along a pointer program — old cells change only at `ws`, the cells
`as` are new, `handed` stays, and everything stays with solver `i`.  A write and an allocation are pieces; `lNewItem` is
three of them, the tail `lTrial` four more.  From them: the local step keeps closedness, reports only its own refs and has
the frame `StepFrame` (`lstep_spec`), and the global step of a closed component is the local step (`step_local`).
-/

namespace World
variable {V : Type}

structure Piece (i : Nat) (c c' : Comp V) (ws as : List Ref) : Prop where
  frame : HeapFrame c c' ws
  handed : c'.handed = c.handed
  fresh : ∀ r ∈ as, c.heap.length ≤ r.idx ∧ r.idx < c'.heap.length
  closed : Closed i c'
  wrote : ∀ r ∈ ws, r.owner = some i
  alloc : ∀ r ∈ as, r.owner = some i

theorem Piece.lalloc {i : Nat} {c : Comp V} (hc : Closed i c) {x : Cell V} (hx : ∀ r' ∈ x.refs, r'.owner = some i) :
    Piece i c (lalloc i c x).1 [] [(lalloc i c x).2] where
  frame := heapFrame_lalloc i c x
  handed := rfl
  fresh r hr := by rw [List.mem_singleton.1 hr, lalloc_idx, lalloc_length]; omega
  closed := hc.lalloc hx
  wrote r hr := nomatch hr
  alloc r hr := by rw [List.mem_singleton.1 hr]; rfl

theorem Piece.lwrite {i : Nat} {c : Comp V} (hc : Closed i c) {r : Ref} (hr : r.owner = some i) {x : Cell V}
    (hx : ∀ r' ∈ x.refs, r'.owner = some i) : Piece i c (lwrite c r x) [r] [] where
  frame := heapFrame_lwrite c r x
  handed := rfl
  fresh r hr := nomatch hr
  closed := hc.lwrite r hx
  wrote r' hr' := by rw [List.mem_singleton.1 hr']; exact hr
  alloc r hr := nomatch hr

/-- the second piece starts from the closed component the first one leaves -/
theorem Piece.trans {i : Nat} {c c1 c2 : Comp V} {ws1 ws2 as1 as2 : List Ref} (p : Piece i c c1 ws1 as1)
    (q : Closed i c1 → Piece i c1 c2 ws2 as2) : Piece i c c2 (ws1 ++ ws2) (as1 ++ as2) :=
  have q := q p.closed
  { frame := p.frame.trans q.frame
    handed := q.handed.trans p.handed
    fresh := fun r hr => (List.mem_append.1 hr).elim
      (fun h => ⟨(p.fresh r h).1, Nat.lt_of_lt_of_le (p.fresh r h).2 q.frame.1⟩)
      (fun h => ⟨Nat.le_trans p.frame.1 (q.fresh r h).1, (q.fresh r h).2⟩)
    closed := q.closed
    wrote := fun r hr => (List.mem_append.1 hr).elim (p.wrote r) (q.wrote r)
    alloc := fun r hr => (List.mem_append.1 hr).elim (p.alloc r) (q.alloc r) }

structure StepFrame (c c' : Comp V) (o : Out) : Prop where
  frame : HeapFrame c c' o.wrote
  fresh : ∀ r ∈ o.allocated, c.heap.length ≤ r.idx ∧ r.idx < c'.heap.length
  handed : ∃ t, c'.handed = c.handed ++ t
  returned : ∀ r, o.returned = some r → r ∈ c'.handed

def StepSpec (i : Nat) (c c' : Comp V) (o : Out) : Prop :=
  Closed i c' ∧ (∀ r ∈ o.wrote, r.owner = some i) ∧ (∀ r ∈ o.allocated, r.owner = some i) ∧ StepFrame c c' o

/-- the last statement of `construct`, `first`, `iter`: new fields, whose refs are the solver's own -/
theorem Piece.finish {i : Nat} {c c' : Comp V} {ws as : List Ref} (p : Piece i c c' ws as) {st' : SolverSt}
    (h1 : st'.solution.owner = some i) (h2 : ∀ r ∈ st'.items, r.owner = some i)
    (h3 : ∀ b, st'.best = some b → b.owner = some i) :
    StepSpec i c { c' with st := some st' } { wrote := ws, allocated := as } :=
  ⟨⟨p.closed.heap, fun _ hs => Option.some.inj hs ▸ h1, fun _ hs => Option.some.inj hs ▸ h2,
      fun _ hs => Option.some.inj hs ▸ h3, p.closed.handed⟩,
    p.wrote, p.alloc,
    ⟨p.frame, p.fresh, ⟨[], by rw [List.append_nil]; exact p.handed⟩, by simp⟩⟩

theorem lTrial_spec {i : Nat} {c0 c c' : Comp V} {as : List Ref} (p0 : Piece i c0 c [] as) {sol n b : Ref} {z : V}
    {st' : SolverSt} {wr : List Ref} (h : lTrial c sol n b z st' = some (c', wr)) (hs : sol.owner = some i)
    (hb : b.owner = some i) (h1 : st'.solution.owner = some i) (h2 : ∀ r ∈ st'.items, r.owner = some i)
    (h3 : ∀ b, st'.best = some b → b.owner = some i) :
    StepSpec i c0 c' { wrote := wr, allocated := as } := by
  simp only [lTrial, Option.bind_eq_bind, Option.bind_eq_some_iff, Option.some.injEq, Prod.mk.injEq] at h
  obtain ⟨fl, r1, hd, r2, v, -, ⟨l, k⟩, r4, t, -, rfl, rfl⟩ := h
  have hh := p0.closed.head r2
  -- four assignments, each to an own ref found in a closed cell, each of a cell whose pointer is own
  have p2 := (p0.trans fun hc => Piece.lwrite hc hh (x := .holder z) (by simp [Cell.refs])).trans fun hc =>
    Piece.lwrite hc (p0.closed.fv r1) (x := .list (some hd)) (by simp [Cell.refs, hh])
  have hl : l.owner = some i := p2.closed.solRef r4
  have p4 := (p2.trans fun hc => Piece.lwrite hc hs (x := .solution l (k + 1)) (by simp [Cell.refs, hl])).trans fun hc =>
    Piece.lwrite hc hl (x := .list (some b)) (by simp [Cell.refs, hb])
  simp only [List.append_nil] at p4
  exact p4.finish h1 h2 h3

/-- both sides follow the same pointers: each ref read is the solver's own because the cell it was found in is closed -/
theorem trial_local (X : State V) {i : Nat} {c : Comp V} (hc : Closed i c) {sol n : Ref} (hs : sol.owner = some i)
    (hn : n.owner = some i) (b : Ref) (z : V) (st' : SolverSt) (al : List Ref) :
    ((calculate (X.setComp i c) sol n z).bind fun p => (storeBest p.1 sol b).bind fun q =>
      some (q.1.setComp i { q.1.solver i with st := some st' }, ({ wrote := p.2 ++ q.2, allocated := al } : Out)))
    = ((lTrial c sol n b z st').bind fun p => some (p.1, ({ wrote := p.2, allocated := al } : Out))).map
        fun p => (X.setComp i p.1, p.2) := by
  simp only [calculate, storeBest, lTrial, Option.bind_eq_bind, Option.map_bind, Option.bind_assoc, Function.comp_def]
  rw [read_local X i c hn]
  refine Option.bind_congr fun fl h1 => ?_
  have hfl := hc.fv h1
  rw [read_local X i c hfl]
  refine Option.bind_congr fun h h2 => ?_
  have hh := hc.head h2
  rw [read_local X i c hh]
  refine Option.bind_congr fun v _ => ?_
  rw [write_local X i c hh, write_local X i _ hfl, read_local X i _ hs]
  refine Option.bind_congr fun ⟨l, k⟩ h4 => ?_
  have hl : l.owner = some i := ((hc.lwrite h (x := .holder z) (by simp [Cell.refs])).lwrite fl (x := .list (some h))
    (by simp [Cell.refs, hh])).solRef h4
  simp only [Option.bind_some]
  -- `storeBest` reads the Solution again: it is the cell just written
  rw [write_local X i _ hs, read_local X i _ hs, lread_lwrite_same _ (lread_lt (sol_some h4))]
  simp only [Cell.sol?, Option.bind_some]
  rw [read_local X i _ hl]
  refine Option.bind_congr fun t _ => ?_
  rw [write_local X i _ hl]
  simp

section
variable [OfNat V 0]

theorem newItem_local (X : State V) (i : Nat) (c : Comp V) :
    newItem repaired (X.setComp i c) i = (X.setComp i (lNewItem i c).1, (lNewItem i c).2) := by
  simp [newItem, repaired, lNewItem, alloc_local]

theorem newItemCopy_local (X : State V) (i : Nat) (c : Comp V) :
    newItemCopy repaired (X.setComp i c) i = (X.setComp i (lNewItem i c).1, (lNewItem i c).2) := by
  simp [newItemCopy, repaired, lNewItem, alloc_local]

theorem lNewItem_piece {i : Nat} {c : Comp V} (hc : Closed i c) : Piece i c (lNewItem i c).1 [] (lNewItem i c).2.2 :=
  ((Piece.lalloc hc (x := .holder 0) (by simp [Cell.refs])).trans fun hc1 =>
    Piece.lalloc hc1 (by simp [Cell.refs])).trans fun hc2 => Piece.lalloc hc2 (by simp [Cell.refs])

theorem lstep_spec {i : Nat} {c c' : Comp V} (hc : Closed i c) {op : Op V} {o : Out}
    (h : lstep i c op = some (c', o)) : StepSpec i c c' o := by
  cases op with
  | construct =>
    cases hst : c.st with
    | some s => simp [lstep, hst] at h
    | none =>
      simp only [lstep, hst, Option.some.injEq, Prod.mk.injEq] at h
      obtain ⟨rfl, rfl⟩ := h
      exact ((((Piece.lalloc hc (x := .list none) (by simp [Cell.refs])).trans fun h1 =>
        Piece.lalloc h1 (by simp [Cell.refs])).trans fun h2 => Piece.lalloc h2 (by simp [Cell.refs])).trans fun h3 =>
          Piece.lalloc h3 (by simp [Cell.refs])).finish rfl (by simp) (by simp)
  | results =>
    simp only [lstep, Option.bind_eq_bind, Option.bind_eq_some_iff, Option.some.injEq, Prod.mk.injEq] at h
    obtain ⟨s, hst, rfl, rfl⟩ := h
    have hsol := hc.sol s hst
    exact ⟨⟨hc.heap, hc.sol, hc.items, hc.best,
        fun r hr => (List.mem_append.1 hr).elim (hc.handed r) fun h => List.mem_singleton.1 h ▸ hsol⟩,
      by simp, by simp,
      ⟨HeapFrame.of_heap_eq rfl, by simp, ⟨[s.solution], rfl⟩,
        fun r (h : some _ = some r) => Option.some.inj h ▸ List.mem_append_right _ (List.mem_singleton.2 rfl)⟩⟩
  | first z =>
    simp only [lstep, Option.bind_eq_bind, Option.bind_eq_some_iff] at h
    obtain ⟨s, hst, h⟩ := h
    split at h
    · cases h
    · simp only [Option.bind_eq_some_iff, Option.some.injEq, Prod.mk.injEq] at h
      obtain ⟨p, ht, rfl, rfl⟩ := h
      have p1 := lNewItem_piece hc
      have p2 := lNewItem_piece p1.closed
      have p3 := lNewItem_piece p2.closed
      exact lTrial_spec ((p1.trans fun _ => p2).trans fun _ => p3) ht (hc.sol s hst) rfl (hc.sol s hst)
        (fun r (hr : r ∈ [_, _, _]) => by simp at hr; rcases hr with rfl | rfl | rfl <;> rfl)
        (fun b (hb : some _ = some b) => Option.some.inj hb ▸ rfl)
  | iter z better =>
    simp only [lstep, Option.bind_eq_bind, Option.bind_eq_some_iff] at h
    obtain ⟨s, hst, h⟩ := h
    split at h
    · cases h
    · simp only [Option.bind_eq_some_iff, Option.some.injEq, Prod.mk.injEq] at h
      obtain ⟨b, hb, p, ht, rfl, rfl⟩ := h
      have hb' : (if better = true then (lNewItem i c).2.1 else b).owner = some i := by
        split
        · rfl
        · exact hc.best s hst b hb
      exact lTrial_spec (lNewItem_piece hc) ht (hc.sol s hst) hb' (hc.sol s hst)
        (fun r hr => (List.mem_append.1 hr).elim (hc.items s hst r) fun h => List.mem_singleton.1 h ▸ rfl)
        (fun b (hb : some _ = some b) => Option.some.inj hb ▸ hb')

theorem step_local (X : State V) {i : Nat} {c : Comp V} (hc : Closed i c) (op : Op V) :
    step repaired (X.setComp i c) i op = (lstep i c op).map (fun p => (X.setComp i p.1, p.2)) := by
  cases op with
  | construct =>
    simp only [step, lstep, State.setComp_solver_same]
    cases c.st with
    | some s => simp
    | none => simp [repaired, alloc_local, lalloc]
  | results =>
    simp only [step, lstep, State.setComp_solver_same]
    cases c.st with
    | none => simp
    | some s => simp
  | first z =>
    simp only [step, lstep, State.setComp_solver_same, Option.bind_eq_bind, Option.map_bind, Function.comp_def,
      newItem_local]
    refine Option.bind_congr fun s hst => ?_
    cases s.started with
    | true => rfl
    | false =>
      have p1 := lNewItem_piece hc
      have p2 := lNewItem_piece p1.closed
      exact trial_local X (lNewItem_piece p2.closed).closed (hc.sol s hst) rfl _ z _ _
  | iter z better =>
    simp only [step, lstep, State.setComp_solver_same, Option.bind_eq_bind, Option.map_bind, Function.comp_def,
      newItemCopy_local]
    refine Option.bind_congr fun s hst => ?_
    cases s.started with
    | false => rfl
    | true =>
      simp only [Bool.not_true, Bool.false_eq_true, if_false]
      rw [Option.map_bind]
      refine Option.bind_congr fun b _ => ?_
      exact trial_local X (lNewItem_piece hc).closed (hc.sol s hst) rfl _ z _ _

end
end World

import IOptProofs.EvGenBits
import IOptProofs.EvShape
import IOptProofs.EvInvFin
/-!
# Evolvent for every dimension: `__CalculateNode` and `__CalculateNumbr` are mutually inverse

Closed form of `Ev.node n d` through the bit list of `d` (`node_zero`, `node_last`, `node_boundary`), and from it, for EVERY `n ≥ 2`:

* `nodeOK_all`  : `Ev.Inv.nodeOK n d = true` for all `d < 2^n`;
* `numbrOK_all` : `Ev.Inv.numbrOK n u = true` for all sign vectors `u` of length `n`.
-/

namespace Ev.Inv

theorem pm1_iff {l : List Int} : pm1 l = true ↔ ∀ x ∈ l, x = 1 ∨ x = -1 := by
  simp [pm1]

end Ev.Inv

namespace Ev.All

open Ev.Inv

theorem node_zero (n : Nat) : node n 0 = (n-1, List.replicate n (-1), List.replicate n (-1)) := by
  simp [node]

theorem node_last {n : Nat} (hn : 1 ≤ n) : node n (2^n - 1) =
    (n-1, (1 : Int) :: List.replicate (n-1) (-1), ((1 : Int) :: List.replicate (n-1) (-1)).set (n-1) 1) := by
  have : 1 < 2^n := Nat.one_lt_two_pow (by omega)
  have h0 : ¬ (2^n - 1 = 0) := by omega
  simp [node, h0]

theorem boundary_ne_replicate (p : List Bool) (b : Bool) (k m : Nat) (c : Bool) :
    p ++ b :: List.replicate (k+1) (!b) ≠ List.replicate m c := by
  intro e
  have h1 : b ∈ List.replicate m c := by rw [← e]; simp
  have h2 : (!b) ∈ List.replicate m c := by rw [← e]; simp
  rw [List.eq_of_mem_replicate h1] at h2
  exact absurd (List.eq_of_mem_replicate h2) (by cases c <;> simp)

theorem node_boundary {n d : Nat} (hd : d < 2^n) {p : List Bool} {b : Bool} {k : Nat}
    (hb : bitsM n d = p ++ b :: List.replicate (k+1) (!b)) :
    node n d = (p.length, gray (-1) (bitsM n d),
      ((gray (-1) (bitsM n d)).set p.length (getI (gray (-1) (bitsM n d)) p.length * (-sg b))).set (n-1)
        (- getI (gray (-1) (bitsM n d)) (n-1))) ∧ n = p.length + k + 2 ∧ d ≠ 0 ∧ d ≠ 2^n - 1 := by
  have hlen : n = p.length + k + 2 := by
    have := congrArg List.length hb
    simp at this; omega
  have h0 : d ≠ 0 := by
    rintro rfl
    exact boundary_ne_replicate p b k n false (hb.symm.trans (bitsM_zero n))
  have hL : d ≠ 2^n - 1 := by
    rintro rfl
    exact boundary_ne_replicate p b k n true (hb.symm.trans (bitsM_last n))
  refine ⟨?_, hlen, h0, hL⟩
  have h := nodeLoop_boundary b k p _ hb 0 (-1) 0 1 []
  rw [length_bitsM, valM_bitsM n d hd] at h
  unfold node
  rw [if_neg (by simpa using h0), if_neg (by simpa using hL), h]
  simp only [Nat.zero_add, List.reverse_nil, List.nil_append]
  rw [getI_set_ne _ (by omega)]

theorem digit_cases {n d : Nat} (hd : d < 2^n) :
    d = 0 ∨ d = 2^n - 1 ∨ ∃ p b k, bitsM n d = p ++ b :: List.replicate (k+1) (!b) := by
  rcases const_or_boundary (bitsM n d) with ⟨b, e⟩ | h
  · rw [length_bitsM] at e
    cases b
    · exact Or.inl ((bitsM_eq_false_iff hd).1 e)
    · exact Or.inr (Or.inl (by have := (bitsM_eq_true_iff hd).1 e; omega))
  · exact Or.inr (Or.inr h)

/-- the `u` of every digit is the Gray code of its bits -/
theorem node_u {n d : Nat} (hn : 1 ≤ n) (hd : d < 2^n) : (node n d).2.1 = gray (-1) (bitsM n d) := by
  rcases digit_cases hd with rfl | rfl | ⟨p, b, k, e⟩
  · rw [node_zero, bitsM_zero]
    exact (gray_replicate_aux n false).symm
  · rw [node_last hn, bitsM_last]
    obtain ⟨m, rfl⟩ : ∃ m, n = m + 1 := ⟨n - 1, by omega⟩
    rw [gray_replicate]; simp
  · rw [(node_boundary hd e).1]

theorem numbr_node_all {n d : Nat} (hn : 2 ≤ n) (hd : d < 2^n) :
    numbr n (node n d).2.1 = (d, (node n d).1, (node n d).2.2) := by
  have hlen := length_bitsM n d
  have hloop := numbrLoop_spec (bitsM n d) 0 (-1) 0 0 0 (Or.inr rfl)
  rw [hlen, valM_bitsM n d hd, Nat.zero_add] at hloop
  rw [node_u (by omega : 1 ≤ n) hd]
  unfold numbr
  rw [hloop]
  simp only [beq_iff_eq]
  have h1 : 1 < 2^n := Nat.one_lt_two_pow (by omega)
  rcases digit_cases hd with rfl | rfl | ⟨p, b, k, e⟩
  · rw [if_pos rfl, node_zero, bitsM_zero]
    simp only [Prod.mk.injEq, true_and]
    exact gray_replicate_aux n false
  · rw [if_neg (by omega), if_pos rfl, node_last (by omega), bitsM_last]
    obtain ⟨m, rfl⟩ : ∃ m, n = m + 2 := ⟨n - 2, by omega⟩
    rw [gray_replicate]
    simp only [Prod.mk.injEq, true_and]
    have e : (-(-1 : Int) * sg true) = 1 := rfl
    rw [e]
    congr 1
    show - getI ((1 : Int) :: List.replicate (m+1) (-1)) (m + 1) = 1
    rw [getI_cons_succ, getI_replicate (by omega)]; rfl
  · obtain ⟨hnode, hlen', h0, hL⟩ := node_boundary hd e
    rw [if_neg h0, if_neg hL, hnode]
    have hgl : (gray (-1) (bitsM n d)).length = n := by rw [length_gray, hlen]
    cases b
    · -- trailing ones: `l1` is the boundary, `l1 ≠ n-1`
      have hl0 : lastIdx false 0 (bitsM n d) 0 = p.length := by
        rw [e]; exact (lastIdx_boundary false p _ 0 0).trans (Nat.zero_add _)
      rw [hl0, if_neg (by omega)]
      simp only [sg_false, Int.neg_neg, Int.mul_one, Prod.mk.injEq, true_and]
      rw [set_getI_self (by omega)]
    · -- trailing zeros: `l1 = n-1`, `l` is the boundary
      have hl0 : lastIdx false 0 (bitsM n d) 0 = n - 1 := by
        rw [e, List.replicate_succ', ← List.cons_append, ← List.append_assoc]
        refine (lastIdx_boundary false _ 0 0 0).trans ?_
        simp; omega
      have hl1 : lastIdx true 0 (bitsM n d) 0 = p.length := by
        rw [e]; exact (lastIdx_boundary true p _ 0 0).trans (Nat.zero_add _)
      rw [hl0, if_pos rfl, hl1]
      simp only [sg_true, Prod.mk.injEq, true_and]
      rw [getI_set_ne _ (by omega), List.set_comm _ _ (by omega)]
      congr 2
      omega

/-- **`__CalculateNumbr` inverts `__CalculateNode` in every dimension `n ≥ 2`** -/
theorem nodeOK_all {n : Nat} (hn : 2 ≤ n) {d : Nat} (hd : d < 2^n) : nodeOK n d = true := by
  obtain ⟨h1, h2, h3⟩ := node_shape (Nat.le_of_succ_le hn) d
  simp only [nodeOK, Bool.and_eq_true, decide_eq_true_eq, beq_iff_eq, pm1_iff]
  exact ⟨⟨⟨⟨⟨h1, h2.1⟩, h3.1⟩, h2.2⟩, h3.2⟩, numbr_node_all hn hd⟩

/-- **`__CalculateNode` inverts `__CalculateNumbr` in every dimension `n ≥ 2`**: every sign vector is the `u` of
the digit that `numbr` computes from it -/
theorem node_numbr_all {n : Nat} (hn : 2 ≤ n) {u : List Int} (hu : signVec n u) :
    (numbr n u).1 < 2^n ∧ node n (numbr n u).1 = ((numbr n u).2.1, u, (numbr n u).2.2) := by
  obtain ⟨bs, hbl, hg⟩ := exists_gray u (-1) (Or.inr rfl) hu.2
  have hbn : bs.length = n := by rw [hbl, hu.1]
  have hd : valM bs < 2^n := by rw [← hbn]; exact valM_lt bs
  have hb : bitsM n (valM bs) = bs := (bitsM_eq_iff hd hbn).2 rfl
  have h := numbr_node_all hn hd
  rw [node_u (by omega) hd, hb, hg] at h
  rw [h]
  exact ⟨hd, Prod.ext rfl (Prod.ext (by rw [node_u (by omega) hd, hb, hg]) rfl)⟩

theorem numbrOK_all {n : Nat} (hn : 2 ≤ n) {u : List Int} (hl : u.length = n) (hp : pm1 u = true) :
    numbrOK n u = true := by
  simpa only [numbrOK, Bool.and_eq_true, decide_eq_true_eq, beq_iff_eq] using
    node_numbr_all hn ⟨hl, pm1_iff.1 hp⟩

theorem pm1_of_mem_allSigns : ∀ {n : Nat} {u : List Int}, u ∈ allSigns n → u.length = n ∧ pm1 u = true
  | 0, u, h => by
    simp [allSigns] at h; subst h; exact ⟨rfl, rfl⟩
  | n+1, u, h => by
    simp only [allSigns, List.mem_flatMap, List.mem_cons, List.not_mem_nil, or_false] at h
    obtain ⟨t, ht, hu⟩ := h
    have := pm1_of_mem_allSigns ht
    rcases hu with rfl | rfl <;> exact ⟨by simp [this.1], by simpa [pm1] using this.2⟩

end Ev.All

/-- `Ev.Inv.nodeOK` for every `n ≥ 2`, in the shape of the decided `nodeOK2 … nodeOK7` -/
theorem Ev.Inv.nodeOK_all (n : Nat) (h : 2 ≤ n) : ∀ d < 2^n, Ev.Inv.nodeOK n d = true :=
  fun _ hd => Ev.All.nodeOK_all h hd

/-- `Ev.Inv.numbrOK` for every `n ≥ 2`, in the shape of the decided `numbrOK2 … numbrOK7` -/
theorem Ev.Inv.numbrOK_all (n : Nat) (h : 2 ≤ n) : ∀ u ∈ Ev.Inv.allSigns n, Ev.Inv.numbrOK n u = true :=
  fun _ hu => Ev.All.numbrOK_all h (Ev.All.pm1_of_mem_allSigns hu).1 (Ev.All.pm1_of_mem_allSigns hu).2

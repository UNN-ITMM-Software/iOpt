import IOptProofs.GrishCert0
import IOptProofs.GrishCert1
import IOptProofs.GrishCert2
import IOptProofs.GrishCert3
import IOptProofs.GrishCert4
import IOptProofs.GrishCert5
import IOptProofs.GrishCert6
import IOptProofs.GrishCert7
import IOptProofs.GrishCert8
import IOptProofs.GrishCert9
import Mathlib.Tactic.IntervalCases

/-! The certificates (V), (G), (P) of the Grishagin functions 1..100 (`Grish.grish_all`): one kernel-evaluated theorem per
function (`GrishCert0`–`9`); `interval_cases` goes through the hundred values of `k`, there are no blocks to join. -/
namespace Grish
theorem grish_all (k : Nat) (h1 : 1 ≤ k) (h100 : k ≤ 100) : grishOK k = true := by
  interval_cases k
  exacts [
    grish_ok_1, grish_ok_2, grish_ok_3, grish_ok_4, grish_ok_5, grish_ok_6, grish_ok_7, grish_ok_8, grish_ok_9, grish_ok_10,
    grish_ok_11, grish_ok_12, grish_ok_13, grish_ok_14, grish_ok_15, grish_ok_16, grish_ok_17, grish_ok_18, grish_ok_19, grish_ok_20,
    grish_ok_21, grish_ok_22, grish_ok_23, grish_ok_24, grish_ok_25, grish_ok_26, grish_ok_27, grish_ok_28, grish_ok_29, grish_ok_30,
    grish_ok_31, grish_ok_32, grish_ok_33, grish_ok_34, grish_ok_35, grish_ok_36, grish_ok_37, grish_ok_38, grish_ok_39, grish_ok_40,
    grish_ok_41, grish_ok_42, grish_ok_43, grish_ok_44, grish_ok_45, grish_ok_46, grish_ok_47, grish_ok_48, grish_ok_49, grish_ok_50,
    grish_ok_51, grish_ok_52, grish_ok_53, grish_ok_54, grish_ok_55, grish_ok_56, grish_ok_57, grish_ok_58, grish_ok_59, grish_ok_60,
    grish_ok_61, grish_ok_62, grish_ok_63, grish_ok_64, grish_ok_65, grish_ok_66, grish_ok_67, grish_ok_68, grish_ok_69, grish_ok_70,
    grish_ok_71, grish_ok_72, grish_ok_73, grish_ok_74, grish_ok_75, grish_ok_76, grish_ok_77, grish_ok_78, grish_ok_79, grish_ok_80,
    grish_ok_81, grish_ok_82, grish_ok_83, grish_ok_84, grish_ok_85, grish_ok_86, grish_ok_87, grish_ok_88, grish_ok_89, grish_ok_90,
    grish_ok_91, grish_ok_92, grish_ok_93, grish_ok_94, grish_ok_95, grish_ok_96, grish_ok_97, grish_ok_98, grish_ok_99, grish_ok_100]
end Grish

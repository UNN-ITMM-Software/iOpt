import IOptProofs.EvBasic
/-!
# Evolvent for every dimension: bit lists, the Gray code and the two loops

`Ev.nodeLoop` walks over the binary digits of `iis` (most significant first); `Ev.numbrLoop` rebuilds them
from the sign vector.  Both loops are expressed here through functions on bit lists (`List Bool`,
most significant bit first):

* `bitsM f r` / `valM bs` : the `f` binary digits of `r < 2^f` and back;
* `gray k1 bs`            : the sign vector written by `nodeLoop` (reflected Gray code: `u_i = - s_{i-1} s_i`);
* `nodeLoop_const`, `nodeLoop_boundary` : the pair `(l, iq)` computed by `nodeLoop`, on the two forms a bit list can have
  (constant, or `p b (!b)^(k+1)`: `const_or_boundary`);
* `lastIdx true/false`     : the indices `l`, `l1` computed by `numbrLoop`.
-/

namespace Ev.All

def sg (b : Bool) : Int := if b then 1 else -1

@[simp] theorem sg_true : sg true = 1 := rfl
@[simp] theorem sg_false : sg false = -1 := rfl

theorem sg_cases (b : Bool) : sg b = 1 ∨ sg b = -1 := by cases b <;> simp

theorem sg_not (b : Bool) : sg (!b) = - sg b := by cases b <;> simp

theorem sg_mul_self (b : Bool) : sg b * sg b = 1 := by cases b <;> simp

/-- the `f` binary digits of `r` (for `r < 2^f`), most significant first, as the loop extracts them -/
def bitsM : Nat → Nat → List Bool
  | 0, _ => []
  | f+1, r => if 2^f ≤ r then true :: bitsM f (r - 2^f) else false :: bitsM f r

def valM : List Bool → Nat
  | [] => 0
  | b :: bs => (if b then 2^bs.length else 0) + valM bs

@[simp] theorem length_bitsM : ∀ (f r : Nat), (bitsM f r).length = f
  | 0, _ => rfl
  | f+1, r => by
    unfold bitsM; split <;> simp [length_bitsM f]

theorem valM_lt : ∀ (bs : List Bool), valM bs < 2^bs.length
  | [] => by simp [valM]
  | b :: bs => by
    have := valM_lt bs
    simp only [valM, List.length_cons, Nat.pow_succ]
    split <;> omega

theorem valM_bitsM : ∀ (f r : Nat), r < 2^f → valM (bitsM f r) = r
  | 0, r, h => by simp at h; simp [bitsM, valM, h]
  | f+1, r, h => by
    rw [Nat.pow_succ] at h
    unfold bitsM; split
    · rename_i h1
      simp only [valM, length_bitsM, if_true]
      rw [valM_bitsM f (r - 2^f) (by omega)]; omega
    · rename_i h1
      simp only [valM, length_bitsM]
      rw [valM_bitsM f r (by omega)]; simp

theorem bitsM_valM : ∀ (bs : List Bool), bitsM bs.length (valM bs) = bs
  | [] => rfl
  | b :: bs => by
    have h := valM_lt bs
    have ih := bitsM_valM bs
    cases b
    · simp only [valM, List.length_cons, bitsM]
      rw [if_neg (by simp; omega)]
      simp [ih]
    · simp only [valM, List.length_cons, bitsM, if_true]
      rw [if_pos (by omega)]
      simp [ih]

theorem valM_inj {a b : List Bool} (hl : a.length = b.length) (h : valM a = valM b) : a = b := by
  rw [← bitsM_valM a, ← bitsM_valM b, hl, h]

theorem valM_append : ∀ (p q : List Bool), valM (p ++ q) = valM p * 2^q.length + valM q
  | [], q => by simp [valM]
  | b :: p, q => by
    simp only [List.cons_append, valM, valM_append p q, List.length_append, Nat.pow_add]
    split <;> simp [Nat.add_mul, Nat.add_assoc]

theorem valM_replicate_false : ∀ (k : Nat), valM (List.replicate k false) = 0
  | 0 => rfl
  | k+1 => by simp [List.replicate_succ, valM, valM_replicate_false k]

theorem valM_replicate_true : ∀ (k : Nat), valM (List.replicate k true) + 1 = 2^k
  | 0 => rfl
  | k+1 => by
    have := valM_replicate_true k
    simp only [List.replicate_succ, valM, List.length_replicate, if_true, Nat.pow_succ]
    omega

theorem bitsM_eq_iff {f r : Nat} {bs : List Bool} (hr : r < 2^f) (hl : bs.length = f) :
    bitsM f r = bs ↔ valM bs = r := by
  subst hl
  constructor
  · intro e; rw [← e]; exact valM_bitsM _ r hr
  · rintro rfl; exact bitsM_valM bs

theorem bitsM_eq_false_iff {f r : Nat} (h : r < 2^f) : bitsM f r = List.replicate f false ↔ r = 0 := by
  rw [bitsM_eq_iff h List.length_replicate, valM_replicate_false]; exact eq_comm

theorem bitsM_eq_true_iff {f r : Nat} (h : r < 2^f) : bitsM f r = List.replicate f true ↔ r + 1 = 2^f := by
  have := valM_replicate_true f
  rw [bitsM_eq_iff h List.length_replicate]; omega

theorem bitsM_zero (f : Nat) : bitsM f 0 = List.replicate f false :=
  (bitsM_eq_false_iff (Nat.two_pow_pos f)).2 rfl

theorem bitsM_last (f : Nat) : bitsM f (2^f - 1) = List.replicate f true := by
  have := Nat.two_pow_pos f
  exact (bitsM_eq_true_iff (by omega)).2 (by omega)

theorem valM_succ (p : List Bool) (k : Nat) :
    valM (p ++ false :: List.replicate k true) + 1 = valM (p ++ true :: List.replicate k false) := by
  have h := valM_replicate_true k
  simp only [valM_append, valM, List.length_replicate, valM_replicate_false, if_true]
  simp; omega

theorem exists_last (c : Bool) : ∀ (bs : List Bool), bs ≠ List.replicate bs.length (!c) →
    ∃ p k, bs = p ++ c :: List.replicate k (!c)
  | [], h => absurd rfl h
  | b :: bs, h => by
    by_cases hc : bs = List.replicate bs.length (!c)
    · by_cases hb : b = c
      · exact ⟨[], bs.length, by rw [List.nil_append, hb, ← hc]⟩
      · have hb' : b = !c := by revert hb; cases b <;> cases c <;> simp
        exact absurd (by rw [hb', List.length_cons, List.replicate_succ, ← hc]) h
    · obtain ⟨p, k, e⟩ := exists_last c bs hc
      exact ⟨b :: p, k, by rw [e]; rfl⟩

theorem const_or_boundary (bs : List Bool) : (∃ b, bs = List.replicate bs.length b) ∨
    ∃ p b k, bs = p ++ b :: List.replicate (k+1) (!b) := by
  by_cases h1 : bs = List.replicate bs.length true
  · exact Or.inl ⟨true, h1⟩
  by_cases h0 : bs = List.replicate bs.length false
  · exact Or.inl ⟨false, h0⟩
  -- the last `0` and the last `1`: one of them is not the last bit
  obtain ⟨p, k, e⟩ := exists_last false bs h1
  obtain ⟨p', k', e'⟩ := exists_last true bs h0
  cases k with
  | succ k => exact Or.inr ⟨p, false, k, e⟩
  | zero =>
    cases k' with
    | succ k' => exact Or.inr ⟨p', true, k', e'⟩
    | zero => exact absurd (List.append_inj' (e.symm.trans e') rfl).2 (by simp)

/-- both loops halve `iff` first -/
theorem two_pow_succ_div (f : Nat) : 2^(f+1) / 2 = 2^f := by
  rw [Nat.pow_succ, Nat.mul_div_cancel _ (Nat.succ_pos 1)]

/-- the sign vector written by `nodeLoop`: `u_i = - s_{i-1} · s_i` (`k1 = s_{-1}`) -/
def gray : Int → List Bool → List Int
  | _, [] => []
  | k1, b :: bs => (-k1 * sg b) :: gray (sg b) bs

@[simp] theorem length_gray : ∀ (k1 : Int) (bs : List Bool), (gray k1 bs).length = bs.length
  | _, [] => rfl
  | k1, b :: bs => by simp [gray, length_gray]

def lastSg : Int → List Bool → Int
  | k1, [] => k1
  | _, b :: bs => lastSg (sg b) bs

theorem gray_append : ∀ (k1 : Int) (p q : List Bool),
    gray k1 (p ++ q) = gray k1 p ++ gray (lastSg k1 p) q
  | _, [], _ => rfl
  | k1, b :: p, q => by simp [gray, lastSg, gray_append (sg b) p q]

theorem gray_replicate_aux : ∀ (m : Nat) (b : Bool),
    gray (sg b) (List.replicate m b) = List.replicate m (-1)
  | 0, _ => rfl
  | m+1, b => by
    rw [List.replicate_succ, gray, gray_replicate_aux m b, List.replicate_succ]
    congr 1
    have := sg_mul_self b
    rw [Int.neg_mul]; omega

theorem gray_replicate (k1 : Int) (m : Nat) (b : Bool) :
    gray k1 (List.replicate (m+1) b) = (-k1 * sg b) :: List.replicate m (-1) := by
  rw [List.replicate_succ, gray, gray_replicate_aux]

/-- on constant digits `nodeLoop` leaves `(l, iq)` alone (its test asks for digits that differ from the one just read) -/
theorem nodeLoop_const (c : Bool) : ∀ (m i : Nat) (k1 : Int) (l : Nat) (iq : Int) (acc : List Int),
    nodeLoop i m (valM (List.replicate m c)) (2^m) k1 l iq acc =
      (l, iq, acc.reverse ++ gray k1 (List.replicate m c))
  | 0, i, k1, l, iq, acc => by simp [nodeLoop, gray]
  | m+1, i, k1, l, iq, acc => by
    have ht := valM_replicate_true m
    have hp := Nat.two_pow_pos m
    rw [nodeLoop, List.replicate_succ]
    simp only [two_pow_succ_div, valM, List.length_replicate]
    cases c
    · simp only [Bool.false_eq_true, if_false, Nat.zero_add, valM_replicate_false]
      rw [if_neg (by omega)]
      have := nodeLoop_const false m
      simp only [valM_replicate_false] at this
      simp [this, gray]
    · simp only [if_true, Nat.add_sub_cancel_left]
      rw [if_pos (by omega)]
      have h : (2^m + valM (List.replicate m true) == 2^m && 2^m + valM (List.replicate m true) != 1) = false := by
        simp only [Bool.and_eq_false_iff, beq_eq_false_iff_ne, bne_eq_false_iff_eq]; omega
      simp [h, nodeLoop_const true m, gray]

/-- on digits `p b (!b)^(k+1)` the last update of `(l, iq)` is at `b`, whatever happened before: `l = i + |p|`, `iq = -sg b` -/
theorem nodeLoop_boundary (b : Bool) (k : Nat) : ∀ (p bs : List Bool), bs = p ++ b :: List.replicate (k+1) (!b) →
    ∀ (i : Nat) (k1 : Int) (l : Nat) (iq : Int) (acc : List Int),
    nodeLoop i bs.length (valM bs) (2^bs.length) k1 l iq acc = (i + p.length, -sg b, acc.reverse ++ gray k1 bs)
  | [], _, rfl, i, k1, l, iq, acc => by
    have ht := valM_replicate_true (k+1)
    have hp : 1 < 2^(k+1) := Nat.one_lt_two_pow (Nat.succ_ne_zero k)
    rw [List.nil_append, List.length_cons, nodeLoop]
    simp only [two_pow_succ_div, valM, List.length_replicate]
    cases b
    · simp only [Bool.false_eq_true, if_false, Nat.zero_add, Bool.not_false]
      rw [if_neg (by omega)]
      have h : (valM (List.replicate (k+1) true) + 1 == 2^(k+1) && valM (List.replicate (k+1) true) != 0) = true := by
        simp only [Bool.and_eq_true, beq_iff_eq, bne_iff_ne]; omega
      simp [h, nodeLoop_const true (k+1), gray]
    · simp only [if_true, Nat.add_sub_cancel_left, Bool.not_true, valM_replicate_false]
      have := nodeLoop_const false (k+1)
      simp only [valM_replicate_false] at this
      simp [this, gray]
  | x :: p, _, rfl, i, k1, l, iq, acc => by
    have h := valM_lt (p ++ b :: List.replicate (k+1) (!b))
    have ih := nodeLoop_boundary b k p _ rfl (i+1)
    rw [List.cons_append, List.length_cons, nodeLoop]
    simp only [two_pow_succ_div, valM]
    cases x
    · simp only [Bool.false_eq_true, if_false, Nat.zero_add]
      rw [if_neg (by omega), ih]
      simp [gray]; omega
    · simp only [if_true, Nat.add_sub_cancel_left]
      rw [if_pos (by omega), ih]
      simp [gray]; omega

/-- consecutive numbers `p 0 1^k`, `p 1 0^k` have Gray codes that differ in exactly one place, the position of
the lowest zero bit: the parts before it and after it are equal -/
theorem gray_succ (p : List Bool) (k : Nat) : ∃ (B : List Int) (s : Int),
    gray (-1) (p ++ false :: List.replicate k true) = gray (-1) p ++ s :: B ∧
    gray (-1) (p ++ true :: List.replicate k false) = gray (-1) p ++ (-s) :: B := by
  refine ⟨gray (-1) (List.replicate k true), - lastSg (-1) p * -1, ?_, ?_⟩
  · rw [gray_append, gray]; rfl
  · rw [gray_append, gray]
    congr 2
    · simp
    · cases k with
      | zero => rfl
      | succ k => rw [gray_replicate, gray_replicate]; simp

theorem exists_gray : ∀ (u : List Int) (k1 : Int), (k1 = 1 ∨ k1 = -1) → (∀ x ∈ u, x = 1 ∨ x = -1) →
    ∃ bs : List Bool, bs.length = u.length ∧ gray k1 bs = u
  | [], _, _, _ => ⟨[], rfl, rfl⟩
  | x :: u, k1, hk, hu => by
    have hx := hu x (List.mem_cons_self)
    obtain ⟨b, hb⟩ : ∃ b : Bool, -k1 * sg b = x := by
      rcases hk with rfl | rfl <;> rcases hx with rfl | rfl
      · exact ⟨false, rfl⟩
      · exact ⟨true, rfl⟩
      · exact ⟨true, rfl⟩
      · exact ⟨false, rfl⟩
    obtain ⟨bs, hl, hg⟩ := exists_gray u (sg b) (sg_cases b) (fun y hy => hu y (List.mem_cons_of_mem _ hy))
    exact ⟨b :: bs, by simp [hl], by simp [gray, hb, hg]⟩

/-- index of the last bit equal to `c` (`l` if there is none): `numbrLoop` computes `l = lastIdx true`,
`l1 = lastIdx false` -/
def lastIdx (c : Bool) : Nat → List Bool → Nat → Nat
  | _, [], l => l
  | i, b :: bs, l => lastIdx c (i+1) bs (if b = c then i else l)

theorem numbrLoop_spec : ∀ (bs : List Bool) (i : Nat) (k1 : Int) (iis l l1 : Nat), (k1 = 1 ∨ k1 = -1) →
    numbrLoop i (gray k1 bs) (2^bs.length) k1 iis l l1 =
      (iis + valM bs, lastIdx true i bs l, lastIdx false i bs l1)
  | [], _, _, _, _, _, _ => by simp [gray, numbrLoop, valM, lastIdx]
  | b :: bs, i, k1, iis, l, l1, hk => by
    have hk2 : -k1 * (-k1 * sg b) = sg b := by
      rcases hk with rfl | rfl <;> simp
    rw [gray, List.length_cons, numbrLoop]
    simp only [two_pow_succ_div, hk2]
    cases b
    · rw [if_pos (by simp), numbrLoop_spec bs _ _ _ _ _ (sg_cases false)]
      simp [valM, lastIdx]
    · rw [if_neg (by simp), numbrLoop_spec bs _ _ _ _ _ (sg_cases true)]
      simp [valM, lastIdx, Nat.add_assoc]

theorem lastIdx_append (c : Bool) : ∀ (p q : List Bool) (i l : Nat),
    lastIdx c i (p ++ q) l = lastIdx c (i + p.length) q (lastIdx c i p l)
  | [], _, _, _ => rfl
  | b :: p, q, i, l => by
    rw [List.cons_append, lastIdx, lastIdx_append c p q, lastIdx, List.length_cons]
    congr 1; omega

theorem lastIdx_replicate_not (c : Bool) : ∀ (k i l : Nat), lastIdx c i (List.replicate k (!c)) l = l
  | 0, _, _ => rfl
  | k+1, i, l => by
    rw [List.replicate_succ, lastIdx, lastIdx_replicate_not c k, if_neg (by cases c <;> simp)]

theorem lastIdx_boundary (c : Bool) (p : List Bool) (k i l : Nat) :
    lastIdx c i (p ++ c :: List.replicate k (!c)) l = i + p.length := by
  rw [lastIdx_append, lastIdx, lastIdx_replicate_not, if_pos rfl]

end Ev.All

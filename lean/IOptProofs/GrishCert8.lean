import IOptProofs.GrishRows
/-! Kernel-evaluated certificates (V), (G), (P) of the Grishagin functions 81..90; one theorem per function,
so that the kernel's reduction cache is released between functions. -/
namespace Grish
theorem grish_ok_81 : grishOK 81 = true := grish_ok _ (by decide +kernel)
theorem grish_ok_82 : grishOK 82 = true := grish_ok _ (by decide +kernel)
theorem grish_ok_83 : grishOK 83 = true := grish_ok _ (by decide +kernel)
theorem grish_ok_84 : grishOK 84 = true := grish_ok _ (by decide +kernel)
theorem grish_ok_85 : grishOK 85 = true := grish_ok _ (by decide +kernel)
theorem grish_ok_86 : grishOK 86 = true := grish_ok _ (by decide +kernel)
theorem grish_ok_87 : grishOK 87 = true := grish_ok _ (by decide +kernel)
theorem grish_ok_88 : grishOK 88 = true := grish_ok _ (by decide +kernel)
theorem grish_ok_89 : grishOK 89 = true := grish_ok _ (by decide +kernel)
theorem grish_ok_90 : grishOK 90 = true := grish_ok _ (by decide +kernel)
end Grish

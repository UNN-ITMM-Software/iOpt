import IOptProofs.ShekelTabDefs
import IOptProofs.CertBlocks
/-!
# Shekel: the certificates in the form the kernel evaluates (no Mathlib)

Not a second checker: `shekelCertER` is `shekelCertE` (the C10 checker of `BenchShekelDefs`) with its sums and its
bisection written with the recursors, `sUpR`, `sDnR`, `gbnb` of `ShekelTabDefs` in place of the compiled structural
recursions `sUp`, `sDn`, `bnb`; it is equal to `shekelCertE` (`shekelCertER_eq`), and that equation is all that is used of
it.  The kernel unfolds one call of a compiled structural recursion at 500 to 600 heartbeats and one step of a recursor
at about 100.  The table is walked once per block (`CertBlocks`); `shekel_block`, `shekel_tab_block` turn one such
evaluation into the statement about rows `a, …, a+n-1`.
-/

namespace Shk

@[simp] theorem forceNat_eq (n : Nat) (k : Nat → Bool) : forceNat n k = k n := by
  cases n <;> rfl

@[simp] theorem force_eq {α : Type} (n : Nat) (k : Nat → α) : force n k = k n := by
  cases n <;> rfl

theorem sUpR_eq (A : Nat) (lo hi : Nat) (ts : List NTerm) : sUpR A ts lo hi = sUp A ts lo hi := by
  induction ts with
  | nil => rfl
  | cons t ts ih => exact congrArg (Nat.add _) ih

theorem sDnR_eq (A : Nat) (lo hi : Nat) (ts : List NTerm) : sDnR A ts lo hi = sDn A ts lo hi := by
  induction ts with
  | nil => rfl
  | cons t ts ih => exact congrArg (Nat.add _) ih

theorem gbnb_vLo (A : Nat) (ts : List NTerm) (T fuel lo hi : Nat) :
    gbnb (vLo A ts T) fuel lo hi = bnb A ts T fuel lo hi := by
  induction fuel generalizing lo hi with
  | zero => exact congrArg (Nat.ble · T) (sUpR_eq A lo hi ts)
  | succ fuel ih =>
    show gbnbStep (vLo A ts T) (gbnb (vLo A ts T) fuel) lo hi = (Nat.ble (sUp A ts lo hi) T ||
      (Nat.blt (Nat.add lo 1) hi && forceNat (Nat.div (Nat.add lo hi) 2) fun m =>
        (bnb A ts T fuel lo m && bnb A ts T fuel m hi)))
    simp only [gbnbStep, vLo, force_eq, forceNat_eq, ih, sUpR_eq]

/-- `shekelCertE` with `sUpR`, `sDnR`, `gbnb` (recursors) in place of `sUp`, `sDn`, `bnb` (compiled structural recursion,
five times dearer per call for the kernel) -/
noncomputable def shekelCertER (E : Nat) (k a c : List Dy) (v p : Dy) : Bool :=
  forceNat (2 ^ (3 * E + P)) fun A =>
  forceNat (scale E p) fun X =>
  forceNat (10 * 2 ^ E) fun X10 =>
  forceNat (radius E) fun R =>
  tabOK E k a c && scaleOK E p && Nat.ble X X10 &&
  forceTerms (nterms E k a c) fun ts =>
  forceNat (sUpR A ts X X) fun up =>
  forceNat (sDnR A ts X X) fun dn =>
  decide (v.toRat - 1 / 10000 ≤ -(up : Rat) / 2 ^ P) && decide (-(dn : Rat) / 2 ^ P ≤ v.toRat + 1 / 10000) &&
  decide (0 ≤ (-(v.toRat - 2 / 1000 * qmax1 (qabs v.toRat)) * 2 ^ P).floor) &&
  forceNat (-(v.toRat - 2 / 1000 * qmax1 (qabs v.toRat)) * 2 ^ P).floor.toNat (fun T => gbnb (vLo A ts T) 64 0 X10) &&
  Nat.blt 0 dn &&
  (Nat.blt X R || gbnb (vLo A ts (Nat.sub dn 1)) 64 0 (Nat.sub X R)) &&
  (Nat.blt X10 (Nat.add X R) || gbnb (vLo A ts (Nat.sub dn 1)) 64 (Nat.add X R) X10)

theorem shekelCertER_eq (E : Nat) (k a c : List Dy) (v p : Dy) : shekelCertER E k a c v p = shekelCertE E k a c v p := by
  simp only [shekelCertER, shekelCertE, gbnb_vLo, sUpR_eq, sDnR_eq]

/-- `shekelOK` as a test on the packed table row -/
noncomputable def shekelRowOK (row : Nat) : Bool :=
  forceNat row fun row =>
    forceNat (expFor (Dy.slice row 0 10) (Dy.slice row 10 10) (Dy.slice row 20 10) (Dy.get row 31)) fun E =>
      shekelCertER E (Dy.slice row 0 10) (Dy.slice row 10 10) (Dy.slice row 20 10) (Dy.get row 30) (Dy.get row 31)

theorem shekelRowOK_eq (i : Nat) : shekelRowOK Gen.shekelRows[i]! = shekelOK i := by
  simp only [shekelRowOK, shekelOK, shekelCert, shekelCertER_eq]

theorem shekel_block (a n : Nat) (h : CertBlocks.firstAll (fun _ => shekelRowOK) n (CertBlocks.skip a Gen.shekelRows.toList) = true) :
    ∀ i ∈ List.range' a n, shekelOK i = true := fun i hi =>
  (shekelRowOK_eq i).symm.trans (CertBlocks.forall_range' (fun _ => shekelRowOK) Gen.shekelRows a n h i hi)

/-- `shekelTabOK` as a test on the packed table row -/
noncomputable def shekelTabRowOK (row : Nat) : Bool :=
  force row fun row =>
    shekelTabCert (Dy.slice row 0 10) (Dy.slice row 10 10) (Dy.slice row 20 10)
      (Dy.get row 30) (Dy.get row 31) (Dy.get row 32) (Dy.get row 33) (Dy.get row 34)

theorem shekel_tab_block (a n : Nat)
    (h : CertBlocks.firstAll (fun _ => shekelTabRowOK) n (CertBlocks.skip a Gen.shekelRows.toList) = true) :
    ∀ i ∈ List.range' a n, shekelTabOK i = true :=
  CertBlocks.forall_range' (fun _ => shekelTabRowOK) Gen.shekelRows a n h

end Shk

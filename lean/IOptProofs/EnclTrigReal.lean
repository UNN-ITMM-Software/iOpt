import Mathlib.Analysis.Complex.Trigonometric
import Mathlib.Analysis.Real.Pi.Bounds
/-!
# Enclosure kit, real analysis part 2: Taylor polynomial of `exp (iφ)` with remainder; bounds of `π`
-/

namespace Encl
open Complex Finset

/-- degree-10 Taylor polynomial of `cos` -/
noncomputable def C11 (φ : ℝ) : ℝ := 1 - φ^2/2 + φ^4/24 - φ^6/720 + φ^8/40320 - φ^10/3628800
/-- degree-9 Taylor polynomial of `sin` -/
noncomputable def S11 (φ : ℝ) : ℝ := φ - φ^3/6 + φ^5/120 - φ^7/5040 + φ^9/362880

theorem sum11 (φ : ℝ) :
    ∑ m ∈ range 11, ((φ : ℂ) * I) ^ m / (m.factorial : ℂ) = ⟨C11 φ, S11 φ⟩ := by
  have hI : ∀ n : ℕ, I ^ (n + 2) = -I ^ n := fun n => by rw [pow_add, I_sq, mul_neg_one]
  simp only [sum_range_succ, sum_range_zero, mul_pow, hI, pow_zero, pow_one]
  apply Complex.ext
  · simp [C11, Nat.factorial, ← ofReal_pow]
    ring
  · simp [S11, Nat.factorial, ← ofReal_pow]
    ring

/-- `‖e^{iφ} - (C11 φ + i S11 φ)‖ ≤ |φ|^11 · 12/(11!·11)` for `|φ| ≤ 1` -/
theorem exp_taylor11 {φ : ℝ} (h : |φ| ≤ 1) :
    ‖exp ((φ : ℂ) * I) - (⟨C11 φ, S11 φ⟩ : ℂ)‖ ≤ |φ| ^ 11 * (12 / (39916800 * 11)) := by
  have hn : ‖(φ : ℂ) * I‖ = |φ| := by simp
  have := Complex.exp_bound (x := (φ : ℂ) * I) (by rw [hn]; exact h) (n := 11) (by norm_num)
  rw [sum11, hn] at this
  refine this.trans (le_of_eq ?_)
  norm_num [Nat.factorial]

/-- `|π - PI_N/2^70| ≤ 2^-66` with `PI_N = 3708937962535486895300` -/
theorem pi_approx : |Real.pi - 3708937962535486895300 / 2^70| ≤ 1 / 2^66 := by
  have h1 := Real.pi_gt_d20
  have h2 := Real.pi_lt_d20
  rw [abs_le]
  constructor <;> norm_num at h1 h2 ⊢ <;> linarith

theorem pi_lt_315 : Real.pi < 3.15 := by
  have := Real.pi_lt_d20; norm_num at this ⊢; linarith
theorem pi_gt_314' : 3.14 < Real.pi := by
  have := Real.pi_gt_d20; norm_num at this ⊢; linarith

/-- `2π ≤ TWOPI_HI / 2^62` -/
theorem two_pi_le : 2 * Real.pi ≤ 28976077832308491370 / 2^62 := by
  have h2 := Real.pi_lt_d20
  norm_num at h2 ⊢; linarith
/-- `TWOPI_LO / 2^62 ≤ 2π` -/
theorem le_two_pi : (28976077832308491369 : ℝ) / 2^62 ≤ 2 * Real.pi := by
  have h2 := Real.pi_gt_d20
  norm_num at h2 ⊢; linarith

/-- `2π² ≤ PISQ2_HI / 2^60` -/
theorem two_pi_sq_le : 2 * Real.pi ^ 2 ≤ 22757758311956604325 / 2^60 := by
  have h2 := Real.pi_lt_d20
  have h0 := Real.pi_pos
  have : Real.pi ^ 2 ≤ 3.14159265358979323847 ^ 2 := by
    apply pow_le_pow_left₀ h0.le h2.le
  norm_num at this ⊢; linarith

/-- `4π³/3 ≤ PI3_43_HI / 2^58` -/
theorem four_thirds_pi_cube_le : 4 * Real.pi ^ 3 / 3 ≤ 11915934387502487030 / 2^58 := by
  have h2 := Real.pi_lt_d20
  have h0 := Real.pi_pos
  have : Real.pi ^ 3 ≤ 3.14159265358979323847 ^ 3 := by
    apply pow_le_pow_left₀ h0.le h2.le
  norm_num at this ⊢; linarith

end Encl

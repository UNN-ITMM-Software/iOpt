import IOptProofs.ProcessOps
import Mathlib.Order.Defs.LinearOrder
/-!
# The stop criterion read along the canonical sequence

The lengths it compares (`deltaAt`, `deltas`), `min_delta` as their running Python `min` (`iterN_minDelta`), the criterion in those
terms (`Crit`).  The model's `minOpt`/`foldMin` reproduce Python's `min(old.delta, min_delta)` with `<` only; over a linear order
(where the model's `<`, `≤` are the order's) the running `min` is the least element (`foldMin_spec`).
-/

set_option linter.unusedSectionVars false

section
variable {α : Type} [Add α] [Sub α] [Mul α] [Div α] [Neg α] [LT α] [LE α]
  [DecidableLT α] [DecidableLE α] [OfNat α 0] [OfNat α 1] [OfNat α 2] [OfNat α 4] [Fns α]

namespace Proc
open AGP AGP.Ctl

/-- Hölder length `old.delta` of the interval that the next pass from `ps` selects
(`none` for the first pass, which selects nothing, or if the selection raises) -/
def nextDelta (p : Params α) (ps : PState α) : Option α :=
  match ps.m with
  | none => none
  | some s => match prepare p s with
    | .ok pr => some pr.old.delta
    | .error _ => none

/-- Python `min_delta = min(old.delta, min_delta)` when an interval was selected -/
def stepMin (d : Option α) (acc : Option α) : Option α :=
  match d with
  | none => acc
  | some d => some (minOpt d acc)

theorem oneIteration_ok_minDelta {p : Params α} {f : Nat → List α → Option α} {ps ps' : PState α} {id : Nat}
    (h : oneIteration p f ps = .ok (ps', id)) : ps'.minDelta = stepMin (nextDelta p ps) ps.minDelta := by
  obtain ⟨pt, z, P⟩ := oneIteration_ok h
  rcases P.step with F | ⟨s, pr, N⟩
  · simp [PState.minDelta, nextDelta, stepMin, F.m, F.m', firstIteration_minDelta]
  · simp [PState.minDelta, nextDelta, stepMin, N.m, N.m', commit_minDelta, prepare_ok_minDelta N.prep, N.prep]

def foldMin (acc : Option α) (ds : List α) : Option α := ds.foldl (fun acc d => some (minOpt d acc)) acc

theorem foldMin_append (acc : Option α) (l1 l2 : List α) : foldMin acc (l1 ++ l2) = foldMin (foldMin acc l1) l2 := by
  simp [foldMin]

def stateAt (p : Params α) (f : Nat → List α → Option α) (ps : PState α) (j : Nat) : Option (PState α) :=
  match iterN p f j ps with
  | .ok (psj, _) => some psj
  | .error _ => none

/-- the Hölder length selected by pass number `j+1` (counting from 1) of the canonical sequence from `ps`;
from a fresh state pass 1 is the first iteration and selects nothing -/
def deltaAt (p : Params α) (f : Nat → List α → Option α) (ps : PState α) (j : Nat) : Option α :=
  (stateAt p f ps j).bind (nextDelta p)

theorem deltaAt_of_iterN {p : Params α} {f : Nat → List α → Option α} {ps psj : PState α} {j : Nat} {ids : List Nat}
    (h : iterN p f j ps = .ok (psj, ids)) : deltaAt p f ps j = nextDelta p psj := by
  simp only [deltaAt, stateAt, h]; rfl

theorem deltaAt_eq_some {p : Params α} {f : Nat → List α → Option α} {ps : PState α} {j : Nat} {d : α}
    (h : deltaAt p f ps j = some d) :
    ∃ psj ids s pr, iterN p f j ps = .ok (psj, ids) ∧ psj.m = some s ∧ prepare p s = .ok pr ∧ d = pr.old.delta := by
  cases hi : iterN p f j ps with
  | error e => simp [deltaAt, stateAt, hi] at h
  | ok x =>
    obtain ⟨psj, ids⟩ := x
    rw [deltaAt_of_iterN hi, nextDelta] at h
    cases hm : psj.m with
    | none => simp [hm] at h
    | some s =>
      cases hp : prepare p s with
      | error e => simp [hm, hp] at h
      | ok pr => simp [hm, hp] at h; exact ⟨psj, ids, s, pr, rfl, hm, hp, h.symm⟩

/-- every pass after the first selects an interval -/
theorem deltaAt_isSome {p : Params α} {f : Nat → List α → Option α} {ps psi ps' : PState α} {i id : Nat} {ids : List Nat}
    (hi : iterN p f i ps = .ok (psi, ids)) (hm : psi.m ≠ none) (h1 : oneIteration p f psi = .ok (ps', id)) :
    ∃ d, deltaAt p f ps i = some d := by
  obtain ⟨pt, z, P⟩ := oneIteration_ok h1
  rcases P.step with F | ⟨s, pr, N⟩
  · exact absurd F.m hm
  · exact ⟨pr.old.delta, by rw [deltaAt_of_iterN hi]; simp [nextDelta, N.m, N.prep]⟩

theorem deltaAt_fresh_zero (p : Params α) (f : Nat → List α → Option α) : deltaAt p f ({} : PState α) 0 = none := rfl

def deltas (p : Params α) (f : Nat → List α → Option α) (ps : PState α) (k : Nat) : List α :=
  (List.range k).filterMap (deltaAt p f ps)

theorem mem_deltas {p : Params α} {f : Nat → List α → Option α} {ps : PState α} {k : Nat} {d : α} :
    d ∈ deltas p f ps k ↔ ∃ i, i < k ∧ deltaAt p f ps i = some d := by
  simp [deltas, List.mem_filterMap]

theorem deltas_succ (p : Params α) (f : Nat → List α → Option α) (ps : PState α) (k : Nat) :
    deltas p f ps (k + 1) = deltas p f ps k ++ (deltaAt p f ps k).toList := by
  simp only [deltas, List.range_succ, List.filterMap_append]
  cases h : deltaAt p f ps k <;> simp [h]

theorem iterN_minDelta {p : Params α} {f : Nat → List α → Option α} {k : Nat} {ps ps' : PState α} {ids : List Nat}
    (h : iterN p f k ps = .ok (ps', ids)) : ps'.minDelta = foldMin ps.minDelta (deltas p f ps k) := by
  induction k generalizing ps' ids with
  | zero => cases h; rfl
  | succ k ih =>
    obtain ⟨psk, idsk, id, hk, h1, -⟩ := iterN_succ_ok h
    rw [oneIteration_ok_minDelta h1, deltas_succ, foldMin_append, ← ih hk, deltaAt_of_iterN hk]
    cases nextDelta p psk <;> rfl

/-- The stop criterion after `j` passes of the canonical sequence from `ps`, written with the data of
that sequence only: the running Python-`min` of the selected lengths is below `eps`, or the budget is used up. -/
def Crit (p : Params α) (f : Nat → List α → Option α) (ps : PState α) (j : Nat) : Prop :=
  (∃ d, foldMin ps.minDelta (deltas p f ps j) = some d ∧ d < p.eps) ∨ p.itersLimit ≤ ps.iters + j

theorem stopNow_iff_crit {p : Params α} {f : Nat → List α → Option α} {ps psj : PState α} {j : Nat} {ids : List Nat}
    (h : iterN p f j ps = .ok (psj, ids)) : stopNow p psj = true ↔ Crit p f ps j := by
  rw [stopNow_iff, (iterN_eff h).iters, iterN_minDelta h]; rfl

theorem RunPrefix.not_crit {p : Params α} {f : Nat → List α → Option α} {ps psj : PState α} {j i : Nat} {ids : List Nat}
    (h : RunPrefix p f ps j psj ids) (hi : i < j) : ¬ Crit p f ps i := fun hcrit => by
  obtain ⟨psi, idsi, hr, hns⟩ := h.notStop i hi
  rw [(stopNow_iff_crit hr).2 hcrit] at hns; cases hns

theorem solveLoop_raise_exact {p : Params α} {f : Nat → List α → Option α} {fuel : Nat} {ps : PState α}
    (hfuel : remaining p ps < fuel) (hr : (solveLoop p f fuel ps).2 = true) :
    ∃ K psK ids pe e, iterN p f K ps = .ok (psK, ids) ∧ oneIteration p f psK = .error (pe, e) ∧
      solveRaise p f fuel ps = some e ∧
      (solveLoop p f fuel ps).1 = pe.appendLog (endEach ids ++ [Event.exceptionPrinted]) ∧
      ∀ j, j ≤ K → ¬ Crit p f ps j := by
  obtain ⟨K, psK, ids, r, Y, L⟩ := solveLoop_cases (f := f) hfuel
  rw [L.loop] at hr ⊢
  cases L.loopEnd with
  | stop _ => cases hr
  | raise hst herr =>
    refine ⟨K, psK, ids, Y, _, L.pre.run, herr, L.raise, rfl, fun j hj hcrit => ?_⟩
    rcases Nat.lt_or_eq_of_le hj with hlt | rfl
    · exact L.pre.not_crit hlt hcrit
    · rw [(stopNow_iff_crit L.pre.run).2 hcrit] at hst; cases hst

/-- A `Solve` on a fresh solver during which nothing raised, read on the canonical sequence: it made the `K` passes up to the first state
`psK` in which the criterion holds, and what it reports are that state's counters and records. -/
structure SolvedAt (p : Params α) (f : Nat → List α → Option α) (refine : PState α → Option (LocalResult α)) (K : Nat)
    (psK : PState α) (ids : List Nat) : Prop where
  run : iterN p f K {} = .ok (psK, ids)
  nTrials : (solve p f refine {}).nTrials = K
  evals : (solve p f refine {}).evals = psK.evals
  minDelta : (solve p f refine {}).minDelta = foldMin none (deltas p f {} K)
  stop : stopNow p (solve p f refine {}) = true
  crit : Crit p f {} K
  first : ∀ j, j < K → ¬ Crit p f {} j
  loop : (solveLoop p f (p.itersLimit + 1) {}).1 = psK.appendLog (endEach ids)

theorem solve_fresh_stop (p : Params α) (f : Nat → List α → Option α) (refine : PState α → Option (LocalResult α))
    (hnr : (solveLoop p f (p.itersLimit + 1) {}).2 = false) : ∃ K psK ids, SolvedAt p f refine K psK ids := by
  obtain ⟨K, psK, ids, r, Y, L⟩ := solve_passes p f ({} : PState α)
  have hpre := L.pre
  have heq := L.loop
  rw [heq] at hnr
  have hst := L.stopNow_eq
  cases L.loopEnd with
  | raise _ _ => cases hnr
  | stop _ =>
  replace heq : (solveLoop p f (p.itersLimit + 1) {}).1 = psK.appendLog (endEach ids) := by rw [heq]; simp [excOf]
  have hrun := hpre.run
  have e := iterN_eff hrun
  -- `solve` is the refinement step and a notification on top of the state the loop left, which is `psK` up to the log
  exact ⟨K, psK, ids, {
    run := hrun
    nTrials := by rw [solve_eq, heq]; simpa using e.nTrials_fresh
    evals := by rw [solve_eq, heq]; simp
    minDelta := by
      rw [solve_eq, heq]
      simp only [PState.appendLog_minDelta, refineStep_minDelta]
      exact iterN_minDelta hrun
    stop := by rw [solve_eq, heq]; simpa [stopNow_refineStep] using hst
    crit := (stopNow_iff_crit hrun).1 hst
    first := fun j hj => hpre.not_crit hj
    loop := heq }⟩

end Proc
end

section
variable {α : Type} [LinearOrder α]

namespace Proc
open AGP AGP.Ctl

theorem minOpt_some (a b : α) : minOpt a (some b) = min a b := by
  simp only [minOpt, min_def]
  by_cases h : b < a
  · simp [h, not_le.2 h]
  · simp [h, not_lt.1 h]

theorem foldMin_spec (acc : Option α) (ds : List α) :
    (acc = none ∧ ds = [] ∧ foldMin acc ds = none) ∨
    ∃ m, foldMin acc ds = some m ∧ (∀ d ∈ ds, m ≤ d) ∧ (∀ a, acc = some a → m ≤ a) ∧ (m ∈ ds ∨ acc = some m) := by
  induction ds generalizing acc with
  | nil =>
    cases acc with
    | none => left; exact ⟨rfl, rfl, rfl⟩
    | some a => right; exact ⟨a, rfl, by simp, by simp, .inr rfl⟩
  | cons d ds ih =>
    right
    have hstep : foldMin acc (d :: ds) = foldMin (some (minOpt d acc)) ds := rfl
    rw [hstep]
    rcases ih (some (minOpt d acc)) with ⟨h, -⟩ | ⟨m, hm, h1, h2, h3⟩
    · cases h
    · have hle := h2 _ rfl
      refine ⟨m, hm, ?_, ?_, ?_⟩
      · intro x hx
        rcases List.mem_cons.1 hx with rfl | hx
        · refine le_trans hle ?_
          cases acc with
          | none => exact le_refl _
          | some a => rw [minOpt_some]; exact min_le_left _ _
        · exact h1 x hx
      · intro a ha; subst ha
        refine le_trans hle ?_
        rw [minOpt_some]; exact min_le_right _ _
      · rcases h3 with h3 | h3
        · left; exact List.mem_cons_of_mem _ h3
        · cases acc with
          | none => left; simp only [minOpt, Option.some.injEq] at h3; rw [← h3]; exact List.mem_cons_self
          | some a =>
            rw [minOpt_some, Option.some.injEq] at h3
            rcases le_total d a with h | h
            · left; rw [← h3, min_eq_left h]; exact List.mem_cons_self
            · right; rw [← h3, min_eq_right h]

theorem foldMin_lt_iff (acc : Option α) (ds : List α) (eps : α) :
    (∃ m, foldMin acc ds = some m ∧ m < eps) ↔ (∃ a, acc = some a ∧ a < eps) ∨ ∃ d ∈ ds, d < eps := by
  rcases foldMin_spec acc ds with ⟨h1, h2, h3⟩ | ⟨m, hm, h1, h2, h3⟩
  · subst h1; subst h2; simp [foldMin]
  · constructor
    · rintro ⟨m', hm', hlt⟩
      rw [hm] at hm'; cases hm'
      rcases h3 with h3 | h3
      · right; exact ⟨m, h3, hlt⟩
      · left; exact ⟨m, h3, hlt⟩
    · rintro (⟨a, ha, hlt⟩ | ⟨d, hd, hlt⟩)
      · exact ⟨m, hm, lt_of_le_of_lt (h2 a ha) hlt⟩
      · exact ⟨m, hm, lt_of_le_of_lt (h1 d hd) hlt⟩

end Proc
end

import IOptModel.EvObj
import IOptProofs.EvShape
/-!
# Heap lemmas, single-call facts and the state invariant for the `Evolvent` object model (`IOptModel/EvObj.lean`)

For `IOptProps/C17.lean` (evolvent queries are pure) and the source tie `EvInterp`.  Only core Lean is used.

* `EvObj.step_*` : ONE call of `EvObj.step`, phrased with raw refs (`h.size`, `o.scratch`) and no further vocabulary.  The
  equations `step_image_one … step_setBounds` give the result of each operation with its heap program already run (writing
  the array just allocated is allocating it with that content, `Heap.alloc_write`: a fresh scratch array and a returned
  copy hold `Ev.getImage …` resp. `Ev.d2p …` at once).  Read off them: `step_writes` (freshness of the allocated refs,
  honesty of the `wrote`/`allocated` reports), the frame property (`step_read_of_ne_scratch`), `Inv.step`, and in
  `IOptProps/C17.lean` what a call answers (`step_answer`).
* `EvObj.Inv` : what holds of heap and object after `__init__` (`Inv.init`) and is kept by every call whose
  arguments the caller can name (`Inv.step`); `Setup.Valid.inv` in C17 carries it along a session.
* `EvObj.stepNoCopy` : the NEGATIVE control — `GetImage` for `N = 1` WITHOUT the final `np.copy`
  (`return self.yValues`), used in `IOptProps/C17.lean` to show that the frame theorem is not vacuous.
-/

set_option linter.unusedSectionVars false

theorem EvObj.list_snoc_induction {β : Type} {motive : List β → Prop} (nil : motive [])
    (snoc : ∀ (l : List β) (a : β), motive l → motive (l ++ [a])) : ∀ l, motive l := by
  intro l
  have h : ∀ l : List β, motive l.reverse := by
    intro l
    induction l with
    | nil => exact nil
    | cons a l ih => rw [List.reverse_cons]; exact snoc _ _ ih
  have := h l.reverse
  rwa [List.reverse_reverse] at this

namespace Heap
variable {α : Type}

/-- number of arrays in the heap; valid refs are exactly the `r < h.size` -/
def size (h : Heap α) : Nat := h.cells.size

@[simp] theorem size_write (h : Heap α) (r : Nat) (v : List α) : (h.write r v).size = h.size := by
  simp [size, write]

@[simp] theorem size_alloc (h : Heap α) (v : List α) : (h.alloc v).1.size = h.size + 1 := by
  simp [size, alloc]

@[simp] theorem alloc_snd (h : Heap α) (v : List α) : (h.alloc v).2 = h.size := rfl

theorem read_write_same (h : Heap α) {r : Nat} (v : List α) (hr : r < h.size) :
    (h.write r v).read r = v := by
  simp only [size] at hr
  simp [read, write, hr]

theorem read_write_ne (h : Heap α) {r r' : Nat} (v : List α) (hne : r' ≠ r) :
    (h.write r v).read r' = h.read r' := by
  have : r ≠ r' := fun e => hne e.symm
  simp [read, write, Array.getElem?_setIfInBounds_ne, this]

theorem read_alloc_new (h : Heap α) (v : List α) : (h.alloc v).1.read h.size = v := by
  simp [read, alloc, size]

theorem read_alloc_ne (h : Heap α) (v : List α) {r : Nat} (hne : r ≠ h.size) :
    (h.alloc v).1.read r = h.read r := by
  simp only [size] at hne
  simp only [read, alloc, Array.getElem?_push]
  rw [if_neg hne]

theorem read_alloc_old (h : Heap α) (v : List α) {r : Nat} (hr : r < h.size) :
    (h.alloc v).1.read r = h.read r :=
  read_alloc_ne h v (Nat.ne_of_lt hr)

theorem read_of_size_le (h : Heap α) {r : Nat} (hr : h.size ≤ r) : h.read r = [] := by
  simp only [size] at hr
  simp [read, Array.getElem?_eq_none hr]

theorem write_write (h : Heap α) (r : Nat) (a b : List α) : (h.write r a).write r b = h.write r b := by
  simp [write, Array.setIfInBounds_setIfInBounds]

/-- two heaps that hold the same are equal -/
theorem ext {h h' : Heap α} (hs : h.size = h'.size) (hr : ∀ r, h.read r = h'.read r) : h = h' := by
  cases h with | mk c =>
  cases h' with | mk c' =>
  simp only [size] at hs
  refine congrArg Heap.mk (Array.ext hs fun i h1 h2 => ?_)
  have := hr i
  simpa [read, h1, h2] using this

theorem write_read_self (h : Heap α) {r : Nat} (hr : r < h.size) : h.write r (h.read r) = h := by
  refine ext (by simp) fun r' => ?_
  by_cases e : r' = r
  · rw [e, read_write_same _ _ hr]
  · rw [read_write_ne _ _ e]

/-- writing the array just allocated = allocating it with that content -/
theorem alloc_write (h : Heap α) (v w : List α) : (h.alloc v).1.write h.size w = (h.alloc w).1 := by
  refine ext (by simp) fun r => ?_
  by_cases e : r = h.size
  · rw [e, read_write_same _ _ (by simp), read_alloc_new]
  · rw [read_write_ne _ _ e, read_alloc_ne _ _ e, read_alloc_ne _ _ e]

end Heap

section
variable {α : Type} [Add α] [Sub α] [Mul α] [Div α] [Neg α] [LT α] [LE α]
  [DecidableLT α] [DecidableLE α] [OfNat α 0] [OfNat α 1] [OfNat α 2] [NatCast α] [TruncNat α]

namespace EvObj

theorem init_heap (h : Heap α) (n m lo hi : Nat) :
    (init h n m lo hi).1 = (h.alloc (List.replicate n 0)).1 := rfl

theorem init_obj (h : Heap α) (n m lo hi : Nat) :
    (init h n m lo hi).2 =
      { n := n, m := m, lower := (h.alloc (List.replicate n 0)).1.read lo,
        upper := (h.alloc (List.replicate n 0)).1.read hi, scratch := h.size } := rfl

theorem step_image_one (h : Heap α) (o : Obj α) (x : α) (hn : o.n = 1) :
    step h o (.image x) =
      let h1 := h.write o.scratch (Ev.p2d o.lower o.upper ((h.read o.scratch).set 0 (x - Ev.half)))
      { heap := (h1.alloc (h1.read o.scratch)).1, obj := o, out := .array h.size,
        wrote := [o.scratch], allocated := [h.size] } := by
  simp only [step, hn, BEq.rfl, if_true, Heap.write_write, Heap.alloc_snd, Heap.size_write]

theorem step_image_ne_one (h : Heap α) (o : Obj α) (x : α) (hn : o.n ≠ 1) :
    step h o (.image x) =
      let g := Ev.getImage o.n o.m o.lower o.upper x
      { heap := ((h.alloc g).1.alloc g).1, obj := { o with scratch := h.size }, out := .array (h.size + 1),
        wrote := [h.size], allocated := [h.size, h.size + 1] } := by
  simp only [step, beq_iff_eq, hn, if_false, Heap.alloc_snd, Heap.alloc_write, Heap.read_alloc_new, Heap.size_alloc, Ev.getImage]

theorem step_inverse (h : Heap α) (o : Obj α) (arg : Nat) :
    step h o (.inverse arg) =
      { heap := (h.alloc (Ev.d2p o.lower o.upper (h.read arg))).1, obj := { o with scratch := h.size },
        out := .number (Ev.getInverseImage o.n o.m o.lower o.upper (h.read arg)), wrote := [h.size], allocated := [h.size] } := by
  simp only [step, Heap.alloc_snd, Heap.alloc_write, Heap.read_alloc_new, Ev.getInverseImage]

/-- `GetPreimages` is literally the same code as `GetInverseImage` -/
theorem step_preimages (h : Heap α) (o : Obj α) (arg : Nat) :
    step h o (.preimages arg) = step h o (.inverse arg) := rfl

theorem step_setBounds (h : Heap α) (o : Obj α) (lo hi : Nat) :
    step h o (.setBounds lo hi) =
      { heap := h, obj := { o with lower := h.read lo, upper := h.read hi }, out := .unit,
        wrote := [], allocated := [] } := rfl

/-- the bounds a call leaves in force: `SetBounds` copies the CURRENT contents of its arguments, no other call changes them -/
def Op.bounds (h : Heap α) (b : List α × List α) : Op α → List α × List α
  | .setBounds lo hi => (h.read lo, h.read hi)
  | _ => b

/-- What one call does to the heap, read off its two reports.  Every ref reported as allocated is fresh; the only ref written
is the scratch array the object has AFTER the call, and that is the old one or one allocated by this very call; an array
reported neither as written nor as allocated keeps its contents. -/
theorem step_writes (h : Heap α) (o : Obj α) (op : Op α) :
    (∀ r ∈ (step h o op).allocated, h.size ≤ r ∧ r < (step h o op).heap.size) ∧
    (∀ r ∈ (step h o op).wrote, r = (step h o op).obj.scratch) ∧
    ((step h o op).obj.scratch = o.scratch ∨ (step h o op).obj.scratch ∈ (step h o op).allocated) ∧
    (∀ r, r ∉ (step h o op).wrote → r ∉ (step h o op).allocated →
      (step h o op).heap.read r = h.read r) := by
  cases op with
  | image x =>
    by_cases hn : o.n = 1
    · rw [step_image_one h o x hn]
      refine ⟨by simp, by simp, Or.inl rfl, ?_⟩
      simp only [List.mem_singleton]
      intro r hw ha
      rw [Heap.read_alloc_ne _ _ (by simpa using ha), Heap.read_write_ne _ _ hw]
    · rw [step_image_ne_one h o x hn]
      refine ⟨by simp; omega, by simp, Or.inr (by simp), ?_⟩
      simp only [List.mem_cons, List.not_mem_nil, or_false, not_or]
      intro r hw ha
      rw [Heap.read_alloc_ne _ _ (by simpa using ha.2), Heap.read_alloc_ne _ _ hw]
  | inverse a | preimages a =>
    simp only [step_preimages, step_inverse]
    refine ⟨by simp, by simp, Or.inr (by simp), ?_⟩
    simp only [List.mem_singleton]
    intro r hw _
    rw [Heap.read_alloc_ne _ _ hw]
  | setBounds lo hi =>
    rw [step_setBounds]
    exact ⟨by simp, by simp, Or.inl rfl, fun _ _ _ => rfl⟩

theorem step_read_of_ne_scratch (h : Heap α) (o : Obj α) (op : Op α) {r : Nat}
    (hr : r < h.size) (hne : r ≠ o.scratch) : (step h o op).heap.read r = h.read r := by
  obtain ⟨hfresh, hw, hsc, hread⟩ := step_writes h o op
  have hna : r ∉ (step h o op).allocated := fun ha => by have := (hfresh r ha).1; omega
  refine hread r (fun hm => ?_) hna
  rcases hsc with e | ha
  · exact hne ((hw r hm).trans e)
  · exact hna (hw r hm ▸ ha)

/-- the refs an operation receives from the caller -/
def Op.args : Op α → List Nat
  | .image _ => []
  | .inverse a => [a]
  | .preimages a => [a]
  | .setBounds lo hi => [lo, hi]

/-- the refs an output hands to the caller -/
def Out.refs : Out α → List Nat
  | .array r => [r]
  | .number _ => []
  | .unit => []

theorem Out.mem_refs {out : Out α} {r : Nat} : r ∈ out.refs ↔ out = .array r := by
  cases out <;> simp [Out.refs, eq_comm]

/-- State invariant of an `Evolvent` object living in heap `h`.  `base` = number of arrays that existed before the object was
created, `ret` = the refs returned to the caller so far: a ref the caller can name is `r < base ∨ r ∈ ret`, and the scratch
array is none of them (`scratch_ge`, `scratch_not_ret`).  `b` = the bounds in force.  `scratch_len`: for `n = 1` `GetImage`
assigns `self.yValues[0]` in place, which needs an array with one entry. -/
structure Inv (base n m : Nat) (b : List α × List α) (ret : List Nat) (h : Heap α) (o : Obj α) : Prop where
  n_eq : o.n = n
  m_eq : o.m = m
  bounds : (o.lower, o.upper) = b
  lower_len : o.lower.length = n
  upper_len : o.upper.length = n
  scratch_ge : base ≤ o.scratch
  scratch_lt : o.scratch < h.size
  scratch_not_ret : o.scratch ∉ ret
  ret_lt : ∀ r ∈ ret, r < h.size
  scratch_len : n = 1 → (h.read o.scratch).length = 1

theorem Inv.init (h : Heap α) (n m lo hi : Nat) (hlo : lo < h.size) (hhi : hi < h.size)
    (hll : (h.read lo).length = n) (hhl : (h.read hi).length = n) :
    Inv h.size n m (h.read lo, h.read hi) [] (init h n m lo hi).1 (init h n m lo hi).2 := by
  have elo : (EvObj.init h n m lo hi).2.lower = h.read lo := Heap.read_alloc_old _ _ hlo
  have ehi : (EvObj.init h n m lo hi).2.upper = h.read hi := Heap.read_alloc_old _ _ hhi
  refine
    { n_eq := rfl, m_eq := rfl
      bounds := by rw [elo, ehi]
      lower_len := by rw [elo, hll]
      upper_len := by rw [ehi, hhl]
      scratch_ge := Nat.le_refl _, scratch_lt := ?scratch_lt
      scratch_not_ret := by simp
      ret_lt := by simp
      scratch_len := ?scratch_len }
  case scratch_lt =>
    show h.size < (h.alloc _).1.size; simp
  case scratch_len =>
    intro hn
    show ((h.alloc _).1.read h.size).length = 1
    rw [Heap.read_alloc_new]; simp [hn]

theorem Inv.step {base n m : Nat} {b : List α × List α} {ret : List Nat} {h : Heap α} {o : Obj α}
    (hi : Inv base n m b ret h o) (op : Op α)
    (hargs : ∀ r ∈ op.args, (r < base ∨ r ∈ ret) ∧ (h.read r).length = n) :
    Inv base n m (op.bounds h b) (ret ++ (step h o op).out.refs) (step h o op).heap (step h o op).obj := by
  have hge := hi.scratch_ge
  have hlt := hi.scratch_lt
  have hret : ∀ r ∈ ret, r < h.size + 1 ∧ r ≠ h.size := fun r hr => by have := hi.ret_lt r hr; omega
  -- per operation: its explicit result, then the fields of the invariant it changes (the others hold as they stand, by unfolding)
  cases op with
  | image x =>
    by_cases hn : o.n = 1
    · rw [step_image_one h o x hn]
      exact { hi with
        scratch_lt := by simp; omega
        scratch_not_ret := by simp [Out.refs, hi.scratch_not_ret]; omega
        ret_lt := by simpa [Out.refs, or_imp, forall_and] using fun r hr => (hret r hr).1
        scratch_len := fun _ => by
          show ((Heap.alloc _ _).1.read o.scratch).length = 1
          rw [Heap.read_alloc_old _ _ (by simpa using hlt), Heap.read_write_same _ _ hlt, Ev.length_p2d, List.length_set,
            hi.scratch_len (hi.n_eq ▸ hn), hi.lower_len, hi.upper_len, ← hi.n_eq, hn]; rfl }
    · rw [step_image_ne_one h o x hn]
      exact { hi with
        scratch_ge := by show base ≤ h.size; omega
        scratch_lt := by simp; omega
        scratch_not_ret := by simpa [Out.refs] using fun hm => (hret _ hm).2 rfl
        ret_lt := by simpa [Out.refs, or_imp, forall_and] using fun r hr => Nat.lt_succ_of_lt (hret r hr).1
        scratch_len := fun e => absurd (hi.n_eq.trans e) hn }
  | inverse a | preimages a =>
    simp only [step_preimages, step_inverse]
    exact { hi with
      scratch_ge := by show base ≤ h.size; omega
      scratch_lt := by simp
      scratch_not_ret := by simpa [Out.refs] using fun hm => (hret _ hm).2 rfl
      ret_lt := by simpa [Out.refs] using fun r hr => (hret r hr).1
      scratch_len := fun e => by
        show ((Heap.alloc _ _).1.read h.size).length = 1
        rw [Heap.read_alloc_new, Ev.length_d2p, (hargs a (by simp [Op.args])).2, hi.lower_len, hi.upper_len, e]; rfl }
  | setBounds lo hi' =>
    rw [step_setBounds]
    exact { hi with
      bounds := rfl
      lower_len := (hargs lo (by simp [Op.args])).2
      upper_len := (hargs hi' (by simp [Op.args])).2
      scratch_not_ret := by simpa [Out.refs] using hi.scratch_not_ret
      ret_lt := by simpa [Out.refs] using hi.ret_lt }

theorem Inv.known {base n m : Nat} {b : List α × List α} {ret : List Nat} {h : Heap α} {o : Obj α}
    (hi : Inv base n m b ret h o) {r : Nat} (hr : r < base ∨ r ∈ ret) :
    r < h.size ∧ r ≠ o.scratch := by
  have := hi.scratch_ge; have := hi.scratch_lt
  rcases hr with hr | hr
  · omega
  · exact ⟨hi.ret_lt r hr, fun e => hi.scratch_not_ret (e ▸ hr)⟩

/-- `step` with `GetImage` changed to `return self.yValues` (no `np.copy`) when `N = 1`: the
returned ref IS the scratch ref.  NOT the model of the library; used only to show that the frame
theorem of `IOptProps/C17.lean` can fail for a different implementation. -/
def stepNoCopy (h : Heap α) (o : Obj α) : Op α → StepResult α
  | .image x =>
    if o.n == 1 then
      let y0 := (h.read o.scratch).set 0 (x - Ev.half)
      let h1 := h.write o.scratch y0
      let h2 := h1.write o.scratch (Ev.p2d o.lower o.upper y0)
      { heap := h2, obj := o, out := .array o.scratch, wrote := [o.scratch], allocated := [] }
    else step h o (.image x)
  | op => step h o op

end EvObj
end

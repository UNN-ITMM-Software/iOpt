import IOptProofs.EnclDefs
import IOptGen.HillTables
/-!
# Hill functions: the kernel-evaluable certificate checker `hillOK` (no Mathlib)

`hillOK i` checks, for row `i` of the regenerated tables, by one adaptive bisection of `[0,1]` with
third-order Taylor leaf tests, all table claims (V), (G), (P), (L) of properties C10 / C18.
Soundness (`hillOK i = true → …` over `ℝ`) is `Hill.hillOK_sound` in `HillSound.lean`.

Formats: coefficients `a·2^80 + 2^89`; sums `s·2^144 + BF`, `BF = 2^160`.
-/

namespace Hill
open Encl

/-- `2^89`: bias of a coefficient -/
def BA : Nat := 618970019642690137449562112
/-- `2^160`: bias of the sums (format `2^-144`) -/
def BF : Nat := 1461501637330902918203684832716283019655932542976
/-- static bound, in units of `2^-64`, of the error radius of every `cos iθ, sin iθ`, `i ≤ 16` -/
def EMAX : Nat := 16777216
/-- `⌈2π·2^62⌉` -/
def TWOPI_HI : Nat := 28976077832308491370
/-- `⌊2π·2^62⌋` -/
def TWOPI_LO : Nat := 28976077832308491369
/-- `⌈2π²·2^60⌉` -/
def PISQ2_HI : Nat := 22757758311956604325
/-- `⌈(4π³/3)·2^58⌉` -/
def PI3_43_HI : Nat := 11915934387502487030
/-- `⌊2^144 / 10^4⌋` -/
def TOL4 : Nat := 2230074519853062314153571827264836150598
/-- `⌊2^144 / 10^6⌋` -/
def TOL6 : Nat := 22300745198530623141535718272648361505

/-- `⌊d·2^80⌋` -/
def scaled (d : Dy) : Int := (d.1 * (2:Int)^80) / (2:Int)^d.2
/-- `d·2^80` is an integer of absolute value `< 2^81` -/
def coefOK (d : Dy) : Bool := (d.1 * (2:Int)^80) % (2:Int)^d.2 == 0 && (scaled d).natAbs < 2417851639229258349412352
def encA (z : Int) : Nat := (z + (BA : Int)).toNat

def mkCoef (i : Nat) (a b : Dy) : Coef :=
  ⟨encA (scaled a), encA (scaled b), encA (i * scaled a), encA (-(i * scaled b)),
   encA (i * i * scaled a), encA (i * i * scaled b)⟩

def mkCoefs : Nat → List Dy → List Dy → List Coef
  | i, a :: as, b :: bs => mkCoef i a b :: mkCoefs (i+1) as bs
  | _, _, _ => []

/-- `Σ i^p (|a_i| + |b_i|)·2^80` -/
def sumAbs (p : Nat) : Nat → List Dy → List Dy → Nat
  | i, a :: as, b :: bs => i^p * ((scaled a).natAbs + (scaled b).natAbs) + sumAbs p (i+1) as bs
  | _, _, _ => 0

def allOK : List Dy → Bool
  | [] => true
  | d :: l => coefOK d && allOK l

/-- `Σ (x_j + y_j)` for a pair of coefficient columns -/
def colSum (f g : Coef → Nat) : List Coef → Nat
  | [] => 0
  | c :: l => f c + g c + colSum f g l

/-- `⌊v·2^144⌋ + BF` -/
def encLo (d : Dy) : Nat := ((d.1 * (2:Int)^144) / (2:Int)^d.2 + (BF : Int)).toNat

/-- per-row constants -/
structure Ctx where
  coefs : List Coef
  /-- `2·n·2^154` -/
  kG : Nat
  /-- `BF + kG` -/
  kF : Nat
  c0 : Nat
  c1 : Nat
  c2 : Nat
  e0 : Nat
  e1 : Nat
  e2 : Nat
  d3f : Nat
  d3g : Nat
  vminLo : Nat
  vmaxLo : Nat
  tL : Nat
  pminN : Nat
  pminK : Nat
  pmaxN : Nat
  pmaxK : Nat

def mkCtx (a b : List Dy) (vmin pmin vmax pmax lip : Dy) : Ctx :=
  { coefs := mkCoefs 0 a b
    kG := Nat.shiftLeft (2 * a.length) 154
    kF := BF + Nat.shiftLeft (2 * a.length) 154
    c0 := Nat.shiftLeft (colSum Coef.a0 Coef.b0 (mkCoefs 0 a b)) 65
    c1 := Nat.shiftLeft (colSum Coef.a1 Coef.b1 (mkCoefs 0 a b)) 65
    c2 := Nat.shiftLeft (colSum Coef.a2 Coef.b2 (mkCoefs 0 a b)) 65
    e0 := sumAbs 0 0 a b * EMAX
    e1 := sumAbs 1 0 a b * EMAX
    e2 := sumAbs 2 0 a b * EMAX
    d3f := Nat.shiftLeft (sumAbs 3 0 a b * PI3_43_HI) 6
    d3g := Nat.shiftLeft (sumAbs 3 0 a b * PISQ2_HI) 4
    vminLo := encLo vmin
    vmaxLo := encLo vmax
    tL := (1001 * lip.1.toNat * 2^206) / (1000 * 2^lip.2 * TWOPI_HI)
    pminN := pmin.1.toNat
    pminK := pmin.2
    pmaxN := pmax.1.toNat
    pmaxK := pmax.2 }

/-- the sums at the point `num/2^k` (format `2^-144`), passed to `cont`:
`F = f + BF` (biased), `P1 - N1 = f'/2π`, `P2 - N2 = -f''/4π²` (positive and negative parts) -/
def ev {α : Type} (ctx : Ctx) (num k : Nat) (cont : Nat → Nat → Nat → Nat → Nat → α) : α :=
  (fun (acc : Acc) (sh : Nat) =>
    cont (Nat.sub (Nat.add acc.f ctx.kF) (Nat.add ctx.c0 sh))
         (Nat.sub (Nat.add acc.g1 ctx.kG) (Nat.add ctx.c1 sh))
         (Nat.sub (Nat.add ctx.c1 sh) (Nat.add acc.g1 ctx.kG))
         (Nat.sub (Nat.add acc.g2 ctx.kG) (Nat.add ctx.c2 sh))
         (Nat.sub (Nat.add ctx.c2 sh) (Nat.add acc.g2 ctx.kG)))
  (evAcc ctx.coefs num k) (Nat.shiftLeft (evAcc ctx.coefs num k).sc 89)

/-- the leaf `[n/2^k, (n+1)/2^k]` lies inside `[p - 1/R, p + 1/R]`, `p = pN/2^pK` -/
def inside (pN pK R k n : Nat) : Bool :=
  Nat.ble (Nat.shiftLeft (Nat.mul R pN) k)
          (Nat.add (Nat.shiftLeft (Nat.mul R n) pK) (Nat.shiftLeft 1 (Nat.add k pK))) &&
  Nat.ble (Nat.shiftLeft (Nat.mul R (Nat.add n 1)) pK)
          (Nat.add (Nat.shiftLeft (Nat.mul R pN) k) (Nat.shiftLeft 1 (Nat.add k pK)))

/-- `⌊(x·c)/2^s⌋ + 1` -/
def mulShr (c x s : Nat) : Nat := Nat.add 1 (Nat.shiftRight (Nat.mul c x) s)

/-- slack of a one-sided bound on the leaf of half-width `2^-h`:
`e0 + |f'(c)|ρ + max(∓f''(c),0)ρ²/2 + D3ρ³/6` (format `2^-144`); `A1 ≥ |f'(c)|/2π`, `Q2 ≥ max(±f''(c),0)/4π²` -/
def slack (ctx : Ctx) (h A1 Q2 : Nat) : Nat :=
  Nat.add (Nat.add (Nat.add ctx.e0 (mulShr TWOPI_HI A1 (Nat.add h 62)))
    (mulShr PISQ2_HI Q2 (Nat.add (Nat.mul 2 h) 60)))
    (Nat.add 1 (Nat.shiftRight ctx.d3f (Nat.mul 3 h)))

/-- upper bound of `|f'|/2π` on the leaf; `A2 ≥ |f''(c)|/4π²` -/
def derivHi (ctx : Ctx) (h A1 A2 : Nat) : Nat :=
  Nat.add (Nat.add A1 (mulShr TWOPI_HI A2 (Nat.add h 62)))
    (Nat.add 1 (Nat.shiftRight ctx.d3g (Nat.mul 2 h)))

/-- `TOL4 + 2`, `TOL6 + 2` -/
def TOL4P : Nat := 2230074519853062314153571827264836150600
def TOL6P : Nat := 22300745198530623141535718272648361507

/-- all value tests on a leaf, given the slacks `sl`, `sh` of the lower and upper bound -/
def leafTests (ctx : Ctx) (k n F sl sh : Nat) : Bool :=
  -- (P) C10: below `vmin + 1e-4` only within 5e-3 of `pmin`; above `vmax - 1e-4` only within 5e-3 of `pmax`
  (Nat.ble (Nat.add (Nat.add TOL4P ctx.vminLo) sl) F || inside ctx.pminN ctx.pminK 200 k n) &&
  (Nat.ble (Nat.add TOL4P (Nat.add F sh)) ctx.vmaxLo || inside ctx.pmaxN ctx.pmaxK 200 k n) &&
  -- (P) C18: below `vmin + 1e-6` only within 1e-4 of `pmin`; same for the maximum
  (Nat.ble (Nat.add (Nat.add TOL6P ctx.vminLo) sl) F || inside ctx.pminN ctx.pminK 10000 k n) &&
  (Nat.ble (Nat.add TOL6P (Nat.add F sh)) ctx.vmaxLo || inside ctx.pmaxN ctx.pmaxK 10000 k n) &&
  -- (G) `vmin - 1e-4 ≤ f ≤ vmax + 1e-4`
  Nat.ble (Nat.add (Nat.add 1 ctx.vminLo) sl) (Nat.add TOL4 F) &&
  Nat.ble (Nat.add F sh) (Nat.add TOL4 ctx.vmaxLo)

/-- leaf test at the centre of `[n/2^k, (n+1)/2^k]`: `none` = undecided, `some w` = all clauses hold on
the leaf and `w ≤ |f'(c)|/2π` (format `2^-144`) -/
def leaf (ctx : Ctx) (k n : Nat) : Option Nat :=
  ev ctx (Nat.add (Nat.mul 2 n) 1) (Nat.add k 1) fun F P1 N1 P2 N2 =>
    cond (leafTests ctx k n F
            (slack ctx (Nat.add k 1) (Nat.add (Nat.add P1 N1) ctx.e1) (Nat.add P2 ctx.e2))
            (slack ctx (Nat.add k 1) (Nat.add (Nat.add P1 N1) ctx.e1) (Nat.add N2 ctx.e2)) &&
          Nat.ble (derivHi ctx (Nat.add k 1) (Nat.add (Nat.add P1 N1) ctx.e1)
                    (Nat.add (Nat.add P2 N2) ctx.e2)) ctx.tL)
      (some (Nat.sub (Nat.add P1 N1) ctx.e1)) none

def both : Option Nat → Option Nat → Option Nat
  | some a, some b => some (cond (Nat.ble a b) b a)
  | _, _ => none

/-- adaptive bisection of `[n/2^k, (n+1)/2^k]`; no tests above level 6 -/
def bnb (ctx : Ctx) : Nat → Nat → Nat → Option Nat
  | 0, _, _ => none
  | fuel+1, k, n =>
    cond (Nat.ble 6 k)
      (match leaf ctx k n with
      | some w => some w
      | none => both (bnb ctx fuel (Nat.add k 1) (Nat.mul 2 n)) (bnb ctx fuel (Nat.add k 1) (Nat.add (Nat.mul 2 n) 1)))
      (both (bnb ctx fuel (Nat.add k 1) (Nat.mul 2 n)) (bnb ctx fuel (Nat.add k 1) (Nat.add (Nat.mul 2 n) 1)))

/-- `|f(p) - v| ≤ 1e-6` at the dyadic point `p = pN/2^pK` (`vLo = ⌊v·2^144⌋ + BF`) -/
def valueOK (ctx : Ctx) (pN pK vLo : Nat) : Bool :=
  ev ctx pN pK fun F _ _ _ _ =>
    Nat.ble (Nat.add F ctx.e0) (Nat.add TOL6 vLo) && Nat.ble (Nat.add (Nat.add 1 vLo) ctx.e0) (Nat.add TOL6 F)

def witnessOK (lip : Dy) (w : Nat) : Bool :=
  Nat.ble (999 * lip.1.toNat * 2^206) (w * TWOPI_LO * 1000 * 2^lip.2)

/-- the complete check of one table row -/
def rowOK (a b : List Dy) (vmin pmin vmax pmax lip : Dy) : Bool :=
  a.length == b.length && a.length ≤ 16 && allOK a && allOK b &&
  decide (0 ≤ pmin.1) && decide (0 ≤ pmax.1) && decide (0 ≤ lip.1) &&
  Nat.ble pmin.1.toNat (2^pmin.2) && Nat.ble pmax.1.toNat (2^pmax.2) &&
  Nat.ble TOL4 (encLo vmin) && Nat.ble TOL4 (encLo vmax) &&
  (fun ctx =>
    valueOK ctx ctx.pminN ctx.pminK ctx.vminLo && valueOK ctx ctx.pmaxN ctx.pmaxK ctx.vmaxLo &&
    match bnb ctx 32 0 0 with
    | some w => witnessOK lip w
    | none => false) (mkCtx a b vmin pmin vmax pmax lip)

def hillOK (i : Nat) : Bool :=
  rowOK (Gen.hillA i) (Gen.hillB i) (Gen.hillMinValue i) (Gen.hillMinPoint i)
    (Gen.hillMaxValue i) (Gen.hillMaxPoint i) (Gen.hillLip i)

end Hill

import IOptProofs.GrishRows
/-! Kernel-evaluated certificates (V), (G), (P) of the Grishagin functions 41..50; one theorem per function,
so that the kernel's reduction cache is released between functions. -/
namespace Grish
theorem grish_ok_41 : grishOK 41 = true := grish_ok _ (by decide +kernel)
theorem grish_ok_42 : grishOK 42 = true := grish_ok _ (by decide +kernel)
theorem grish_ok_43 : grishOK 43 = true := grish_ok _ (by decide +kernel)
theorem grish_ok_44 : grishOK 44 = true := grish_ok _ (by decide +kernel)
theorem grish_ok_45 : grishOK 45 = true := grish_ok _ (by decide +kernel)
theorem grish_ok_46 : grishOK 46 = true := grish_ok _ (by decide +kernel)
theorem grish_ok_47 : grishOK 47 = true := grish_ok _ (by decide +kernel)
theorem grish_ok_48 : grishOK 48 = true := grish_ok _ (by decide +kernel)
theorem grish_ok_49 : grishOK 49 = true := grish_ok _ (by decide +kernel)
theorem grish_ok_50 : grishOK 50 = true := grish_ok _ (by decide +kernel)
end Grish

import IOptProofs.WiringInterpDefs
import IOptProofs.ProcInterp
import IOptProofs.ReportInterp
import IOptProofs.KernelRfl
import IOptProofs.InterpAttr
import IOptModel.Solver
import Mathlib.Algebra.Order.Field.Basic
import Mathlib.Tactic.NormNum
/-!
# The glue of the library (`Solver`, the constructors, `SearchDataItem`), taken from the SOURCE TEXT, is what the model assumes

`IOptGen/WiringSrc.lean` (regenerated on every run) holds the statement trees of the facade `Solver`, of the constructors of
`Process`, `Method`, `OptimizationTask`, `Solution`, `SolverParameters`, `Point`, `FunctionValue`, `Trial`, `SearchDataItem` and of the
accessors of `SearchDataItem`; `IOptProofs/WiringInterpDefs.lean` parses them (`theProg`) and interprets the parsed form over an object
graph.  All evaluation below is done by the KERNEL (`decide +kernel`, and `kernel_rfl` of `IOptProofs/KernelRfl.lean` for statements
with variables); the runs on a world that is not given concretely (any heap, any object) are executed by `simp` with the interpreter's
equations (`wiring_exec`).  The theorems about `theProg` start by rewriting it into the literal `progLit` (`theProg_eq`), so any change
of a tree, parameter list or default that `classTable` / `methodTable` list makes this file fail (`Gen.Wiring.searchDataItem_lt` is
generated and in neither table: nothing here speaks of it).

The namespace `Facade` at the end runs the bodies of `Solver.Solve`, `DoGlobalIteration`, `GetResults`, `DoLocalRefinement` once more,
over the control semantics of `process.py` (`ProcInterp`, `ReportInterp`): there the callee is not a traced call but the generated
tree of the same-named method of `Process`, so the run ends in the model's `Proc.solve`, `Proc.doGlobalIteration`, ….
-/

set_option linter.unusedSectionVars false

namespace WiringInterp
open Gen.ProcSrc

/-- what the parser makes of the generated trees (a readable rendering of the glue; `theProg_eq` proves that it IS `theProg`) -/
def progLit : Prog :=
  { classes := [
      ("Solver",
       { ok := true,
         params := ["problem", "parameters"],
         dflts := [("parameters", (.sym (.dflt "Solver" "parameters") []))],
         body := [
           .assign (.attr "self" [] "problem") (.atom (.path "problem" [])),
           .assign (.attr "self" [] "parameters") (.atom (.path "parameters" [])),
           .assign (.attr "self" [] "_Solver__listeners") (.atom (.emptyList)),
           .construct [.attr "self" [] "searchData"] "SearchData" [(none, .atom (.path "problem" []))],
           .record [.attr "self" [] "evolvent"] "Evolvent" [
               (none, .atom (.path "problem" ["lowerBoundOfFloatVariables"])),
               (none, .atom (.path "problem" ["upperBoundOfFloatVariables"])),
               (none, .atom (.path "problem" ["numberOfFloatVariables"])),
               (none, .atom (.path "parameters" ["evolventDensity"]))],
           .construct [.attr "self" [] "task"] "OptimizationTask" [(none, .atom (.path "problem" []))],
           .construct [.attr "self" [] "method"] "Method" [
               (none, .atom (.path "parameters" [])),
               (none, .atom (.path "self" ["task"])),
               (none, .atom (.path "self" ["evolvent"])),
               (none, .atom (.path "self" ["searchData"]))],
           .construct [.attr "self" [] "process"] "Process" [
               (some "parameters", .atom (.path "parameters" [])),
               (some "task", .atom (.path "self" ["task"])),
               (some "evolvent", .atom (.path "self" ["evolvent"])),
               (some "searchData", .atom (.path "self" ["searchData"])),
               (some "method", .atom (.path "self" ["method"])),
               (some "listeners", .atom (.path "self" ["_Solver__listeners"]))]] }),
      ("Process",
       { ok := true,
         params := ["parameters", "task", "evolvent", "searchData", "method", "listeners"],
         dflts := [],
         body := [
           .assign (.attr "self" [] "parameters") (.atom (.path "parameters" [])),
           .assign (.attr "self" [] "task") (.atom (.path "task" [])),
           .assign (.attr "self" [] "evolvent") (.atom (.path "evolvent" [])),
           .assign (.attr "self" [] "searchData") (.atom (.path "searchData" [])),
           .assign (.attr "self" [] "method") (.atom (.path "method" [])),
           .assign (.attr "self" [] "_Process__listeners") (.atom (.path "listeners" [])),
           .assign (.attr "self" [] "_Process__first_iteration") (.atom (.lit (.bool true))),
           .assign (.attr "self" [] "localMethodIterationCount") (.atom (.lit (.int 0))),
           .assign (.attr "self" [] "_Process__refinedTrial") (.atom (.lit .none))] }),
      ("Method",
       { ok := true,
         params := ["parameters", "task", "evolvent", "searchData"],
         dflts := [],
         body := [
           .assign (.attr "self" [] "stop") (.atom (.lit (.bool false))),
           .assign (.attr "self" [] "recalc") (.atom (.lit (.bool true))),
           .assign (.attr "self" [] "iterationsCount") (.atom (.lit (.int 0))),
           .assign (.attr "self" [] "best") (.atom (.lit .none)),
           .assign (.attr "self" [] "parameters") (.atom (.path "parameters" [])),
           .assign (.attr "self" [] "task") (.atom (.path "task" [])),
           .assign (.attr "self" [] "evolvent") (.atom (.path "evolvent" [])),
           .assign (.attr "self" [] "searchData") (.atom (.path "searchData" [])),
           .assign (.attr "self" [] "M")
               (.comp (some (.lit "1.0")) (.add (.atom (.path "task" ["problem", "numberOfObjectives"])) (.atom (.path "task" ["problem", "numberOfConstraints"])))),
           .assign (.attr "self" [] "Z")
               (.comp (some (.lit "np.inf")) (.add (.atom (.path "task" ["problem", "numberOfObjectives"])) (.atom (.path "task" ["problem", "numberOfConstraints"])))),
           .assign (.attr "self" [] "dimension") (.atom (.path "task" ["problem", "numberOfFloatVariables"])),
           .assign (.attr "self" ["searchData", "solution"] "solutionAccuracy") (.atom (.lit (.lit "np.inf")))] }),
      ("OptimizationTask",
       { ok := true,
         params := ["problem", "perm"],
         dflts := [("perm", .none)],
         body := [
           .assign (.attr "self" [] "problem") (.atom (.path "problem" [])),
           .ifNone (.path "perm" []) [
               .ndarray [.attr "self" [] "perm"] (.add (.atom (.path "self" ["problem", "numberOfObjectives"])) (.atom (.path "self" ["problem", "numberOfConstraints"]))),
               .forRange "i" (.path "self" ["perm", "size"]) [
                   .assign (.index (.atom (.path "self" ["perm"])) (.atom (.path "i" []))) (.atom (.path "i" []))]] [
               .assign (.attr "self" [] "perm") (.atom (.path "perm" []))]] }),
      ("Solution",
       { ok := true,
         params := ["problem", "bestTrials", "numberOfGlobalTrials", "numberOfLocalTrials", "solvingTime", "solutionAccuracy"],
         dflts := [("bestTrials", .none),
                   ("numberOfGlobalTrials", (.int 0)),
                   ("numberOfLocalTrials", (.int 0)),
                   ("solvingTime", (.lit "0.0")),
                   ("solutionAccuracy", (.lit "0.0"))],
         body := [
           .ifNone (.path "bestTrials" []) [
               .assign (.var "bestTrials") (.list1 (.ctor "Trial" [(none, .emptyList), (none, .emptyList)]))] [],
           .assign (.attr "self" [] "problem") (.atom (.path "problem" [])),
           .assign (.attr "self" [] "bestTrials") (.atom (.path "bestTrials" [])),
           .assign (.attr "self" [] "numberOfGlobalTrials") (.atom (.path "numberOfGlobalTrials" [])),
           .assign (.attr "self" [] "numberOfLocalTrials") (.atom (.path "numberOfLocalTrials" [])),
           .assign (.attr "self" [] "solvingTime") (.atom (.path "solvingTime" [])),
           .assign (.attr "self" [] "solutionAccuracy") (.atom (.path "solutionAccuracy" []))] }),
      ("SolverParameters",
       { ok := true,
         params := ["eps", "r", "itersLimit", "evolventDensity", "epsR", "refineSolution", "startPoint"],
         dflts := [("eps", (.lit "0.01")),
                   ("r", (.lit "2.0")),
                   ("itersLimit", (.int 20000)),
                   ("evolventDensity", (.int 10)),
                   ("epsR", (.lit "0.001")),
                   ("refineSolution", (.bool false)),
                   ("startPoint", (.sym (.dflt "SolverParameters" "startPoint") []))],
         body := [
           .assign (.attr "self" [] "eps") (.atom (.path "eps" [])),
           .assign (.attr "self" [] "r") (.atom (.path "r" [])),
           .assign (.attr "self" [] "itersLimit") (.atom (.path "itersLimit" [])),
           .assign (.attr "self" [] "evolventDensity") (.atom (.path "evolventDensity" [])),
           .assign (.attr "self" [] "epsR") (.atom (.path "epsR" [])),
           .assign (.attr "self" [] "refineSolution") (.atom (.path "refineSolution" [])),
           .assign (.attr "self" [] "startPoint") (.atom (.path "startPoint" []))] }),
      ("Point",
       { ok := true,
         params := ["floatVariables", "discreteVariables"],
         dflts := [],
         body := [
           .assign (.attr "self" [] "floatVariables") (.atom (.path "floatVariables" [])),
           .assign (.attr "self" [] "discreteVariables") (.atom (.path "discreteVariables" []))] }),
      ("FunctionValue",
       { ok := true,
         params := ["type", "functionID"],
         dflts := [("type", (.lit "FunctionType.OBJECTIV")), ("functionID", (.lit "''"))],
         body := [
           .assign (.attr "self" [] "type") (.atom (.path "type" [])),
           .assign (.attr "self" [] "functionID") (.atom (.path "functionID" [])),
           .assign (.attr "self" [] "value") (.atom (.lit (.lit "0.0")))] }),
      ("Trial",
       { ok := true,
         params := ["point", "functionValues"],
         dflts := [],
         body := [
           .assign (.attr "self" [] "point") (.atom (.path "point" [])),
           .assign (.attr "self" [] "functionValues") (.atom (.path "functionValues" []))] }),
      ("SearchDataItem",
       { ok := true,
         params := ["y", "x", "functionValues", "discreteValueIndex"],
         dflts := [("functionValues", .none), ("discreteValueIndex", (.int 0))],
         body := [
           .ifNone (.path "functionValues" []) [
               .assign (.var "functionValues") (.list1 (.ctor "FunctionValue" []))] [],
           .superInit (some "Trial") [
               (some "point", .atom (.path "y" [])),
               (some "functionValues", .atom (.path "functionValues" []))],
           .assign (.attr "self" [] "point") (.atom (.path "y" [])),
           .assign (.attr "self" [] "_SearchDataItem__x") (.atom (.path "x" [])),
           .assign (.attr "self" [] "_SearchDataItem__discreteValueIndex") (.atom (.path "discreteValueIndex" [])),
           .assign (.attr "self" [] "_SearchDataItem__index") (.atom (.lit (.int (-2)))),
           .assign (.attr "self" [] "_SearchDataItem__z") (.atom (.lit (.lit "sys.float_info.max"))),
           .assign (.attr "self" [] "_SearchDataItem__leftPoint") (.atom (.lit .none)),
           .assign (.attr "self" [] "_SearchDataItem__rightPoint") (.atom (.lit .none)),
           .assign (.attr "self" [] "delta") (.atom (.lit (.lit "-1.0"))),
           .assign (.attr "self" [] "globalR") (.atom (.lit (.lit "-1.0"))),
           .assign (.attr "self" [] "localR") (.atom (.lit (.lit "-1.0"))),
           .assign (.attr "self" [] "iterationNumber") (.atom (.lit (.int (-1))))] }),
      ("SearchData",
       { ok := true,
         params := ["problem", "maxlen"],
         dflts := [("maxlen", .none)],
         body := [
           .construct [.attr "self" [] "solution"] "Solution" [(none, .atom (.path "problem" []))],
           .assign (.attr "self" [] "_allTrials") (.atom (.emptyList)),
           .construct [.attr "self" [] "_RGlobalQueue"] "CharacteristicsQueue" [(none, .atom (.path "maxlen" []))],
           .assign (.attr "self" [] "_SearchData__firstDataItem") (.atom (.lit .none))] }),
      ("CharacteristicsQueue",
       { ok := true,
         params := ["maxlen"],
         dflts := [],
         body := [
           .record [.attr "self" [] "_CharacteristicsQueue__baseQueue"] "DEPQ" [(some "iterable", .atom (.lit .none)), (some "maxlen", .atom (.path "maxlen" []))]] })],
    methods := [
      (("Solver", "Solve"),
       { ok := true,
         params := [],
         dflts := [],
         body := [
           .retCall (.path "self" ["process"]) "Solve"] }),
      (("Solver", "DoGlobalIteration"),
       { ok := true,
         params := ["number"],
         dflts := [("number", (.int 1))],
         body := [
           .mcall [] (.path "self" ["process"]) "DoGlobalIteration" [(none, .atom (.path "number" []))]] }),
      (("Solver", "DoLocalRefinement"),
       { ok := true,
         params := ["number"],
         dflts := [("number", (.int 1))],
         body := [
           .mcall [] (.path "self" ["process"]) "DoLocalRefinement" [(none, .atom (.path "number" []))]] }),
      (("Solver", "GetResults"),
       { ok := true,
         params := [],
         dflts := [],
         body := [
           .retCall (.path "self" ["process"]) "GetResults"] }),
      (("Solver", "SaveProgress"),
       { ok := true,
         params := ["fileName"],
         dflts := [],
         body := [
           .mcall [] (.path "self" ["searchData"]) "SaveProgress" [(some "fileName", .atom (.path "fileName" []))]] }),
      (("Solver", "LoadProgress"),
       { ok := true,
         params := ["fileName"],
         dflts := [],
         body := [
           .mcall [] (.path "self" ["searchData"]) "LoadProgress" [(some "fileName", .atom (.path "fileName" []))]] }),
      (("Solver", "RefreshListener"),
       { ok := true,
         params := [],
         dflts := [],
         body := [] }),
      (("Solver", "AddListener"),
       { ok := true,
         params := ["listener"],
         dflts := [],
         body := [
           .mcall [] (.path "self" ["_Solver__listeners"]) "append" [(none, .atom (.path "listener" []))]] }),
      (("OptimizationTask", "Calculate"),
       { ok := true,
         params := ["dataItem", "functionIndex", "type"],
         dflts := [("type", (.lit "TypeOfCalculation.FUNCTION"))],
         body := [
           .mcall [.index (.atom (.path "dataItem" ["functionValues"])) (.index (.atom (.path "self" ["perm"])) (.atom (.path "functionIndex" [])))] (.path "self" ["problem"]) "Calculate" [
               (none, .atom (.path "dataItem" ["point"])),
               (none, .index (.atom (.path "dataItem" ["functionValues"])) (.index (.atom (.path "self" ["perm"])) (.atom (.path "functionIndex" []))))],
           .ret (.atom (.path "dataItem" []))] }),
      (("SearchDataItem", "GetX"),
       { ok := true,
         params := [],
         dflts := [],
         body := [
           .ret (.atom (.path "self" ["_SearchDataItem__x"]))] }),
      (("SearchDataItem", "GetY"),
       { ok := true,
         params := [],
         dflts := [],
         body := [
           .ret (.atom (.path "self" ["point"]))] }),
      (("SearchDataItem", "GetDiscreteValueIndex"),
       { ok := true,
         params := [],
         dflts := [],
         body := [
           .ret (.atom (.path "self" ["_SearchDataItem__discreteValueIndex"]))] }),
      (("SearchDataItem", "SetIndex"),
       { ok := true,
         params := ["index"],
         dflts := [],
         body := [
           .assign (.attr "self" [] "_SearchDataItem__index") (.atom (.path "index" []))] }),
      (("SearchDataItem", "GetIndex"),
       { ok := true,
         params := [],
         dflts := [],
         body := [
           .ret (.atom (.path "self" ["_SearchDataItem__index"]))] }),
      (("SearchDataItem", "SetZ"),
       { ok := true,
         params := ["z"],
         dflts := [],
         body := [
           .assign (.attr "self" [] "_SearchDataItem__z") (.atom (.path "z" []))] }),
      (("SearchDataItem", "GetZ"),
       { ok := true,
         params := [],
         dflts := [],
         body := [
           .ret (.atom (.path "self" ["_SearchDataItem__z"]))] }),
      (("SearchDataItem", "SetLeft"),
       { ok := true,
         params := ["point"],
         dflts := [],
         body := [
           .assign (.attr "self" [] "_SearchDataItem__leftPoint") (.atom (.path "point" []))] }),
      (("SearchDataItem", "GetLeft"),
       { ok := true,
         params := [],
         dflts := [],
         body := [
           .ret (.atom (.path "self" ["_SearchDataItem__leftPoint"]))] }),
      (("SearchDataItem", "SetRight"),
       { ok := true,
         params := ["point"],
         dflts := [],
         body := [
           .assign (.attr "self" [] "_SearchDataItem__rightPoint") (.atom (.path "point" []))] }),
      (("SearchDataItem", "GetRight"),
       { ok := true,
         params := [],
         dflts := [],
         body := [
           .ret (.atom (.path "self" ["_SearchDataItem__rightPoint"]))] })] }

theorem theProg_eq : theProg = progLit := by kernel_rfl

attribute [wiring_exec] callMethod runBody bindParams bindRest bindTargets execList execStmt evalArgs evalExpr evalAtom evalPure
  readFields readField storeTo methodCall World.store toInt isSeq List.lookup

theorem lookup_cons_if {β : Type} (k g : String) (v : β) (t : List (String × β)) :
    ((k, v) :: t).lookup g = if g = k then some v else t.lookup g := by
  rw [List.lookup_cons]
  cases h : g == k
  · rw [if_neg (ne_of_beq_false h)]
  · rw [if_pos (eq_of_beq h)]

theorem lookup_setField (fs : List (String × Val)) (k g : String) (v : Val) :
    (setField fs k v).lookup g = if g = k then some v else fs.lookup g := by
  induction fs with
  | nil => rw [setField, lookup_cons_if]
  | cons kv t ih =>
    obtain ⟨k', v'⟩ := kv
    rw [setField]
    split
    next h => obtain rfl := eq_of_beq h; rw [lookup_cons_if, lookup_cons_if]; split <;> rfl
    next h =>
      rw [lookup_cons_if, lookup_cons_if, ih]
      split
      next hg => rw [if_neg fun e => h (beq_iff_eq.2 (hg.symm.trans e))]
      next => rfl

theorem get_app0 {β : Type} (h : List β) (o : β) (t : List β) : (h ++ o :: t)[h.length]? = some o := by
  simp
theorem get_app1 {β : Type} (h : List β) (o1 o2 : β) (t : List β) : (h ++ o1 :: o2 :: t)[h.length + 1]? = some o2 := by
  rw [List.getElem?_append_right (by omega)]; simp
theorem set_app0 {β : Type} (h : List β) (o o' : β) (t : List β) : (h ++ o :: t).set h.length o' = h ++ o' :: t := by
  rw [List.set_append_right _ _ (Nat.le_refl _)]; simp
theorem set_app1 {β : Type} (h : List β) (o1 o2 o' : β) (t : List β) :
    (h ++ o1 :: o2 :: t).set (h.length + 1) o' = h ++ o1 :: o' :: t := by
  rw [List.set_append_right _ _ (by omega)]; simp

theorem execList_append (c : Ctx) (env : InitEnv) (l1 l2 : List CStmt) (st : St) :
    execList c env (l1 ++ l2) st =
      match execList c env l1 st with
      | .normal st' => execList c env l2 st'
      | o => o := by
  induction l1 generalizing st with
  | nil => simp [execList]
  | cons s rest ih =>
    simp only [List.cons_append, execList]
    cases execStmt c env s st with
    | normal st' => simp only []; exact ih st'
    | returned st' v => rfl
    | stuck => rfl

theorem new_eq (pg : Prog) (c : Ctx) (d : Nat) (cls : String) (ps : List Val) (ks : List (String × Val)) (w : World) (cd : CDef)
    (hlk : pg.classes.lookup cls = some cd) (l : Locals) (hb : bindParams cd (.ref w.heap.length) ps ks = some l) :
    new pg c (d + 1) cls ps ks w =
      match execList c (envN pg c d) cd.body ⟨{ w with heap := w.heap ++ [{ cls := cls }] }, l⟩ with
      | .normal st => some (.ref w.heap.length, st.w)
      | .returned st _ => some (.ref w.heap.length, st.w)
      | .stuck => none := by
  unfold new construct
  rw [envN]
  simp only [hlk, runInit, hb]
  cases execList c (envN pg c d) cd.body _ <;> rfl

/-- the oracle of the model's setting: ONE objective, no constraints (`Method.M`, `Method.Z` have one entry: the model's scalars
`State.M`, `State.Z`) -/
def oneObjective : Ctx := ⟨fun _ p => if p == ["numberOfObjectives"] then 1 else 0⟩

/-- **the object graph after `Solver(problem, parameters)`**, for the external objects `P` (the problem) and `Q` (the parameters), from
the empty heap.  Addresses are allocation order:
`0` the solver, `1` ITS listener list, `2` the `SearchData` (`3`–`7` its `Solution` with the placeholder `[Trial([], [])]`, `8` `_allTrials`,
`9`, `10` the queue), `11` the `Evolvent`, `12` the `OptimizationTask` (`13` its identity permutation), `14` the `Method` (`15` `M`, `16` `Z`),
`17` the `Process`. -/
def expectedWiring (P Q : Root) : List Obj := [
  /- 0 -/ { cls := "Solver",
            fields := [("problem", .sym P []), ("parameters", .sym Q []), ("_Solver__listeners", .ref 1), ("searchData", .ref 2),
                       ("evolvent", .ref 11), ("task", .ref 12), ("method", .ref 14), ("process", .ref 17)] },
  /- 1 -/ { cls := "list" },
  /- 2 -/ { cls := "SearchData",
            fields := [("solution", .ref 3), ("_allTrials", .ref 8), ("_RGlobalQueue", .ref 9),
                       ("_SearchData__firstDataItem", .none)] },
  /- 3 -/ { cls := "Solution",
            fields := [("problem", .sym P []), ("bestTrials", .ref 7), ("numberOfGlobalTrials", .int 0),
                       ("numberOfLocalTrials", .int 0), ("solvingTime", .lit "0.0"),
                       ("solutionAccuracy", .lit "np.inf")] },           -- `0.0` overwritten by `Method.__init__`
  /- 4 -/ { cls := "list" },
  /- 5 -/ { cls := "list" },
  /- 6 -/ { cls := "Trial", fields := [("point", .ref 4), ("functionValues", .ref 5)] },
  /- 7 -/ { cls := "list", elems := [.ref 6] },
  /- 8 -/ { cls := "list" },
  /- 9 -/ { cls := "CharacteristicsQueue", fields := [("_CharacteristicsQueue__baseQueue", .ref 10)] },
  /- 10 -/ { cls := "DEPQ", fields := [("iterable", .none), ("maxlen", .none)] },
  /- 11 -/ { cls := "Evolvent",
             fields := [("#0", .sym P ["lowerBoundOfFloatVariables"]), ("#1", .sym P ["upperBoundOfFloatVariables"]),
                        ("#2", .sym P ["numberOfFloatVariables"]), ("#3", .sym Q ["evolventDensity"])] },
  /- 12 -/ { cls := "OptimizationTask", fields := [("problem", .sym P []), ("perm", .ref 13)] },
  /- 13 -/ { cls := "ndarray", elems := [.int 0] },
  /- 14 -/ { cls := "Method",
             fields := [("stop", .bool false), ("recalc", .bool true), ("iterationsCount", .int 0), ("best", .none),
                        ("parameters", .sym Q []), ("task", .ref 12), ("evolvent", .ref 11), ("searchData", .ref 2),
                        ("M", .ref 15), ("Z", .ref 16), ("dimension", .sym P ["numberOfFloatVariables"])] },
  /- 15 -/ { cls := "list", elems := [.lit "1.0"] },
  /- 16 -/ { cls := "list", elems := [.lit "np.inf"] },
  /- 17 -/ { cls := "Process",
             fields := [("parameters", .sym Q []), ("task", .ref 12), ("evolvent", .ref 11), ("searchData", .ref 2),
                        ("method", .ref 14), ("_Process__listeners", .ref 1), ("_Process__first_iteration", .bool true),
                        ("localMethodIterationCount", .int 0), ("_Process__refinedTrial", .none)] }]

def wired (P Q : Root) : World := { heap := expectedWiring P Q }

/-- the body of the loop of `OptimizationTask.__init__`, parsed -/
def permBody : List CStmt := [.assign (.index (.atom (.path "self" ["perm"])) (.atom (.path "i" []))) (.atom (.path "i" []))]

theorem perm_step (c : Ctx) (env : InitEnv) (s a : Nat) (S : Obj) (E : List Val) (i : Nat) (w : World) (l : Locals)
    (hl : l.lookup "self" = some (.ref s)) (hli : l.lookup "i" = some (.int i)) (hS : w.heap[s]? = some S)
    (hperm : S.fields.lookup "perm" = some (.ref a)) (hA : w.heap[a]? = some ⟨"ndarray", [], E⟩) (hi : i < E.length) :
    execList c env permBody ⟨w, l⟩ =
      .normal ⟨{ w with heap := w.heap.set a ⟨"ndarray", [], E.set i (.int i)⟩ }, l⟩ := by
  simp [permBody, wiring_exec, hl, hli, hS, hperm, hA, hi]

/-- the loop `for i in range(k, k + m): self.perm[i] = i` on an array of `k + m` cells whose first `k` cells hold their index makes
the array the identity permutation -/
theorem perm_loop (c : Ctx) (env : InitEnv) (s a : Nat) (S : Obj) (hsa : s ≠ a) (hperm : S.fields.lookup "perm" = some (.ref a)) :
    ∀ (m k : Nat) (w : World) (l : Locals), l.lookup "self" = some (.ref s) → w.heap[s]? = some S →
      w.heap[a]? = some ⟨"ndarray", [], (List.range k).map (fun i : Nat => Val.int i) ++ List.replicate m .none⟩ →
      ∃ l', forLoop "i" (fun st => execList c env permBody st) (List.range' k m) ⟨w, l⟩ =
        .normal ⟨{ w with heap := w.heap.set a ⟨"ndarray", [], (List.range (k + m)).map fun i : Nat => Val.int i⟩ }, l'⟩ := by
  intro m
  induction m with
  | zero =>
    intro k w l _ _ hA
    obtain ⟨ha, hE⟩ := List.getElem?_eq_some_iff.1 hA
    simp only [List.replicate_zero, List.append_nil] at hE
    exact ⟨l, by rw [List.range'_zero, forLoop, Nat.add_zero, ← hE, List.set_getElem_self]⟩
  | succ m ih =>
    intro k w l hl hS hA
    have ha : a < w.heap.length := (List.getElem?_eq_some_iff.1 hA).1
    have hl' : (setField l "i" (.int k)).lookup "self" = some (.ref s) := by
      rw [lookup_setField, if_neg (by decide)]; exact hl
    have hE : ((List.range k).map (fun i : Nat => Val.int i) ++ List.replicate (m + 1) Val.none).set k (.int k) =
        (List.range (k + 1)).map (fun i : Nat => Val.int i) ++ List.replicate m .none := by
      rw [List.replicate_succ, List.set_append_right _ _ (by simp), List.range_succ, List.map_append, List.append_assoc]
      simp
    have hstep := perm_step c env s a S _ k w _ hl' ((lookup_setField ..).trans (if_pos rfl)) hS hperm hA (by simp)
    rw [hE] at hstep
    obtain ⟨l', hrest⟩ := ih (k + 1) { w with heap := w.heap.set a ⟨"ndarray", [], _⟩ } _ hl'
      (by simp only []; rw [List.getElem?_set_ne (Ne.symm hsa)]; exact hS)
      (by simp only []; rw [List.getElem?_set_self ha])
    refine ⟨l', ?_⟩
    rw [List.range'_succ, forLoop]
    simp only [hstep]
    rw [hrest]
    simp only [List.set_set, Nat.add_right_comm k 1 m, Nat.add_assoc]

def nFunctions (c : Ctx) (P : Root) : Nat := (c.extInt P ["numberOfObjectives"] + c.extInt P ["numberOfConstraints"]).toNat

/-- **`OptimizationTask.__init__` builds the identity permutation, for every number of functions and in every world**: `OptimizationTask(P)`
(generated tree: `np.ndarray(shape=numberOfObjectives + numberOfConstraints)`, then `for i in range(self.perm.size): self.perm[i] = i`)
allocates the task and ONE array, `perm[i] = i` for all `i`.  (`nFunctions` reads a negative sum as `0`, as the interpreter's
`ndarray` statement does; NumPy raises `ValueError` on a negative shape, which is not modelled.) -/
theorem optimizationTask_init_general (c : Ctx) (d : Nat) (P : Root) (w : World) :
    new theProg c (d + 1) "OptimizationTask" [.sym P []] [] w =
      some (.ref w.heap.length, { w with heap := w.heap ++ [
        { cls := "OptimizationTask", fields := [("problem", .sym P []), ("perm", .ref (w.heap.length + 1))] },
        { cls := "ndarray", elems := (List.range (nFunctions c P)).map fun i : Nat => Val.int (i : Int) }] }) := by
  rw [theProg_eq]
  have hlk : progLit.classes.lookup "OptimizationTask" = some
      { ok := true, params := ["problem", "perm"], dflts := [("perm", .none)],
        body := [
          .assign (.attr "self" [] "problem") (.atom (.path "problem" [])),
          .ifNone (.path "perm" []) [
            .ndarray [.attr "self" [] "perm"] (.add (.atom (.path "self" ["problem", "numberOfObjectives"]))
              (.atom (.path "self" ["problem", "numberOfConstraints"]))),
            .forRange "i" (.path "self" ["perm", "size"]) permBody] [
            .assign (.attr "self" [] "perm") (.atom (.path "perm" []))]] } := by kernel_rfl
  obtain ⟨h, tr⟩ := w
  -- the loop, on the heap reached just before it
  have hloop := perm_loop c (envN progLit c d) h.length (h.length + 1) _ (by omega) (by simp [List.lookup]) (nFunctions c P) 0
    { heap := h ++ [{ cls := "OptimizationTask", fields := [("problem", .sym P []), ("perm", .ref (h.length + 1))] },
                    { cls := "ndarray", elems := List.replicate (nFunctions c P) Val.none }], trace := tr }
    [("self", .ref h.length), ("problem", .sym P []), ("perm", .none)]
    (by simp [List.lookup]) (get_app0 _ _ _) (get_app1 _ _ _ _)
  obtain ⟨l', hl'⟩ := hloop
  simp only [set_app1, Nat.zero_add, ← List.range_eq_range', nFunctions] at hl' ⊢
  simp [new, construct, envN, hlk, runInit, wiring_exec, World.alloc, setField]
  -- the array is allocated with `max shape 0` cells, the loop runs over `range(size)`: the same `toNat`
  rw [show ∀ x : Int, (max x 0).toNat = x.toNat by omega, hl']

/-- the object graph after `Solver(P, Q)` for a problem with `n` functions (objectives + constraints): as `expectedWiring`, with
`perm = [0, …, n-1]`, `M = [1.0] * n`, `Z = [inf] * n` -/
def expectedWiringN (P Q : Root) (n : Nat) : List Obj :=
  ((expectedWiring P Q).set 13 { cls := "ndarray", elems := (List.range n).map fun i : Nat => Val.int (i : Int) }
    |>.set 15 { cls := "list", elems := List.replicate n (.lit "1.0") })
    |>.set 16 { cls := "list", elems := List.replicate n (.lit "np.inf") }

theorem expectedWiringN_one (P Q : Root) : expectedWiringN P Q 1 = expectedWiring P Q := by kernel_rfl

def wiredN (P Q : Root) (n : Nat) : World := { heap := expectedWiringN P Q n }

theorem wired_eq_wiredN (P Q : Root) : wired P Q = wiredN P Q 1 := by kernel_rfl

def solverBody : List CStmt := ((progLit.classes.lookup "Solver").map (·.body)).getD []

def solverDef : CDef :=
  { ok := true, params := ["problem", "parameters"], dflts := [("parameters", .sym (.dflt "Solver" "parameters") [])],
    body := solverBody }

/-- the heap just before `self.task = OptimizationTask(problem)` -/
def heapBeforeTask (P Q : Root) : List Obj :=
  (((expectedWiring P Q).take 12).set 0
    { cls := "Solver", fields := [("problem", .sym P []), ("parameters", .sym Q []), ("_Solver__listeners", .ref 1),
                                  ("searchData", .ref 2), ("evolvent", .ref 11)] }).set 3
    { cls := "Solution",
      fields := [("problem", .sym P []), ("bestTrials", .ref 7), ("numberOfGlobalTrials", .int 0),
                 ("numberOfLocalTrials", .int 0), ("solvingTime", .lit "0.0"), ("solutionAccuracy", .lit "0.0")] }

/-- `Solver.__init__` for every number of objectives and constraints, however the two arguments are passed (by position, by
keyword, `parameters` left to its default): all that is used of the call is the binding of the parameters. -/
theorem solver_init_wiring_bound (c : Ctx) (P Q : Root) (d : Nat) (ps : List Val) (ks : List (String × Val))
    (hbind : bindParams solverDef (.ref 0) ps ks = some [("self", .ref 0), ("problem", .sym P []), ("parameters", .sym Q [])]) :
    new theProg c (d + 4) "Solver" ps ks {} = some (.ref 0, wiredN P Q (nFunctions c P)) := by
  show _ = some (Val.ref 0, ({ heap := expectedWiringN P Q (nFunctions c P) } : World))
  have hT := optimizationTask_init_general c (d + 2) P { heap := heapBeforeTask P Q }
  rw [theProg_eq] at hT ⊢
  generalize nFunctions c P = n at hT ⊢
  have hlk : progLit.classes.lookup "Solver" = some solverDef := by kernel_rfl
  have hb : solverDef.body = solverBody.take 5 ++
      (.construct [.attr "self" [] "task"] "OptimizationTask" [(none, .atom (.path "problem" []))] :: solverBody.drop 6) := by
    kernel_rfl
  rw [show d + 4 = d + 3 + 1 from rfl, new_eq progLit c (d + 3) "Solver" _ _ {} solverDef hlk _ hbind, hb, execList_append]
  set l : Locals := [("self", .ref 0), ("problem", .sym P []), ("parameters", .sym Q [])]
  have hA : execList c (envN progLit c (d + 3)) (solverBody.take 5) ⟨{ heap := ({} : World).heap ++ [{ cls := "Solver" }] }, l⟩ =
      .normal ⟨{ heap := heapBeforeTask P Q }, l⟩ := by kernel_rfl
  rw [hA]
  have hargs : evalArgs c (envN progLit c (d + 3)) l [(none, .atom (.path "problem" []))] { heap := heapBeforeTask P Q } =
      some ([.sym P []], [], { heap := heapBeforeTask P Q }) := by kernel_rfl
  have hT' : construct (envN progLit c (d + 3)) "OptimizationTask" [.sym P []] [] { heap := heapBeforeTask P Q } = _ := hT
  simp only [execList, execStmt, hargs, hT']
  kernel_rfl

/-- **`Solver.__init__`, source trees = the wiring, for EVERY number of objectives and constraints** (whatever the oracle `c` says about
the caller's problem): the same object graph, with `perm` the identity on `n = numberOfObjectives + numberOfConstraints` indices and
`M`, `Z` of length `n` (a negative sum counts as `0`: see `optimizationTask_init_general`).  (`solver_init_wiring` is the case `n = 1`
of the model.) -/
theorem solver_init_wiring_general (c : Ctx) (P Q : Root) (d : Nat) :
    new theProg c (d + 4) "Solver" [.sym P [], .sym Q []] [] {} =
      some (.ref 0, wiredN P Q (nFunctions c P)) :=
  solver_init_wiring_bound c P Q d _ _ (by kernel_rfl)

/-- **`Solver.__init__`, source trees = the wiring the model assumes.**  Evaluating `Solver(P, Q)` from the empty heap - the generated
tree of `Solver.__init__`, and through it the generated trees of `SearchData.__init__`, `Solution.__init__`, `Trial.__init__`,
`CharacteristicsQueue.__init__`, `OptimizationTask.__init__`, `Method.__init__`, `Process.__init__` - for ANY external problem `P` and
parameters object `Q` (one objective, no constraints), at any call depth `≥ 4`, returns the solver at address `0` and leaves exactly the
heap `expectedWiring P Q`; no call leaves the fragment. -/
theorem solver_init_wiring (P Q : Root) (d : Nat) :
    new theProg oneObjective (d + 4) "Solver" [.sym P [], .sym Q []] [] {} = some (.ref 0, wired P Q) :=
  (solver_init_wiring_general oneObjective P Q d).trans (by kernel_rfl)

theorem solver_init_wiring_kw (P Q : Root) (d : Nat) :
    new theProg oneObjective (d + 4) "Solver" [] [("parameters", .sym Q []), ("problem", .sym P [])] {} = some (.ref 0, wired P Q) :=
  (solver_init_wiring_bound oneObjective P Q d _ _ (by kernel_rfl)).trans (by kernel_rfl)

/-- With the parameters left out, `Q` is THE default object `SolverParameters()` made once when `solver.py` was loaded
(shared by every such solver: the allow-listed site of `IOptProps/SharedState.lean`) -/
theorem solver_init_wiring_default (P : Root) (d : Nat) :
    new theProg oneObjective (d + 4) "Solver" [.sym P []] [] {} = some (.ref 0, wired P (.dflt "Solver" "parameters")) :=
  (solver_init_wiring_bound oneObjective P (.dflt "Solver" "parameters") d _ _ (by kernel_rfl)).trans (by kernel_rfl)

/-- call depth 3 is not enough (`Solver` → `SearchData` → `Solution` → `Trial`): the hypothesis `d + 4` is needed -/
example : new theProg oneObjective 3 "Solver" [.sym (.user 0) [], .sym (.user 1) []] [] {} = none := by
  rw [theProg_eq]; decide +kernel

/-- follow attributes (mangled names) from a value -/
abbrev World.at (w : World) (v : Val) (path : List String) : Option Val := readFields w v path

/-- **ONE search state, ONE evolvent, ONE task, ONE method, ONE parameter record, ONE listener list.**  With `S` the solver:
`S.process.method` is `S.method`; `S.method.searchData`, `S.process.searchData` and `S.searchData` are the same object, likewise the
evolvent and the task; `parameters` of the solver, of the method and of the process are the CALLER's object `Q` itself;
`S.task.problem` is the caller's `P`; `S.process.__listeners` is `S.__listeners` (the same list OBJECT, not a copy). -/
theorem solver_init_sharing (P Q : Root) (n : Nat) :
    let W := wiredN P Q n
    let S := Val.ref 0
    (W.at S ["process", "method"] = some (.ref 14) ∧ W.at S ["method"] = some (.ref 14)) ∧
    (W.at S ["method", "searchData"] = some (.ref 2) ∧ W.at S ["process", "searchData"] = some (.ref 2) ∧
      W.at S ["searchData"] = some (.ref 2)) ∧
    (W.at S ["method", "evolvent"] = some (.ref 11) ∧ W.at S ["process", "evolvent"] = some (.ref 11) ∧
      W.at S ["evolvent"] = some (.ref 11)) ∧
    (W.at S ["method", "task"] = some (.ref 12) ∧ W.at S ["process", "task"] = some (.ref 12) ∧ W.at S ["task"] = some (.ref 12)) ∧
    (W.at S ["method", "parameters"] = some (.sym Q []) ∧ W.at S ["process", "parameters"] = some (.sym Q []) ∧
      W.at S ["parameters"] = some (.sym Q [])) ∧
    (W.at S ["task", "problem"] = some (.sym P []) ∧ W.at S ["problem"] = some (.sym P []) ∧
      W.at S ["searchData", "solution", "problem"] = some (.sym P [])) ∧
    (W.at S ["process", "_Process__listeners"] = some (.ref 1) ∧ W.at S ["_Solver__listeners"] = some (.ref 1)) := by
  refine ⟨⟨?_, ?_⟩, ⟨?_, ?_, ?_⟩, ⟨?_, ?_, ?_⟩, ⟨?_, ?_, ?_⟩, ⟨?_, ?_, ?_⟩, ⟨?_, ?_, ?_⟩, ⟨?_, ?_⟩⟩ <;> kernel_rfl

theorem solver_init_counts (P Q : Root) (n : Nat) :
    let W := wiredN P Q n
    W.count "SearchData" = 1 ∧ W.count "Evolvent" = 1 ∧ W.count "OptimizationTask" = 1 ∧ W.count "Method" = 1 ∧
    W.count "Process" = 1 ∧ W.count "Solution" = 1 ∧ W.count "Solver" = 1 ∧ W.heap.length = 18 := by
  refine ⟨?_, ?_, ?_, ?_, ?_, ?_, ?_, ?_⟩ <;> kernel_rfl

/-- **what reaches the evolvent** (the content of `IOptModel/Solver.lean`, property C20): the bounds and the dimension of the caller's
problem and `parameters.evolventDensity` of the caller's parameters object, in this order -/
theorem solver_init_evolvent (P Q : Root) (n : Nat) :
    (wiredN P Q n).heap[11]? = some
      { cls := "Evolvent",
        fields := [("#0", .sym P ["lowerBoundOfFloatVariables"]), ("#1", .sym P ["upperBoundOfFloatVariables"]),
                   ("#2", .sym P ["numberOfFloatVariables"]), ("#3", .sym Q ["evolventDensity"])] } := by
  kernel_rfl

/-- **the initial values the constructors store**: `__first_iteration = True`, `__refinedTrial = None`,
`localMethodIterationCount = 0`; `recalc = True`, `best = None`, `iterationsCount = 0`, `stop = False`, `M = [1.0] * n`, `Z = [inf] * n` (`n = 1`: the model's scalars `M = 1`, `Z`);
`solutionAccuracy = inf` (the model's `minDelta = none`), `numberOfGlobalTrials = numberOfLocalTrials = 0`, `bestTrials` a list holding
the placeholder `Trial([], [])`; the search data empty (`_allTrials = []`, `__firstDataItem = None`); the permutation of the task is
the identity `[0, …, n-1]`.  (For `n = 1`, `wired P Q = wiredN P Q 1`.) -/
theorem solver_init_flags (P Q : Root) (n : Nat) :
    let W := wiredN P Q n
    let S := Val.ref 0
    (W.at S ["process", "_Process__first_iteration"] = some (.bool true) ∧
      W.at S ["process", "_Process__refinedTrial"] = some .none ∧
      W.at S ["process", "localMethodIterationCount"] = some (.int 0)) ∧
    (W.at S ["method", "recalc"] = some (.bool true) ∧ W.at S ["method", "best"] = some .none ∧
      W.at S ["method", "iterationsCount"] = some (.int 0) ∧ W.at S ["method", "stop"] = some (.bool false) ∧
      W.at S ["method", "M"] = some (.ref 15) ∧ W.heap[15]? = some { cls := "list", elems := List.replicate n (.lit "1.0") } ∧
      W.at S ["method", "Z"] = some (.ref 16) ∧ W.heap[16]? = some { cls := "list", elems := List.replicate n (.lit "np.inf") } ∧
      W.at S ["method", "dimension"] = some (.sym P ["numberOfFloatVariables"])) ∧
    (W.at S ["searchData", "solution", "solutionAccuracy"] = some (.lit "np.inf") ∧
      W.at S ["searchData", "solution", "numberOfGlobalTrials"] = some (.int 0) ∧
      W.at S ["searchData", "solution", "numberOfLocalTrials"] = some (.int 0) ∧
      W.at S ["searchData", "solution", "bestTrials"] = some (.ref 7) ∧ W.heap[7]? = some { cls := "list", elems := [.ref 6] } ∧
      W.heap[6]? = some { cls := "Trial", fields := [("point", .ref 4), ("functionValues", .ref 5)] }) ∧
    (W.at S ["searchData", "_allTrials"] = some (.ref 8) ∧ W.heap[8]? = some { cls := "list" } ∧
      W.at S ["searchData", "_SearchData__firstDataItem"] = some .none) ∧
    (W.at S ["task", "perm"] = some (.ref 13) ∧ W.heap[13]? = some { cls := "ndarray", elems := (List.range n).map fun i : Nat => Val.int (i : Int) }) := by
  refine ⟨⟨?_, ?_, ?_⟩, ⟨?_, ?_, ?_, ?_, ?_, ?_, ?_, ?_, ?_⟩, ⟨?_, ?_, ?_, ?_, ?_, ?_⟩, ⟨?_, ?_, ?_⟩, ⟨?_, ?_⟩⟩ <;> kernel_rfl

/-- the wired world in which the listener list (address `1`) holds `ls` and the calls `tr` have left the fragment so far: the states
reached from `wiredN P Q n` by facade calls (`solver_*_delegates`, `solver_addListener_shared`) -/
def wiredL (P Q : Root) (n : Nat) (ls : List Val) (tr : List Call) : World :=
  { heap := (expectedWiringN P Q n).set 1 { cls := "list", elems := ls }, trace := tr }

theorem wiredL_nil (P Q : Root) (n : Nat) : wiredL P Q n [] [] = wiredN P Q n := by kernel_rfl

def addListeners (pg : Prog) (c : Ctx) (d : Nat) (self : Val) : List Val → World → Option World
  | [], w => some w
  | l :: rest, w =>
    match callMethod pg c d "Solver" "AddListener" self [l] [] w with
    | some (w', _) => addListeners pg c d self rest w'
    | none => none

/-- **`AddListener(l)` on ANY world**: if the solver object at `s` holds the list object `L` at address `a` as its `__listeners`,
the generated tree of `AddListener` appends `l` to THAT object and changes nothing else - whatever else has happened to the heap
(iterations done, flags changed, other solvers created).  Every object that holds address `a` (the process, after
`solver_init_sharing`) sees the new listener. -/
theorem solver_AddListener_general (c : Ctx) (d : Nat) (w : World) (s a : Nat) (L : Obj) (l : Val)
    (hs : w.getAttr s "_Solver__listeners" = some (.ref a)) (hL : w.heap[a]? = some L) (hc : L.cls = "list") :
    callMethod theProg c d "Solver" "AddListener" (.ref s) [l] [] w =
      some ({ w with heap := w.heap.set a { L with elems := L.elems ++ [l] } }, none) := by
  rw [theProg_eq]
  have hlk : progLit.methods.lookup ("Solver", "AddListener") = some
      { ok := true, params := ["listener"], dflts := [],
        body := [.mcall [] (.path "self" ["_Solver__listeners"]) "append" [(none, .atom (.path "listener" []))]] } := by kernel_rfl
  obtain ⟨S, hS, hs⟩ := Option.bind_eq_some_iff.1 hs
  simp [wiring_exec, hlk, hS, hs, hL, hc]

/-- **any number of `AddListener` calls on ANY world**: the listeners are appended, in call order, to the list object `L` that the solver
at `s` holds, and nothing else changes.  (The induction needs that the solver's own attributes survive the update of `L` - also when
`s = a`: only `elems` of `L` changes.) -/
theorem addListeners_general (c : Ctx) (d : Nat) (s a : Nat) (new : List Val) :
    ∀ (w : World) (L : Obj), w.getAttr s "_Solver__listeners" = some (.ref a) → w.heap[a]? = some L → L.cls = "list" →
      addListeners theProg c d (.ref s) new w = some { w with heap := w.heap.set a { L with elems := L.elems ++ new } } := by
  induction new with
  | nil =>
    intro w L _ hL _
    obtain ⟨ha, rfl⟩ := List.getElem?_eq_some_iff.1 hL
    show some w = some { w with heap := w.heap.set a { w.heap[a] with elems := w.heap[a].elems ++ [] } }
    rw [List.append_nil, List.set_getElem_self]
  | cons l rest ih =>
    intro w L hs hL hc
    have ha := (List.getElem?_eq_some_iff.1 hL).1
    rw [addListeners, solver_AddListener_general c d w s a L l hs hL hc]
    simp only []
    rw [ih _ { L with elems := L.elems ++ [l] } ?_ (List.getElem?_set_self ha) hc]
    · simp
    · unfold World.getAttr at hs ⊢
      by_cases hsa : s = a
      · subst hsa; simpa [List.getElem?_set_self ha, hL] using hs
      · simpa [List.getElem?_set_ne (Ne.symm hsa)] using hs

/-- **`n` calls of `AddListener` ⇒ the `n` listeners, in call order, in the list object that the process reads.**  The process holds
the SAME list object as the solver (`solver_init_sharing`), so what `for listener in self.__listeners` of `process.py` iterates over
is `ls ++ new`: the listeners added before any facade call and those added after. -/
theorem solver_addListener_shared (c : Ctx) (d : Nat) (P Q : Root) (n : Nat) (tr : List Call) (new : List Val) :
    ∀ ls : List Val, addListeners theProg c d (.ref 0) new (wiredL P Q n ls tr) = some (wiredL P Q n (ls ++ new) tr) :=
  fun ls => (addListeners_general c d 0 1 new _ ⟨"list", [], ls⟩ (by kernel_rfl) (by kernel_rfl) rfl).trans (by kernel_rfl)

/-- … and that IS the list of the process: `S.process.__listeners` is the object at address `1`, whose elements are `ls` -/
theorem wiredL_process_listeners (P Q : Root) (n : Nat) (ls : List Val) (tr : List Call) :
    (wiredL P Q n ls tr).at (.ref 0) ["process", "_Process__listeners"] = some (.ref 1) ∧
    (wiredL P Q n ls tr).at (.ref 0) ["_Solver__listeners"] = some (.ref 1) ∧
    (wiredL P Q n ls tr).heap[1]? = some { cls := "list", elems := ls } := by
  refine ⟨?_, ?_, ?_⟩ <;> kernel_rfl

/-- **`Solver.Solve()` is ONE call `Solve()` on THE process object, and returns its result** (whatever listeners were added,
whatever calls were made before): the heap is untouched, the call is sent to address `17` = `S.process`, without arguments, and the
value returned is the value of that call. -/
theorem solver_Solve_delegates (c : Ctx) (d : Nat) (P Q : Root) (n : Nat) (ls : List Val) (tr : List Call) :
    callMethod theProg c d "Solver" "Solve" (.ref 0) [] [] (wiredL P Q n ls tr) =
      some (wiredL P Q n ls (tr ++ [{ recv := .ref 17, meth := "Solve" }]), some (.res tr.length)) := by
  rw [theProg_eq]; kernel_rfl

/-- **`Solver.GetResults()` is ONE call `GetResults()` on THE process object, and returns its result** -/
theorem solver_GetResults_delegates (c : Ctx) (d : Nat) (P Q : Root) (n : Nat) (ls : List Val) (tr : List Call) :
    callMethod theProg c d "Solver" "GetResults" (.ref 0) [] [] (wiredL P Q n ls tr) =
      some (wiredL P Q n ls (tr ++ [{ recv := .ref 17, meth := "GetResults" }]), some (.res tr.length)) := by
  rw [theProg_eq]; kernel_rfl

/-- **`Solver.DoGlobalIteration(number)` is ONE call `DoGlobalIteration(number)` on THE process object** (same argument; the value
is dropped: the facade returns `None`) -/
theorem solver_DoGlobalIteration_delegates (c : Ctx) (d : Nat) (P Q : Root) (n : Nat) (ls : List Val) (tr : List Call) (number : Val) :
    callMethod theProg c d "Solver" "DoGlobalIteration" (.ref 0) [number] [] (wiredL P Q n ls tr) =
      some (wiredL P Q n ls (tr ++ [{ recv := .ref 17, meth := "DoGlobalIteration", args := [number] }]), none) := by
  rw [theProg_eq]; kernel_rfl

/-- … `number` given by keyword; and left out: the default of the FACADE, `1` (`solver_DoGlobalIterationDefaults`), is passed on -/
theorem solver_DoGlobalIteration_delegates_kw_default (c : Ctx) (d : Nat) (P Q : Root) (n : Nat) (ls : List Val) (tr : List Call) (number : Val) :
    callMethod theProg c d "Solver" "DoGlobalIteration" (.ref 0) [] [("number", number)] (wiredL P Q n ls tr) =
      some (wiredL P Q n ls (tr ++ [{ recv := .ref 17, meth := "DoGlobalIteration", args := [number] }]), none) ∧
    callMethod theProg c d "Solver" "DoGlobalIteration" (.ref 0) [] [] (wiredL P Q n ls tr) =
      some (wiredL P Q n ls (tr ++ [{ recv := .ref 17, meth := "DoGlobalIteration", args := [.int 1] }]), none) := by
  rw [theProg_eq]; constructor <;> kernel_rfl

/-- **`Solver.DoLocalRefinement(number)` is ONE call `DoLocalRefinement(number)` on THE process object**; default `1` -/
theorem solver_DoLocalRefinement_delegates (c : Ctx) (d : Nat) (P Q : Root) (n : Nat) (ls : List Val) (tr : List Call) (number : Val) :
    callMethod theProg c d "Solver" "DoLocalRefinement" (.ref 0) [number] [] (wiredL P Q n ls tr) =
      some (wiredL P Q n ls (tr ++ [{ recv := .ref 17, meth := "DoLocalRefinement", args := [number] }]), none) ∧
    callMethod theProg c d "Solver" "DoLocalRefinement" (.ref 0) [] [] (wiredL P Q n ls tr) =
      some (wiredL P Q n ls (tr ++ [{ recv := .ref 17, meth := "DoLocalRefinement", args := [.int 1] }]), none) := by
  rw [theProg_eq]; constructor <;> kernel_rfl

/-- `SaveProgress` / `LoadProgress` go to THE `SearchData` (address `2`, the one the method and the process hold); `RefreshListener`
does nothing -/
theorem solver_progress_delegates (c : Ctx) (d : Nat) (P Q : Root) (n : Nat) (ls : List Val) (tr : List Call) (fileName : Val) :
    callMethod theProg c d "Solver" "SaveProgress" (.ref 0) [fileName] [] (wiredL P Q n ls tr) =
      some (wiredL P Q n ls (tr ++ [{ recv := .ref 2, meth := "SaveProgress", kwargs := [("fileName", fileName)] }]), none) ∧
    callMethod theProg c d "Solver" "LoadProgress" (.ref 0) [fileName] [] (wiredL P Q n ls tr) =
      some (wiredL P Q n ls (tr ++ [{ recv := .ref 2, meth := "LoadProgress", kwargs := [("fileName", fileName)] }]), none) ∧
    callMethod theProg c d "Solver" "RefreshListener" (.ref 0) [] [] (wiredL P Q n ls tr) = some (wiredL P Q n ls tr, none) := by
  rw [theProg_eq]; refine ⟨?_, ?_, ?_⟩ <;> kernel_rfl

/-- a wrong number of arguments is not silently accepted -/
example : callMethod theProg oneObjective 0 "Solver" "Solve" (.ref 0) [.int 1] [] (wired (.user 0) (.user 1)) = none ∧
    callMethod theProg oneObjective 0 "Solver" "DoGlobalIteration" (.ref 0) [.int 1, .int 2] [] (wired (.user 0) (.user 1)) = none ∧
    callMethod theProg oneObjective 0 "Solver" "DoGlobalIteration" (.ref 0) [] [("n", .int 2)] (wired (.user 0) (.user 1)) = none := by
  rw [theProg_eq]; decide +kernel

/-- **the object graph after `SearchDataItem(y, x)`** (the defaults `functionValues=None`, `discreteValueIndex=0`): address `0` the
item, `1` its fresh `FunctionValue()` (value `0.0`), `2` the fresh list `[FunctionValue()]` -/
def expectedItem (y x : Val) : List Obj := [
  { cls := "SearchDataItem",
    fields := [("point", y), ("functionValues", .ref 2), ("_SearchDataItem__x", x), ("_SearchDataItem__discreteValueIndex", .int 0),
               ("_SearchDataItem__index", .int (-2)), ("_SearchDataItem__z", .lit "sys.float_info.max"),
               ("_SearchDataItem__leftPoint", .none), ("_SearchDataItem__rightPoint", .none), ("delta", .lit "-1.0"),
               ("globalR", .lit "-1.0"), ("localR", .lit "-1.0"), ("iterationNumber", .int (-1))] },
  { cls := "FunctionValue", fields := [("type", .lit "FunctionType.OBJECTIV"), ("functionID", .lit "''"), ("value", .lit "0.0")] },
  { cls := "list", elems := [.ref 1] }]

/-- **`SearchDataItem.__init__`, source tree** (through `super().__init__` = the generated tree of `Trial.__init__`, and
`FunctionValue.__init__`): for ANY point `y` and coordinate `x` -/
theorem searchDataItem_init (c : Ctx) (d : Nat) (y x : Val) :
    new theProg c (d + 2) "SearchDataItem" [y, x] [] {} = some (.ref 0, { heap := expectedItem y x }) := by
  rw [theProg_eq]; kernel_rfl

/-- **the getters after `__init__` return what the constructor stored**: `GetX() = x`, `GetY() = y`, `GetDiscreteValueIndex() = 0`,
`GetIndex() = -2`, `GetZ() = sys.float_info.max`, `GetLeft() = GetRight() = None`; none of them changes the world -/
theorem searchDataItem_getters_after_init (c : Ctx) (d : Nat) (y x : Val) :
    let W : World := { heap := expectedItem y x }
    callMethod theProg c d "SearchDataItem" "GetX" (.ref 0) [] [] W = some (W, some x) ∧
    callMethod theProg c d "SearchDataItem" "GetY" (.ref 0) [] [] W = some (W, some y) ∧
    callMethod theProg c d "SearchDataItem" "GetDiscreteValueIndex" (.ref 0) [] [] W = some (W, some (.int 0)) ∧
    callMethod theProg c d "SearchDataItem" "GetIndex" (.ref 0) [] [] W = some (W, some (.int (-2))) ∧
    callMethod theProg c d "SearchDataItem" "GetZ" (.ref 0) [] [] W = some (W, some (.lit "sys.float_info.max")) ∧
    callMethod theProg c d "SearchDataItem" "GetLeft" (.ref 0) [] [] W = some (W, some .none) ∧
    callMethod theProg c d "SearchDataItem" "GetRight" (.ref 0) [] [] W = some (W, some .none) := by
  rw [theProg_eq]; refine ⟨?_, ?_, ?_, ?_, ?_, ?_, ?_⟩ <;> kernel_rfl

theorem getAttr_setAttr (w : World) (a b : Nat) (f g : String) (v : Val) (ha : a < w.heap.length) :
    (w.setAttr a f v).getAttr b g = if b = a ∧ g = f then some v else w.getAttr b g := by
  unfold World.setAttr World.getAttr
  rw [List.getElem?_eq_getElem ha]
  by_cases hb : b = a
  · subst hb; simp [ha, lookup_setField]
  · simp [hb, List.getElem?_set_ne (Ne.symm hb)]

theorem getter_run_eq (pg : Prog) (c : Ctx) (d : Nat) (cls meth f : String) (hf : (f == "size") = false)
    (hlk : pg.methods.lookup (cls, meth) =
      some { ok := true, params := [], dflts := [], body := [.ret (.atom (.path "self" [f]))] })
    (w : World) (a : Nat) :
    callMethod pg c d cls meth (.ref a) [] [] w = (w.getAttr a f).map fun v => (w, some v) := by
  unfold World.getAttr
  cases ho : w.heap[a]? with
  | none =>
    simp [wiring_exec, hlk, ho]
  | some o =>
    cases hv : o.fields.lookup f <;>
    simp [wiring_exec, hlk, ho, hv, hf]

theorem setter_run (pg : Prog) (c : Ctx) (d : Nat) (cls meth f p : String) (hp : (p == "self") = false)
    (hlk : pg.methods.lookup (cls, meth) =
      some { ok := true, params := [p], dflts := [], body := [.assign (.attr "self" [] f) (.atom (.path p []))] })
    (w : World) (a : Nat) (v : Val) (ha : a < w.heap.length) :
    callMethod pg c d cls meth (.ref a) [v] [] w = some (w.setAttr a f v, none) := by
  have ho : w.heap[a]? = some w.heap[a] := List.getElem?_eq_getElem ha
  simp [wiring_exec, hlk, World.setAttr, ho, hp]

/-- getter ↦ the attribute it reads -/
def itemGetters : List (String × String) := [
  ("GetX", "_SearchDataItem__x"), ("GetY", "point"), ("GetDiscreteValueIndex", "_SearchDataItem__discreteValueIndex"),
  ("GetIndex", "_SearchDataItem__index"), ("GetZ", "_SearchDataItem__z"), ("GetLeft", "_SearchDataItem__leftPoint"),
  ("GetRight", "_SearchDataItem__rightPoint")]

/-- setter ↦ the attribute it writes -/
def itemSetters : List (String × String) := [
  ("SetIndex", "_SearchDataItem__index"), ("SetZ", "_SearchDataItem__z"), ("SetLeft", "_SearchDataItem__leftPoint"),
  ("SetRight", "_SearchDataItem__rightPoint")]

/-- the seven attributes are pairwise distinct, and each setter writes the attribute its getter reads -/
theorem itemGetters_distinct : (itemGetters.map (·.2)).Nodup ∧
    itemSetters.map (·.2) = ["GetIndex", "GetZ", "GetLeft", "GetRight"].filterMap (fun g => List.lookup g itemGetters) := by
  decide +kernel

/-- **the getters of `SearchDataItem` are plain attribute reads** (generated trees), on ANY world and ANY object: the value of the
attribute is returned and the world is unchanged (no such attribute: stuck) -/
theorem searchDataItem_getter_eq (c : Ctx) (d : Nat) {g f : String} (hg : (g, f) ∈ itemGetters) (w : World) (a : Nat) :
    callMethod theProg c d "SearchDataItem" g (.ref a) [] [] w = (w.getAttr a f).map fun v => (w, some v) := by
  rw [theProg_eq]
  simp only [itemGetters, List.mem_cons, Prod.mk.injEq, List.not_mem_nil, or_false] at hg
  rcases hg with ⟨rfl, rfl⟩ | ⟨rfl, rfl⟩ | ⟨rfl, rfl⟩ | ⟨rfl, rfl⟩ | ⟨rfl, rfl⟩ | ⟨rfl, rfl⟩ | ⟨rfl, rfl⟩ <;>
    exact getter_run_eq _ c d _ _ _ (by decide +kernel) (by kernel_rfl) w a

theorem searchDataItem_getter_iff (c : Ctx) (d : Nat) {g f : String} (hg : (g, f) ∈ itemGetters) (w : World) (a : Nat) (v : Val) :
    callMethod theProg c d "SearchDataItem" g (.ref a) [] [] w = some (w, some v) ↔ w.getAttr a f = some v := by
  rw [searchDataItem_getter_eq c d hg]
  cases w.getAttr a f <;> simp

/-- **the setters of `SearchDataItem` are plain attribute writes** (generated trees): one attribute of one object changes -/
theorem searchDataItem_setter (c : Ctx) (d : Nat) {s f : String} (hs : (s, f) ∈ itemSetters)
    (w : World) (a : Nat) (v : Val) (ha : a < w.heap.length) :
    callMethod theProg c d "SearchDataItem" s (.ref a) [v] [] w = some (w.setAttr a f v, none) := by
  rw [theProg_eq]
  simp only [itemSetters, List.mem_cons, Prod.mk.injEq, List.not_mem_nil, or_false] at hs
  rcases hs with ⟨rfl, rfl⟩ | ⟨rfl, rfl⟩ | ⟨rfl, rfl⟩ | ⟨rfl, rfl⟩
  · exact setter_run _ c d _ _ _ "index" (by decide +kernel) (by kernel_rfl) w a v ha
  · exact setter_run _ c d _ _ _ "z" (by decide +kernel) (by kernel_rfl) w a v ha
  · exact setter_run _ c d _ _ _ "point" (by decide +kernel) (by kernel_rfl) w a v ha
  · exact setter_run _ c d _ _ _ "point" (by decide +kernel) (by kernel_rfl) w a v ha

/-- **`GetF(SetF(v, it)) = v`**: for the four pairs `Index`, `Z`, `Left`, `Right` -/
theorem searchDataItem_get_set (c : Ctx) (d : Nat) {s g f : String} (hs : (s, f) ∈ itemSetters) (hg : (g, f) ∈ itemGetters)
    (w : World) (a : Nat) (v : Val) (ha : a < w.heap.length) :
    ∃ w', callMethod theProg c d "SearchDataItem" s (.ref a) [v] [] w = some (w', none) ∧
      callMethod theProg c d "SearchDataItem" g (.ref a) [] [] w' = some (w', some v) :=
  ⟨_, searchDataItem_setter c d hs w a v ha,
    (searchDataItem_getter_iff c d hg _ a v).2 ((getAttr_setAttr w a a f f v ha).trans (if_pos ⟨rfl, rfl⟩))⟩

/-- **`SetF` changes attribute `F` only**: every getter `G` of another attribute, on the same or on any other object `b`, returns after
`SetF(v)` what it returned before -/
theorem searchDataItem_set_other (c : Ctx) (d : Nat) {s g f f' : String} (hs : (s, f) ∈ itemSetters) (hg : (g, f') ∈ itemGetters)
    (w : World) (a b : Nat) (v u : Val) (ha : a < w.heap.length) (hne : f' ≠ f ∨ b ≠ a)
    (hu : callMethod theProg c d "SearchDataItem" g (.ref b) [] [] w = some (w, some u)) :
    ∃ w', callMethod theProg c d "SearchDataItem" s (.ref a) [v] [] w = some (w', none) ∧
      callMethod theProg c d "SearchDataItem" g (.ref b) [] [] w' = some (w', some u) := by
  rw [searchDataItem_getter_iff c d hg] at hu
  refine ⟨_, searchDataItem_setter c d hs w a v ha, (searchDataItem_getter_iff c d hg _ b u).2 ?_⟩
  rwa [getAttr_setAttr w a b f f' v ha, if_neg fun h => hne.elim (· h.2) (· h.1)]

section
variable {α : Type} [Add α] [Sub α] [Mul α] [Div α] [Neg α] [LT α] [LE α]
  [DecidableLT α] [DecidableLE α] [OfNat α 0] [OfNat α 1] [OfNat α 2] [OfNat α 4] [Fns α]

/-- **what the model assumes about a never-evaluated item is what `SearchDataItem.__init__` stores.**
Source (`searchDataItem_init`) ↔ model (`AGP.Item` of `IOptModel/Method.lean`, `SD.Item` of `IOptModel/SearchData.lean`):
* `__index = -2` ↔ `ev = false` (`GetIndex()` is `0` for an evaluated item, `-2` otherwise: `MethodInterpDefs`);
* `__z = sys.float_info.max` ↔ `z = Fns.big` (`IOptModel/Arith.lean`: the double `0x7FEFFFFFFFFFFFFF`);
* `__leftPoint = __rightPoint = None` ↔ `SD.Item.left = SD.Item.right = none`;
* `functionValues = [FunctionValue()]` with `value = 0.0` ↔ `hv = 0`;
* `delta = -1.0` where the model has `delta := 0`, and `globalR = -1.0` where the model has `R := none`: NOT the same values, and it
  cannot matter: every item is created by `Method.FirstIteration` or `Method.CalculateIterationPoint`, and both attributes are
  overwritten before anything reads them - `left.delta = 0`, `middle.delta = …`, `right.delta = …` (`FirstIteration`, the three lines after
  the constructors), `oldpoint.delta = …`, `newpoint.delta = …` (first lines of `RenewSearchData`); `CalculateGlobalR` is called on all three
  items in `FirstIteration` and on both in `RenewSearchData` before they are inserted (it stores `-inf` = the model's `none` for the item
  without left neighbour).  `MethodInterp` ties these two functions;
* `localR`, `iterationNumber`, `__discreteValueIndex`: not in the model (never read by the single-queue method).
The statement: the two end items of the model's first iteration have exactly the values on the right. -/
theorem model_unevaluated_items (p : AGP.Params α) (z : α) :
    ((AGP.firstIteration p z).items.map fun it => (it.id, it.ev)) = [(0, false), (2, true), (1, false)] ∧
    (∀ it ∈ (AGP.firstIteration p z).items, it.ev = false → it.z = Fns.big ∧ it.hv = 0) ∧
    (({ x := (0 : Nat), globalR := (0 : Nat), localR := (0 : Nat) } : SD.Item Nat Nat).left = none ∧
     ({ x := (0 : Nat), globalR := (0 : Nat), localR := (0 : Nat) } : SD.Item Nat Nat).right = none) := by
  refine ⟨rfl, ?_, rfl, rfl⟩
  intro it hit hev
  simp only [AGP.firstIteration, List.mem_cons, List.not_mem_nil, or_false] at hit
  rcases hit with rfl | rfl | rfl
  · exact ⟨rfl, rfl⟩
  · simp at hev
  · exact ⟨rfl, rfl⟩

/-- **the initial values of `Process` / `Method` and the model's fresh state** (`solver_init_flags` ↔ `({} : Proc.PState α)` and
`AGP.firstIteration`): `__first_iteration = True` ↔ `m = none` (`ProcInterp.Glob.ofP`), `__refinedTrial = None` ↔ `refined = none`,
`numberOfLocalTrials = 0` ↔ `nLocal = 0`; and the values `Method.__init__` stores are the ones the model's first iteration starts from:
`M = 1`, `recalc = true`, `iterationsCount` becomes `1`, `solutionAccuracy = inf` ↔ `minDelta = none`.
The statement is the MODEL's column of this table only (its defaults, by `rfl`); the source's column is `solver_init_flags`, and
that the two columns correspond row by row is this comment's reading, not a theorem. -/
theorem model_fresh_state (p : AGP.Params α) (z : α) :
    (ProcInterp.Glob.ofP ({} : Proc.PState α)).first = true ∧ ({} : Proc.PState α).m.isNone = true ∧
    ({} : Proc.PState α).refined = none ∧ ({} : Proc.PState α).nLocal = 0 ∧ ({} : Proc.PState α).log = [] ∧
    (AGP.firstIteration p z).M = 1 ∧ (AGP.firstIteration p z).recalc = true ∧ (AGP.firstIteration p z).iters = 1 ∧
    (AGP.firstIteration p z).minDelta = none ∧ (AGP.firstIteration p z).nTrials = 1 :=
  ⟨rfl, rfl, rfl, rfl, rfl, rfl, rfl, rfl, rfl, rfl⟩

end

def Val.shift (b : Nat) : Val → Val
  | .ref a => .ref (a + b)
  | v => v

def Obj.shift (b : Nat) (o : Obj) : Obj :=
  { o with fields := o.fields.map fun kv => (kv.1, kv.2.shift b), elems := o.elems.map (Val.shift b) }

/-- **a second `Solver(P', Q')` leaves every object of the first untouched and builds a disjoint copy of the graph**: the heap is the
first graph followed by the second graph with all its references shifted by 18 - no object of one solver (search data, listener list,
method, solution, placeholder trial, `M`, `Z`, …) is referenced from the other; only what the CALLER shares (`P = P'`, `Q = Q'`, the
default parameters object) is common. -/
theorem two_solvers_disjoint (P Q P' Q' : Root) (d : Nat) :
    (match new theProg oneObjective (d + 4) "Solver" [.sym P [], .sym Q []] [] {} with
     | some (_, w1) => new theProg oneObjective (d + 4) "Solver" [.sym P' [], .sym Q' []] [] w1
     | none => none) =
      some (.ref 18, { heap := expectedWiring P Q ++ (expectedWiring P' Q').map (Obj.shift 18) }) := by
  rw [theProg_eq]; kernel_rfl

/-- the default string of parameter `p` of `SolverParameters.__init__` (the defaults belong to the TRAILING parameters) -/
def solverParametersDefault (p : String) : Option String :=
  let ps := Gen.Wiring.solverParameters_initParams.drop 1
  ((ps.drop (ps.length - Gen.Wiring.solverParameters_initDefaults.length)).zip Gen.Wiring.solverParameters_initDefaults).lookup p

def parseNat (s : String) : Option Nat := if (chars s).isEmpty then none else digitsToNat (chars s) 0

/-- **the default strings, parsed** (`parseDecimal`: mantissa and number of digits after the point): `eps = 1/10^2`, `r = 20/10^1`,
`itersLimit = 20000`, `evolventDensity = 10`, `epsR = 1/10^3`, `refineSolution = False` -/
theorem solverParameters_defaults_parsed :
    (solverParametersDefault "eps").bind parseDecimal = some (1, 2) ∧
    (solverParametersDefault "r").bind parseDecimal = some (20, 1) ∧
    (solverParametersDefault "epsR").bind parseDecimal = some (1, 3) ∧
    (solverParametersDefault "itersLimit").bind parseNat = some 20000 ∧
    (solverParametersDefault "evolventDensity").bind parseNat = some 10 ∧
    (solverParametersDefault "refineSolution").bind evalLit = some (.bool false) := by
  decide +kernel

def decVal (α : Type) [DivisionRing α] (mk : Int × Nat) : α := (mk.1 : α) / (10 : α) ^ mk.2

structure ParamDefaults (α : Type) where
  eps : α
  r : α
  epsR : α
  itersLimit : Nat
  evolventDensity : Nat
  refineSolution : Bool

/-- the defaults of `SolverParameters.__init__`, read from the GENERATED default strings -/
def parsedDefaults (α : Type) [DivisionRing α] : Option (ParamDefaults α) :=
  match (solverParametersDefault "eps").bind parseDecimal, (solverParametersDefault "r").bind parseDecimal,
        (solverParametersDefault "epsR").bind parseDecimal, (solverParametersDefault "itersLimit").bind parseNat,
        (solverParametersDefault "evolventDensity").bind parseNat, (solverParametersDefault "refineSolution").bind evalLit with
  | some e, some r, some er, some il, some dn, some (.bool b) =>
    some { eps := decVal α e, r := decVal α r, epsR := decVal α er, itersLimit := il, evolventDensity := dn, refineSolution := b }
  | _, _, _, _, _, _ => none

theorem parsedDefaults_eq (α : Type) [Field α] [CharZero α] :
    parsedDefaults α = some { eps := 1 / 100, r := 2, epsR := 1 / 1000, itersLimit := 20000, evolventDensity := 10,
                              refineSolution := false } := by
  obtain ⟨h1, h2, h3, h4, h5, h6⟩ := solverParameters_defaults_parsed
  simp only [parsedDefaults, h1, h2, h3, h4, h5, h6, decVal]
  norm_num

/-- **The theorems are not vacuous for the configuration users get by default.**  The parameter record
`AGP.Params` built from the parsed defaults (any dimension `n ≥ 1`, any evolvent) satisfies the standing hypotheses of the headline
theorems: `1 < r` and `0 < n` (`IOptProps/C01.lean`, `C06.lean`, …), `0 < eps` (`C01solve.lean`), `1 ≤ itersLimit` (`C03.lean`,
`C03_stop_exact`), and the evolvent density is `≥ 1` (`C20.lean`). -/
theorem defaults_meet_hypotheses (α : Type) [Field α] [LinearOrder α] [IsStrictOrderedRing α] :
    ∃ dp : ParamDefaults α, parsedDefaults α = some dp ∧
      dp.eps = 1 / 100 ∧ dp.r = 2 ∧ dp.itersLimit = 20000 ∧ dp.evolventDensity = 10 ∧ dp.epsR = 1 / 1000 ∧
      dp.refineSolution = false ∧
      ∀ (n : Nat) (image : α → List α), 0 < n →
        let p : AGP.Params α := { n := n, r := dp.r, eps := dp.eps, itersLimit := dp.itersLimit, image := image }
        1 < p.r ∧ 0 < p.n ∧ 0 < p.eps ∧ 0 < p.itersLimit ∧ 1 ≤ p.itersLimit ∧ 1 ≤ dp.evolventDensity := by
  refine ⟨_, parsedDefaults_eq α, rfl, rfl, rfl, rfl, rfl, rfl, ?_⟩
  intro n image hn
  refine ⟨?_, hn, ?_, ?_, ?_, ?_⟩ <;> norm_num

/-- … and the `Solver.Config` of the model with the default parameters (what `Solver.mk` turns into the evolvent of density 10) -/
example : ∀ dp : ParamDefaults ℚ, parsedDefaults ℚ = some dp →
    let cfg : Solver.Config ℚ := { n := 2, lower := [0, 0], upper := [1, 1], eps := dp.eps, r := dp.r,
                                   itersLimit := dp.itersLimit, evolventDensity := dp.evolventDensity }
    cfg.evolventDensity = 10 ∧ (1 : ℚ) < cfg.r ∧ (0 : ℚ) < cfg.eps ∧ 1 ≤ cfg.itersLimit := by
  intro dp h
  rw [parsedDefaults_eq] at h
  cases h
  norm_num

/-- **the object `SolverParameters()` holds exactly these defaults** (generated tree of `SolverParameters.__init__` run on the default
values): literals are stored as written; `startPoint` is THE shared default list (never read by the library) -/
theorem solverParameters_init_defaults (c : Ctx) (d : Nat) :
    new theProg c (d + 1) "SolverParameters" [] [] {} = some (.ref 0, { heap := [
      { cls := "SolverParameters",
        fields := [("eps", .lit "0.01"), ("r", .lit "2.0"), ("itersLimit", .int 20000), ("evolventDensity", .int 10),
                   ("epsR", .lit "0.001"), ("refineSolution", .bool false),
                   ("startPoint", .sym (.dflt "SolverParameters" "startPoint") [])] }] }) := by
  rw [theProg_eq]; kernel_rfl

/-- arguments given by the user override the defaults, by position or by keyword -/
example : new theProg oneObjective 1 "SolverParameters" [.lit "0.001"] [("itersLimit", .int 500), ("refineSolution", .bool true)] {} =
    some (.ref 0, { heap := [
      { cls := "SolverParameters",
        fields := [("eps", .lit "0.001"), ("r", .lit "2.0"), ("itersLimit", .int 500), ("evolventDensity", .int 10),
                   ("epsR", .lit "0.001"), ("refineSolution", .bool true),
                   ("startPoint", .sym (.dflt "SolverParameters" "startPoint") [])] }] }) := by
  rw [theProg_eq]; decide +kernel

def solutionTwice (pg : Prog) (c : Ctx) (d : Nat) (P : Root) : Option (Val × Val × World) :=
  match new pg c d "Solution" [.sym P []] [] {} with
  | some (s1, w1) =>
    match new pg c d "Solution" [.sym P []] [] w1 with
    | some (s2, w2) => some (s1, s2, w2)
    | none => none
  | none => none

/-- **every `Solution` gets its OWN list `[Trial([], [])]`** (the default is `None`, `solution_initDefaults`, and the list is allocated
in the body): two `Solution(P)` have different `bestTrials` objects (addresses `4` and `9`) holding different `Trial`s (`3`, `8`) -/
theorem solution_fresh_bestTrials (c : Ctx) (d : Nat) (P : Root) :
    solutionTwice theProg c (d + 2) P = some (.ref 0, .ref 5, { heap := [
      { cls := "Solution",
        fields := [("problem", .sym P []), ("bestTrials", .ref 4), ("numberOfGlobalTrials", .int 0), ("numberOfLocalTrials", .int 0),
                   ("solvingTime", .lit "0.0"), ("solutionAccuracy", .lit "0.0")] },
      { cls := "list" }, { cls := "list" },
      { cls := "Trial", fields := [("point", .ref 1), ("functionValues", .ref 2)] },
      { cls := "list", elems := [.ref 3] },
      { cls := "Solution",
        fields := [("problem", .sym P []), ("bestTrials", .ref 9), ("numberOfGlobalTrials", .int 0), ("numberOfLocalTrials", .int 0),
                   ("solvingTime", .lit "0.0"), ("solutionAccuracy", .lit "0.0")] },
      { cls := "list" }, { cls := "list" },
      { cls := "Trial", fields := [("point", .ref 6), ("functionValues", .ref 7)] },
      { cls := "list", elems := [.ref 8] }] }) := by
  rw [theProg_eq]; kernel_rfl

/-- the edit "mutable default argument": `bestTrials=[Trial([], [])]` in the signature, no `if bestTrials is None` in the body -/
def solutionMutableDefault : ClassDef :=
  ⟨Gen.Wiring.solution_initParams, ["[Trial([], [])]", "0", "0", "0.0", "0.0"], Gen.Wiring.solution_init.drop 1⟩

/-- **the semantics distinguishes the two**: with the mutable default both `Solution` objects hold THE SAME list (the one made when the
`def` was executed): writing `bestTrials[0]` of one solver would change the other -/
theorem solution_mutableDefault_shared (c : Ctx) (d : Nat) (P : Root) :
    solutionTwice (theProg.withClass "Solution" solutionMutableDefault) c (d + 2) P = some (.ref 0, .ref 1, { heap := [
      { cls := "Solution",
        fields := [("problem", .sym P []), ("bestTrials", .sym (.dflt "Solution" "bestTrials") []), ("numberOfGlobalTrials", .int 0),
                   ("numberOfLocalTrials", .int 0), ("solvingTime", .lit "0.0"), ("solutionAccuracy", .lit "0.0")] },
      { cls := "Solution",
        fields := [("problem", .sym P []), ("bestTrials", .sym (.dflt "Solution" "bestTrials") []), ("numberOfGlobalTrials", .int 0),
                   ("numberOfLocalTrials", .int 0), ("solvingTime", .lit "0.0"), ("solutionAccuracy", .lit "0.0")] }] }) := by
  rw [theProg_eq]; kernel_rfl

/-- the world after `OptimizationTask(P)` and `SearchDataItem(y, x)`: `0` the task, `1` its permutation `[0]`, `2` the item, `3` its value
holder, `4` the list `functionValues` -/
def taskItemHeap (P : Root) (y x : Val) : List Obj := [
  { cls := "OptimizationTask", fields := [("problem", .sym P []), ("perm", .ref 1)] },
  { cls := "ndarray", elems := [.int 0] },
  { cls := "SearchDataItem",
    fields := [("point", y), ("functionValues", .ref 4), ("_SearchDataItem__x", x), ("_SearchDataItem__discreteValueIndex", .int 0),
               ("_SearchDataItem__index", .int (-2)), ("_SearchDataItem__z", .lit "sys.float_info.max"),
               ("_SearchDataItem__leftPoint", .none), ("_SearchDataItem__rightPoint", .none), ("delta", .lit "-1.0"),
               ("globalR", .lit "-1.0"), ("localR", .lit "-1.0"), ("iterationNumber", .int (-1))] },
  { cls := "FunctionValue", fields := [("type", .lit "FunctionType.OBJECTIV"), ("functionID", .lit "''"), ("value", .lit "0.0")] },
  { cls := "list", elems := [.ref 3] }]

theorem taskItemHeap_built (d : Nat) (P : Root) (y x : Val) :
    (match new theProg oneObjective (d + 2) "OptimizationTask" [.sym P []] [] {} with
     | some (_, w1) => new theProg oneObjective (d + 2) "SearchDataItem" [y, x] [] w1
     | none => none) = some (.ref 2, { heap := taskItemHeap P y x }) := by
  rw [theProg_eq]; kernel_rfl

/-- **`OptimizationTask.Calculate(dataItem, 0)`, source tree**: with the identity permutation that `OptimizationTask.__init__` builds,
it is ONE call `Calculate(dataItem.point, dataItem.functionValues[0])` on the CALLER's problem `P` - "evaluate the objective at the
item's point, handing it the item's value holder" - whose result is stored back in slot `0` of `dataItem.functionValues`; the item
itself is returned.  (In `MethodInterp` the call `self.task.Calculate(point, 0)` inside the tree of `CalculateFunctionals` is the
primitive `taskCalculate`: the oracle's value at the item's point goes into the item's value holder `hv`.) -/
theorem optimizationTask_Calculate (c : Ctx) (d : Nat) (P : Root) (y x : Val) (tr : List Call) :
    callMethod theProg c d "OptimizationTask" "Calculate" (.ref 0) [.ref 2, .int 0] [] { heap := taskItemHeap P y x, trace := tr } =
      some ({ heap := (taskItemHeap P y x).set 4 { cls := "list", elems := [.res tr.length] },
              trace := tr ++ [{ recv := .sym P [], meth := "Calculate", args := [y, .ref 3] }] },
            some (.ref 2)) := by
  rw [theProg_eq]; kernel_rfl

/-- an index outside the permutation is not silently accepted -/
example : callMethod theProg oneObjective 0 "OptimizationTask" "Calculate" (.ref 0) [.ref 2, .int 1] []
    { heap := taskItemHeap (.user 0) (.lit "y") (.lit "0.5") } = none := by
  rw [theProg_eq]; decide +kernel

/-! ### sensitivity: seeded edits of the glue are stuck, or give another object graph -/

/-- `Solver(P, Q)` with `Solver.__init__` replaced by an edited body -/
def newSolverWith (body : List Stmt) (P Q : Root) : Option (Val × World) :=
  new (theProg.withClass "Solver" ⟨Gen.Wiring.solver_initParams, Gen.Wiring.solver_initDefaults, body⟩) oneObjective 4 "Solver"
    [.sym P [], .sym Q []] [] {}

/-- the unedited body through the same route: the expected wiring (so the examples below differ by the edit only) -/
example : newSolverWith Gen.Wiring.solver_init (.user 0) (.user 1) = some (.ref 0, wired (.user 0) (.user 1)) := by
  unfold newSolverWith; rw [theProg_eq]; decide +kernel

/-- **"the method gets a COPY of the parameters object"**: `Method(copy.copy(parameters), …)`, `copy.deepcopy(parameters)` are stuck
(a copy inserted into the wiring cannot be silently accepted) -/
theorem copy_of_parameters_stuck :
    newSolverWith (Gen.Wiring.solver_init.set 6
      (.call ["self.method"] "Method" ["copy.copy(parameters)", "self.task", "self.evolvent", "self.searchData"]))
      (.user 0) (.user 1) = none ∧
    newSolverWith (Gen.Wiring.solver_init.set 6
      (.call ["self.method"] "Method" ["copy.deepcopy(parameters)", "self.task", "self.evolvent", "self.searchData"]))
      (.user 0) (.user 1) = none ∧
    newSolverWith (Gen.Wiring.solver_init.set 1 (.call ["self.parameters"] "copy.copy" ["parameters"])) (.user 0) (.user 1) = none := by
  unfold newSolverWith; rw [theProg_eq]; decide +kernel

/-- **"Process copies the listener list"**: `listeners=list(self.__listeners)`, `listeners=self.__listeners[:]`,
`listeners=self.__listeners.copy()` in `Solver.__init__` are stuck; so is `self.__listeners = list(listeners)` in `Process.__init__` -/
theorem copy_of_listeners_stuck :
    newSolverWith (Gen.Wiring.solver_init.set 7
      (.call ["self.process"] "Process" ["parameters=parameters", "task=self.task", "evolvent=self.evolvent",
        "searchData=self.searchData", "method=self.method", "listeners=list(self.__listeners)"])) (.user 0) (.user 1) = none ∧
    newSolverWith (Gen.Wiring.solver_init.set 7
      (.call ["self.process"] "Process" ["parameters=parameters", "task=self.task", "evolvent=self.evolvent",
        "searchData=self.searchData", "method=self.method", "listeners=self.__listeners[:]"])) (.user 0) (.user 1) = none ∧
    newSolverWith (Gen.Wiring.solver_init.set 7
      (.call ["self.process"] "Process" ["parameters=parameters", "task=self.task", "evolvent=self.evolvent",
        "searchData=self.searchData", "method=self.method", "listeners=self.__listeners.copy()"])) (.user 0) (.user 1) = none ∧
    new (theProg.withClass "Process" ⟨Gen.Wiring.process_initParams, Gen.Wiring.process_initDefaults,
        Gen.Wiring.process_init.set 5 (.assign "self.__listeners" "list(listeners)")⟩) oneObjective 4 "Solver"
      [.sym (.user 0) [], .sym (.user 1) []] [] {} = none := by
  unfold newSolverWith; rw [theProg_eq]; decide +kernel

/-- … and a copy that CAN be written in the fragment - a fresh list for the process - is not stuck but gives another graph: the
process reads a list (address `17`) that `AddListener` never touches -/
theorem fresh_list_for_process_differs :
    newSolverWith (Gen.Wiring.solver_init.take 7 ++ [
      .assign "copied" "[]",
      .call ["self.process"] "Process" ["parameters=parameters", "task=self.task", "evolvent=self.evolvent",
        "searchData=self.searchData", "method=self.method", "listeners=copied"]]) (.user 0) (.user 1) ≠
      some (.ref 0, wired (.user 0) (.user 1)) ∧
    ((newSolverWith (Gen.Wiring.solver_init.take 7 ++ [
      .assign "copied" "[]",
      .call ["self.process"] "Process" ["parameters=parameters", "task=self.task", "evolvent=self.evolvent",
        "searchData=self.searchData", "method=self.method", "listeners=copied"]]) (.user 0) (.user 1)).bind fun r =>
        r.2.at (.ref 0) ["process", "_Process__listeners"]) = some (.ref 17) := by
  unfold newSolverWith; rw [theProg_eq]; decide +kernel

/-- **a second `SearchData`**: `self.searchData = SearchData(problem)` written twice (the method would still get the second one, but
two are allocated), or a second `SearchData(problem)` handed to `Method` (method and process then search in DIFFERENT containers):
not stuck, and NOT the expected wiring -/
theorem second_searchData_differs :
    newSolverWith (Gen.Wiring.solver_init.take 4 ++ [.call ["self.searchData"] "SearchData" ["problem"]] ++
      Gen.Wiring.solver_init.drop 4) (.user 0) (.user 1) ≠ some (.ref 0, wired (.user 0) (.user 1)) ∧
    ((newSolverWith (Gen.Wiring.solver_init.take 4 ++ [.call ["self.searchData"] "SearchData" ["problem"]] ++
      Gen.Wiring.solver_init.drop 4) (.user 0) (.user 1)).map fun r => r.2.count "SearchData") = some 2 ∧
    newSolverWith (Gen.Wiring.solver_init.take 6 ++ [
      .call ["other"] "SearchData" ["problem"],
      .call ["self.method"] "Method" ["parameters", "self.task", "self.evolvent", "other"]] ++
      Gen.Wiring.solver_init.drop 7) (.user 0) (.user 1) ≠ some (.ref 0, wired (.user 0) (.user 1)) ∧
    ((newSolverWith (Gen.Wiring.solver_init.take 6 ++ [
      .call ["other"] "SearchData" ["problem"],
      .call ["self.method"] "Method" ["parameters", "self.task", "self.evolvent", "other"]] ++
      Gen.Wiring.solver_init.drop 7) (.user 0) (.user 1)).map fun r =>
        (r.2.at (.ref 0) ["method", "searchData"], r.2.at (.ref 0) ["process", "searchData"])) =
      some (some (.ref 14), some (.ref 2)) := by
  unfold newSolverWith; rw [theProg_eq]; decide +kernel

/-- the evolvent built WITHOUT the configured density (defect F4: `Evolvent(lower, upper, n)`): not the expected wiring -/
theorem evolvent_without_density_differs :
    newSolverWith (Gen.Wiring.solver_init.set 4
      (.call ["self.evolvent"] "Evolvent" ["problem.lowerBoundOfFloatVariables", "problem.upperBoundOfFloatVariables",
        "problem.numberOfFloatVariables"])) (.user 0) (.user 1) ≠ some (.ref 0, wired (.user 0) (.user 1)) := by
  unfold newSolverWith; rw [theProg_eq]; decide +kernel

/-- **"Solve builds a fresh Process"**: `Solver.Solve` = `self.process = Process(…); return self.process.Solve()` -/
def solveFreshProcess : List Stmt := [
  .call ["self.process"] "Process" ["parameters=self.parameters", "task=self.task", "evolvent=self.evolvent",
    "searchData=self.searchData", "method=self.method", "listeners=self.__listeners"],
  .ret "self.process.Solve()"]

/-- … is NOT the delegation: it is not a facade body (`parseFacade`), and in the object graph the call goes to a NEW process object
(address `18`, with `__first_iteration = True` again), not to THE process (address `17`) -/
theorem solve_fresh_process_not_delegation :
    Facade.parseFacade solveFreshProcess = none ∧
    (callMethod (theProg.withMethod "Solver" "Solve" ⟨Gen.Wiring.solver_SolveParams, Gen.Wiring.solver_SolveDefaults, solveFreshProcess⟩)
      oneObjective 1 "Solver" "Solve" (.ref 0) [] [] (wired (.user 0) (.user 1))).map (fun r => (r.1.trace, r.1.heap.length)) =
      some ([{ recv := .ref 18, meth := "Solve" }], 19) := by
  rw [theProg_eq]; decide +kernel

/-- a facade method that calls ANOTHER method of the process, or does something before delegating, is not a facade body -/
example : Facade.parseFacade [.ret "self.process.GetResults()"] = some ("GetResults", [], true) ∧
    Facade.parseFacade [.call [] "self.method.FirstIteration" [], .ret "self.process.Solve()"] = none ∧
    Facade.parseFacade [.ret "self.method.Solve()"] = none ∧
    Facade.parseFacade [.call ["x"] "self.process.DoGlobalIteration" ["number"]] = none := by
  decide +kernel

/-- **`SetLeft` assigning `__rightPoint`**: the law `GetLeft(SetLeft(v)) = v` fails (and `GetRight` changes) -/
theorem setLeft_wrong_field_breaks_law :
    let pg := theProg.withMethod "SearchDataItem" "SetLeft"
      ⟨Gen.Wiring.searchDataItem_SetLeftParams, Gen.Wiring.searchDataItem_SetLeftDefaults, [.assign "self.__rightPoint" "point"]⟩
    let W : World := { heap := expectedItem (.lit "y") (.lit "0.5") }
    ((callMethod pg oneObjective 0 "SearchDataItem" "SetLeft" (.ref 0) [.ref 7] [] W).bind fun r =>
      (callMethod pg oneObjective 0 "SearchDataItem" "GetLeft" (.ref 0) [] [] r.1).map (·.2)) = some (some .none) ∧
    ((callMethod pg oneObjective 0 "SearchDataItem" "SetLeft" (.ref 0) [.ref 7] [] W).bind fun r =>
      (callMethod pg oneObjective 0 "SearchDataItem" "GetRight" (.ref 0) [] [] r.1).map (·.2)) = some (some (.ref 7)) := by
  rw [theProg_eq]; decide +kernel

/-- statements outside the fragment are not silently accepted -/
example : newSolverWith [.other "self.parameters.r = 3"] (.user 0) (.user 1) = none ∧
    newSolverWith [.assign "parameters.r" "3"] (.user 0) (.user 1) = none ∧             -- a store into the caller's object
    newSolverWith [.assign "self.perm[i]" "0"] (.user 0) (.user 1) = none ∧
    newSolverWith [.forEach "l" "self.__listeners" []] (.user 0) (.user 1) = none := by
  unfold newSolverWith; rw [theProg_eq]; decide +kernel

end WiringInterp

/-! ## The facade over the control semantics of `process.py`: `Solver.X` IS `Process.X` IS the model -/

namespace Facade
open Gen.ProcSrc WiringInterp

/-- the four facade bodies, parsed: one call of the SAME-NAMED method of `self.process`, with the same argument (`number`) or none;
`Solve` and `GetResults` return its value -/
theorem parseFacade_trees :
    parseFacade Gen.Wiring.solver_Solve = some ("Solve", [], true) ∧
    parseFacade Gen.Wiring.solver_GetResults = some ("GetResults", [], true) ∧
    parseFacade Gen.Wiring.solver_DoGlobalIteration = some ("DoGlobalIteration", ["number"], false) ∧
    parseFacade Gen.Wiring.solver_DoLocalRefinement = some ("DoLocalRefinement", ["number"], false) := by
  decide +kernel

theorem lk_Solve : processProcs.lookup "Solve" = some (solveParams, solveDefaults, solve) := by kernel_rfl
theorem lk_DoGlobalIteration : processProcs.lookup "DoGlobalIteration" =
    some (doGlobalIterationParams, doGlobalIterationDefaults, doGlobalIteration) := by kernel_rfl
theorem lk_DoLocalRefinement : processProcs.lookup "DoLocalRefinement" =
    some (doLocalRefinementParams, doLocalRefinementDefaults, doLocalRefinement) := by kernel_rfl
theorem lk_GetResults : processProcs.lookup "GetResults" = some (getResultsParams, getResultsDefaults, getResults) := by
  kernel_rfl

/-- **the default of the facade**: `Solver.DoGlobalIteration()` binds `number` to `1`, as `solver_DoGlobalIterationDefaults` says (and
`Solver.DoLocalRefinement()` likewise) -/
theorem facade_default_number :
    ProcInterp.bindArgs Gen.Wiring.solver_DoGlobalIterationParams Gen.Wiring.solver_DoGlobalIterationDefaults [] [] =
      some [("number", 1)] ∧
    ReportInterp.bindArgs Gen.Wiring.solver_DoLocalRefinementParams Gen.Wiring.solver_DoLocalRefinementDefaults [] [] =
      some [("number", 1)] ∧
    ProcInterp.bindArgs Gen.Wiring.solver_SolveParams Gen.Wiring.solver_SolveDefaults [] [] = some [] ∧
    ReportInterp.bindArgs Gen.Wiring.solver_GetResultsParams Gen.Wiring.solver_GetResultsDefaults [] [] = some [] := by
  decide +kernel

section
variable {α : Type} [Add α] [Sub α] [Mul α] [Div α] [Neg α] [LT α] [LE α]
  [DecidableLT α] [DecidableLE α] [OfNat α 0] [OfNat α 1] [OfNat α 2] [OfNat α 4] [Fns α]
open AGP Proc

theorem bind_solve (ints : List (String × Nat)) : ProcInterp.bindArgs solveParams solveDefaults [] ints = some [] := by
  kernel_rfl

theorem bind_dgi_number (number : Nat) :
    ProcInterp.bindArgs doGlobalIterationParams doGlobalIterationDefaults ["number"] [("number", number)] =
      some [("number", number)] := by
  kernel_rfl

/-- **`Solver.Solve`, source tree = model.**  Running the generated tree of `Solver.Solve` - its one callee resolved through the table
of the GENERATED trees of `process.py` and run by `ProcInterp` (which calls `self.DoGlobalIteration()` through ITS tree, depth `d+1`),
with the model's `while`-fuel - returns the value of that call, and the object afterwards is `Proc.solve p f refine ps`. -/
theorem solver_Solve_src (c : ProcInterp.Ctx α) (d : Nat) (ps : PState α) :
    runP c (d + 1) (c.p.itersLimit + 1) Gen.Wiring.solver_Solve [] (ProcInterp.Glob.ofP ps) =
      some (.done (ProcInterp.Glob.ofP (Proc.solve c.p c.f c.refine ps)), true) := by
  simp only [runP, exec, parseFacade_trees.1, procHandler, lk_Solve, bind_solve, ProcInterp.solve_src, Option.map_some]

/-- **`Solver.DoGlobalIteration(number)`, source tree = model**: `Proc.doGlobalIteration p f number ps []` (same final state, same
exception or none); the facade returns nothing -/
theorem solver_DoGlobalIteration_src (c : ProcInterp.Ctx α) (depth fuel number : Nat) (ps : PState α) :
    runP c depth fuel Gen.Wiring.solver_DoGlobalIteration [("number", number)] (ProcInterp.Glob.ofP ps) =
      some (ProcInterp.POut.ofRes (Proc.doGlobalIteration c.p c.f number ps []), false) := by
  simp only [runP, exec, parseFacade_trees.2.2.1, procHandler, lk_DoGlobalIteration, bind_dgi_number,
    ProcInterp.doGlobalIteration_src, Option.map_some]

theorem bind_dlr_number (number : Int) :
    ReportInterp.bindArgs doLocalRefinementParams doLocalRefinementDefaults ["number"] [("number", number)] =
      some [("number", number)] := by
  kernel_rfl

/-- **`Solver.GetResults`, source tree = model**: from a slot as `Method.UpdateOptimum` or a previous `GetResults()` left it, the facade
returns the `Solution` object with `bestTrials[0]` = the model's reported trial `Proc.reportedId ps s`; the state is unchanged -/
theorem solver_GetResults_src (c : ReportInterp.Ctx α) (depth : Nat) (ps : PState α) (s : State α) (slot : Nat)
    (hm : ps.m = some s) (hres : ReportInterp.Resolved ps s) (hslot : slot = s.best ∨ slot = reportedId ps s) :
    runR c depth Gen.Wiring.solver_GetResults [] ⟨ps, slot⟩ =
      some (.done ⟨ps, reportedId ps s⟩ (some .solution), true) := by
  simp only [runR, exec, parseFacade_trees.2.1, reportHandler, lk_GetResults, ReportInterp.bind_getRes,
    ReportInterp.getResults_src c depth [] ps s slot hm hres hslot, Option.map_some]

/-- **`Solver.DoLocalRefinement(number)`, source tree = model**: `Proc.doLocalRefinement ps lr` for the `LocalResult` the oracles give
from the point of the reported trial -/
theorem solver_DoLocalRefinement_src (c : ReportInterp.Ctx α) (d : Nat) (number : Int) (ps : PState α) (s : State α) (slot : Nat)
    (hm : ps.m = some s) (hres : ReportInterp.Resolved ps s) (hslot : slot = s.best ∨ slot = reportedId ps s)
    {b : Item α} (hb : findItem s.items (reportedId ps s) = some b) :
    runR c (d + 1) Gen.Wiring.solver_DoLocalRefinement [("number", number)] ⟨ps, slot⟩ =
      some (.done ⟨Proc.doLocalRefinement ps (c.lr b.point), reportedId ps s⟩ none, false) := by
  simp only [runR, exec, parseFacade_trees.2.2.2, reportHandler, lk_DoLocalRefinement, bind_dlr_number,
    ReportInterp.doLocalRefinement_src c d number ps s slot hm hres hslot hb, Option.map_some]

end
end Facade

/-! ### non-vacuity: the facade trees RUN over the toy instance of `ProcInterp` / `ReportInterp` (`ℚ`, one dimension) -/

namespace Facade.Examples
open AGP Proc ProcToy Facade

/-- the facade trees run: `Solver.Solve()` gives the model's `solve` and returns the value; `Solver.DoGlobalIteration(3)` gives the model's
`doGlobalIteration 3` and returns nothing; an objective raising at its third call: the exception leaves the facade -/
example :
    (runP (ProcInterp.Examples.C 5 F) 1 6 Gen.Wiring.solver_Solve [] (ProcInterp.Glob.ofP {})).map
        (fun r => (ProcInterp.Examples.view r.1, r.2)) =
      some (ProcInterp.Examples.view (.done (ProcInterp.Glob.ofP (Proc.solve (P 5 (1/100)) F noRefine {}))), true) ∧
    (runP (ProcInterp.Examples.C 5 F) 0 0 Gen.Wiring.solver_DoGlobalIteration [("number", 3)] (ProcInterp.Glob.ofP {})).map
        (fun r => (ProcInterp.Examples.view r.1, r.2)) =
      some (ProcInterp.Examples.view (ProcInterp.POut.ofRes (Proc.doGlobalIteration (P 5 (1/100)) F 3 {} [])), false) ∧
    (runP (ProcInterp.Examples.C 5 (failAt 2)) 0 0 Gen.Wiring.solver_DoGlobalIteration [("number", 3)] (ProcInterp.Glob.ofP {})).map
        (fun r => (ProcInterp.Examples.view r.1).map (·.exc)) = some (some (some Raise.objective)) := by
  decide +kernel

/-- the tie theorems instantiated (their hypotheses hold) -/
example := solver_Solve_src (ProcInterp.Examples.C 5 (failAt 3) ProcInterp.Examples.someRefine) 0 {}
example := solver_DoGlobalIteration_src (ProcInterp.Examples.C 5 (failAt 2)) 0 0 3 {}
example := solver_GetResults_src ReportInterp.Examples.C 0 ReportInterp.Examples.PS1 ReportInterp.Examples.S1 9
  ReportInterp.Examples.hm1 ReportInterp.Examples.res1 (.inl (by decide +kernel))
example := solver_GetResults_src ReportInterp.Examples.C 0 ReportInterp.Examples.PS1 ReportInterp.Examples.S1 6
  ReportInterp.Examples.hm1 ReportInterp.Examples.res1 (.inr (by decide +kernel))

/-- `Solver.GetResults()` / `Solver.DoLocalRefinement(20)` run: the slot is re-pointed from `Method.best` = 9 to the refined trial 6 -/
example :
    (runR ReportInterp.Examples.C 0 Gen.Wiring.solver_GetResults [] ⟨ReportInterp.Examples.PS1, 9⟩).map
        (fun r => (ReportInterp.Examples.view r.1, r.2)) =
      some (some (ReportInterp.Examples.viewG ⟨ReportInterp.Examples.PS1, 6⟩ (some .solution)), true) ∧
    (runR ReportInterp.Examples.C 1 Gen.Wiring.solver_DoLocalRefinement [("number", 20)] ⟨ReportInterp.Examples.PS1, 9⟩).map
        (fun r => ((ReportInterp.Examples.view r.1).map fun v => (v.slot, v.refined, v.nLocal), r.2)) =
      some (some (6, some 6, 11), false) := by
  decide +kernel

/-- a facade body over a method that `process.py` does not have, or with an argument that is not bound, is not accepted -/
example : (runP (ProcInterp.Examples.C 5 F) 1 6 [.ret "self.process.Run()"] [] (ProcInterp.Glob.ofP {})).isNone = true ∧
    (runP (ProcInterp.Examples.C 5 F) 1 6 Gen.Wiring.solver_DoGlobalIteration [] (ProcInterp.Glob.ofP {})).isNone = true := by
  decide +kernel

end Facade.Examples

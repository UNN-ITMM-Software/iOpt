import IOptProofs.ShekelCert0
import IOptProofs.ShekelCert1
import IOptProofs.ShekelCert2
import IOptProofs.ShekelCert3
import IOptProofs.ShekelCert4
import IOptProofs.RangeBlocks
import Mathlib.Tactic.IntervalCases

/-! The C10 certificates of all 1000 Shekel functions (`Shk.shekel_all`): the twenty kernel-evaluated blocks of fifty table
rows (`ShekelCert0`–`4`), put end to end by `Nat.forall_lt_of_blocks`. -/
namespace Shk
theorem shekel_all : ∀ i < 1000, shekelOK i = true :=
  Nat.forall_lt_of_blocks 50 20 fun j hj => by
    interval_cases j
    exacts [
      shekel_block_0, shekel_block_1, shekel_block_2, shekel_block_3, shekel_block_4, shekel_block_5, shekel_block_6, shekel_block_7, shekel_block_8, shekel_block_9,
      shekel_block_10, shekel_block_11, shekel_block_12, shekel_block_13, shekel_block_14, shekel_block_15, shekel_block_16, shekel_block_17, shekel_block_18, shekel_block_19]
end Shk

import IOptProofs.ShekelRows
/-! Kernel-evaluated C10 certificates of the Shekel functions 0..199, fifty rows per evaluation. -/
namespace Shk
theorem shekel_block_0 : ∀ i ∈ List.range' 0 50, shekelOK i = true := shekel_block _ _ (by decide +kernel)
theorem shekel_block_1 : ∀ i ∈ List.range' 50 50, shekelOK i = true := shekel_block _ _ (by decide +kernel)
theorem shekel_block_2 : ∀ i ∈ List.range' 100 50, shekelOK i = true := shekel_block _ _ (by decide +kernel)
theorem shekel_block_3 : ∀ i ∈ List.range' 150 50, shekelOK i = true := shekel_block _ _ (by decide +kernel)
end Shk

import IOptModel.SearchData
import Mathlib.Order.Defs.LinearOrder
import Mathlib.Order.Basic

/-!
# The bounded priority queue of `SearchData`

`SD.qinsertRaw` (`DEPQ.insert`) and `SD.qinsert` (the same under `maxlen`).  Everything follows from one
characterisation of the insertion place, `qinsertRaw_split'`, and from `qinsert_some_eq_take`.  What needs
no order (membership, permutation, length, prefixes) is stated for any comparison `le`; sortedness and
stability are for `leB a b = decide (a ≤ b)` of a linear order.
-/

namespace SD

abbrev ltB {α : Type} [LinearOrder α] : α → α → Bool := fun a b => decide (a < b)
abbrev leB {α : Type} [LinearOrder α] : α → α → Bool := fun a b => decide (a ≤ b)
abbrev neB {α : Type} [LinearOrder α] : α → α → Bool := fun a b => decide (a ≠ b)

def QSorted {κ β : Type} [LinearOrder κ] (q : List (κ × β)) : Prop :=
  q.Pairwise (fun a b => a.1 ≥ b.1)

/-- THE characterisation of `DEPQ.insert`, for any comparison: the new entry goes behind the longest
prefix `a` of entries that `le k ·` accepts; the entry behind it (if any) is rejected. -/
theorem qinsertRaw_split' {κ β : Type} (le : κ → κ → Bool) (k : κ) (v : β) (q : List (κ × β)) :
    ∃ a b, q = a ++ b ∧ qinsertRaw le k v q = a ++ (k, v) :: b ∧
      (∀ e ∈ a, le k e.1 = true) ∧ ∀ e ∈ b.head?, le k e.1 = false := by
  induction q with
  | nil => exact ⟨[], [], rfl, rfl, by simp, by simp⟩
  | cons e t ih =>
    rw [qinsertRaw]
    split
    · obtain ⟨a, b, hq, hr, ha, hb⟩ := ih
      exact ⟨e :: a, b, by rw [hq]; rfl, by rw [hr]; rfl, by simpa [*] using ha, hb⟩
    · exact ⟨[], e :: t, rfl, rfl, by simp, fun _ h => by cases h; exact Bool.eq_false_iff.2 ‹_›⟩

section
variable {κ β : Type} {le : κ → κ → Bool} {k : κ} {v : β} {q : List (κ × β)}

theorem qinsertRaw_perm (k : κ) (v : β) (q : List (κ × β)) : (qinsertRaw le k v q).Perm ((k, v) :: q) := by
  obtain ⟨a, b, hq, hr, -⟩ := qinsertRaw_split' le k v q
  rw [hr, hq]; exact List.perm_middle

theorem mem_qinsertRaw {e : κ × β} (h : e ∈ qinsertRaw le k v q) : e = (k, v) ∨ e ∈ q :=
  List.mem_cons.1 ((qinsertRaw_perm k v q).mem_iff.1 h)

theorem qinsertRaw_length : (qinsertRaw le k v q).length = q.length + 1 :=
  (qinsertRaw_perm k v q).length_eq

/-- `_poplast` drops ONE entry, also from a queue that is already longer than `n` -/
theorem qinsert_some_eq_take (n : Nat) :
    qinsert le (some n) k v q = (qinsertRaw le k v q).take (max n q.length) := by
  show (if n < _ then _ else _) = _
  rw [qinsertRaw_length, List.dropLast_eq_take, qinsertRaw_length]
  split
  · rw [Nat.add_sub_cancel, Nat.max_eq_right (by omega)]
  · rw [List.take_of_length_le (by rw [qinsertRaw_length]; omega)]

theorem qinsert_sublist (m : Option Nat) : (qinsert le m k v q).Sublist (qinsertRaw le k v q) := by
  cases m
  · exact List.Sublist.refl _
  · rw [qinsert_some_eq_take]; exact List.take_sublist _ _

theorem mem_qinsert {m : Option Nat} {e : κ × β} (h : e ∈ qinsert le m k v q) : e = (k, v) ∨ e ∈ q :=
  mem_qinsertRaw ((qinsert_sublist m).subset h)

theorem qinsertRaw_take_take (n : Nat) (L : List (κ × β)) :
    (qinsertRaw le k v (L.take n)).take n = (qinsertRaw le k v L).take n := by
  induction L generalizing n with
  | nil => simp
  | cons e t ih =>
    cases n with
    | zero => simp
    | succ n =>
      rw [List.take_succ_cons, qinsertRaw, qinsertRaw]
      split
      · rw [List.take_succ_cons, List.take_succ_cons, ih]
      · rw [List.take_succ_cons, List.take_succ_cons, ← List.take_succ_cons (a := e), List.take_take,
          Nat.min_eq_left (Nat.le_succ n)]

theorem qinsert_take (n : Nat) (L : List (κ × β)) :
    qinsert le (some n) k v (L.take n) = (qinsertRaw le k v L).take n := by
  rw [qinsert_some_eq_take, List.length_take, Nat.max_eq_left (Nat.min_le_left _ _), qinsertRaw_take_take]

end

section
variable {κ β : Type} [LinearOrder κ]

theorem QSorted.nil : QSorted ([] : List (κ × β)) := List.Pairwise.nil

theorem QSorted.head_ge {e : κ × β} {q : List (κ × β)} (h : QSorted (e :: q)) :
    ∀ e' ∈ q, e'.1 ≤ e.1 := (List.pairwise_cons.1 h).1

theorem QSorted.sublist {q q' : List (κ × β)} (hs : q'.Sublist q) (h : QSorted q) : QSorted q' :=
  List.Pairwise.sublist hs h

theorem qinsertRaw_nil (k : κ) (v : β) : qinsertRaw leB k v ([] : List (κ × β)) = [(k, v)] := rfl

theorem qinsertRaw_eq (k : κ) (v : β) (q : List (κ × β)) :
    qinsertRaw leB k v q =
      q.takeWhile (fun e => decide (k ≤ e.1)) ++ (k, v) :: q.dropWhile (fun e => decide (k ≤ e.1)) := by
  induction q with
  | nil => rfl
  | cons e t ih =>
    rw [qinsertRaw, ih, List.takeWhile_cons, List.dropWhile_cons]
    split <;> rfl

theorem qinsertRaw_split (k : κ) (v : β) {q : List (κ × β)} (h : QSorted q) :
    ∃ a b, q = a ++ b ∧ qinsertRaw leB k v q = a ++ (k, v) :: b ∧
      (∀ e ∈ a, k ≤ e.1) ∧ (∀ e ∈ b, e.1 < k) := by
  obtain ⟨a, b, rfl, hr, ha, hb⟩ := qinsertRaw_split' leB k v q
  refine ⟨a, b, rfl, hr, fun e he => of_decide_eq_true (ha e he), ?_⟩
  -- the head of `b` is below `k`, the rest of `b` is below the head
  cases b with
  | nil => simp
  | cons e b =>
    have he : e.1 < k := lt_of_not_ge (of_decide_eq_false (hb e rfl))
    have := (List.pairwise_cons.1 (List.pairwise_append.1 h).2.1).1
    exact fun e' he' => (List.mem_cons.1 he').elim (· ▸ he) fun h' => lt_of_le_of_lt (this e' h') he

theorem qinsertRaw_sorted (k : κ) (v : β) {q : List (κ × β)} (h : QSorted q) :
    QSorted (qinsertRaw leB k v q) := by
  obtain ⟨a, b, rfl, hr, ha, hb⟩ := qinsertRaw_split k v h
  obtain ⟨h1, h2, h3⟩ := List.pairwise_append.1 h
  rw [hr]
  refine List.pairwise_append.2 ⟨h1, List.pairwise_cons.2 ⟨fun e he => (hb e he).le, h2⟩, ?_⟩
  exact fun x hx y hy => (List.mem_cons.1 hy).elim (· ▸ ha x hx) (h3 x hx y)

theorem qinsert_none (k : κ) (v : β) (q : List (κ × β)) :
    qinsert leB none k v q = qinsertRaw leB k v q := rfl

theorem qinsert_sorted (m : Option Nat) (k : κ) (v : β) {q : List (κ × β)} (h : QSorted q) :
    QSorted (qinsert leB m k v q) :=
  (qinsertRaw_sorted k v h).sublist (qinsert_sublist m)

theorem qinsert_eq_raw_of_le {n : Nat} (k : κ) (v : β) {q : List (κ × β)} (h : q.length < n) :
    qinsert leB (some n) k v q = qinsertRaw leB k v q := by
  rw [qinsert_some_eq_take, List.take_of_length_le (by rw [qinsertRaw_length]; omega)]

def qinsertAll (m : Option Nat) (es : List (κ × β)) (q : List (κ × β)) : List (κ × β) :=
  es.foldl (fun acc e => qinsert leB m e.1 e.2 acc) q

/-- the unbounded queue built from `es` = the stable descending sort of `es` -/
def qsortAll (es : List (κ × β)) : List (κ × β) := qinsertAll none es []

theorem qinsertAll_nil (m : Option Nat) (q : List (κ × β)) : qinsertAll m [] q = q := rfl

theorem qinsertAll_cons (m : Option Nat) (e : κ × β) (es q : List (κ × β)) :
    qinsertAll m (e :: es) q = qinsertAll m es (qinsert leB m e.1 e.2 q) := rfl

theorem qinsertAll_append (m : Option Nat) (es es' q : List (κ × β)) :
    qinsertAll m (es ++ es') q = qinsertAll m es' (qinsertAll m es q) := by
  simp [qinsertAll, List.foldl_append]

theorem qinsertAll_snoc (m : Option Nat) (e : κ × β) (es q : List (κ × β)) :
    qinsertAll m (es ++ [e]) q = qinsert leB m e.1 e.2 (qinsertAll m es q) := by
  rw [qinsertAll_append]; rfl

theorem qinsertAll_sorted (m : Option Nat) (es : List (κ × β)) {q : List (κ × β)} (h : QSorted q) :
    QSorted (qinsertAll m es q) := by
  induction es generalizing q with
  | nil => exact h
  | cons e es ih => exact ih (qinsert_sorted m e.1 e.2 h)

theorem qinsertAll_none_perm (es q : List (κ × β)) :
    (qinsertAll none es q).Perm (es ++ q) := by
  induction es generalizing q with
  | nil => exact List.Perm.refl _
  | cons e es ih =>
    rw [qinsertAll_cons]
    refine (ih _).trans ?_
    rw [qinsert_none]
    refine (List.Perm.append_left es (qinsertRaw_perm e.1 e.2 q)).trans ?_
    exact List.perm_middle

theorem qsortAll_perm (es : List (κ × β)) : (qsortAll es).Perm es := by
  have := qinsertAll_none_perm es ([] : List (κ × β))
  simpa [qsortAll] using this

theorem qsortAll_sorted (es : List (κ × β)) : QSorted (qsortAll es) :=
  qinsertAll_sorted none es QSorted.nil

theorem qsortAll_length (es : List (κ × β)) : (qsortAll es).length = es.length :=
  (qsortAll_perm es).length_eq

theorem qinsertAll_some_take (n : Nat) (es L : List (κ × β)) :
    qinsertAll (some n) es (L.take n) = (qinsertAll none es L).take n := by
  induction es generalizing L with
  | nil => rfl
  | cons e es ih =>
    rw [qinsertAll_cons, qinsertAll_cons, qinsert_take, qinsert_none, ih]

theorem qinsertAll_some_eq_take (n : Nat) (es : List (κ × β)) :
    qinsertAll (some n) es [] = (qsortAll es).take n := by
  have := qinsertAll_some_take n es ([] : List (κ × β))
  simpa [qsortAll] using this

theorem qinsertAll_nil_eq (m : Option Nat) (es : List (κ × β)) :
    qinsertAll m es [] = match m with
      | none => qsortAll es
      | some n => (qsortAll es).take n := by
  cases m with
  | none => rfl
  | some n => exact qinsertAll_some_eq_take n es

theorem qinsertAll_nil_sublist (m : Option Nat) (es : List (κ × β)) :
    (qinsertAll m es []).Sublist (qsortAll es) := by
  rw [qinsertAll_nil_eq]
  cases m with
  | none => exact List.Sublist.refl _
  | some n => exact List.take_sublist _ _

theorem mem_of_mem_qinsertAll_nil {m : Option Nat} {es : List (κ × β)} {e : κ × β}
    (h : e ∈ qinsertAll m es []) : e ∈ es :=
  (qsortAll_perm es).mem_iff.1 ((qinsertAll_nil_sublist m es).subset h)

theorem qinsertAll_nil_length (m : Option Nat) (es : List (κ × β)) :
    (qinsertAll m es []).length = match m with
      | none => es.length
      | some n => min n es.length := by
  rw [qinsertAll_nil_eq]
  cases m with
  | none => exact qsortAll_length es
  | some n => simp [qsortAll_length]

theorem qinsertAll_nil_head {m : Option Nat} {es : List (κ × β)} (hes : es ≠ []) (hm : m ≠ some 0) :
    ∃ e rest, qinsertAll m es [] = e :: rest ∧ e ∈ es ∧ ∀ e' ∈ es, e'.1 ≤ e.1 := by
  have hlen := qsortAll_length es
  have hsorted := qsortAll_sorted es
  have hperm := qsortAll_perm es
  cases hS : qsortAll es with
  | nil =>
    rw [hS] at hlen
    exact absurd (List.length_eq_zero_iff.1 hlen.symm) hes
  | cons e S' =>
    rw [hS] at hsorted hperm
    have hmax : ∀ e' ∈ es, e'.1 ≤ e.1 := by
      intro e' he'
      rcases List.mem_cons.1 (hperm.mem_iff.2 he') with rfl | h'
      · exact le_refl _
      · exact hsorted.head_ge e' h'
    have hmem : e ∈ es := hperm.mem_iff.1 List.mem_cons_self
    rw [qinsertAll_nil_eq, hS]
    cases m with
    | none => exact ⟨e, S', rfl, hmem, hmax⟩
    | some n =>
      cases n with
      | zero => exact absurd rfl hm
      | succ n => exact ⟨e, S'.take n, rfl, hmem, hmax⟩

/-- stability of the insertion sort: entries with equal keys stay in insertion order -/
theorem qinsertRaw_filter_key (k : κ) (v : β) {q : List (κ × β)} (h : QSorted q) (k0 : κ) :
    (qinsertRaw leB k v q).filter (fun e => decide (e.1 = k0)) =
      q.filter (fun e => decide (e.1 = k0)) ++ (if k = k0 then [(k, v)] else []) := by
  obtain ⟨a, b, hq, hr, ha, hb⟩ := qinsertRaw_split k v h
  rw [hr, hq]
  by_cases hk : k = k0
  · subst hk
    have hbf : b.filter (fun e => decide (e.1 = k)) = [] := by
      rw [List.filter_eq_nil_iff]
      intro e he
      have := hb e he
      simp [ne_of_lt this]
    simp [List.filter_append, hbf]
  · simp [List.filter_append, hk]

theorem qinsertAll_none_filter_key (es : List (κ × β)) {q : List (κ × β)} (h : QSorted q) (k0 : κ) :
    (qinsertAll none es q).filter (fun e => decide (e.1 = k0)) =
      q.filter (fun e => decide (e.1 = k0)) ++ es.filter (fun e => decide (e.1 = k0)) := by
  induction es generalizing q with
  | nil => simp [qinsertAll]
  | cons e es ih =>
    rw [qinsertAll_cons, ih (qinsert_sorted none e.1 e.2 h), qinsert_none,
      qinsertRaw_filter_key _ _ h, List.append_assoc]
    congr 1
    obtain ⟨ek, ev⟩ := e
    by_cases hk : ek = k0 <;> simp [hk]

theorem qsortAll_stable (es : List (κ × β)) (k0 : κ) :
    (qsortAll es).filter (fun e => decide (e.1 = k0)) = es.filter (fun e => decide (e.1 = k0)) := by
  have := qinsertAll_none_filter_key es (QSorted.nil (κ := κ) (β := β)) k0
  simpa [qsortAll] using this

end
end SD

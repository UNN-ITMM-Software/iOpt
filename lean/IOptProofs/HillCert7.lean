import IOptProofs.HillRows
/-! Kernel-evaluated certificates (V), (G), (P), (L) of the Hill functions 700..799, twenty rows per evaluation. -/
namespace Hill
theorem hill_block_35 : ∀ i ∈ List.range' 700 20, hillOK i = true := hill_block _ _ (by decide +kernel)
theorem hill_block_36 : ∀ i ∈ List.range' 720 20, hillOK i = true := hill_block _ _ (by decide +kernel)
theorem hill_block_37 : ∀ i ∈ List.range' 740 20, hillOK i = true := hill_block _ _ (by decide +kernel)
theorem hill_block_38 : ∀ i ∈ List.range' 760 20, hillOK i = true := hill_block _ _ (by decide +kernel)
theorem hill_block_39 : ∀ i ∈ List.range' 780 20, hillOK i = true := hill_block _ _ (by decide +kernel)
end Hill

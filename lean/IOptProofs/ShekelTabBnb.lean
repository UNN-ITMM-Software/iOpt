import IOptProofs.ShekelTabDeriv
/-!
# Shekel: soundness of the leaf tests on `f'` and of the bisections `lipT`, `wit`

(`gbnb` and the leaf tests on `f` are in `BenchShekel`, which the C10 checker needs them for.)
-/

namespace Shk

@[simp] theorem forceDTs_eq : ∀ (ds : List DT) (k : List DT → Bool), forceDTs ds k = k ds
  | [], k => rfl
  | ⟨a, b, c, d, e⟩ :: ds, k => by simp [forceDTs, forceDTs_eq ds]

theorem sumL_cons (h : NTerm → Nat) (t : NTerm) (ts : List NTerm) : sumL h (t :: ts) = h t + sumL h ts := rfl

section leaves
variable (E : Nat) (ts : List NTerm) (hts : ∀ t ∈ ts, 0 < t.2.2)
include hts

theorem ds_ok : ∀ d ∈ ts.map (mkDT (2 ^ (4 * E + P))), DTok d := by
  intro d hd
  obtain ⟨t, ht, rfl⟩ := List.mem_map.1 hd
  exact mkDT_ok _ t (hts t ht)

theorem dfR_box (lo hi : Nat) (x : ℝ) (h1 : (lo : ℝ) ≤ x * 2 ^ E) (h2 : x * 2 ^ E ≤ (hi : ℝ)) :
    dfR E ts x * 2 ^ P ≤ (sPU (ts.map (mkDT (2 ^ (4 * E + P)))) lo hi : ℝ)
        - (sNL (ts.map (mkDT (2 ^ (4 * E + P)))) lo hi : ℝ) ∧
    (sPL (ts.map (mkDT (2 ^ (4 * E + P)))) lo hi : ℝ)
        - (sNU (ts.map (mkDT (2 ^ (4 * E + P)))) lo hi : ℝ) ≤ dfR E ts x * 2 ^ P := by
  have hok := ds_ok E ts hts
  rw [dfR_scaled E ts hts x]
  exact ⟨sub_le_sub (sPU_sound _ hok lo hi _ h1 h2) (sNL_sound _ hok lo hi _ h1 h2),
    sub_le_sub (sPL_sound _ hok lo hi _ h1 h2) (sNU_sound _ hok lo hi _ h1 h2)⟩

theorem dNeg_sound : Sound1 E (dNeg (ts.map (mkDT (2 ^ (4 * E + P))))) fun x => dfR E ts x < 0 := by
  intro lo hi h x h1 h2
  have hb := (dfR_box E ts hts lo hi x h1 h2).1
  have hlt : (sPU (ts.map (mkDT (2 ^ (4 * E + P)))) lo hi : ℝ) < sNL (ts.map (mkDT (2 ^ (4 * E + P)))) lo hi :=
    Nat.cast_lt.2 (lt_of_blt h)
  exact neg_of_mul_neg_right (by linarith) (two_pow_pos' P).le

theorem dPos_sound : Sound1 E (dPos (ts.map (mkDT (2 ^ (4 * E + P))))) fun x => 0 < dfR E ts x := by
  intro lo hi h x h1 h2
  have hb := (dfR_box E ts hts lo hi x h1 h2).2
  have hlt : (sNU (ts.map (mkDT (2 ^ (4 * E + P)))) lo hi : ℝ) < sPL (ts.map (mkDT (2 ^ (4 * E + P)))) lo hi :=
    Nat.cast_lt.2 (lt_of_blt h)
  exact pos_of_mul_pos_left (by linarith) (two_pow_pos' P).le

omit hts in
/-- the two-stage comparison of `lipUp`: `a ≤ T`, or else `a ≤ b + T` -/
theorem le_add_of_bles {a b T : Nat} (h : Nat.ble a T = true ∨ Nat.ble a (Nat.add b T) = true) : a ≤ b + T :=
  h.elim (fun h => (Nat.le_of_ble_eq_true h).trans (Nat.le_add_left T b)) Nat.le_of_ble_eq_true

theorem lipUp_sound (Tu : Nat) :
    Sound1 E (lipUp (ts.map (mkDT (2 ^ (4 * E + P)))) Tu) fun x => |dfR E ts x| ≤ (Tu : ℝ) / 2 ^ P := by
  intro lo hi h x h1 h2
  obtain ⟨hb1, hb2⟩ := dfR_box E ts hts lo hi x h1 h2
  set ds := ts.map (mkDT (2 ^ (4 * E + P)))
  unfold lipUp at h
  simp only [Bool.and_eq_true, Bool.or_eq_true] at h
  have hu : (sPU ds lo hi : ℝ) ≤ (sNL ds lo hi : ℝ) + Tu := by exact_mod_cast le_add_of_bles h.1
  have hl : (sNU ds lo hi : ℝ) ≤ (sPL ds lo hi : ℝ) + Tu := by exact_mod_cast le_add_of_bles h.2
  have hP := two_pow_pos' P
  have key : |dfR E ts x * 2 ^ P| ≤ (Tu : ℝ) := abs_le.2 ⟨by linarith only [hb2, hl], by linarith only [hb1, hu]⟩
  rw [abs_mul, abs_of_pos hP] at key
  exact (le_div_iff₀ hP).2 key

theorem ptOK_sound (Tl m : Nat) (h : ptOK (ts.map (mkDT (2 ^ (4 * E + P)))) Tl m = true) :
    (Tl : ℝ) / 2 ^ P ≤ |dfR E ts ((m : ℝ) / 2 ^ E)| := by
  have hm : (m : ℝ) / 2 ^ E * 2 ^ E = m := div_mul_cancel₀ _ (two_pow_pos' E).ne'
  obtain ⟨hb1, hb2⟩ := dfR_box E ts hts m m ((m : ℝ) / 2 ^ E) hm.ge hm.le
  set ds := ts.map (mkDT (2 ^ (4 * E + P)))
  unfold ptOK at h
  simp only [Bool.and_eq_true, Bool.or_eq_true] at h
  have hP := two_pow_pos' P
  rcases h with ⟨_, h⟩ | ⟨_, h⟩
  · have : ((sNU ds m m : ℝ)) + Tl ≤ sPL ds m m := by exact_mod_cast Nat.le_of_ble_eq_true h
    exact ((div_le_iff₀ hP).2 (by linarith only [hb2, this])).trans (le_abs_self _)
  · have : ((sPU ds m m : ℝ)) + Tl ≤ sNL ds m m := by exact_mod_cast Nat.le_of_ble_eq_true h
    exact ((div_le_iff₀ hP).2 (by linarith only [hb1, this])).trans (neg_le_abs _)

end leaves

theorem mid_mem {lo hi : Nat} (h : lo ≤ hi) : lo ≤ Nat.div (Nat.add lo hi) 2 ∧ Nat.div (Nat.add lo hi) 2 ≤ hi := by
  show lo ≤ (lo + hi) / 2 ∧ (lo + hi) / 2 ≤ hi
  omega

theorem wit_mono {Q : Nat → Prop} {lo lo' hi' hi : Nat} (h1 : lo ≤ lo') (h2 : hi' ≤ hi) :
    (∃ m, lo' ≤ m ∧ m ≤ hi' ∧ Q m) → ∃ m, lo ≤ m ∧ m ≤ hi ∧ Q m
  | ⟨m, m1, m2, m3⟩ => ⟨m, h1.trans m1, m2.trans h2, m3⟩

theorem lipEval_ne_zero {ds : List DT} {Tu Tl : Nat} {need : Bool} {lo hi : Nat}
    (h : lipEval ds Tu Tl need lo hi ≠ 0) : lipUp ds Tu lo hi = true := by
  unfold lipEval at h
  cases hu : lipUp ds Tu lo hi with
  | true => rfl
  | false => rw [hu] at h; exact absurd rfl h

theorem lipEval_two {ds : List DT} {Tu Tl : Nat} {need : Bool} {lo hi : Nat}
    (h : 2 ≤ lipEval ds Tu Tl need lo hi) : ptOK ds Tl (Nat.div (Nat.add lo hi) 2) = true := by
  unfold lipEval at h
  cases hu : lipUp ds Tu lo hi with
  | false => rw [hu] at h; simp at h
  | true =>
    rw [hu] at h
    simp only [cond_true] at h
    cases hc : (need && lipCand ds Tl lo hi && ptOK ds Tl (Nat.div (Nat.add lo hi) 2)) with
    | false => rw [hc] at h; simp at h
    | true =>
      simp only [Bool.and_eq_true] at hc
      exact hc.2

theorem lipT_zero (ds : List DT) (Tu Tl : Nat) (need : Bool) (lo hi : Nat) :
    lipT ds Tu Tl 0 need lo hi = lipEval ds Tu Tl need lo hi := rfl
theorem lipT_succ (ds : List DT) (Tu Tl fuel : Nat) (need : Bool) (lo hi : Nat) :
    lipT ds Tu Tl (fuel + 1) need lo hi = lipStep ds Tu Tl (lipT ds Tu Tl fuel) need lo hi := rfl

/-- the `cond`s, `force`s and Boolean comparisons of `lipStep` read as `if` over propositions and `max`; the soundness proofs
split on the two conditions instead of on the five Booleans of the definition -/
theorem lipStep_eq (ds : List DT) (Tu Tl : Nat) (ih : Bool → Nat → Nat → Nat) (need : Bool) (lo hi : Nat) :
    lipStep ds Tu Tl ih need lo hi =
      if 0 < lipEval ds Tu Tl need lo hi then lipEval ds Tu Tl need lo hi
      else if lo + 1 < hi ∧ ih need lo (Nat.div (Nat.add lo hi) 2) ≠ 0 ∧
          ih (need && Nat.blt (ih need lo (Nat.div (Nat.add lo hi) 2)) 2) (Nat.div (Nat.add lo hi) 2) hi ≠ 0 then
        max (ih need lo (Nat.div (Nat.add lo hi) 2))
          (ih (need && Nat.blt (ih need lo (Nat.div (Nat.add lo hi) 2)) 2) (Nat.div (Nat.add lo hi) 2) hi)
      else 0 := by
  simp only [lipStep, force_eq, Bool.cond_eq_ite, Nat.blt_eq, Nat.beq_eq, Nat.ble_eq, Nat.max_def, ite_and,
    ne_eq, ite_not]

section lip
variable (E : Nat) (ts : List NTerm) (hts : ∀ t ∈ ts, 0 < t.2.2) (Tu Tl : Nat)
include hts

/-- a non-zero result of `lipT` bounds `|f'|` on the whole box: the bisection principle for the boxes
`(need, lo, hi)`, accepted when the result is not `0` -/
theorem lipT_bound (fuel : Nat) (need : Bool) (lo hi : Nat)
    (h : lipT (ts.map (mkDT (2 ^ (4 * E + P)))) Tu Tl fuel need lo hi ≠ 0) (x : ℝ)
    (h1 : (lo : ℝ) ≤ x * 2 ^ E) (h2 : x * 2 ^ E ≤ (hi : ℝ)) : |dfR E ts x| ≤ (Tu : ℝ) / 2 ^ P :=
  Bench.bisect_sound (fun (B : Bool × Nat × Nat) (x : ℝ) => (B.2.1 : ℝ) ≤ x * 2 ^ E ∧ x * 2 ^ E ≤ (B.2.2 : ℝ)) _
    (fun fuel B => lipT (ts.map (mkDT (2 ^ (4 * E + P)))) Tu Tl fuel B.1 B.2.1 B.2.2 ≠ 0)
    (fun _ h x hx => lipUp_sound E ts hts Tu _ _ (lipEval_ne_zero h) x hx.1 hx.2)
    (fun fuel (need, lo, hi) h x hx => by
      dsimp only at h
      rw [lipT_succ, lipStep_eq] at h
      split_ifs at h with hc hch
      · exact Or.inl (lipUp_sound E ts hts Tu _ _ (lipEval_ne_zero (Nat.pos_iff_ne_zero.1 hc)) x hx.1 hx.2)
      · exact Or.inr ((Bench.cut_cover hx.1 hx.2 _).elim (fun c => ⟨(need, lo, _), hch.2.1, c⟩)
          fun c => ⟨(_, _, hi), hch.2.2, c⟩)
      · exact absurd rfl h)
    fuel (need, lo, hi) h x ⟨h1, h2⟩

omit hts in
/-- a result `≥ 2` of `lipT` comes with a witness point in the box -/
theorem lipT_witness (ds : List DT) : ∀ (fuel : Nat) (need : Bool) (lo hi : Nat), lo ≤ hi →
    2 ≤ lipT ds Tu Tl fuel need lo hi → ∃ m : Nat, lo ≤ m ∧ m ≤ hi ∧ ptOK ds Tl m = true := by
  intro fuel
  induction fuel with
  | zero => exact fun need lo hi hle h => ⟨_, (mid_mem hle).1, (mid_mem hle).2, lipEval_two h⟩
  | succ fuel ih =>
    intro need lo hi hle h
    rw [lipT_succ, lipStep_eq] at h
    split_ifs at h with hc hch
    · exact ⟨_, (mid_mem hle).1, (mid_mem hle).2, lipEval_two h⟩
    · rcases le_max_iff.1 h with h | h
      · exact wit_mono le_rfl (mid_mem hle).2 (ih need lo _ (mid_mem hle).1 h)
      · exact wit_mono (mid_mem hle).1 le_rfl (ih _ _ hi (mid_mem hle).2 h)
    · exact absurd h (by decide)

end lip

theorem wit_zero (ds : List DT) (Tl lo hi : Nat) :
    wit ds Tl 0 lo hi = ptOK ds Tl (Nat.div (Nat.add lo hi) 2) := rfl
theorem wit_succ (ds : List DT) (Tl fuel lo hi : Nat) :
    wit ds Tl (fuel + 1) lo hi = witStep ds Tl (wit ds Tl fuel) lo hi := rfl

theorem wit_sound (ds : List DT) (Tl : Nat) : ∀ (fuel lo hi : Nat), lo ≤ hi → wit ds Tl fuel lo hi = true →
    ∃ m : Nat, lo ≤ m ∧ m ≤ hi ∧ ptOK ds Tl m = true := by
  intro fuel
  induction fuel with
  | zero =>
    intro lo hi hle h
    rw [wit_zero] at h
    exact ⟨_, (mid_mem hle).1, (mid_mem hle).2, h⟩
  | succ fuel ih =>
    intro lo hi hle h
    rw [wit_succ] at h
    simp only [witStep, force_eq, Bool.and_eq_true, Bool.or_eq_true] at h
    rcases h.2 with hp | ⟨_, hl | hr⟩
    · exact ⟨_, (mid_mem hle).1, (mid_mem hle).2, hp⟩
    · exact wit_mono le_rfl (mid_mem hle).2 (ih lo _ (mid_mem hle).1 hl)
    · exact wit_mono (mid_mem hle).1 le_rfl (ih _ hi (mid_mem hle).2 hr)

/-- **the Lipschitz clause over ℝ**: `|f'| ≤ Tu/2^P` on `[0, X10/2^E]`, attained up to `Tl/2^P` -/
theorem lipOK_sound (E : Nat) (ts : List NTerm) (hts : ∀ t ∈ ts, 0 < t.2.2) (Tu Tl X10 : Nat)
    (h : lipOK (ts.map (mkDT (2 ^ (4 * E + P)))) Tu Tl X10 = true) :
    (∀ x : ℝ, 0 ≤ x * 2 ^ E → x * 2 ^ E ≤ (X10 : ℝ) → |dfR E ts x| ≤ (Tu : ℝ) / 2 ^ P) ∧
    (∃ m : Nat, m ≤ X10 ∧ (Tl : ℝ) / 2 ^ P ≤ |dfR E ts ((m : ℝ) / 2 ^ E)|) := by
  unfold lipOK at h
  simp only [force_eq, Bool.or_eq_true, Bool.and_eq_true] at h
  set c := lipT (ts.map (mkDT (2 ^ (4 * E + P)))) Tu Tl 64 true 0 X10 with hc
  have hne : c ≠ 0 := by
    rcases h with h | ⟨h, _⟩
    · have := Nat.le_of_ble_eq_true h; omega
    · have := Nat.eq_of_beq_eq_true h; omega
  constructor
  · intro x h1 h2
    exact lipT_bound E ts hts Tu Tl 64 true 0 X10 hne x (by simpa using h1) h2
  · have hw : ∃ m : Nat, 0 ≤ m ∧ m ≤ X10 ∧ ptOK (ts.map (mkDT (2 ^ (4 * E + P)))) Tl m = true := by
      rcases h with h | ⟨_, h⟩
      · exact lipT_witness Tu Tl _ 64 true 0 X10 (Nat.zero_le _) (Nat.le_of_ble_eq_true h)
      · exact wit_sound _ Tl 64 0 X10 (Nat.zero_le _) h
    obtain ⟨m, _, m2, m3⟩ := hw
    exact ⟨m, m2, ptOK_sound E ts hts Tl m m3⟩

end Shk

import IOptProofs.MethodProc
import IOptProofs.ProcessField
import IOptProofs.ProcessRefine
import IOptProps.C03
/-!
# The last iteration of a `Solve` that stopped by accuracy

For a pure total objective `g`, if `Solve` on a fresh solver ends with `min_delta < eps`, then its last
iteration selected an interval of Hölder length `< eps` in a reachable state `s` (so the certificate
theorems `C01_cert_step*` apply to that step), and the final method state is the result of committing
that trial (up to the local refinement, which changes neither `Z` nor `M`).
-/
set_option linter.unusedSectionVars false

namespace Proc
open AGP AGP.Ctl
variable {α : Type} [Field α] [LinearOrder α] [IsStrictOrderedRing α] [Fns α]
variable {p : Params α}

def pureObj (g : List α → α) : Nat → List α → Option α := fun _ pt => some (g pt)

theorem pureObj_ne_none (g : List α → α) : ∀ i pt, pureObj g i pt ≠ none := by
  intro i pt h; cases h

/-- The estimate `M` in force when the LAST interval was selected by `Solve` on a fresh solver: the `M`
of the method state after `numberOfGlobalTrials - 1` passes of the canonical sequence. -/
def mBeforeLast (p : Params α) (f : Nat → List α → Option α) (refine : PState α → Option (LocalResult α)) :
    Option α :=
  (stateAt p f {} ((solve p f refine {}).nTrials - 1)).bind fun ps => ps.m.map (·.M)

theorem iterN_pureObj_evals {g : List α → α} {k : Nat} {ps' : PState α} {ids : List Nat}
    (h : iterN p (pureObj g) k {} = .ok (ps', ids)) : ∀ e ∈ ps'.evals, e.2 = g e.1 := by
  obtain ⟨new, hnew, -, hgen⟩ := (iterN_eff h).evals
  intro e he
  rw [hnew] at he
  simp only [List.nil_append] at he
  obtain ⟨i, hi, rfl⟩ := List.mem_iff_getElem.1 he
  have := hgen i new[i].1 new[i].2 (by rw [List.getElem?_eq_getElem hi])
  simp only [pureObj, Option.some.injEq] at this
  exact this.symm

theorem deltaAt_fresh_range {f : Nat → List α → Option α} (hL : FnsLaws α) (hr : 1 < p.r) (hn : 0 < p.n) {j : Nat} {d : α}
    (h : deltaAt p f {} j = some d) : 0 < d ∧ d ≤ 1 := by
  obtain ⟨psj, ids, s, pr, hi, hm, hp, rfl⟩ := deltaAt_eq_some h
  have hre : Reach p s psj.evals := (iterN_procOK (procOK_fresh p) hi).reach hm
  have hs := prepare_spec' hL hr hn (hre.inv hL hr hn) hp
  exact ⟨hs.inv.nb_delta_pos hL hn hs.neighbours, hs.inv.nb_delta_le_one hL hn hs.neighbours⟩

theorem solve_last_step (hL : FnsLaws α) (hr : 1 < p.r) (hn : 0 < p.n) (g : List α → α)
    (refine : PState α → Option (LocalResult α))
    (hacc : ∃ d, (solve p (pureObj g) refine {}).minDelta = some d ∧ d < p.eps) :
    ∃ log s pr sf, Reach p s log ∧ (∀ e ∈ log, e.2 = g e.1) ∧
      prepare p s = .ok pr ∧ pr.old.delta < p.eps ∧ 0 < p.eps ∧
      Reach p (commit p pr (g pr.point)) (solve p (pureObj g) refine {}).evals ∧
      (∀ e ∈ (solve p (pureObj g) refine {}).evals, e.2 = g e.1) ∧
      (solve p (pureObj g) refine {}).m = some sf ∧
      sf.Z = (commit p pr (g pr.point)).Z ∧ sf.M = (commit p pr (g pr.point)).M ∧
      ((∀ ps, refine ps = none) → sf = commit p pr (g pr.point)) ∧
      mBeforeLast p (pureObj g) refine = some s.M := by
  obtain ⟨d, hd, hdlt⟩ := hacc
  obtain ⟨K', psK, ids, S⟩ :=
    solve_fresh_stop p (pureObj g) refine (solve_fresh_no_raise hL hr hn (pureObj_ne_none g))
  -- `min_delta` is the least selected length: one of them is below `eps`, and it is the last one, or the loop had stopped earlier
  rw [S.minDelta] at hd
  rcases (foldMin_lt_iff none _ p.eps).1 ⟨d, hd, hdlt⟩ with ⟨a, ha, -⟩ | ⟨d', hmem, hlt⟩
  · cases ha
  obtain ⟨K, hK, hdK⟩ := mem_deltas.1 hmem
  obtain rfl : K + 1 = K' := Nat.le_antisymm hK (Nat.le_of_not_lt fun h' => S.first _ h'
    (.inl ((foldMin_lt_iff none _ p.eps).2 (.inr ⟨d', mem_deltas.2 ⟨K, K.lt_succ_self, hdK⟩, hlt⟩))))
  obtain ⟨psk, idsk, s, pr, hk, hm, hpr, rfl⟩ := deltaAt_eq_some hdK
  -- the last pass committed that selection
  obtain ⟨psk', idsk', id, hk', h1, -⟩ := iterN_succ_ok S.run
  cases hk.symm.trans hk'
  obtain ⟨pt, z, P⟩ := oneIteration_ok h1
  rcases P.step with F | ⟨s', pr', N⟩
  · rw [F.m] at hm; cases hm
  cases hm.symm.trans N.m
  cases hpr.symm.trans N.prep
  cases N.pt
  cases (Option.some.inj P.value : g pr.point = z)
  have hre : Reach p s psk.evals := (iterN_procOK (procOK_fresh p) hk).reach hm
  have hreK : Reach p (commit p pr (g pr.point)) psK.evals := (iterN_procOK (procOK_fresh p) S.run).reach N.m'
  -- the refinement rewrites the best item only
  have hsf : ∃ sf, (refineStep refine (psK.appendLog (endEach ids))).m = some sf ∧
      sf.Z = (commit p pr (g pr.point)).Z ∧ sf.M = (commit p pr (g pr.point)).M ∧
      ((∀ ps, refine ps = none) → sf = commit p pr (g pr.point)) := by
    unfold refineStep
    split
    · next lr hlr =>
      rw [doLocalRefinement_some (ps := psK.appendLog (endEach ids)) lr N.m']
      exact ⟨_, rfl, rfl, rfl, fun hno => by rw [hno] at hlr; cases hlr⟩
    · exact ⟨_, N.m', rfl, rfl, fun _ => rfl⟩
  obtain ⟨sf, hsfm, hZ, hM, hno⟩ := hsf
  exact ⟨psk.evals, s, pr, sf, hre, iterN_pureObj_evals hk, hpr, hlt,
    lt_trans (deltaAt_fresh_range hL hr hn hdK).1 hlt, by rw [S.evals]; exact hreK, by rw [S.evals]; exact iterN_pureObj_evals S.run,
    by rw [solve_eq, S.loop]; exact hsfm, hZ, hM, hno, by simp [mBeforeLast, S.nTrials, stateAt, hk, hm]⟩

end Proc

namespace Proc
open AGP AGP.Ctl
variable {α : Type} [Field α] [LinearOrder α] [IsStrictOrderedRing α] [Fns α]
variable {p : Params α} {f : Nat → List α → Option α}

/-- Used for non-vacuity examples over ℝ, where nothing can be computed. -/
theorem solve_accuracy_of_big_eps (hL : FnsLaws α) (hr : 1 < p.r) (hn : 0 < p.n)
    (htot : ∀ i pt, f i pt ≠ none) (heps : 1 < p.eps) (hlim : 2 ≤ p.itersLimit)
    (refine : PState α → Option (LocalResult α)) :
    ∃ d, (solve p f refine {}).minDelta = some d ∧ d < p.eps := by
  obtain ⟨K, psK, ids, S⟩ := solve_fresh_stop p f refine (solve_fresh_no_raise hL hr hn htot)
  rw [S.minDelta]
  -- the loop stopped by accuracy, or by the budget after at least two passes, the second of which selected a length `≤ 1 < eps`
  rcases S.crit with h | h
  · exact h
  · have hK : 2 ≤ K := Nat.le_trans hlim (by simpa [PState.iters] using h)
    obtain ⟨d, hd⟩ := delta_defined_of_run S.run 2 (Nat.le_refl _) hK
    exact (foldMin_lt_iff none _ p.eps).2
      (.inr ⟨d, mem_deltas.2 ⟨1, hK, hd⟩, lt_of_le_of_lt (deltaAt_fresh_range hL hr hn hd).2 heps⟩)

end Proc

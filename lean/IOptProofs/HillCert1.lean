import IOptProofs.HillRows
/-! Kernel-evaluated certificates (V), (G), (P), (L) of the Hill functions 100..199, twenty rows per evaluation. -/
namespace Hill
theorem hill_block_5 : ∀ i ∈ List.range' 100 20, hillOK i = true := hill_block _ _ (by decide +kernel)
theorem hill_block_6 : ∀ i ∈ List.range' 120 20, hillOK i = true := hill_block _ _ (by decide +kernel)
theorem hill_block_7 : ∀ i ∈ List.range' 140 20, hillOK i = true := hill_block _ _ (by decide +kernel)
theorem hill_block_8 : ∀ i ∈ List.range' 160 20, hillOK i = true := hill_block _ _ (by decide +kernel)
theorem hill_block_9 : ∀ i ∈ List.range' 180 20, hillOK i = true := hill_block _ _ (by decide +kernel)
end Hill

import IOptProofs.S3SoundMain
import Mathlib.Topology.Algebra.Order.Field
import Mathlib.Topology.Order.Compact
import Mathlib.Analysis.SpecialFunctions.Trigonometric.Basic
import Mathlib.Analysis.SpecialFunctions.Exp
import Mathlib.Analysis.Real.Pi.Bounds
import Mathlib.Tactic.FunProp
/-!
# StronginC3: the feasible set (all three constraints) is compact and non-empty, the objective is continuous
-/

namespace S3

/-- the feasible set of StronginC3: the box `[0,4] × [-1,3]` and the three constraints -/
def Feasible (x1 x2 : ℝ) : Prop :=
  0 ≤ x1 ∧ x1 ≤ 4 ∧ -1 ≤ x2 ∧ x2 ≤ 3 ∧ g0 x1 x2 ≤ 0 ∧ g1 x1 x2 ≤ 0 ∧ g2 x1 x2 ≤ 0

/-- `g2 ≤ 0` as soon as `x2 ≤ 1.5` and the angle `6.283·(x1 - 1.75)` lies in `[-5.2, -4] ⊂ [-2π, -π]`
(there the sine is non-negative) -/
theorem g2_nonpos (x1 x2 : ℝ) (hx2 : x2 ≤ 3 / 2) (h1 : -(52 / 10) ≤ c6283 * (x1 - 7 / 4))
    (h2 : c6283 * (x1 - 7 / 4) ≤ -4) : g2 x1 x2 ≤ 0 := by
  rw [g2_eq]
  have hpi3 := Real.pi_gt_three
  have hpi4 := Real.pi_le_four
  have hs : 0 ≤ Real.sin (c6283 * (x1 - 7 / 4)) := by
    rw [← Real.sin_add_two_pi]
    exact Real.sin_nonneg_of_nonneg_of_le_pi (by linarith) (by linarith)
  linarith

theorem w_feasible : Feasible w1 w2 := by
  refine ⟨?_, ?_, ?_, ?_, ?_, ?_, ?_⟩
  · unfold w1; norm_num
  · unfold w1; norm_num
  · unfold w2; norm_num
  · unfold w2; norm_num
  · rw [g0_eq]; unfold w1 w2 c001 c22 c12; norm_num
  · rw [g1_eq]; unfold w1 w2 c12; norm_num
  · apply g2_nonpos
    · unfold w2; norm_num
    · unfold w1 c6283; norm_num
    · unfold w1 c6283; norm_num

theorem p_feasible : Feasible pR pR := by
  refine ⟨?_, ?_, ?_, ?_, ?_, ?_, ?_⟩
  · rw [pR_eq]; norm_num
  · rw [pR_eq]; norm_num
  · rw [pR_eq]; norm_num
  · rw [pR_eq]; norm_num
  · rw [g0_eq, pR_eq]; unfold c001 c22 c12; norm_num
  · rw [g1_eq, pR_eq]; unfold c12; norm_num
  · apply g2_nonpos
    · rw [pR_eq]; norm_num
    · rw [pR_eq]; unfold c6283; norm_num
    · rw [pR_eq]; unfold c6283; norm_num

theorem f_continuous : Continuous fun q : ℝ × ℝ => f q.1 q.2 := by
  simp only [f_eq]
  unfold A B t1 t2
  fun_prop

theorem g0_continuous : Continuous fun q : ℝ × ℝ => g0 q.1 q.2 := by
  simp only [g0_eq]; fun_prop

theorem g1_continuous : Continuous fun q : ℝ × ℝ => g1 q.1 q.2 := by
  simp only [g1_eq]; fun_prop

theorem g2_continuous : Continuous fun q : ℝ × ℝ => g2 q.1 q.2 := by
  simp only [g2_eq]; fun_prop

def feasSet : Set (ℝ × ℝ) := {q | Feasible q.1 q.2}

theorem feasSet_compact : IsCompact feasSet := by
  have hbox : IsCompact ((Set.Icc (0 : ℝ) 4) ×ˢ (Set.Icc (-1 : ℝ) 3)) := isCompact_Icc.prod isCompact_Icc
  have h0 : IsClosed {q : ℝ × ℝ | g0 q.1 q.2 ≤ 0} := isClosed_le g0_continuous continuous_const
  have h1 : IsClosed {q : ℝ × ℝ | g1 q.1 q.2 ≤ 0} := isClosed_le g1_continuous continuous_const
  have h2 : IsClosed {q : ℝ × ℝ | g2 q.1 q.2 ≤ 0} := isClosed_le g2_continuous continuous_const
  have := ((hbox.inter_right h0).inter_right h1).inter_right h2
  convert this using 1
  ext q
  simp only [feasSet, Feasible, Set.mem_ofPred_eq, Set.mem_inter_iff, Set.mem_prod, Set.mem_Icc]
  tauto

theorem exists_minimiser : ∃ y1 y2 : ℝ, Feasible y1 y2 ∧ ∀ x1 x2 : ℝ, Feasible x1 x2 → f y1 y2 ≤ f x1 x2 := by
  obtain ⟨q, hq, hmin⟩ := feasSet_compact.exists_isMinOn ⟨(w1, w2), w_feasible⟩ f_continuous.continuousOn
  exact ⟨q.1, q.2, hq, fun x1 x2 hx => hmin (show (x1, x2) ∈ feasSet from hx)⟩

end S3

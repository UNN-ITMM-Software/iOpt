import IOptProofs.ShekelTab
/-!
# Shekel: consequences of the table clauses `ShekelTables`, in the words of C18

true minimum and maximum over `[0,10]` exist; the table values are within `1e-4` of them; every true
extremiser (and every near-extremiser) is within `1e-3` of the table location; `sup |f'|` over the box
is within `0.1 %` of the table constant, which (times `1.001`) is a Lipschitz constant of `f` on the box.
-/

namespace Shk
namespace ShekelTables

variable {f f' : ℝ → ℝ} {vmin pmin vmax pmax L : ℝ} (h : ShekelTables f f' vmin pmin vmax pmax L)
include h

theorem continuous : Continuous f :=
  continuous_iff_continuousAt.2 fun x => (h.deriv x).continuousAt

theorem exists_min : ∃ xs, 0 ≤ xs ∧ xs ≤ 10 ∧ ∀ x, 0 ≤ x → x ≤ 10 → f xs ≤ f x :=
  Bench.exists_min_Icc (by norm_num) h.continuous

theorem exists_max : ∃ xs, 0 ≤ xs ∧ xs ≤ 10 ∧ ∀ x, 0 ≤ x → x ≤ 10 → f x ≤ f xs :=
  Bench.exists_max_Icc (by norm_num) h.continuous

theorem min_value (xs : ℝ) (h0 : 0 ≤ xs) (h10 : xs ≤ 10) (hmin : ∀ x, 0 ≤ x → x ≤ 10 → f xs ≤ f x) :
    |f xs - vmin| ≤ 1e-4 := by
  have h1 := h.min_lower xs h0 h10
  have h2 := hmin pmin h.pmin_in.1 h.pmin_in.2
  have h3 := h.min_upper
  rw [abs_le]; constructor <;> linarith

theorem max_value (xs : ℝ) (h0 : 0 ≤ xs) (h10 : xs ≤ 10) (hmax : ∀ x, 0 ≤ x → x ≤ 10 → f x ≤ f xs) :
    |f xs - vmax| ≤ 1e-4 := by
  have h1 := h.max_upper xs h0 h10
  have h2 := hmax pmax h.pmax_in.1 h.pmax_in.2
  have h3 := h.max_lower
  rw [abs_le]; constructor <;> linarith

theorem near_min (x : ℝ) (h0 : 0 ≤ x) (h10 : x ≤ 10) (hx : ∀ y, 0 ≤ y → y ≤ 10 → f x < f y + 5e-7) :
    |x - pmin| ≤ 1e-3 := by
  by_contra hne
  obtain ⟨q, q0, q10, hq⟩ := h.min_loc
  have := hq x h0 h10 (not_le.1 hne)
  have := hx q q0 q10
  linarith

theorem minimiser_near (xs : ℝ) (h0 : 0 ≤ xs) (h10 : xs ≤ 10) (hmin : ∀ x, 0 ≤ x → x ≤ 10 → f xs ≤ f x) :
    |xs - pmin| ≤ 1e-3 :=
  h.near_min xs h0 h10 fun y y0 y10 => by have := hmin y y0 y10; linarith

theorem near_max (x : ℝ) (h0 : 0 ≤ x) (h10 : x ≤ 10) (hx : ∀ y, 0 ≤ y → y ≤ 10 → f y - 3e-9 < f x) :
    |x - pmax| ≤ 1e-3 := by
  by_contra hne
  obtain ⟨q, q0, q10, hq⟩ := h.max_loc
  have := hq x h0 h10 (not_le.1 hne)
  have := hx q q0 q10
  linarith

theorem maximiser_near (xs : ℝ) (h0 : 0 ≤ xs) (h10 : xs ≤ 10) (hmax : ∀ x, 0 ≤ x → x ≤ 10 → f x ≤ f xs) :
    |xs - pmax| ≤ 1e-3 :=
  h.near_max xs h0 h10 fun y y0 y10 => by have := hmax y y0 y10; linarith

/-- `1.001 L` is a Lipschitz constant of `f` on the box (mean value theorem) -/
theorem lipschitz (x y : ℝ) (hx0 : 0 ≤ x) (hx10 : x ≤ 10) (hy0 : 0 ≤ y) (hy10 : y ≤ 10) :
    |f x - f y| ≤ 1.001 * L * |x - y| :=
  Bench.lipschitz_of_abs_deriv_le h.deriv h.lip_upper x y hx0 hx10 hy0 hy10

/-- `0 < L` is not among the clauses; `0 ≤ L` follows from the upper clause -/
theorem L_nonneg : 0 ≤ L :=
  nonneg_of_mul_nonneg_right ((abs_nonneg (f' 0)).trans (h.lip_upper 0 le_rfl (by norm_num))) (by norm_num)

theorem sup_deriv : |sSup ((fun x => |f' x|) '' Set.Icc (0 : ℝ) 10) - L| ≤ 0.001 * L := by
  set S := (fun x => |f' x|) '' Set.Icc (0 : ℝ) 10 with hS
  have hne : S.Nonempty := ⟨_, ⟨0, ⟨le_rfl, by norm_num⟩, rfl⟩⟩
  have hub : ∀ b ∈ S, b ≤ 1.001 * L := by
    rintro b ⟨x, hx, rfl⟩
    exact h.lip_upper x hx.1 hx.2
  have hbdd : BddAbove S := ⟨_, hub⟩
  have h1 : sSup S ≤ 1.001 * L := csSup_le hne hub
  obtain ⟨w, w0, w10, hw⟩ := h.lip_lower
  have h2 : 0.999 * L ≤ sSup S := hw.trans (le_csSup hbdd ⟨w, ⟨w0, w10⟩, rfl⟩)
  rw [abs_le]; constructor <;> linarith

end ShekelTables
end Shk

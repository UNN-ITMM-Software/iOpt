import IOptProofs.HillRows
/-! Kernel-evaluated certificates (V), (G), (P), (L) of the Hill functions 200..299, twenty rows per evaluation. -/
namespace Hill
theorem hill_block_10 : ∀ i ∈ List.range' 200 20, hillOK i = true := hill_block _ _ (by decide +kernel)
theorem hill_block_11 : ∀ i ∈ List.range' 220 20, hillOK i = true := hill_block _ _ (by decide +kernel)
theorem hill_block_12 : ∀ i ∈ List.range' 240 20, hillOK i = true := hill_block _ _ (by decide +kernel)
theorem hill_block_13 : ∀ i ∈ List.range' 260 20, hillOK i = true := hill_block _ _ (by decide +kernel)
theorem hill_block_14 : ∀ i ∈ List.range' 280 20, hillOK i = true := hill_block _ _ (by decide +kernel)
end Hill

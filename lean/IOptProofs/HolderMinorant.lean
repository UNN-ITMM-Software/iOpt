import IOptProofs.HolderCover
import IOptProofs.MethodCert
import Mathlib.Analysis.Convex.Mul
/-!
# The Hölder minorant of a Lipschitz objective along the evolvent

`Ev.Kn n = 2^(3-1/n)·√(n+3) = 4·2^(-1/n)·(2√(n+3))` is the reliability constant of C01 and `Ev.gridSlack n m L =
L·√(n+3)·2^-m` the slack: `F x = f (y x)` with `f` `L`-Lipschitz on the cube is Hölder with exponent `1/n` and
constant `2 L √(n+3)` up to that slack (`holder_along_curve`), and the `n`-th root is concave (`add_le_of_pow_add_pow`,
with `halfRoot n = 2^(-1/n)`). These are the hypotheses `hH` and `hconc` of `holder_minorant`
(`IOptProofs/MethodCert.lean`), `exists_root` and `half_le_halfRoot` its `hroot` and `hc`; they are put in in
`IOptProps/C01dimN.lean` (`Ev.C01_minorant_interval`, `AGP.C01_minorant_evolvent`).
-/

namespace Ev
attribute [local instance] Ev.Num.floorTrunc

noncomputable def halfRoot (n : Nat) : ℝ := (2:ℝ) ^ (-(1 / (n:ℝ)))

/-- the reliability constant `K_n` of C01 -/
noncomputable def Kn (n : Nat) : ℝ := (2:ℝ) ^ (3 - 1 / (n:ℝ)) * Real.sqrt (n + 3)

noncomputable def gridSlack (n m : Nat) (L : ℝ) : ℝ := L * Real.sqrt (n + 3) / 2^m

theorem halfRoot_pos (n : Nat) : 0 < halfRoot n := Real.rpow_pos_of_pos (by norm_num) _

theorem halfRoot_pow {n : Nat} (hn : n ≠ 0) : (halfRoot n)^n = 1 / 2 := by
  unfold halfRoot
  rw [← Real.rpow_natCast, ← Real.rpow_mul (by norm_num)]
  have : -(1 / (n:ℝ)) * n = -1 := by
    have : (n:ℝ) ≠ 0 := by exact_mod_cast hn
    field_simp
  rw [this, Real.rpow_neg_one]; norm_num

theorem Kn_eq (n : Nat) : Kn n = 8 * halfRoot n * Real.sqrt (n + 3) := by
  unfold Kn halfRoot
  rw [sub_eq_add_neg, Real.rpow_add (by norm_num)]
  have : (2:ℝ)^(3:ℝ) = 8 := by
    rw [show (3:ℝ) = ((3:ℕ):ℝ) by norm_num, Real.rpow_natCast]; norm_num
  rw [this]

theorem half_le_halfRoot {n : Nat} (hn : n ≠ 0) : 1 / 2 ≤ halfRoot n := by
  have h1 : ((1:ℝ)/2)^n ≤ (halfRoot n)^n := by
    rw [halfRoot_pow hn]
    calc ((1:ℝ)/2)^n ≤ ((1:ℝ)/2)^1 :=
          pow_le_pow_of_le_one (by norm_num) (by norm_num) (Nat.one_le_iff_ne_zero.2 hn)
      _ = 1/2 := by norm_num
  exact (pow_le_pow_iff_left₀ (by norm_num) (halfRoot_pos n).le hn).1 h1

/-- `K_2 = 2^(5/2)·√5 ≈ 12.65 ≤ 18` (used in the non-vacuity examples) -/
theorem Kn_two_le : Kn 2 * 1 ≤ 18 := by
  rw [Kn_eq, mul_one]
  have h1 : halfRoot 2 ≤ 1 := Real.rpow_le_one_of_one_le_of_nonpos one_le_two (by norm_num)
  have h2 : Real.sqrt ((2:ℕ) + 3) ≤ 9 / 4 := Real.sqrt_le_iff.2 ⟨by norm_num, by norm_num⟩
  calc 8 * halfRoot 2 * Real.sqrt ((2:ℕ) + 3) ≤ 8 * 1 * (9 / 4) := by gcongr
    _ = 18 := by norm_num

theorem pow_mean_le {a b : ℝ} (ha : 0 ≤ a) (hb : 0 ≤ b) (n : Nat) :
    ((a + b) / 2)^n ≤ (a^n + b^n) / 2 := by
  have h := (convexOn_pow (𝕜 := ℝ) n).2 (Set.mem_Ici.2 ha) (Set.mem_Ici.2 hb)
    (by norm_num : (0:ℝ) ≤ 1/2) (by norm_num : (0:ℝ) ≤ 1/2) (by norm_num)
  simp only [smul_eq_mul] at h
  calc ((a + b) / 2)^n = (1/2 * a + 1/2 * b)^n := by ring_nf
    _ ≤ 1/2 * a^n + 1/2 * b^n := h
    _ = _ := by ring

/-- concavity of the `n`-th root in root-free form -/
theorem add_le_of_pow_add_pow {n : Nat} (hn : n ≠ 0) {a b δ : ℝ} (ha : 0 ≤ a) (hb : 0 ≤ b)
    (hδ : 0 ≤ δ) (h : a^n + b^n = δ^n) : a + b ≤ 2 * halfRoot n * δ := by
  have h1 : ((a + b) / 2)^n ≤ (halfRoot n * δ)^n := by
    rw [mul_pow, halfRoot_pow hn, ← h]
    calc _ ≤ (a^n + b^n) / 2 := pow_mean_le ha hb n
      _ = _ := by ring
  have h2 := (pow_le_pow_iff_left₀ (by positivity) (mul_nonneg (halfRoot_pos n).le hδ) hn).1 h1
  linarith

theorem exists_root {n : Nat} (hn : n ≠ 0) {d : ℝ} (hd : 0 ≤ d) : ∃ a : ℝ, 0 ≤ a ∧ a^n = d :=
  ⟨d ^ (1 / (n:ℝ)), rpow_inv_nonneg n hd, rpow_inv_pow hn hd⟩

theorem holder_along_curve {n : Nat} (hn : Ev.DimOK n) (m : Nat) {f : List ℝ → ℝ} {L : ℝ} (hf : LipCube n f L) :
    HolderUpTo n (fun x => f (imageCube n m x)) (2 * L * Real.sqrt (n + 3)) (gridSlack n m L) := by
  intro x x₀ a h0 h1 h0' h1' ha hd
  have := (abs_le.1 (lip_along_curve hn m hf h0' h1' h0 h1 ha hd)).2
  unfold gridSlack
  linarith

end Ev

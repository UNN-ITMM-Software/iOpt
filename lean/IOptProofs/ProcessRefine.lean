import IOptProofs.ProcessOps
/-!
# `DoLocalRefinement`
-/

set_option linter.unusedSectionVars false

section
variable {α : Type} [Add α] [Sub α] [Mul α] [Div α] [Neg α] [LT α] [LE α]
  [DecidableLT α] [DecidableLE α] [OfNat α 0] [OfNat α 1] [OfNat α 2] [OfNat α 4] [Fns α]

namespace Proc
open AGP AGP.Ctl

/-- what `DoLocalRefinement` does to one item -/
def refineItem (best : Nat) (lr : LocalResult α) (it : Item α) : Item α :=
  if it.id == best then { it with point := lr.x, hv := lr.fx } else it

/-- `it'` is `it` up to the point and the value holder: all that `DoLocalRefinement` writes of a trial -/
structure SameTrial (it' it : Item α) : Prop where
  id : it'.id = it.id
  x : it'.x = it.x
  z : it'.z = it.z
  ev : it'.ev = it.ev
  delta : it'.delta = it.delta
  R : it'.R = it.R

theorem refineItem_fields (best : Nat) (lr : LocalResult α) (it : Item α) : SameTrial (refineItem best lr it) it := by
  unfold refineItem
  split <;> exact { id := rfl, x := rfl, z := rfl, ev := rfl, delta := rfl, R := rfl }

theorem refineItem_of_ne {best : Nat} (lr : LocalResult α) {it : Item α} (h : it.id ≠ best) : refineItem best lr it = it := by
  unfold refineItem; simp [h]

theorem refineItem_of_eq {best : Nat} (lr : LocalResult α) {it : Item α} (h : it.id = best) :
    refineItem best lr it = { it with point := lr.x, hv := lr.fx } := by
  unfold refineItem; simp [h]

theorem reportedId_of_none {ps : PState α} (s : State α) (h : ps.refined = none) : reportedId ps s = s.best := by
  unfold reportedId; rw [h]

theorem reportedId_of_some {ps : PState α} (s : State α) {r : Nat} (h : ps.refined = some r) :
    reportedId ps s =
      match findItem s.items r, findItem s.items s.best with
      | some ri, some bi => if r ≠ s.best ∧ ri.hv < bi.hv then r else s.best
      | _, _ => s.best := by
  unfold reportedId; rw [h]; rfl

/-- the trial that `GetResults()` reports (`solution.bestTrials[0]` after the call), if the first iteration has been done -/
def reported (ps : PState α) : Option (Item α) := ps.m.bind fun s => findItem s.items (reportedId ps s)

/-- the method's best trial (`Method.best`) -/
def methodBest (ps : PState α) : Option (Item α) := ps.m.bind fun s => findItem s.items s.best

theorem reported_of_some {ps : PState α} {s : State α} (hm : ps.m = some s) :
    reported ps = findItem s.items (reportedId ps s) := by
  unfold reported; rw [hm]; rfl

theorem reportedId_cases (ps : PState α) (s : State α) :
    reportedId ps s = s.best ∨
    ∃ ri bi, ps.refined = some (reportedId ps s) ∧ reportedId ps s ≠ s.best ∧
      findItem s.items (reportedId ps s) = some ri ∧ findItem s.items s.best = some bi ∧ ri.hv < bi.hv := by
  cases hr : ps.refined with
  | none => exact .inl (reportedId_of_none s hr)
  | some r =>
    rw [reportedId_of_some s hr]
    split
    · next ri bi h1 h2 =>
      split
      · next hc => exact .inr ⟨ri, bi, rfl, hc.1, h1, h2, hc.2⟩
      · exact .inl rfl
    · exact .inl rfl

theorem reportedId_congr {ps ps' : PState α} {s s' : State α} (hr : ps.refined = ps'.refined)
    (hi : s.items = s'.items) (hb : s.best = s'.best) : reportedId ps s = reportedId ps' s' := by
  unfold reportedId; rw [hr, hi, hb]

theorem doLocalRefinement_some {ps : PState α} {s : State α} (lr : LocalResult α) (hm : ps.m = some s) :
    doLocalRefinement ps lr =
      { ps with m := some { s with items := s.items.map (refineItem (reportedId ps s) lr) }, nLocal := lr.nfev,
                refined := some (reportedId ps s) } := by
  unfold doLocalRefinement; rw [hm]; rfl

theorem doLocalRefinement_some_first {ps : PState α} {s : State α} (lr : LocalResult α) (hm : ps.m = some s)
    (hr : ps.refined = none) :
    doLocalRefinement ps lr =
      { ps with m := some { s with items := s.items.map (refineItem s.best lr) }, nLocal := lr.nfev,
                refined := some s.best } := by
  rw [doLocalRefinement_some lr hm, reportedId_of_none s hr]

theorem doLocalRefinement_refined {ps : PState α} {s : State α} (lr : LocalResult α) (hm : ps.m = some s) :
    (doLocalRefinement ps lr).refined = some (reportedId ps s) := by
  rw [doLocalRefinement_some lr hm]

theorem doLocalRefinement_none {ps : PState α} (lr : LocalResult α) (hm : ps.m = none) : doLocalRefinement ps lr = ps := by
  unfold doLocalRefinement; rw [hm]

theorem findItem_map_refineItem (best : Nat) (lr : LocalResult α) (items : List (Item α)) (id : Nat) :
    findItem (items.map (refineItem best lr)) id = (findItem items id).map (refineItem best lr) :=
  findItem_map (refineItem best lr) (fun a => (refineItem_fields best lr a).id) items id

theorem findItem_id_eq {items : List (Item α)} {id : Nat} {it : Item α} (h : findItem items id = some it) : it.id = id := by
  have := List.find?_some h
  simpa using this

theorem reportedId_eq_best_of_refined_eq {ps : PState α} {s : State α} (h : ps.refined = some s.best) :
    reportedId ps s = s.best := by
  rw [reportedId_of_some s h]
  split
  · split
    · next hc => exact absurd rfl hc.1
    · rfl
  · rfl

theorem reportedId_doLocalRefinement {ps : PState α} {s : State α} (lr : LocalResult α) (hm : ps.m = some s) {b : Item α}
    (hb : findItem s.items (reportedId ps s) = some b)
    (hcase : reportedId ps s = s.best ∨ ∀ bi, findItem s.items s.best = some bi → lr.fx < bi.hv) :
    reportedId (doLocalRefinement ps lr) { s with items := s.items.map (refineItem (reportedId ps s) lr) } = reportedId ps s := by
  have hr := doLocalRefinement_refined lr hm
  by_cases heq : reportedId ps s = s.best
  · rw [heq] at hr ⊢
    exact reportedId_eq_best_of_refined_eq hr
  · have hlt := hcase.resolve_left heq
    rcases reportedId_cases ps s with h | ⟨ri, bi, -, -, -, hbi, -⟩
    · exact absurd h heq
    · rw [reportedId_of_some _ hr]
      simp only [findItem_map_refineItem, hb, hbi, Option.map_some]
      have hbid := findItem_id_eq hb
      have hbiid := findItem_id_eq hbi
      rw [refineItem_of_eq lr hbid, refineItem_of_ne lr (by rw [hbiid]; exact fun h => heq h.symm)]
      simp only []
      rw [if_pos ⟨heq, hlt bi hbi⟩]

end Proc
end

import IOptProofs.HillRows
/-! Kernel-evaluated certificates (V), (G), (P), (L) of the Hill functions 600..699, twenty rows per evaluation. -/
namespace Hill
theorem hill_block_30 : ∀ i ∈ List.range' 600 20, hillOK i = true := hill_block _ _ (by decide +kernel)
theorem hill_block_31 : ∀ i ∈ List.range' 620 20, hillOK i = true := hill_block _ _ (by decide +kernel)
theorem hill_block_32 : ∀ i ∈ List.range' 640 20, hillOK i = true := hill_block _ _ (by decide +kernel)
theorem hill_block_33 : ∀ i ∈ List.range' 660 20, hillOK i = true := hill_block _ _ (by decide +kernel)
theorem hill_block_34 : ∀ i ∈ List.range' 680 20, hillOK i = true := hill_block _ _ (by decide +kernel)
end Hill

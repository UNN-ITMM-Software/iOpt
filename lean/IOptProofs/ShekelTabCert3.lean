import IOptProofs.ShekelRows
/-! Kernel-evaluated C18 table certificates (min / max / Lipschitz tables) of the Shekel functions 300..399;
five rows per evaluation keep the memory of the module near 2 GB. -/
namespace Shk
theorem shekel_tab_block_60 : ∀ i ∈ List.range' 300 5, shekelTabOK i = true := shekel_tab_block _ _ (by decide +kernel)
theorem shekel_tab_block_61 : ∀ i ∈ List.range' 305 5, shekelTabOK i = true := shekel_tab_block _ _ (by decide +kernel)
theorem shekel_tab_block_62 : ∀ i ∈ List.range' 310 5, shekelTabOK i = true := shekel_tab_block _ _ (by decide +kernel)
theorem shekel_tab_block_63 : ∀ i ∈ List.range' 315 5, shekelTabOK i = true := shekel_tab_block _ _ (by decide +kernel)
theorem shekel_tab_block_64 : ∀ i ∈ List.range' 320 5, shekelTabOK i = true := shekel_tab_block _ _ (by decide +kernel)
theorem shekel_tab_block_65 : ∀ i ∈ List.range' 325 5, shekelTabOK i = true := shekel_tab_block _ _ (by decide +kernel)
theorem shekel_tab_block_66 : ∀ i ∈ List.range' 330 5, shekelTabOK i = true := shekel_tab_block _ _ (by decide +kernel)
theorem shekel_tab_block_67 : ∀ i ∈ List.range' 335 5, shekelTabOK i = true := shekel_tab_block _ _ (by decide +kernel)
theorem shekel_tab_block_68 : ∀ i ∈ List.range' 340 5, shekelTabOK i = true := shekel_tab_block _ _ (by decide +kernel)
theorem shekel_tab_block_69 : ∀ i ∈ List.range' 345 5, shekelTabOK i = true := shekel_tab_block _ _ (by decide +kernel)
theorem shekel_tab_block_70 : ∀ i ∈ List.range' 350 5, shekelTabOK i = true := shekel_tab_block _ _ (by decide +kernel)
theorem shekel_tab_block_71 : ∀ i ∈ List.range' 355 5, shekelTabOK i = true := shekel_tab_block _ _ (by decide +kernel)
theorem shekel_tab_block_72 : ∀ i ∈ List.range' 360 5, shekelTabOK i = true := shekel_tab_block _ _ (by decide +kernel)
theorem shekel_tab_block_73 : ∀ i ∈ List.range' 365 5, shekelTabOK i = true := shekel_tab_block _ _ (by decide +kernel)
theorem shekel_tab_block_74 : ∀ i ∈ List.range' 370 5, shekelTabOK i = true := shekel_tab_block _ _ (by decide +kernel)
theorem shekel_tab_block_75 : ∀ i ∈ List.range' 375 5, shekelTabOK i = true := shekel_tab_block _ _ (by decide +kernel)
theorem shekel_tab_block_76 : ∀ i ∈ List.range' 380 5, shekelTabOK i = true := shekel_tab_block _ _ (by decide +kernel)
theorem shekel_tab_block_77 : ∀ i ∈ List.range' 385 5, shekelTabOK i = true := shekel_tab_block _ _ (by decide +kernel)
theorem shekel_tab_block_78 : ∀ i ∈ List.range' 390 5, shekelTabOK i = true := shekel_tab_block _ _ (by decide +kernel)
theorem shekel_tab_block_79 : ∀ i ∈ List.range' 395 5, shekelTabOK i = true := shekel_tab_block _ _ (by decide +kernel)
end Shk

import IOptProofs.HillCert0
import IOptProofs.HillCert1
import IOptProofs.HillCert2
import IOptProofs.HillCert3
import IOptProofs.HillCert4
import IOptProofs.HillCert5
import IOptProofs.HillCert6
import IOptProofs.HillCert7
import IOptProofs.HillCert8
import IOptProofs.HillCert9
import IOptProofs.RangeBlocks
import Mathlib.Tactic.IntervalCases

/-! The certificates (V), (G), (P), (L) of all 1000 Hill functions (`Hill.hill_all`): the fifty kernel-evaluated blocks of
twenty table rows (`HillCert0`–`9`), put end to end by `Nat.forall_lt_of_blocks`. -/
namespace Hill
theorem hill_all (i : Nat) (hi : i < 1000) : hillOK i = true :=
  Nat.forall_lt_of_blocks 20 50 (fun j hj => by
    interval_cases j
    exacts [
      hill_block_0, hill_block_1, hill_block_2, hill_block_3, hill_block_4, hill_block_5, hill_block_6, hill_block_7, hill_block_8, hill_block_9,
      hill_block_10, hill_block_11, hill_block_12, hill_block_13, hill_block_14, hill_block_15, hill_block_16, hill_block_17, hill_block_18, hill_block_19,
      hill_block_20, hill_block_21, hill_block_22, hill_block_23, hill_block_24, hill_block_25, hill_block_26, hill_block_27, hill_block_28, hill_block_29,
      hill_block_30, hill_block_31, hill_block_32, hill_block_33, hill_block_34, hill_block_35, hill_block_36, hill_block_37, hill_block_38, hill_block_39,
      hill_block_40, hill_block_41, hill_block_42, hill_block_43, hill_block_44, hill_block_45, hill_block_46, hill_block_47, hill_block_48, hill_block_49]) i hi
end Hill

import IOptProofs.ReportInterpDefs
import IOptProofs.ProcessRefine
import IOptProofs.ProcessReported
import IOptProofs.ProcessToy
import IOptProofs.KernelRfl
/-!
# `Process.GetResults` and `Process.DoLocalRefinement`, taken from the SOURCE TEXT, are the model's `reportedId` / `doLocalRefinement`

`IOptGen/ProcessSrc.lean` (regenerated from `iOpt/method/process.py` on every run) holds the bodies of `GetResults` and
`DoLocalRefinement` as statement trees; `IOptProofs/ReportInterpDefs.lean` interprets them on the model state plus the MUTABLE slot
`solution.bestTrials[0]` (`Glob.slot`: the id of the trial stored there), which the model does not have: the model's
`Proc.reportedId ps s` is a pure function of the state.

The slot can hold three things.  From `Method.best` (what `Method.UpdateOptimum` stores in every iteration) and from the reported
trial itself `GetResults` leaves `reportedId ps s` in it; a slot holding the trial refined last is KEPT, whether or not that trial
is still the reported one.  Source and model part in the last case only after a refinement that VIOLATES the Nelder-Mead contract
`RefineLe`: the slot then holds a refined trial that is not the model's reported one, and the source keeps returning it until the
next `UpdateOptimum` (reproduced on the Python code: `Solve` with refinement, 3 more iterations, a `DoLocalRefinement` whose
minimiser returns `[1.0]`: `GetResults()` shows the value `0.444…` while `Method.best` has `0.000485…`; one more iteration and it
shows `0.000485…`).

Hypotheses of the ties: `ps.m = some s` (the first iteration has been done; before it the slot holds the placeholder
`Trial([], [])`), `Resolved ps s` (the method's best and the trial refined last are stored: `resolved_reachable`), and the slot
condition.  The scipy call and `problemCalculate` are oracles (`Ctx`); an objective that RAISES during the refinement is outside
the model (`LocalResult` is total) and outside this semantics.

`getResults_nf`, `doLocalRefinement_nf`: the two generated trees with every string looked up, as compositions of the interpreter's
assignments and primitives (checked by the kernel).  `getResults_run`, `doLocalRefinement_run` (from ANY slot) are proved about
these; the ties are their corollaries through the facts about `slotAfter`.
-/

set_option linter.unusedSectionVars false

section
variable {α : Type} [Add α] [Sub α] [Mul α] [Div α] [Neg α] [LT α] [LE α]
  [DecidableLT α] [DecidableLE α] [OfNat α 0] [OfNat α 1] [OfNat α 2] [OfNat α 4] [Fns α]

namespace ReportInterp
open AGP Proc Gen.ProcSrc

/-- state transformers run in order, stopping at the first outcome that is not `normal`: `execList` without the tree (why the bodies of
`if` stay nested `seq […]` below is said at `ProcInterp.seq`) -/
def seq : List (IState α → Out α) → IState α → Out α
  | [], st => .normal st
  | f :: fs, st =>
    match f st with
    | .normal st' => seq fs st'
    | o => o

/-- the end of `runBody` -/
def finish : Out α → POut α
  | .normal st => .done st.g none
  | .returned st v => .done st.g (some v)
  | .stuck => .stuck

/-- a tree of the shape of `GetResults` whose condition means `cd`: the assignments its statements stand for, in the order of the
source -/
def getResultsNF (cd : Cond) (ints : List (String × Int)) (g : Glob α) : POut α :=
  finish (seq [
    execAssign .bindSolution,
    execAssign .bindRefined,
    fun st =>
      match evalCond cd st with
      | some true => seq [execAssign .slotRefined] st
      | some false => seq [] st
      | none => .stuck,
    fun st => if st.l.solution = true then .returned st .solution else .stuck]
    ⟨g, { ints := ints }⟩)

/-- **The generated tree of `GetResults`, every string looked up.**  The two sides are definitionally equal and the kernel checks it
(`kernel_rfl`): unfolding the interpreter on the generated tree, it looks every string of the tree up in the tables (`assignTable`,
`condTable`, `retTable`); context, call depth, the caller's locals and the object stay variables.  What is left is the program
`getResultsNF`: the assignments in the order of the source, the condition being the source's
`refined is not None and solution.bestTrials[0] is not refined and (… < …)`.  The ties below are proved about this program and
mention no string; an edited tree does not pass this check.  The examples that run a generated tree rewrite with this equation
(and `doLocalRefinement_nf`) first, so that the kernel evaluates the assignments on the concrete data and not the string comparisons
again. -/
theorem getResults_nf (c : Ctx α) (depth : Nat) (ints : List (String × Int)) (g : Glob α) :
    run c depth Gen.ProcSrc.getResults ints g = getResultsNF (.refinedBetter .lt true) ints g := by
  kernel_rfl

/-- **`GetResults`, source tree, from ANY slot.**  Whatever trial id the slot `solution.bestTrials[0]` holds, the interpretation of
the statement tree generated from the source text of `Process.GetResults` (any call depth, any caller locals) leaves the model
state untouched, returns THE `Solution` object, and leaves `slotAfter ps s slot` in the slot.  (`hres`: if the value comparison
is reached, both trials are stored.) -/
theorem getResults_run (c : Ctx α) (depth : Nat) (ints : List (String × Int)) (ps : PState α) (s : State α) (slot : Nat)
    (hm : ps.m = some s)
    (hres : ∀ r, ps.refined = some r → r ≠ slot → (findItem s.items r).isSome ∧ (findItem s.items slot).isSome) :
    run c depth Gen.ProcSrc.getResults ints ⟨ps, slot⟩ = .done ⟨ps, slotAfter ps s slot⟩ (some .solution) := by
  rw [getResults_nf]
  cases hr : ps.refined with
  | none => simp only [getResultsNF, seq, execAssign, evalCond, slotAfter, hr, ↓reduceIte, finish]
  | some r =>
    by_cases hrs : r = slot
    · simp only [getResultsNF, seq, execAssign, evalCond, slotAfter, hr, hrs, and_self, ↓reduceIte, finish]
    · obtain ⟨h1, h2⟩ := hres r hr hrs
      obtain ⟨ri, hri⟩ := Option.isSome_iff_exists.1 h1
      obtain ⟨bi, hbi⟩ := Option.isSome_iff_exists.1 h2
      by_cases hlt : ri.hv < bi.hv <;>
        simp only [getResultsNF, seq, execAssign, evalCond, slotAfter, hr, hrs, and_false, ↓reduceIte, hm, hri, hbi, Cmp.holds, hlt,
          decide_true, decide_false, finish]

/-- from the slot that `Method.UpdateOptimum` leaves, `GetResults` re-points the slot to the model's reported trial -/
theorem slotAfter_best (ps : PState α) (s : State α) : slotAfter ps s s.best = reportedId ps s := by
  unfold slotAfter reportedId
  cases ps.refined with
  | none => rfl
  | some r =>
    simp only []
    by_cases hrb : r = s.best
    · subst hrb
      simp only [↓reduceIte, ne_eq, not_true_eq_false, false_and]
      split <;> rfl
    · simp only [hrb, ↓reduceIte, ne_eq, not_false_eq_true, true_and]
      cases findItem s.items r <;> cases findItem s.items s.best <;> rfl

/-- `GetResults` is idempotent on the slot -/
theorem slotAfter_reported (ps : PState α) (s : State α) : slotAfter ps s (reportedId ps s) = reportedId ps s := by
  rcases reportedId_cases ps s with h | ⟨_, _, h, -⟩
  · have h1 := slotAfter_best ps s
    rw [h] at h1 ⊢; exact h1
  · unfold slotAfter; rw [h]; simp only [↓reduceIte]

/-- the third possibility: the slot holds the trial refined last (whether or not it is still the reported one): kept -/
theorem slotAfter_refined (ps : PState α) (s : State α) {r : Nat} (h : ps.refined = some r) : slotAfter ps s r = r := by
  unfold slotAfter; rw [h]; simp only [↓reduceIte]

/-- what `Method.UpdateOptimum` (slot := `Method.best`) and `GetResults` itself leave in the slot -/
def SlotOK (ps : PState α) (s : State α) (slot : Nat) : Prop := slot = s.best ∨ slot = reportedId ps s

theorem slotAfter_of_ok {ps : PState α} {s : State α} {slot : Nat} (h : SlotOK ps s slot) :
    slotAfter ps s slot = reportedId ps s := by
  rcases h with rfl | rfl
  · exact slotAfter_best ps s
  · exact slotAfter_reported ps s

/-- every trial id that `GetResults` can dereference is stored: the method's best and the trial refined last (if any) -/
def Resolved (ps : PState α) (s : State α) : Prop :=
  (findItem s.items s.best).isSome ∧ ∀ r, ps.refined = some r → (findItem s.items r).isSome

theorem Resolved.reported {ps : PState α} {s : State α} (h : Resolved ps s) : (findItem s.items (reportedId ps s)).isSome := by
  rcases reportedId_cases ps s with e | ⟨ri, _, -, -, e, -⟩
  · rw [e]; exact h.1
  · rw [e]; rfl

theorem Resolved.slot {ps : PState α} {s : State α} {slot : Nat} (h : Resolved ps s) (hs : SlotOK ps s slot) :
    ∀ r, ps.refined = some r → r ≠ slot → (findItem s.items r).isSome ∧ (findItem s.items slot).isSome := by
  intro r hr _
  refine ⟨h.2 r hr, ?_⟩
  rcases hs with rfl | rfl
  · exact h.1
  · exact h.reported

/-- **`GetResults`, source tree = model.**  From any object in which the slot holds `Method.best` (what `UpdateOptimum` leaves
in every iteration) OR already holds the reported trial (what a previous `GetResults()` / `DoLocalRefinement` left), the
interpretation of the generated tree of `Process.GetResults` returns the `Solution` object with the slot `= Proc.reportedId ps s`,
and the model state is unchanged.  So the model's pure `reportedId` is what every caller of `GetResults()` sees. -/
theorem getResults_src (c : Ctx α) (depth : Nat) (ints : List (String × Int)) (ps : PState α) (s : State α) (slot : Nat)
    (hm : ps.m = some s) (hres : Resolved ps s) (hslot : slot = s.best ∨ slot = reportedId ps s) :
    run c depth Gen.ProcSrc.getResults ints ⟨ps, slot⟩ = .done ⟨ps, reportedId ps s⟩ (some .solution) := by
  rw [getResults_run c depth ints ps s slot hm (hres.slot hslot), slotAfter_of_ok hslot]

theorem lk_tResult : targetTable.lookup "result" = some .result := by decide +kernel

theorem bind_getRes (ints : List (String × Int)) : bindArgs getResultsParams getResultsDefaults [] ints = some [] := by
  simp [bindArgs, getResultsParams, getResultsDefaults, bindAll]

/-- overwriting the point, then the value holder with the objective at the (new) point, is the model's one overwrite -/
theorem setValue_setPoint (c : Ctx α) (slot : Nat) (x0 : List α) (it : Item α) :
    setValue c.evalAt slot (setPoint slot (c.minimize x0).1 it) = refineItem slot (c.lr x0) it := by
  unfold setValue setPoint refineItem Ctx.lr
  cases h : it.id == slot <;> simp [h]

/-- **The generated tree of `DoLocalRefinement`, every string looked up** (as `getResults_nf`; the kernel also resolves the call
`self.GetResults()` through `procTable`).  The two assignments to `self.localMethodIterationCount` (they choose `maxiter` of the scipy
call: `noopAssigns`) are the two `fun st => .normal st`; `result = self.GetResults()` runs the generated tree of `GetResults` and
binds what it returns (the one string left: `bindTargets` looks the target up once it has a value to bind, `lk_tResult`). -/
theorem doLocalRefinement_nf (c : Ctx α) (d : Nat) (number : Int) (g : Glob α) :
    run c (d+1) Gen.ProcSrc.doLocalRefinement [("number", number)] g =
      finish (seq [
        fun st => .normal st,
        fun st =>
          match decide (number = -1) with
          | true => seq [fun st => .normal st] st
          | false => seq [] st,
        fun st =>
          match run c d Gen.ProcSrc.getResults [] st.g with
          | .done g rv => bindTargets ["result"] rv { st with g := g }
          | .stuck => .stuck,
        execAssign .bindStart,
        execPrim c .mkBounds,
        execPrim c .minimize,
        execAssign .writePoint,
        execPrim c .reEvaluate,
        execAssign .writeNfev,
        execAssign .rememberRefined]
        ⟨g, { ints := [("number", number)] }⟩) := by
  kernel_rfl

/-- **`DoLocalRefinement`, source tree, from ANY slot**: the trial refined is the one `GetResults()` leaves in the slot -/
theorem doLocalRefinement_run (c : Ctx α) (d : Nat) (number : Int) (ps : PState α) (s : State α) (slot : Nat)
    (hm : ps.m = some s)
    (hres : ∀ r, ps.refined = some r → r ≠ slot → (findItem s.items r).isSome ∧ (findItem s.items slot).isSome)
    {b : Item α} (hb : findItem s.items (slotAfter ps s slot) = some b) :
    run c (d+1) Gen.ProcSrc.doLocalRefinement [("number", number)] ⟨ps, slot⟩ =
      .done ⟨{ ps with m := some { s with items := s.items.map (refineItem (slotAfter ps s slot) (c.lr b.point)) },
                       nLocal := (c.lr b.point).nfev, refined := some (slotAfter ps s slot) },
             slotAfter ps s slot⟩ none := by
  have hfun : (setValue c.evalAt (slotAfter ps s slot) ∘ setPoint (slotAfter ps s slot) (c.minimize b.point).1) =
      refineItem (slotAfter ps s slot) (c.lr b.point) := funext fun it => setValue_setPoint c _ _ it
  rw [doLocalRefinement_nf]
  cases decide (number = -1) <;>
    simp only [seq, getResults_run c d [] ps s slot hm hres, bindTargets, lk_tResult, execAssign, hm, hb, execPrim, IState.setPs,
      List.map_map, hfun, finish] <;>
    rfl

/-- **`DoLocalRefinement`, source tree = model.**  From a slot as in `getResults_src`, for every value of `number` (both branches
of `number == -1`), the interpretation of the generated tree of `Process.DoLocalRefinement`, with `self.GetResults()` inside it
interpreted through the generated tree of `GetResults` (call depth `d+1 ≥ 1`), ends normally (returns `None`) in the state
`Proc.doLocalRefinement ps lr`, where `lr = c.lr b.point` is what the oracles give when Nelder-Mead is started from the point of
the REPORTED trial `b`: point returned, objective re-evaluated THERE, `nfev`.  The slot afterwards is `reportedId ps s`, which is
also the new `__refinedTrial`. -/
theorem doLocalRefinement_src (c : Ctx α) (d : Nat) (number : Int) (ps : PState α) (s : State α) (slot : Nat)
    (hm : ps.m = some s) (hres : Resolved ps s) (hslot : slot = s.best ∨ slot = reportedId ps s)
    {b : Item α} (hb : findItem s.items (reportedId ps s) = some b) :
    run c (d+1) Gen.ProcSrc.doLocalRefinement [("number", number)] ⟨ps, slot⟩ =
      .done ⟨Proc.doLocalRefinement ps (c.lr b.point), reportedId ps s⟩ none := by
  have hsa := slotAfter_of_ok hslot
  rw [doLocalRefinement_run c d number ps s slot hm (hres.slot hslot) (b := b) (by rw [hsa]; exact hb), hsa,
    doLocalRefinement_some _ hm]

theorem Ctx.const_lr (lr : LocalResult α) (x0 : List α) : (Ctx.const lr).lr x0 = lr := rfl

/-- **… with the oracle of the model**: whatever `LocalResult` the model is given for the scipy call and the re-evaluation -/
theorem doLocalRefinement_src_lr (lr : LocalResult α) (d : Nat) (number : Int) (ps : PState α) (s : State α) (slot : Nat)
    (hm : ps.m = some s) (hres : Resolved ps s) (hslot : slot = s.best ∨ slot = reportedId ps s) :
    run (Ctx.const lr) (d+1) Gen.ProcSrc.doLocalRefinement [("number", number)] ⟨ps, slot⟩ =
      .done ⟨Proc.doLocalRefinement ps lr, reportedId ps s⟩ none ∧
    (Proc.doLocalRefinement ps lr).refined = some (reportedId ps s) := by
  obtain ⟨b, hb⟩ := Option.isSome_iff_exists.1 hres.reported
  exact ⟨doLocalRefinement_src (Ctx.const lr) d number ps s slot hm hres hslot hb, doLocalRefinement_refined lr hm⟩

/-- **the third possibility**: the slot holds the trial refined last (`ps.refined = some slot`).  Then the identity test fails and
`GetResults()` returns the solution with the slot UNCHANGED, whether or not that trial is the model's `reportedId ps s`; nothing
is dereferenced, so no hypothesis on the stored trials is needed.  It is the reported trial right after a refinement obeying the
contract (`slotOK_doLocalRefinement`); after a refinement that returns a value `≥` the value holder of `Method.best` (refining a
trial other than `Method.best`) it is NOT (`Examples`, `PS3`): there the source reports the refined trial and the model
`Method.best`, until the next `UpdateOptimum` resets the slot. -/
theorem getResults_src_refined_slot (c : Ctx α) (depth : Nat) (ints : List (String × Int)) (ps : PState α)
    (slot : Nat) (hslot : ps.refined = some slot) :
    run c depth Gen.ProcSrc.getResults ints ⟨ps, slot⟩ = .done ⟨ps, slot⟩ (some .solution) := by
  rw [getResults_nf]
  simp only [getResultsNF, seq, execAssign, evalCond, hslot, and_self, ↓reduceIte, finish]

/-- the `GetResults()` that follows `DoLocalRefinement` (in `Solve`: `result = self.GetResults()`) returns the trial just refined,
for ANY `LocalResult` -/
theorem getResults_after_doLocalRefinement (c : Ctx α) (depth : Nat) (ints : List (String × Int)) (ps : PState α) (s : State α)
    (lr : LocalResult α) (hm : ps.m = some s) :
    run c depth Gen.ProcSrc.getResults ints ⟨Proc.doLocalRefinement ps lr, reportedId ps s⟩ =
      .done ⟨Proc.doLocalRefinement ps lr, reportedId ps s⟩ (some .solution) :=
  getResults_src_refined_slot c depth ints _ _ (doLocalRefinement_refined lr hm)

/-- `DoLocalRefinement` keeps the stored ids, and the trial it remembers is stored -/
theorem Resolved.doLocalRefinement {ps : PState α} {s : State α} (lr : LocalResult α) (hm : ps.m = some s) (h : Resolved ps s) :
    Resolved (Proc.doLocalRefinement ps lr) { s with items := s.items.map (refineItem (reportedId ps s) lr) } := by
  have hsome : ∀ id, (findItem s.items id).isSome →
      (findItem (s.items.map (refineItem (reportedId ps s) lr)) id).isSome := by
    intro id hid
    rw [findItem_map_refineItem]
    obtain ⟨a, ha⟩ := Option.isSome_iff_exists.1 hid
    rw [ha]; rfl
  refine ⟨hsome _ h.1, fun r hr => ?_⟩
  rw [doLocalRefinement_refined lr hm] at hr
  cases hr
  exact hsome _ h.reported

/-- `GetResults` without the identity test `solution.bestTrials[0] is not refined` -/
def getResultsNoIdentity : List Stmt :=
  [
    .assign "solution" "self.searchData.solution",
    .assign "refined" "self.__refinedTrial",
    .ite "refined is not None and (refined.functionValues[0].value < solution.bestTrials[0].functionValues[0].value)" [
      .assign "solution.bestTrials[0]" "refined"] [],
    .ret "solution"]

/-- `GetResults` with `<=` for `<` -/
def getResultsLe : List Stmt :=
  [
    .assign "solution" "self.searchData.solution",
    .assign "refined" "self.__refinedTrial",
    .ite "refined is not None and solution.bestTrials[0] is not refined and (refined.functionValues[0].value <= solution.bestTrials[0].functionValues[0].value)" [
      .assign "solution.bestTrials[0]" "refined"] [],
    .ret "solution"]

/-- the edited tree likewise (as `getResults_nf`): the same program with the identity test off -/
theorem getResultsNoIdentity_nf (c : Ctx α) (depth : Nat) (ints : List (String × Int)) (g : Glob α) :
    run c depth getResultsNoIdentity ints g = getResultsNF (.refinedBetter .lt false) ints g := by
  kernel_rfl

/-- **the identity test is redundant** when `<` is irreflexive (true for `ℝ`, `ℚ` and for IEEE doubles, `nan < nan` being false):
without it the tree computes the same slot and returns the same object - if the refined trial IS the one in the slot, its value
holder is compared with itself. -/
theorem getResults_noIdentity_run (hirr : ∀ a : α, ¬ a < a) (c : Ctx α) (depth : Nat) (ints : List (String × Int))
    (ps : PState α) (s : State α) (slot : Nat) (hm : ps.m = some s)
    (hres : ∀ r, ps.refined = some r → (findItem s.items r).isSome ∧ (findItem s.items slot).isSome) :
    run c depth getResultsNoIdentity ints ⟨ps, slot⟩ = .done ⟨ps, slotAfter ps s slot⟩ (some .solution) := by
  rw [getResultsNoIdentity_nf]
  cases hr : ps.refined with
  | none => simp only [getResultsNF, seq, execAssign, evalCond, slotAfter, hr, ↓reduceIte, finish]
  | some r =>
    obtain ⟨h1, h2⟩ := hres r hr
    obtain ⟨ri, hri⟩ := Option.isSome_iff_exists.1 h1
    obtain ⟨bi, hbi⟩ := Option.isSome_iff_exists.1 h2
    by_cases hrs : r = slot
    · subst hrs
      rw [hri] at hbi; cases hbi
      simp only [getResultsNF, seq, execAssign, evalCond, slotAfter, hr, Bool.false_eq_true, false_and, ↓reduceIte, hm, hri,
        Cmp.holds, hirr ri.hv, decide_false, finish]
    · by_cases hlt : ri.hv < bi.hv <;>
        simp only [getResultsNF, seq, execAssign, evalCond, slotAfter, hr, hrs, Bool.false_eq_true, false_and, ↓reduceIte, hm, hri,
          hbi, Cmp.holds, hlt, decide_true, decide_false, finish]

end ReportInterp
end

namespace ReportInterp
open AGP AGP.Ctl Proc Gen.ProcSrc
variable {α : Type} [Field α] [LinearOrder α] [IsStrictOrderedRing α] [Fns α]

/-- **a refinement obeying the contract leaves the slot on the reported trial**: `DoLocalRefinement` ends with the slot (and
`__refinedTrial`) `= reportedId ps s`; if the value returned is not larger than the value holder of that trial (the Nelder-Mead
contract `RefineLe`), that trial is the reported one of the NEW state as well, so the next `GetResults()` finds the slot as
`getResults_src` wants it. -/
theorem slotOK_doLocalRefinement {ps : PState α} {s : State α} (lr : LocalResult α) (hm : ps.m = some s) {b : Item α}
    (hb : findItem s.items (reportedId ps s) = some b) (hle : lr.fx ≤ b.hv) :
    ∃ s', (Proc.doLocalRefinement ps lr).m = some s' ∧ reportedId (Proc.doLocalRefinement ps lr) s' = reportedId ps s :=
  ⟨_, by rw [doLocalRefinement_some lr hm], reportedId_refine_of_le lr hm hb hle⟩

/-- **every reachable state resolves**: after any sequence of `DoGlobalIteration(k)` / `Solve` calls on a fresh solver (objective
never raises, refinements obey the contract) the method's best and the trial refined last are stored trials - the hypothesis
`Resolved` of `getResults_src` / `doLocalRefinement_src` -/
theorem resolved_reachable (p : Params α) (f : Nat → List α → Option α) (refine : PState α → Option (LocalResult α))
    (hL : FnsLaws α) (hr : 1 < p.r) (hn : 0 < p.n) (htot : ∀ k pt, f k pt ≠ none) (href : RefineLe refine)
    (ops : List Op) (s : State α) (hm : (runOps p f refine ops {}).m = some s) :
    Resolved (runOps p f refine ops {}) s := by
  have hOK : ResOK p (runOps p f refine ops {}) :=
    (resOK_stepInv hL hr hn htot).runOps (resOK_refInv hL hr hn href) ops (resOK_fresh p)
  exact ⟨by obtain ⟨bi, hbi, -⟩ := (hOK.1.1.facts hL hr hn hm).best; rw [hbi]; rfl, hOK.2 s hm⟩

/-- **`GetResults()` on every reachable state**: the generated tree, run on the state after any sequence of operations with the
slot as `UpdateOptimum` or a previous `GetResults()` left it, returns the solution with the slot on the model's reported trial -/
theorem getResults_src_reachable (p : Params α) (f : Nat → List α → Option α) (refine : PState α → Option (LocalResult α))
    (hL : FnsLaws α) (hr : 1 < p.r) (hn : 0 < p.n) (htot : ∀ k pt, f k pt ≠ none) (href : RefineLe refine)
    (ops : List Op) (s : State α) (hm : (runOps p f refine ops {}).m = some s)
    (c : Ctx α) (depth : Nat) (ints : List (String × Int)) (slot : Nat)
    (hslot : slot = s.best ∨ slot = reportedId (runOps p f refine ops {}) s) :
    run c depth Gen.ProcSrc.getResults ints ⟨runOps p f refine ops {}, slot⟩ =
      .done ⟨runOps p f refine ops {}, reportedId (runOps p f refine ops {}) s⟩ (some .solution) :=
  getResults_src c depth ints _ s slot hm (resolved_reachable p f refine hL hr hn htot href ops s hm) hslot

end ReportInterp

/-! ## Non-vacuity, and what the ties exclude: concrete runs over `ℚ` (`ProcToy`: `N = 1`, objective `(x - 1/3)^2`) -/

namespace ReportInterp.Examples
open AGP Proc ProcToy
open Gen.ProcSrc (Stmt)

/-- a decidable view of an outcome; `items`: (id, point, value holder) of every stored trial -/
structure View where
  slot : Nat
  ret : Option Val
  refined : Option Nat
  nLocal : Nat
  best : Option Nat
  items : Option (List (Nat × List Rat × Rat))
deriving DecidableEq

def viewG (g : Glob Rat) (ret : Option Val) : View :=
  { slot := g.slot, ret := ret, refined := g.ps.refined, nLocal := g.ps.nLocal, best := g.ps.m.map (·.best),
    items := g.ps.m.map fun s => s.items.map fun it => (it.id, it.point, it.hv) }

def view (o : POut Rat) : Option View :=
  match o with
  | .done g ret => some (viewG g ret)
  | .stuck => none

def resolvedB (ps : PState Rat) (s : State Rat) : Bool :=
  (findItem s.items s.best).isSome && match ps.refined with
    | none => true
    | some r => (findItem s.items r).isSome

theorem resolved_of_check {ps : PState Rat} {s : State Rat} (h : resolvedB ps s = true) : Resolved ps s := by
  unfold resolvedB at h
  rw [Bool.and_eq_true] at h
  refine ⟨h.1, fun r hr => ?_⟩
  have h2 := h.2
  rw [hr] at h2
  exact h2

/-- the refinement of the examples of `IOptProps/C04reported.lean`: the reported trial moves to `x = 1/3`, value `0` -/
def exRefine : PState Rat → Option (LocalResult Rat) := fun _ => some { x := [1/3], fx := 0, nfev := 7 }

/-- `Solve()` with budget 3, no refinement: trials 2, 3, 4; `Method.best` = 3; nothing refined -/
def PS0 : PState Rat := solve (P 3 (1/10)) F noRefine {}
/-- `Solve()` with budget 5 and refinement (trial 6 gets the value `0`), then three more global iterations: `Method.best` moves to
trial 9 (value `130321/268435456 > 0`), the refined trial 6 stays the reported one (the scenario of defect F14) -/
def PS1 : PState Rat := doGlobalIteration (P 5 (1/10)) F 3 (solve (P 5 (1/10)) F exRefine {}) [] |>.s

def S0 : State Rat := PS0.m.get (by decide +kernel)
def S1 : State Rat := PS1.m.get (by decide +kernel)
theorem hm0 : PS0.m = some S0 := (Option.some_get _).symm
theorem hm1 : PS1.m = some S1 := (Option.some_get _).symm

example : S0.best = 3 ∧ PS0.refined = none ∧ reportedId PS0 S0 = 3 ∧
    S1.best = 9 ∧ PS1.refined = some 6 ∧ reportedId PS1 S1 = 6 := by decide +kernel

theorem res0 : Resolved PS0 S0 := resolved_of_check (by decide +kernel)
theorem res1 : Resolved PS1 S1 := resolved_of_check (by decide +kernel)

/-- oracles that are NOT constant: Nelder-Mead moves the start point by `1/100` (11 evaluations), `problemCalculate` is the objective -/
def C : Ctx Rat := { minimize := fun x0 => (x0.map (· + 1/100), 11), evalAt := fun y => (y.headD 0 - 1/3) * (y.headD 0 - 1/3) }

/-- the interpreter RUN on the generated tree of `GetResults`: nothing refined - the slot keeps `Method.best`; refined trial 6
better than `Method.best` = 9 - the slot is re-pointed from 9 to 6 and stays there at the next call; the object is returned and the
model state is untouched -/
example :
    view (run C 0 Gen.ProcSrc.getResults [] ⟨PS0, 3⟩) = some (viewG ⟨PS0, 3⟩ (some .solution)) ∧
    view (run C 0 Gen.ProcSrc.getResults [] ⟨PS1, 9⟩) = some (viewG ⟨PS1, 6⟩ (some .solution)) ∧
    view (run C 0 Gen.ProcSrc.getResults [] ⟨PS1, 6⟩) = some (viewG ⟨PS1, 6⟩ (some .solution)) := by
  simp only [getResults_nf]
  decide +kernel

/-- the interpreter RUN on the generated tree of `DoLocalRefinement` (`GetResults` through its own tree, depth 1): the model's
result for the `LocalResult` that the oracles give from the point of the REPORTED trial (`[1/4]` for trial 3, `[1/3]` for trial 6,
not `Method.best` = 9), for `number = -1` and `number = 20` -/
example :
    view (run C 1 Gen.ProcSrc.doLocalRefinement [("number", -1)] ⟨PS0, 3⟩) =
      some (viewG ⟨Proc.doLocalRefinement PS0 (C.lr [1/4]), 3⟩ none) ∧
    view (run C 1 Gen.ProcSrc.doLocalRefinement [("number", 20)] ⟨PS1, 9⟩) =
      some (viewG ⟨Proc.doLocalRefinement PS1 (C.lr [1/3]), 6⟩ none) ∧
    (view (run C 1 Gen.ProcSrc.doLocalRefinement [("number", 20)] ⟨PS1, 9⟩)).map (fun v => (v.slot, v.refined, v.nLocal)) =
      some (6, some 6, 11) ∧
    ((view (run C 1 Gen.ProcSrc.doLocalRefinement [("number", 20)] ⟨PS1, 9⟩)).bind (·.items)).map (·.filter (·.1 == 6)) =
      some [(6, [103/300], 1/10000)] := by
  simp only [doLocalRefinement_nf, getResults_nf]
  decide +kernel

/-- the tie theorems instantiated at these runs (their hypotheses hold) -/
example := getResults_src C 0 [] PS1 S1 9 hm1 res1 (.inl (by decide +kernel))
example := getResults_src C 0 [] PS1 S1 6 hm1 res1 (.inr (by decide +kernel))
example := getResults_src C 0 [] PS0 S0 3 hm0 res0 (.inl (by decide +kernel))
example := doLocalRefinement_src_lr ({ x := [1/3], fx := 0, nfev := 7 } : LocalResult Rat) 0 (-1) PS1 S1 9 hm1 res1 (.inl (by decide +kernel))

/-- `DoLocalRefinement` at call depth 0 cannot call `self.GetResults`: stuck (the hypothesis `d+1` is needed); before the first
iteration (`m = none`) the tree is stuck too (the slot holds the placeholder `Trial([], [])`, which has no value holder) -/
example : view (run C 0 Gen.ProcSrc.doLocalRefinement [("number", -1)] ⟨PS1, 9⟩) = none ∧
    view (run C 1 Gen.ProcSrc.doLocalRefinement [("number", -1)] ⟨{}, 0⟩) = none := by
  simp only [doLocalRefinement_nf, getResults_nf]
  decide +kernel

/-- statements outside the tables are not silently accepted: the other trees of `process.py`, an unknown assignment, the scipy
call without `bounds=bounds` (defect F5) -/
example : view (run C 1 Gen.ProcSrc.solve [] ⟨PS1, 9⟩) = none ∧
    view (run C 1 Gen.ProcSrc.problemCalculate [] ⟨PS1, 9⟩) = none ∧
    view (run C 1 [.assign "solution.bestTrials[0]" "self.method.best"] [] ⟨PS1, 9⟩) = none ∧
    view (run C 1 [
      .call ["result"] "self.GetResults" [],
      .assign "startPoint" "result.bestTrials[0].point.floatVariables",
      .call ["bounds"] "Bounds" ["self.task.problem.lowerBoundOfFloatVariables", "self.task.problem.upperBoundOfFloatVariables"],
      .call ["nelder_mead"] "scipy.optimize.minimize" ["self.problemCalculate", "x0=startPoint", "method='Nelder-Mead'",
        "options={'maxiter': self.localMethodIterationCount}"]] [] ⟨PS1, 9⟩) = none := by decide +kernel

/-! ### seeded edits of the source are NOT equal to the model (or provably harmless) -/

/-- the state for the `<=` edit: as `PS1`, but the first refinement returns exactly the value that trial 9 will have -/
def eqRefine : PState Rat → Option (LocalResult Rat) := fun _ => some { x := [1/3], fx := 130321/268435456, nfev := 7 }
def PS2 : PState Rat := doGlobalIteration (P 5 (1/10)) F 3 (solve (P 5 (1/10)) F eqRefine {}) [] |>.s
def S2 : State Rat := PS2.m.get (by decide +kernel)

/-- **`<` replaced by `<=`**: the edited tree runs and re-points the slot to the refined trial 6, whose value holder EQUALS that of
`Method.best` = 9; the model (and the source) keep reporting trial 9 -/
theorem le_not_model : run C 0 getResultsLe [] ⟨PS2, 9⟩ ≠ .done ⟨PS2, reportedId PS2 S2⟩ (some .solution) := by
  intro h
  have h' := congrArg (fun o => (view o).map (·.slot)) h
  revert h'
  decide +kernel

example : (view (run C 0 getResultsLe [] ⟨PS2, 9⟩)).map (·.slot) = some 6 ∧ reportedId PS2 S2 = 9 ∧
    (view (run C 0 Gen.ProcSrc.getResults [] ⟨PS2, 9⟩)).map (·.slot) = some 9 := by
  simp only [getResults_nf]
  decide +kernel

/-- **the identity test dropped**: harmless (`getResults_noIdentity_run`); here the run -/
example : view (run C 0 getResultsNoIdentity [] ⟨PS1, 9⟩) = view (run C 0 Gen.ProcSrc.getResults [] ⟨PS1, 9⟩) ∧
    view (run C 0 getResultsNoIdentity [] ⟨PS1, 6⟩) = view (run C 0 Gen.ProcSrc.getResults [] ⟨PS1, 6⟩) := by
  simp only [getResults_nf]
  decide +kernel

/-- `GetResults` without the re-pointing `solution.bestTrials[0] = refined` (the code before the repair of F14) -/
def getResultsNoRepoint : List Stmt :=
  [
    .assign "solution" "self.searchData.solution",
    .assign "refined" "self.__refinedTrial",
    .ite "refined is not None and solution.bestTrials[0] is not refined and (refined.functionValues[0].value < solution.bestTrials[0].functionValues[0].value)" [] [],
    .ret "solution"]

/-- **the re-pointing dropped**: the tree runs and reports `Method.best` = 9 (value `> 0`) instead of the refined trial 6 (value 0) -/
theorem noRepoint_not_model : run C 0 getResultsNoRepoint [] ⟨PS1, 9⟩ ≠ .done ⟨PS1, reportedId PS1 S1⟩ (some .solution) := by
  intro h
  have h' := congrArg (fun o => (view o).map (·.slot)) h
  revert h'
  decide +kernel

/-- `DoLocalRefinement` without its last line -/
def dlrNoRemember : List Stmt :=
  [
    .assign "self.localMethodIterationCount" "number",
    .ite "number == -1" [
      .assign "self.localMethodIterationCount" "self.parameters.itersLimit * 0.05"] [],
    .call ["result"] "self.GetResults" [],
    .assign "startPoint" "result.bestTrials[0].point.floatVariables",
    .call ["bounds"] "Bounds" ["self.task.problem.lowerBoundOfFloatVariables", "self.task.problem.upperBoundOfFloatVariables"],
    .call ["nelder_mead"] "scipy.optimize.minimize" ["self.problemCalculate", "x0=startPoint", "method='Nelder-Mead'", "options={'maxiter': self.localMethodIterationCount}", "bounds=bounds"],
    .assign "result.bestTrials[0].point.floatVariables" "nelder_mead.x",
    .call ["result.bestTrials[0].functionValues[0].value"] "self.problemCalculate" ["result.bestTrials[0].point.floatVariables"],
    .assign "result.numberOfLocalTrials" "nelder_mead.nfev"]

/-- **the last line `self.__refinedTrial = result.bestTrials[0]` dropped**: the tree runs, the trial is refined, but
`__refinedTrial` stays `None` where the model has `some 3` -/
theorem noRemember_not_model :
    run C 1 dlrNoRemember [("number", -1)] ⟨PS0, 3⟩ ≠ .done ⟨Proc.doLocalRefinement PS0 (C.lr [1/4]), 3⟩ none := by
  intro h
  have h' := congrArg (fun o => (view o).map (·.refined)) h
  revert h'
  decide +kernel

example : (view (run C 1 dlrNoRemember [("number", -1)] ⟨PS0, 3⟩)).map (fun v => (v.refined, v.nLocal)) = some (none, 11) := by
  decide +kernel

/-- `DoLocalRefinement` with the re-evaluation BEFORE the overwrite of the point -/
def dlrEvalFirst : List Stmt :=
  [
    .assign "self.localMethodIterationCount" "number",
    .ite "number == -1" [
      .assign "self.localMethodIterationCount" "self.parameters.itersLimit * 0.05"] [],
    .call ["result"] "self.GetResults" [],
    .assign "startPoint" "result.bestTrials[0].point.floatVariables",
    .call ["bounds"] "Bounds" ["self.task.problem.lowerBoundOfFloatVariables", "self.task.problem.upperBoundOfFloatVariables"],
    .call ["nelder_mead"] "scipy.optimize.minimize" ["self.problemCalculate", "x0=startPoint", "method='Nelder-Mead'", "options={'maxiter': self.localMethodIterationCount}", "bounds=bounds"],
    .call ["result.bestTrials[0].functionValues[0].value"] "self.problemCalculate" ["result.bestTrials[0].point.floatVariables"],
    .assign "result.bestTrials[0].point.floatVariables" "nelder_mead.x",
    .assign "result.numberOfLocalTrials" "nelder_mead.nfev",
    .assign "self.__refinedTrial" "result.bestTrials[0]"]

/-- **the two overwrites swapped**: the value holder gets the objective at the OLD point (`1/144` at `[1/4]`) and not at the point
stored with it (`49/90000` at `[13/50]`) -/
theorem evalFirst_not_model :
    run C 1 dlrEvalFirst [("number", -1)] ⟨PS0, 3⟩ ≠ .done ⟨Proc.doLocalRefinement PS0 (C.lr [1/4]), 3⟩ none := by
  intro h
  have h' := congrArg (fun o => (view o).map (·.items)) h
  revert h'
  decide +kernel

/-- `DoLocalRefinement` starting from `Method.best` instead of `GetResults()` cannot even be written with the strings of the
tables; dropping the call `result = self.GetResults()` leaves `result` unbound: stuck -/
example : view (run C 1 (Gen.ProcSrc.doLocalRefinement.eraseIdx 2) [("number", -1)] ⟨PS1, 9⟩) = none := by decide +kernel

/-- a refinement that VIOLATES the Nelder-Mead contract (`RefineLe`): from `PS1` (reported trial 6, value 0) it returns the
value 1 -/
def PS3 : PState Rat := Proc.doLocalRefinement PS1 { x := [1/3], fx := 1, nfev := 7 }
def S3 : State Rat := PS3.m.get (by decide +kernel)

/-- after it `DoLocalRefinement` leaves the refined trial 6 in the slot, the model's `reportedId` is `Method.best` = 9 (value
`130321/268435456 < 1`), and `GetResults()` - source tree - returns the slot unchanged (`solution.bestTrials[0] is refined`): trial 6
with the value 1, until the next `UpdateOptimum` resets the slot.  Source and model part here; the contract excludes it
(`slotOK_doLocalRefinement`). -/
example : (view (run (Ctx.const { x := [1/3], fx := 1, nfev := 7 }) 1 Gen.ProcSrc.doLocalRefinement [("number", -1)] ⟨PS1, 9⟩)).map
      (fun v => (v.slot, v.refined)) = some (6, some 6) ∧
    reportedId PS3 S3 = 9 ∧
    (view (run C 0 Gen.ProcSrc.getResults [] ⟨PS3, 6⟩)).map (·.slot) = some 6 ∧
    (view (run C 0 Gen.ProcSrc.getResults [] ⟨PS3, 9⟩)).map (·.slot) = some 9 := by
  simp only [getResults_nf, doLocalRefinement_nf]
  decide +kernel

end ReportInterp.Examples

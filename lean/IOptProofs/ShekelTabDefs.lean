import IOptProofs.BenchShekelDefs
/-!
# Shekel: the computable side of the table certificates (C18: min / max / Lipschitz tables); no Mathlib

`f(x) = -Σⱼ 1/(kⱼ (x - aⱼ)² + cⱼ)` on `[0,10]`, `f'(x) = Σⱼ 2 kⱼ (x - aⱼ)/(kⱼ (x - aⱼ)² + cⱼ)²`.

The scaling of the tables (`nterms`, `tabOK`, common exponent `E`, points `X / 2^E`, term bounds `tUp`,
`tDn`) is that of `BenchShekelDefs.lean`.  New here:

* bounds of the derivative on an integer box `[lo, hi]`.  Write `h(u) = 2 k u/(k u² + c)²` for `u ≥ 0`;
  the j-th term of `f'` is `h((x-a)⁺) - h((a-x)⁺)`.  `h` increases while `3 k u² ≤ c` and decreases
  afterwards, so on `u ∈ [n, f]` its exact range is attained at the end points unless the box straddles
  the turning point (then a cruder bound is used).  The four sums `sPU ≥ Σ h((x-a)⁺) ≥ sPL`,
  `sNU ≥ Σ h((a-x)⁺) ≥ sNL` (units `2^-P`, rounded outwards only in the final division) give
  `(sPL - sNU)/2^P ≤ f' ≤ (sPU - sNL)/2^P`;
* `gbnb`: bisection with an arbitrary leaf test (value tests `vLo`, `vHi`, sign tests `dNeg`, `dPos`);
* `lipT`: one bisection that proves `|f'| ≤ Tu/2^P` on the box and looks for a witness point with
  `|f'| ≥ Tl/2^P` among the midpoints of the accepted boxes whose upper bound reaches `Tl`;
  `wit`: a plain witness search used when `lipT` found none;
* `minSide`, `maxSide`: the min / max table clauses (see `ShekelTab.lean` for their meaning).

Kernel-evaluation notes (measured, Lean 4.33).  Functions compiled from structural recursion (`brecOn`)
cost the kernel 50-90 µs per recursive call; the same function written with the recursor directly
(`List.rec`, `Nat.rec`) costs a few µs per call, and nested primitive `Nat` operations without intermediate
forcing are cheapest (the kernel caches the normal forms of repeated subterms).  Hence all recursions here
are written with recursors (so the definitions are `noncomputable`: they are evaluated by the kernel only),
and `force` is used only once or twice per box.  One value box costs ≈ 0.3 ms, one derivative box (all four
sums, 10 terms) ≈ 2 ms; a function needs ≈ 220 value boxes and ≈ 200 derivative boxes: ≈ 0.5 s per function,
≈ 9 min CPU for the 1000 functions.
-/

namespace Shk

/-- evaluate `n` to a literal before continuing (`force n k = k n`) -/
@[reducible] def force {α : Type} (n : Nat) (k : Nat → α) : α :=
  @Nat.casesOn (fun _ => α) n (k 0) (fun m => k (Nat.succ m))

/-- `Σ_{t ∈ ts} h t`, by the recursor -/
noncomputable def sumL (h : NTerm → Nat) (ts : List NTerm) : Nat :=
  @List.rec NTerm (fun _ => Nat) 0 (fun t _ ih => Nat.add (h t) ih) ts

/-- `= sUp A ts lo hi`: `Σ 1/(k(x-a)²+c) ≤ sUpR/2^P` on the box -/
noncomputable def sUpR (A : Nat) (ts : List NTerm) (lo hi : Nat) : Nat := sumL (fun t => tUp A t lo hi) ts
/-- `= sDn A ts lo hi`: `sDnR/2^P ≤ Σ 1/(k(x-a)²+c)` on the box -/
noncomputable def sDnR (A : Nat) (ts : List NTerm) (lo hi : Nat) : Nat := sumL (fun t => tDn A t lo hi) ts

/-- a term prepared for the derivative bounds: `k·2^E`, `a·2^E`, `c·2^(3E)`, `kb = 2 k B` with
`B = 2^(4E+P)`, and `c3 = ⌊c/3⌋` -/
structure DT where
  k : Nat
  a : Nat
  c : Nat
  kb : Nat
  c3 : Nat

def mkDT (B : Nat) (t : NTerm) : DT := ⟨t.1, t.2.1, t.2.2, Nat.mul (Nat.mul 2 t.1) B, Nat.div t.2.2 3⟩

/-- evaluate the fields to literals -/
def forceDTs : List DT → (List DT → Bool) → Bool
  | [], k => k []
  | ⟨a, b, c, d, e⟩ :: ts, k =>
    force a fun a => force b fun b => force c fun c => force d fun d => force e fun e =>
      forceDTs ts fun ts => k (⟨a, b, c, d, e⟩ :: ts)

/-- `Σ_{t ∈ ts} h t`, by the recursor -/
noncomputable def sumD (h : DT → Nat) (ts : List DT) : Nat :=
  @List.rec DT (fun _ => Nat) 0 (fun t _ ih => Nat.add (h t) ih) ts

/-- `k d²`, scaled by `2^(3E)` -/
def qd (t : DT) (d : Nat) : Nat := Nat.mul t.k (Nat.mul d d)
/-- `(k d² + c)²`, scaled by `2^(6E)` -/
def dn2 (t : DT) (d : Nat) : Nat := Nat.mul (Nat.add (qd t d) t.c) (Nat.add (qd t d) t.c)
/-- `⌊h(d/2^E) 2^P⌋` -/
def hv (t : DT) (d : Nat) : Nat := Nat.div (Nat.mul t.kb d) (dn2 t d)
/-- upper bound when `[n, f]` straddles the turning point of `h` -/
def hUs (t : DT) (n f : Nat) : Nat := Nat.succ (Nat.div (Nat.mul t.kb f) (dn2 t n))
/-- lower bound when `[n, f]` straddles the turning point of `h` -/
def hLs (t : DT) (n f : Nat) : Nat := cond (Nat.ble (hv t n) (hv t f)) (hv t n) (hv t f)

/-- upper bound of `h(u)`, `u ∈ [n, f]/2^E`, in units of `2^-P`: `k f² ≤ ⌊c/3⌋` means that `h` increases
on `[0, f]`, `⌊c/3⌋ < k n²` that it decreases on `[n, ∞)` -/
def hU (t : DT) (n f : Nat) : Nat :=
  cond (Nat.beq f 0) 0
    (cond (Nat.ble (qd t f) t.c3) (Nat.succ (hv t f))
      (cond (Nat.blt t.c3 (qd t n)) (Nat.succ (hv t n)) (hUs t n f)))

/-- lower bound of `h(u)`, `u ∈ [n, f]/2^E`, in units of `2^-P` -/
def hL (t : DT) (n f : Nat) : Nat :=
  cond (Nat.beq n 0) 0
    (cond (Nat.ble (qd t f) t.c3) (hv t n)
      (cond (Nat.blt t.c3 (qd t n)) (hv t f) (hLs t n f)))

/-- `Σ h((x-a)⁺) ≤ sPU / 2^P` on the box -/
noncomputable def sPU (ds : List DT) (lo hi : Nat) : Nat :=
  sumD (fun t => hU t (Nat.sub lo t.a) (Nat.sub hi t.a)) ds
/-- `sPL / 2^P ≤ Σ h((x-a)⁺)` on the box -/
noncomputable def sPL (ds : List DT) (lo hi : Nat) : Nat :=
  sumD (fun t => hL t (Nat.sub lo t.a) (Nat.sub hi t.a)) ds
/-- `Σ h((a-x)⁺) ≤ sNU / 2^P` on the box -/
noncomputable def sNU (ds : List DT) (lo hi : Nat) : Nat :=
  sumD (fun t => hU t (Nat.sub t.a hi) (Nat.sub t.a lo)) ds
/-- `sNL / 2^P ≤ Σ h((a-x)⁺)` on the box -/
noncomputable def sNL (ds : List DT) (lo hi : Nat) : Nat :=
  sumD (fun t => hL t (Nat.sub t.a hi) (Nat.sub t.a lo)) ds

/-- `f ≥ -T/2^P` on the box -/
noncomputable def vLo (A : Nat) (ts : List NTerm) (T lo hi : Nat) : Bool := Nat.ble (sUpR A ts lo hi) T
/-- `f ≤ -T/2^P` on the box -/
noncomputable def vHi (A : Nat) (ts : List NTerm) (T lo hi : Nat) : Bool := Nat.ble T (sDnR A ts lo hi)
/-- `f' < 0` on the box -/
noncomputable def dNeg (ds : List DT) (lo hi : Nat) : Bool :=
  Nat.blt (sPU ds lo hi) (sNL ds lo hi)
/-- `f' > 0` on the box -/
noncomputable def dPos (ds : List DT) (lo hi : Nat) : Bool :=
  Nat.blt (sNU ds lo hi) (sPL ds lo hi)

/-- one step of `gbnb` -/
def gbnbStep (leaf : Nat → Nat → Bool) (ih : Nat → Nat → Bool) (lo hi : Nat) : Bool :=
  leaf lo hi ||
    (Nat.blt (Nat.add lo 1) hi && force (Nat.div (Nat.add lo hi) 2) fun m => (ih lo m && ih m hi))

/-- bisection with an arbitrary leaf test: `true` means that every point of `[lo, hi]` lies in a box
accepted by `leaf` -/
noncomputable def gbnb (leaf : Nat → Nat → Bool) (fuel lo hi : Nat) : Bool :=
  @Nat.rec (fun _ => Nat → Nat → Bool) (fun lo hi => leaf lo hi)
    (fun _ ih lo hi => gbnbStep leaf ih lo hi) fuel lo hi

/-- `|f'(m/2^E)| ≥ Tl/2^P` -/
noncomputable def ptOK (ds : List DT) (Tl m : Nat) : Bool :=
  (Nat.ble Tl (sPL ds m m) && Nat.ble (Nat.add (sNU ds m m) Tl) (sPL ds m m)) ||
  (Nat.ble Tl (sNL ds m m) && Nat.ble (Nat.add (sPU ds m m) Tl) (sNL ds m m))

/-- `|f'| ≤ Tu/2^P` on the box (the lower sums are evaluated only when the upper sums alone do not
settle the test) -/
noncomputable def lipUp (ds : List DT) (Tu lo hi : Nat) : Bool :=
  (Nat.ble (sPU ds lo hi) Tu || Nat.ble (sPU ds lo hi) (Nat.add (sNL ds lo hi) Tu)) &&
  (Nat.ble (sNU ds lo hi) Tu || Nat.ble (sNU ds lo hi) (Nat.add (sPL ds lo hi) Tu))

/-- the upper bound of `|f'|` on the box reaches `Tl/2^P` (a heuristic filter: no soundness needed) -/
noncomputable def lipCand (ds : List DT) (Tl lo hi : Nat) : Bool :=
  (Nat.ble Tl (sPU ds lo hi) && Nat.ble (Nat.add (sNL ds lo hi) Tl) (sPU ds lo hi)) ||
  (Nat.ble Tl (sNU ds lo hi) && Nat.ble (Nat.add (sPL ds lo hi) Tl) (sNU ds lo hi))

/-- one box of `lipT`: `0` = `|f'| ≤ Tu/2^P` not established on the box; `1` = established;
`2` = established, and the midpoint is a witness of `|f'| ≥ Tl/2^P` (only looked for when `need`) -/
noncomputable def lipEval (ds : List DT) (Tu Tl : Nat) (need : Bool) (lo hi : Nat) : Nat :=
  cond (lipUp ds Tu lo hi)
    (cond (need && lipCand ds Tl lo hi && ptOK ds Tl (Nat.div (Nat.add lo hi) 2)) 2 1)
    0

/-- one step of `lipT` -/
noncomputable def lipStep (ds : List DT) (Tu Tl : Nat) (ih : Bool → Nat → Nat → Nat)
    (need : Bool) (lo hi : Nat) : Nat :=
  force (lipEval ds Tu Tl need lo hi) fun c =>
  cond (Nat.blt 0 c) c
    (cond (Nat.blt (Nat.add lo 1) hi)
      (force (Nat.div (Nat.add lo hi) 2) fun m =>
        force (ih need lo m) fun l =>
        cond (Nat.beq l 0) 0
          (force (ih (need && Nat.blt l 2) m hi) fun r =>
            cond (Nat.beq r 0) 0 (cond (Nat.ble l r) r l)))
      0)

/-- bisection for `|f'| ≤ Tu/2^P` on `[lo, hi]` with a witness search on the way; result as `lipEval` -/
noncomputable def lipT (ds : List DT) (Tu Tl fuel : Nat) (need : Bool) (lo hi : Nat) : Nat :=
  @Nat.rec (fun _ => Bool → Nat → Nat → Nat) (fun need lo hi => lipEval ds Tu Tl need lo hi)
    (fun _ ih need lo hi => lipStep ds Tu Tl ih need lo hi) fuel need lo hi

/-- one step of `wit` -/
noncomputable def witStep (ds : List DT) (Tl : Nat) (ih : Nat → Nat → Bool) (lo hi : Nat) : Bool :=
  lipCand ds Tl lo hi &&
  force (Nat.div (Nat.add lo hi) 2) fun m =>
    (ptOK ds Tl m || (Nat.blt (Nat.add lo 1) hi && (ih lo m || ih m hi)))

/-- plain witness search: some midpoint `m` of the bisection tree of `[lo, hi]` has `ptOK m`; boxes on
which the upper bound of `|f'|` stays below `Tl/2^P` are skipped -/
noncomputable def wit (ds : List DT) (Tl fuel lo hi : Nat) : Bool :=
  @Nat.rec (fun _ => Nat → Nat → Bool) (fun lo hi => ptOK ds Tl (Nat.div (Nat.add lo hi) 2))
    (fun _ ih lo hi => witStep ds Tl ih lo hi) fuel lo hi

/-- the Lipschitz clause: `|f'| ≤ Tu/2^P` on `[0, X10]` and a witness of `|f'| ≥ Tl/2^P` in it -/
noncomputable def lipOK (ds : List DT) (Tu Tl X10 : Nat) : Bool :=
  force (lipT ds Tu Tl 64 true 0 X10) fun c =>
    Nat.ble 2 c || (Nat.beq c 1 && wit ds Tl 64 0 X10)

/-- the better of `q` and `c` for `score` (larger is better when `up`, smaller otherwise) -/
def better (up : Bool) (score : Nat → Nat) (q c : Nat) : Nat :=
  cond (cond up (Nat.blt (score q) (score c)) (Nat.blt (score c) (score q))) c q

/-- the best of `q` and the candidates `cs` -/
noncomputable def argBest (up : Bool) (score : Nat → Nat) (cs : List Nat) (q : Nat) : Nat :=
  @List.rec Nat (fun _ => Nat → Nat) (fun q => q)
    (fun c _ ih q => force (better up score q c) fun q' => ih q') cs q

/-- candidate points around `X`: `X ± t·(W/8)`, `t ≤ 4`, clipped to `[0, X10]` -/
def cands (X W X10 : Nat) : List Nat :=
  force (Nat.div W 8) fun s =>
    [Nat.min (Nat.add X s) X10, Nat.min (Nat.add X (Nat.mul 2 s)) X10, Nat.min (Nat.add X (Nat.mul 3 s)) X10,
     Nat.min (Nat.add X (Nat.mul 4 s)) X10, Nat.sub X s, Nat.sub X (Nat.mul 2 s), Nat.sub X (Nat.mul 3 s),
     Nat.sub X (Nat.mul 4 s)]

/-- the part of the min clauses that depends on the ring radius `R`: `f ≥ -Ts/2^P` outside
`(X - R, X + R)`, at the two edge boxes around `X ∓ 2^E/1000`, and `f' < 0` / `f' > 0` on the rings -/
noncomputable def minRing (A : Nat) (ts : List NTerm) (ds : List DT) (X X10 W Ts R : Nat) : Bool :=
  (Nat.blt X R || gbnb (vLo A ts Ts) 64 0 (Nat.sub X R)) &&
  (Nat.blt X10 (Nat.add X R) || gbnb (vLo A ts Ts) 64 (Nat.add X R) X10) &&
  (Nat.ble X W ||
    (vLo A ts Ts (Nat.sub X (Nat.add W 1)) (Nat.sub X W) &&
      gbnb (dNeg ds) 64 (Nat.sub X R) (Nat.sub X W))) &&
  (Nat.blt X10 (Nat.add (Nat.add X W) 1) ||
    (vLo A ts Ts (Nat.add X W) (Nat.add (Nat.add X W) 1) &&
      gbnb (dPos ds) 64 (Nat.add X W) (Nat.min (Nat.add X R) X10)))

/-- **min clauses** for the table point `X/2^E`, with `etaP = ⌈η 2^P⌉`, `Tv = ⌊-(vmin - 1e-4) 2^P⌋`
and `W = ⌊2^E/1000⌋`: a point `Q` near `X` with `f(Q) ≤ -dnQ/2^P`, the threshold `Ts = dnQ - etaP`
(so `f(Q) + η ≤ -Ts/2^P ≤ f` away from `X`), `Ts ≤ Tv`, `f ≥ -Tv/2^P` on the core
`[X - W - 1, X + W + 1]`, and `minRing` for the first radius `R = X10/2^J`, `J = 8, 10, 12`, that works. -/
noncomputable def minSide (A : Nat) (ts : List NTerm) (ds : List DT) (X X10 W etaP Tv : Nat) : Bool :=
  force (argBest true (fun q => sDnR A ts q q) (cands X W X10) X) fun Q =>
  Nat.ble Q X10 &&
  force (sDnR A ts Q Q) fun dnQ =>
  force (Nat.sub dnQ etaP) fun Ts =>
  Nat.ble (Nat.add Ts etaP) dnQ && Nat.ble Ts Tv &&
  gbnb (vLo A ts Tv) 64 (Nat.sub X (Nat.add W 1)) (Nat.min (Nat.add (Nat.add X W) 1) X10) &&
  (minRing A ts ds X X10 W Ts (Nat.div X10 256) || minRing A ts ds X X10 W Ts (Nat.div X10 1024) ||
    minRing A ts ds X X10 W Ts (Nat.div X10 4096))

/-- as `minRing`, for the maximum: `f ≤ -Ts/2^P` away from `X`, `f' > 0` left and `f' < 0` right of it -/
noncomputable def maxRing (A : Nat) (ts : List NTerm) (ds : List DT) (X X10 W Ts R : Nat) : Bool :=
  (Nat.blt X R || gbnb (vHi A ts Ts) 64 0 (Nat.sub X R)) &&
  (Nat.blt X10 (Nat.add X R) || gbnb (vHi A ts Ts) 64 (Nat.add X R) X10) &&
  (Nat.ble X W ||
    (vHi A ts Ts (Nat.sub X (Nat.add W 1)) (Nat.sub X W) &&
      gbnb (dPos ds) 64 (Nat.sub X R) (Nat.sub X W))) &&
  (Nat.blt X10 (Nat.add (Nat.add X W) 1) ||
    (vHi A ts Ts (Nat.add X W) (Nat.add (Nat.add X W) 1) &&
      gbnb (dNeg ds) 64 (Nat.add X W) (Nat.min (Nat.add X R) X10)))

/-- **max clauses**, `Tv = ⌈-(vmax + 1e-4) 2^P⌉`: a point `Q` near `X` with `f(Q) ≥ -upQ/2^P`,
`Ts = upQ + etaP` (so `f ≤ -Ts/2^P ≤ f(Q) - η` away from `X`), `Tv ≤ Ts`, `f ≤ -Tv/2^P` on the core. -/
noncomputable def maxSide (A : Nat) (ts : List NTerm) (ds : List DT) (X X10 W etaP Tv : Nat) : Bool :=
  force (argBest false (fun q => sUpR A ts q q) (cands X W X10) X) fun Q =>
  Nat.ble Q X10 &&
  force (sUpR A ts Q Q) fun upQ =>
  force (Nat.add upQ etaP) fun Ts =>
  Nat.ble Tv Ts &&
  gbnb (vHi A ts Tv) 64 (Nat.sub X (Nat.add W 1)) (Nat.min (Nat.add (Nat.add X W) 1) X10) &&
  (maxRing A ts ds X X10 W Ts (Nat.div X10 256) || maxRing A ts ds X X10 W Ts (Nat.div X10 1024) ||
    maxRing A ts ds X X10 W Ts (Nat.div X10 4096))

/-- `⌈5e-7 · 2^40⌉`: the certified margin `η` of the minimum location clause -/
def etaMinP : Nat := 549756
/-- `⌈3e-9 · 2^40⌉`: the certified margin `η` of the maximum location clause -/
def etaMaxP : Nat := 3299

/-- the common exponent used for function `i` (at least 10) -/
def expForTab (k a c : List Dy) (pn px : Dy) : Nat :=
  max (maxExp (k ++ a ++ c)) (max (expOf pn) (max (expOf px) 10))

/-- the certificate with the common exponent `E` given -/
noncomputable def shekelTabCertE (E : Nat) (k a c : List Dy) (vn pn vx px L : Dy) : Bool :=
  force (2 ^ (3 * E + P)) fun A =>
  force (2 ^ (4 * E + P)) fun B =>
  force (scale E pn) fun Xn =>
  force (scale E px) fun Xx =>
  force (10 * 2 ^ E) fun X10 =>
  force (2 ^ E / 1000) fun W =>
  tabOK E k a c && scaleOK E pn && scaleOK E px && Nat.ble Xn X10 && Nat.ble Xx X10 &&
  forceTerms (nterms E k a c) fun ts =>
  forceDTs (ts.map (mkDT B)) fun ds =>
  -- table values at the table points
  decide (-(sDnR A ts Xn Xn : Rat) / 2 ^ P ≤ vn.toRat + 1 / 10000) &&
  decide (vx.toRat - 1 / 10000 ≤ -(sUpR A ts Xx Xx : Rat) / 2 ^ P) &&
  -- min side
  decide (0 ≤ (-(vn.toRat - 1 / 10000) * 2 ^ P).floor) &&
  force (-(vn.toRat - 1 / 10000) * 2 ^ P).floor.toNat (fun Tv => minSide A ts ds Xn X10 W etaMinP Tv) &&
  -- max side
  force (-(vx.toRat + 1 / 10000) * 2 ^ P).ceil.toNat (fun Tv => maxSide A ts ds Xx X10 W etaMaxP Tv) &&
  -- Lipschitz constant
  decide (0 ≤ (L.toRat * (1001 / 1000) * 2 ^ P).floor) &&
  force (L.toRat * (1001 / 1000) * 2 ^ P).floor.toNat fun Tu =>
  force (L.toRat * (999 / 1000) * 2 ^ P).ceil.toNat fun Tl =>
  lipOK ds Tu Tl X10

/-- **The C18 table certificate of one Shekel function** with coefficient lists `k a c`, tabulated
minimum `(vn, pn)`, maximum `(vx, px)` and Lipschitz constant `L`. -/
noncomputable def shekelTabCert (k a c : List Dy) (vn pn vx px L : Dy) : Bool :=
  force (expForTab k a c pn px) fun E => shekelTabCertE E k a c vn pn vx px L

/-- the certificate of function `i` of the generated tables (the packed row is evaluated once) -/
noncomputable def shekelTabOK (i : Nat) : Bool :=
  force Gen.shekelRows[i]! fun row =>
    shekelTabCert (Dy.slice row 0 10) (Dy.slice row 10 10) (Dy.slice row 20 10)
      (Dy.get row 30) (Dy.get row 31) (Dy.get row 32) (Dy.get row 33) (Dy.get row 34)

end Shk

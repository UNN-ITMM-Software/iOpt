import IOptProofs.ProcessEff
/-!
# Counting invariants, `Solve` as a whole, sequences of user operations

Batches of `DoGlobalIteration` calls depend on their sizes only through the sum (`batches_sum`).
-/

set_option linter.unusedSectionVars false

section
variable {α : Type} [Add α] [Sub α] [Mul α] [Div α] [Neg α] [LT α] [LE α]
  [DecidableLT α] [DecidableLE α] [OfNat α 0] [OfNat α 1] [OfNat α 2] [OfNat α 4] [Fns α]

namespace Proc
open AGP AGP.Ctl

/-- The counters a user can read agree with each other and with the records: needs no arithmetic law, holds after any operations
(`Consistent.runOps_pres`), and is the counting part of every statement about the number of trials. -/
structure Consistent (ps : PState α) : Prop where
  trials : ps.nTrials = ps.evals.length
  iters : ps.iters = ps.nTrials
  nextId : ps.nextId = ps.nTrials + 2
  calls : ps.evals.length ≤ ps.calls

theorem Consistent.fresh : Consistent ({} : PState α) := ⟨rfl, rfl, rfl, Nat.le_refl _⟩

theorem Consistent.of_core {ps ps' : PState α} (hc : ps'.core = ps.core) (h : Consistent ps) : Consistent ps' := by
  have C := PState.core_eq_iff.1 hc
  obtain ⟨a, b, c, d⟩ := h
  constructor <;> simp only [PState.nTrials, PState.iters, PState.nextId, C.m, C.evals, C.calls] at * <;> assumption

/-- `Consistent` reads the counters only -/
theorem Consistent.eff {f : Nat → List α → Option α} {ps Y : PState α} {j : Nat} {ids : List Nat} {r : Option Raise}
    (hc : Consistent ps) (h : Eff f ps j ids r Y) : Consistent Y := by
  obtain ⟨a, b, c, d⟩ := hc
  have hl := h.evals_length
  exact ⟨by rw [h.nTrials, hl, a], by rw [h.iters, h.nTrials, b], by rw [h.nextId, h.nTrials, c]; omega,
    by rw [hl, h.calls]; omega⟩

theorem PState.nTrials_congr {ps ps' : PState α} (h : ps.core = ps'.core) : ps.nTrials = ps'.nTrials := by
  unfold PState.nTrials; rw [(PState.core_eq_iff.1 h).m]

/-- Bookkeeping of an operation that leaves `X`, the state after its passes up to the log: every call made is a record or the
one failed call, which was the last. -/
theorem Consistent.passes {p : Params α} {f : Nat → List α → Option α} {j : Nat} {ps Y X : PState α} {ids : List Nat}
    {r : Option Raise} (hc : Consistent ps) (h : Passes p f ps j ids r Y) (hX : X.core = Y.core) :
    Consistent X ∧ X.calls + ps.evals.length = ps.calls + X.evals.length + isObjective r ∧
    (isObjective r = 1 → ∃ pt, f (X.calls - 1) pt = none) := by
  have e := h.eff
  have C := PState.core_eq_iff.1 hX
  refine ⟨(hc.eff e).of_core hX, by rw [C.calls, C.evals, e.evals_length, e.calls]; omega, fun h1 => ?_⟩
  obtain ⟨pt, hpt⟩ := e.failed h1
  exact ⟨pt, by rw [C.calls, e.calls, h1, Nat.add_sub_cancel]; exact hpt⟩

theorem Consistent.dgi {p : Params α} {f : Nat → List α → Option α} {k : Nat} {ps : PState α} {saved : List Nat}
    (hc : Consistent ps) :
    Consistent (doGlobalIteration p f k ps saved).s ∧
    (doGlobalIteration p f k ps saved).s.calls + ps.evals.length =
      ps.calls + (doGlobalIteration p f k ps saved).s.evals.length + isObjective (doGlobalIteration p f k ps saved).raised ∧
    (isObjective (doGlobalIteration p f k ps saved).raised = 1 →
      ∃ pt, f ((doGlobalIteration p f k ps saved).s.calls - 1) pt = none) := by
  obtain ⟨j, ids, r, Y, D⟩ := dgi_passes p f k ps saved
  rw [D.eq]
  exact hc.passes D.passes (PState.appendLog_core Y _)

def refineStep (refine : PState α → Option (LocalResult α)) (ps : PState α) : PState α :=
  match refine ps with
  | some lr => doLocalRefinement ps lr
  | none => ps

/-- `ps'` shows the global search and those who watch it what `ps` shows them: how a state and its local refinement are related -/
structure SameSearch (ps' ps : PState α) : Prop where
  log : ps'.log = ps.log
  evals : ps'.evals = ps.evals
  calls : ps'.calls = ps.calls
  iters : ps'.iters = ps.iters
  nTrials : ps'.nTrials = ps.nTrials
  nextId : ps'.nextId = ps.nextId
  minDelta : ps'.minDelta = ps.minDelta
  m_eq_none : ps'.m = none ↔ ps.m = none
  stopNow : ∀ p : Params α, stopNow p ps' = stopNow p ps

/-- the one case analysis of `refineStep`; it is used through the lemmas that follow -/
theorem refineStep_fields (refine : PState α → Option (LocalResult α)) (ps : PState α) : SameSearch (refineStep refine ps) ps := by
  unfold refineStep
  split
  · unfold doLocalRefinement
    cases hm : ps.m with
    | none => constructor <;> simp [hm]
    | some s => constructor <;> simp [PState.iters, PState.nTrials, PState.nextId, PState.minDelta, Proc.stopNow, stopCond, hm]
  · constructor <;> simp

section
variable {ps : PState α} (refine : PState α → Option (LocalResult α))
@[simp] theorem refineStep_log : (refineStep refine ps).log = ps.log := (refineStep_fields refine ps).log
@[simp] theorem refineStep_evals : (refineStep refine ps).evals = ps.evals := (refineStep_fields refine ps).evals
@[simp] theorem refineStep_calls : (refineStep refine ps).calls = ps.calls := (refineStep_fields refine ps).calls
@[simp] theorem refineStep_iters : (refineStep refine ps).iters = ps.iters := (refineStep_fields refine ps).iters
@[simp] theorem refineStep_nTrials : (refineStep refine ps).nTrials = ps.nTrials := (refineStep_fields refine ps).nTrials
@[simp] theorem refineStep_nextId : (refineStep refine ps).nextId = ps.nextId := (refineStep_fields refine ps).nextId
@[simp] theorem refineStep_minDelta : (refineStep refine ps).minDelta = ps.minDelta := (refineStep_fields refine ps).minDelta
theorem refineStep_m_eq_none : (refineStep refine ps).m = none ↔ ps.m = none := (refineStep_fields refine ps).m_eq_none
end

theorem stopNow_refineStep (p : Params α) (refine : PState α → Option (LocalResult α)) (ps : PState α) :
    stopNow p (refineStep refine ps) = stopNow p ps :=
  (refineStep_fields refine ps).stopNow p

theorem Consistent.refine {refine : PState α → Option (LocalResult α)} {ps : PState α} (hc : Consistent ps) :
    Consistent (refineStep refine ps) :=
  ⟨by simpa using hc.trials, by simpa using hc.iters, by simpa using hc.nextId, by simpa using hc.calls⟩

theorem solve_eq (p : Params α) (f : Nat → List α → Option α) (refine : PState α → Option (LocalResult α)) (ps : PState α) :
    solve p f refine ps =
      (refineStep refine (solveLoop p f (p.itersLimit + 1) ps).1).appendLog
        [Event.methodStop (stopNow p (refineStep refine (solveLoop p f (p.itersLimit + 1) ps).1))] := by
  rfl

theorem solve_m_eq_none_iff (p : Params α) (f : Nat → List α → Option α)
    (refine : PState α → Option (LocalResult α)) (ps : PState α) :
    (solve p f refine ps).m = none ↔ (solveLoop p f (p.itersLimit + 1) ps).1.m = none := by
  rw [solve_eq, PState.appendLog_m]
  exact refineStep_m_eq_none refine

theorem solve_of_loop {p : Params α} {f : Nat → List α → Option α} {refine : PState α → Option (LocalResult α)}
    {ps X : PState α} {b : Bool} (h : solveLoop p f (p.itersLimit + 1) ps = (X, b)) :
    solve p f refine ps = (refineStep refine X).appendLog [Event.methodStop (stopNow p X)] := by
  rw [solve_eq, h, stopNow_refineStep]

/-- **`Solve`**: the passes of the loop, one `OnEndIteration` each, the printed line if one raised (`LoopRun`), then the refinement and
`OnMethodStop` (`LoopRun.solve_eq`). -/
theorem solve_passes (p : Params α) (f : Nat → List α → Option α) (ps : PState α) :
    ∃ j psj ids r Y, LoopRun p f (p.itersLimit + 1) ps j psj ids r Y :=
  solveLoop_cases (Nat.lt_succ_of_le (remaining_le p ps))

theorem LoopRun.solve_eq {p : Params α} {f : Nat → List α → Option α} {ps psj Y : PState α} {j : Nat} {ids : List Nat}
    {r : Option Raise} (h : LoopRun p f (p.itersLimit + 1) ps j psj ids r Y) (refine : PState α → Option (LocalResult α)) :
    solve p f refine ps =
      (refineStep refine (Y.appendLog (endEach ids ++ excOf r))).appendLog [Event.methodStop (stopNow p Y)] :=
  solve_of_loop h.loop

theorem RunPrefix.iters_le {p : Params α} {f : Nat → List α → Option α} {ps psj : PState α} {j : Nat} {ids : List Nat}
    (h : RunPrefix p f ps j psj ids) (hj : 0 < j) : ps.iters + j ≤ p.itersLimit := by
  obtain ⟨psi, idsi, hi, hst⟩ := h.notStop (j - 1) (Nat.sub_lt hj Nat.one_pos)
  have := iters_lt_of_not_stop hst
  rw [(iterN_eff hi).iters] at this
  omega

theorem Consistent.solve_pres {p : Params α} {f : Nat → List α → Option α} {refine : PState α → Option (LocalResult α)}
    {ps : PState α} (hc : Consistent ps) :
    Consistent (solve p f refine ps) ∧
    (solve p f refine ps).calls + ps.evals.length =
      ps.calls + (solve p f refine ps).evals.length + isObjective (solveRaise p f (p.itersLimit + 1) ps) ∧
    (isObjective (solveRaise p f (p.itersLimit + 1) ps) = 1 → ∃ pt, f ((solve p f refine ps).calls - 1) pt = none) := by
  obtain ⟨j, psj, ids, r, Y, L⟩ := solve_passes p f ps
  obtain ⟨h1, h2, h3⟩ := hc.passes L.passes (PState.appendLog_core Y (endEach ids ++ excOf r))
  rw [L.solve_eq, L.raise]
  exact ⟨(h1.refine).of_core (PState.appendLog_core _ _), by simpa using h2, by simpa using h3⟩

inductive Op where
  /-- `DoGlobalIteration(k)` (an exception propagates to the caller, who may go on using the solver) -/
  | iter (k : Nat)
  | solve
deriving Repr, DecidableEq

def runOp (p : Params α) (f : Nat → List α → Option α) (refine : PState α → Option (LocalResult α)) : Op → PState α → PState α
  | .iter k, ps => (doGlobalIteration p f k ps []).s
  | .solve, ps => solve p f refine ps

/-- the exception raised inside one operation (propagated by `DoGlobalIteration`, caught and printed by `Solve`) -/
def opRaise (p : Params α) (f : Nat → List α → Option α) : Op → PState α → Option Raise
  | .iter k, ps => (doGlobalIteration p f k ps []).raised
  | .solve, ps => solveRaise p f (p.itersLimit + 1) ps

def runOps (p : Params α) (f : Nat → List α → Option α) (refine : PState α → Option (LocalResult α)) : List Op → PState α → PState α
  | [], ps => ps
  | op :: ops, ps => runOps p f refine ops (runOp p f refine op ps)

def failedCalls (p : Params α) (f : Nat → List α → Option α) (refine : PState α → Option (LocalResult α)) : List Op → PState α → Nat
  | [], _ => 0
  | op :: ops, ps => isObjective (opRaise p f op ps) + failedCalls p f refine ops (runOp p f refine op ps)

theorem runOps_append (p : Params α) (f : Nat → List α → Option α) (refine : PState α → Option (LocalResult α))
    (ops1 ops2 : List Op) (ps : PState α) :
    runOps p f refine (ops1 ++ ops2) ps = runOps p f refine ops2 (runOps p f refine ops1 ps) := by
  induction ops1 generalizing ps with
  | nil => rfl
  | cons op ops ih => simp [runOps, ih]

theorem batches_sum {p : Params α} {f : Nat → List α → Option α} {refine : PState α → Option (LocalResult α)}
    (ks : List Nat) {ps ps' : PState α} {ids : List Nat}
    (h : iterN p f ks.sum ps = .ok (ps', ids)) :
    (runOps p f refine (ks.map Op.iter) ps).core = ps'.core := by
  induction ks generalizing ps ps' ids with
  | nil =>
    simp only [List.sum_nil, iterN, Except.ok.injEq, Prod.mk.injEq] at h
    obtain ⟨rfl, -⟩ := h; rfl
  | cons k ks ih =>
    rw [List.sum_cons] at h
    obtain ⟨ps1, ids1, ids2, h1, h2, rfl⟩ := iterN_add_ok h
    simp only [List.map_cons, runOps, runOp]
    rw [doGlobalIteration_eq, h1]
    simp only [List.nil_append]
    obtain ⟨ps2', h2', hc2⟩ := iterN_congr_ok (ps' := ps1.appendLog [Event.endIteration ids1]) (PState.appendLog_core _ _).symm h2
    exact (ih h2').trans hc2

theorem Consistent.runOp_pres {p : Params α} {f : Nat → List α → Option α} {refine : PState α → Option (LocalResult α)}
    {ps : PState α} (hc : Consistent ps) (op : Op) :
    Consistent (runOp p f refine op ps) ∧
    (runOp p f refine op ps).calls + ps.evals.length =
      ps.calls + (runOp p f refine op ps).evals.length + isObjective (opRaise p f op ps) ∧
    (isObjective (opRaise p f op ps) = 1 → ∃ pt, f ((runOp p f refine op ps).calls - 1) pt = none) := by
  cases op with
  | iter k => exact hc.dgi
  | solve => exact hc.solve_pres

theorem Consistent.runOps_pres {p : Params α} {f : Nat → List α → Option α} {refine : PState α → Option (LocalResult α)}
    {ps : PState α} (hc : Consistent ps) (ops : List Op) :
    Consistent (runOps p f refine ops ps) ∧
    (runOps p f refine ops ps).calls + ps.evals.length =
      ps.calls + (runOps p f refine ops ps).evals.length + failedCalls p f refine ops ps := by
  induction ops generalizing ps with
  | nil => exact ⟨hc, by simp [runOps, failedCalls]⟩
  | cons op ops ih =>
    obtain ⟨h1, h2, -⟩ := hc.runOp_pres (p := p) (f := f) (refine := refine) op
    obtain ⟨i1, i2⟩ := ih h1
    refine ⟨i1, ?_⟩
    simp only [runOps, failedCalls]
    omega

theorem opRaise_total {p : Params α} {f : Nat → List α → Option α} (hf : ∀ j pt, f j pt ≠ none)
    {ps : PState α} (hc : Consistent ps) (op : Op) : isObjective (opRaise p f op ps) = 0 := by
  have h := (hc.runOp_pres (p := p) (f := f) (refine := fun _ => none) op).2.2
  have := isObjective_le_one (opRaise p f op ps)
  rcases Nat.lt_or_ge (isObjective (opRaise p f op ps)) 1 with h1 | h1
  · omega
  · obtain ⟨pt, hpt⟩ := h (by omega)
    exact absurd hpt (hf _ _)

theorem failedCalls_total {p : Params α} {f : Nat → List α → Option α} {refine : PState α → Option (LocalResult α)}
    (hf : ∀ j pt, f j pt ≠ none) {ps : PState α} (hc : Consistent ps) (ops : List Op) :
    failedCalls p f refine ops ps = 0 := by
  induction ops generalizing ps with
  | nil => rfl
  | cons op ops ih =>
    simp only [failedCalls, opRaise_total hf hc op, Nat.zero_add]
    exact ih (hc.runOp_pres op).1

end Proc
end

import IOptModel.ProbWorld
/-!
# Helper lemmas for property C15 (model `IOptModel/ProbWorld.lean`)

Between two states of a history: `Ext w w'` ("`w'` is a later state of `w`": table cells and instance records of `w`
are still there, unchanged; owner tags never change).  Of one state: `Inv mod w` (the module tables are as imported, and `WF`:
every instance's private refs point to cells owned by that instance).  Every operation does one of three things (`Effect`,
`exec_effect`: nothing, append cells and instance records, overwrite one cell that is not a table); each keeps both
(`Effect.ext`, `Effect.wf`), hence so does every history (`run_induction`: `run_ext`, `Inv.run`).  `Inv.eval`: in every later
world an instance computes `evalOn` of the module tables as imported and of its own tables as they were; the history theorems
of C15 about evaluation are readings of it.  What exactly one operation computes is in the equations `exec_…_ok` / `_fail`.
-/

namespace ProbWorld

section Heap
variable {α : Type}

namespace World

theorem read_of_cell {w : World α} {r : Nat} {c : Cell α} (h : w.cells[r]? = some c) : w.read r = c.data := by
  simp only [read, h]

theorem owner?_of_cell {w : World α} {r : Nat} {c : Cell α} (h : w.cells[r]? = some c) :
    w.owner? r = some c.owner := by
  simp only [owner?, h, Option.map_some]

theorem read_congr {w w' : World α} {r : Nat} (h : w'.cells[r]? = w.cells[r]?) : w'.read r = w.read r := by
  simp only [read, h]

theorem owner?_congr {w w' : World α} {r : Nat} (h : w'.cells[r]? = w.cells[r]?) : w'.owner? r = w.owner? r := by
  simp only [owner?, h]

@[simp] theorem write_insts (w : World α) (r : Nat) (v : List α) : (w.write r v).insts = w.insts := rfl

@[simp] theorem write_length (w : World α) (r : Nat) (v : List α) :
    (w.write r v).cells.length = w.cells.length := by
  simp only [write, List.length_modify]

theorem write_cells_ne (w : World α) {r j : Nat} (v : List α) (h : r ≠ j) :
    (w.write r v).cells[j]? = w.cells[j]? := by
  simp only [write, List.getElem?_modify, if_neg h]
  cases w.cells[j]? <;> rfl

theorem write_cells_eq {w : World α} {r : Nat} {c : Cell α} (v : List α) (h : w.cells[r]? = some c) :
    (w.write r v).cells[r]? = some { c with data := v } := by
  simp only [write, List.getElem?_modify, h, if_pos, Option.map_eq_map, Option.map_some]

theorem write_read_eq {w : World α} {r : Nat} {c : Cell α} (v : List α) (h : w.cells[r]? = some c) :
    (w.write r v).read r = v := by
  rw [read_of_cell (write_cells_eq v h)]

theorem write_owner? (w : World α) (r j : Nat) (v : List α) : (w.write r v).owner? j = w.owner? j := by
  by_cases h : r = j
  · subst h
    cases hc : w.cells[r]? with
    | none =>
      have : (w.write r v).cells[r]? = none := by
        simp only [write, List.getElem?_modify, hc, Option.map_eq_map, Option.map_none]
      simp only [owner?, this, hc]
    | some c => simp only [owner?, write_cells_eq v hc, hc, Option.map_some]
  · exact owner?_congr (write_cells_ne w v h)

@[simp] theorem alloc_cells (w : World α) (o : Owner) (v : List α) :
    (w.alloc o v).1.cells = w.cells ++ [{ owner := o, data := v }] := rfl
@[simp] theorem alloc_insts (w : World α) (o : Owner) (v : List α) : (w.alloc o v).1.insts = w.insts := rfl
@[simp] theorem alloc_ref (w : World α) (o : Owner) (v : List α) : (w.alloc o v).2 = w.cells.length := rfl

@[simp] theorem allocMany_cells (w : World α) (o : Owner) (vs : List (List α)) :
    (w.allocMany o vs).1.cells = w.cells ++ vs.map (fun v => { owner := o, data := v }) := rfl
@[simp] theorem allocMany_insts (w : World α) (o : Owner) (vs : List (List α)) :
    (w.allocMany o vs).1.insts = w.insts := rfl
@[simp] theorem allocMany_refs (w : World α) (o : Owner) (vs : List (List α)) :
    (w.allocMany o vs).2 = List.range' w.cells.length vs.length := rfl

theorem allocMany_new (w : World α) (o : Owner) (vs : List (List α)) {i : Nat} {v : List α}
    (h : vs[i]? = some v) :
    (w.allocMany o vs).1.cells[w.cells.length + i]? = some { owner := o, data := v } := by
  rw [allocMany_cells, List.getElem?_append_right (Nat.le_add_right _ _), Nat.add_sub_cancel_left,
    List.getElem?_map, h, Option.map_some]

theorem allocMany_mem (w : World α) (o : Owner) (vs : List (List α)) {r : Nat}
    (hr : r ∈ List.range' w.cells.length vs.length) :
    ∃ v, (w.cells ++ vs.map (fun v => ({ owner := o, data := v } : Cell α)))[r]? = some { owner := o, data := v } := by
  obtain ⟨h1, h2⟩ := List.mem_range'_1.1 hr
  have hi : r - w.cells.length < vs.length := by omega
  have := allocMany_new w o vs (List.getElem?_eq_getElem hi)
  rw [Nat.add_sub_cancel' h1] at this
  exact ⟨_, this⟩

theorem init_cells (mod : ModTab → List α) (t : ModTab) :
    (init mod).cells[t.ref]? = some { owner := .module, data := mod t } := by
  cases t <;> rfl

theorem init_read (mod : ModTab → List α) (t : ModTab) : (init mod).read t.ref = mod t :=
  read_of_cell (init_cells mod t)

end World

theorem construct_reads (w : World α) (is : List Inst) (tables : List (List α)) {o : Owner} :
    (List.range' w.cells.length tables.length).map
      (World.read { cells := w.cells ++ tables.map (fun v => ({ owner := o, data := v } : Cell α)), insts := is })
      = tables := by
  apply List.ext_getElem?
  intro n
  by_cases hn : n < tables.length
  · rw [List.getElem?_map, List.getElem?_range' hn, Option.map_some, List.getElem?_eq_getElem hn]
    congr 1
    apply World.read_of_cell (c := { owner := o, data := tables[n] })
    show (w.cells ++ _)[w.cells.length + 1 * n]? = _
    rw [Nat.one_mul]
    exact World.allocMany_new w o tables (List.getElem?_eq_getElem hn)
  · have hle : tables.length ≤ n := Nat.le_of_not_lt hn
    rw [List.getElem?_eq_none (by simpa only [List.length_map, List.length_range'] using hle),
      List.getElem?_eq_none hle]

structure Ext (w w' : World α) : Prop where
  len : w.cells.length ≤ w'.cells.length
  tables : ∀ (r : Nat) (c : Cell α), w.cells[r]? = some c → c.owner.isTable = true → w'.cells[r]? = some c
  owners : ∀ (r : Nat) (c : Cell α), w.cells[r]? = some c → ∃ c' : Cell α, w'.cells[r]? = some c' ∧ c'.owner = c.owner
  insts : ∀ (j : Nat) (x : Inst), w.insts[j]? = some x → w'.insts[j]? = some x

theorem Ext.refl (w : World α) : Ext w w :=
  ⟨Nat.le_refl _, fun _ _ h _ => h, fun _ c h => ⟨c, h, rfl⟩, fun _ _ h => h⟩

theorem Ext.trans {a b c : World α} (h1 : Ext a b) (h2 : Ext b c) : Ext a c where
  len := Nat.le_trans h1.len h2.len
  tables r x hx ht := h2.tables r x (h1.tables r x hx ht) ht
  owners r x hx := by
    obtain ⟨y, hy, hyo⟩ := h1.owners r x hx
    obtain ⟨z, hz, hzo⟩ := h2.owners r y hy
    exact ⟨z, hz, hzo.trans hyo⟩
  insts j x hx := h2.insts j x (h1.insts j x hx)

theorem Ext.append (w : World α) (cs : List (Cell α)) (is : List Inst) :
    Ext w { cells := w.cells ++ cs, insts := w.insts ++ is } where
  len := by simp only [List.length_append]; exact Nat.le_add_right _ _
  tables r c h _ := by
    have hr : r < w.cells.length := (List.getElem?_eq_some_iff.mp h).1
    simp only [List.getElem?_append_left hr, h]
  owners r c h := by
    have hr : r < w.cells.length := (List.getElem?_eq_some_iff.mp h).1
    exact ⟨c, by simp only [List.getElem?_append_left hr, h], rfl⟩
  insts j x h := by
    have hj : j < w.insts.length := (List.getElem?_eq_some_iff.mp h).1
    simp only [List.getElem?_append_left hj, h]

theorem Ext.write (w : World α) {r : Nat} {o : Owner} (v : List α) (ho : w.owner? r = some o)
    (hnt : o.isTable = false) : Ext w (w.write r v) where
  len := by simp only [World.write_length]; exact Nat.le_refl _
  tables j c h ht := by
    by_cases hj : r = j
    · subst hj
      rw [World.owner?_of_cell h] at ho
      cases ho
      rw [ht] at hnt; cases hnt
    · rw [World.write_cells_ne w v hj]; exact h
  owners j c h := by
    by_cases hj : r = j
    · subst hj; exact ⟨_, World.write_cells_eq v h, rfl⟩
    · exact ⟨c, by rw [World.write_cells_ne w v hj]; exact h, rfl⟩
  insts _ _ h := h

def ConstructOk (fam : Family) (args : List Nat) (tables : List (List α)) : Prop :=
  (fam.validArgs args && shapesOk fam args tables) = true

instance (fam : Family) (args : List Nat) (tables : List (List α)) : Decidable (ConstructOk fam args tables) := by
  unfold ConstructOk; infer_instance

theorem shapesOk_length {fam : Family} {args : List Nat} {tables : List (List α)}
    (h : shapesOk fam args tables = true) : tables.length = fam.privCount := by
  unfold shapesOk at h
  simp only [Bool.and_eq_true, beq_iff_eq] at h
  exact h.1.1.1

theorem ConstructOk.length {fam : Family} {args : List Nat} {tables : List (List α)}
    (h : ConstructOk fam args tables) : tables.length = fam.privCount := by
  unfold ConstructOk at h
  simp only [Bool.and_eq_true] at h
  exact shapesOk_length h.2

def WF (w : World α) : Prop :=
  ∀ (j : Nat) (inst : Inst), w.insts[j]? = some inst →
    ∀ r ∈ inst.priv, ∃ c : Cell α, w.cells[r]? = some c ∧ c.owner = Owner.inst j

structure Inv (mod : ModTab → List α) (w : World α) : Prop where
  module : ∀ t : ModTab, w.cells[t.ref]? = some { owner := .module, data := mod t }
  wf : WF w

theorem Inv.init (mod : ModTab → List α) : Inv mod (World.init mod) where
  module := World.init_cells mod
  wf j inst h := by
    simp only [World.init, List.getElem?_nil] at h
    cases h

theorem Ext.priv {w w' : World α} (he : Ext w w') (hw : WF w) {j : Nat} {inst : Inst} (hj : w.insts[j]? = some inst)
    {r : Nat} (hr : r ∈ inst.priv) : w'.cells[r]? = w.cells[r]? ∧ w'.owner? r = some (.inst j) := by
  obtain ⟨c, hc, hco⟩ := hw j inst hj r hr
  have h2 := he.tables r c hc (by rw [hco]; rfl)
  exact ⟨h2.trans hc.symm, by rw [World.owner?_of_cell h2, hco]⟩

/-- what one operation can do.  `append` also says that the private refs of a new instance record are among the cells
appended with it, tagged with its number: that is all `WF` needs. -/
inductive Effect (w : World α) (res : StepResult α) : Prop
  | none : res.world = w → res.wrote = [] → res.allocated = [] → Effect w res
  | append (cs : List (Cell α)) (is : List Inst) : res.world = { cells := w.cells ++ cs, insts := w.insts ++ is } →
      res.wrote = List.range' w.cells.length cs.length → res.allocated = List.range' w.cells.length cs.length →
      (∀ j x, is[j]? = some x → ∀ r ∈ x.priv, ∃ c : Cell α, (w.cells ++ cs)[r]? = some c ∧ c.owner = .inst (w.insts.length + j)) →
      Effect w res
  | write (r : Nat) (v : List α) (o : Owner) : w.owner? r = some o → o.isTable = false → res.world = w.write r v →
      res.wrote = [r] → res.allocated = [] → Effect w res

theorem Effect.ext {w : World α} {res : StepResult α} (he : Effect w res) : Ext w res.world := by
  rcases he with ⟨h, -, -⟩ | ⟨cs, is, h, -, -, -⟩ | ⟨r, v, o, ho, hnt, h, -, -⟩ <;> rw [h]
  · exact Ext.refl w
  · exact Ext.append w cs is
  · exact Ext.write w v ho hnt

theorem Effect.wf {w : World α} {res : StepResult α} (he : Effect w res) (hw : WF w) : WF res.world := by
  rcases he with ⟨h, -, -⟩ | ⟨cs, is, h, -, -, hnew⟩ | ⟨r, v, o, ho, hnt, h, -, -⟩ <;> rw [h]
  · exact hw
  · intro j inst hj r hr
    rcases Nat.lt_or_ge j w.insts.length with hjl | hjl
    · -- an older instance: its cells are tables, hence unchanged
      rw [List.getElem?_append_left hjl] at hj
      obtain ⟨c, hc, hco⟩ := hw j inst hj r hr
      exact ⟨c, (Ext.append w cs is).tables r c hc (by rw [hco]; rfl), hco⟩
    · rw [List.getElem?_append_right hjl] at hj
      have := hnew _ _ hj r hr
      rwa [Nat.add_sub_cancel' hjl] at this
  · intro j inst hj r hr
    obtain ⟨c, hc, hco⟩ := hw j inst hj r hr
    exact ⟨c, (Ext.write w v ho hnt).tables r c hc (by rw [hco]; rfl), hco⟩

end Heap

section Ops
variable {α : Type} [Add α] [Sub α] [Mul α] [Div α] [Neg α] [LT α]
  [DecidableLT α] [OfNat α 0] [OfNat α 1] [OfNat α 2] [NatCast α] [MathFns α]

def CalcOk (w : World α) (i p h : Nat) : Prop :=
  ∃ inst pc hc, w.insts[i]? = some inst ∧ w.cells[p]? = some pc ∧ w.cells[h]? = some hc ∧
    hc.owner = .holder ∧ pc.owner ≠ .holder ∧ pc.data.length = inst.family.dim inst.args

theorem exec_construct_ok (k : Prob.GklsConsts α) (w : World α) {fam : Family} {args : List Nat}
    {tables : List (List α)} (h : ConstructOk fam args tables) :
    exec k w (.construct fam args tables) =
      { world := { cells := w.cells ++ tables.map (fun v => { owner := .inst w.insts.length, data := v }),
                   insts := w.insts ++ [{ family := fam, args := args,
                                          priv := List.range' w.cells.length tables.length }] },
        out := .inst w.insts.length (List.range' w.cells.length tables.length),
        wrote := List.range' w.cells.length tables.length,
        allocated := List.range' w.cells.length tables.length } := by
  unfold ConstructOk at h
  simp only [exec, h, if_true, World.allocMany]

theorem exec_construct_fail (k : Prob.GklsConsts α) (w : World α) {fam : Family} {args : List Nat}
    {tables : List (List α)} (h : ¬ ConstructOk fam args tables) :
    exec k w (.construct fam args tables) = fail w := by
  unfold ConstructOk at h
  simp only [exec, h, Bool.false_eq_true, if_false]

theorem exec_point (k : Prob.GklsConsts α) (w : World α) (v : List α) :
    exec k w (.point v) =
      { world := { w with cells := w.cells ++ [{ owner := .caller, data := v }] },
        out := .ref w.cells.length, wrote := [w.cells.length], allocated := [w.cells.length] } := rfl

theorem exec_holder (k : Prob.GklsConsts α) (w : World α) :
    exec k w .holder =
      { world := { w with cells := w.cells ++ [{ owner := .holder, data := [0] }] },
        out := .ref w.cells.length, wrote := [w.cells.length], allocated := [w.cells.length] } := rfl

theorem exec_setPoint_ok (k : Prob.GklsConsts α) (w : World α) {r : Nat} {v : List α}
    (h : w.owner? r = some .caller ∧ (w.read r).length = v.length) :
    exec k w (.setPoint r v) = { world := w.write r v, out := .unit, wrote := [r], allocated := [] } := by
  simp only [exec, h, and_self, if_true]

theorem exec_setPoint_fail (k : Prob.GklsConsts α) (w : World α) {r : Nat} {v : List α}
    (h : ¬ (w.owner? r = some .caller ∧ (w.read r).length = v.length)) :
    exec k w (.setPoint r v) = fail w := by
  simp only [exec, h, if_false]

theorem exec_calc_ok (k : Prob.GklsConsts α) (w : World α) {i p h : Nat} {inst : Inst} {pc hc : Cell α}
    (hi : w.insts[i]? = some inst) (hp : w.cells[p]? = some pc) (hh : w.cells[h]? = some hc)
    (g : hc.owner = .holder ∧ pc.owner ≠ .holder ∧ pc.data.length = inst.family.dim inst.args) :
    exec k w (.calculate i p h) =
      { world := w.write h [evalInst k w inst pc.data], out := .value h (evalInst k w inst pc.data),
        wrote := [h], allocated := [] } := by
  simp only [exec, hi, hp, hh, g, ne_eq, not_false_eq_true, and_self, if_true]

theorem exec_calc_fail (k : Prob.GklsConsts α) (w : World α) {i p h : Nat} (hn : ¬ CalcOk w i p h) :
    exec k w (.calculate i p h) = fail w := by
  simp only [exec]
  split
  · rename_i inst' pc hc hi hp hh
    split
    · rename_i g
      exact absurd ⟨inst', pc, hc, hi, hp, hh, g⟩ hn
    · rfl
  · rfl

theorem exec_effect (k : Prob.GklsConsts α) (w : World α) (op : Op α) : Effect w (exec k w op) := by
  cases op with
  | construct fam args tables =>
    by_cases h : ConstructOk fam args tables
    · rw [exec_construct_ok k w h]
      refine .append _ [_] rfl (by rw [List.length_map]) (by rw [List.length_map]) fun j x hj r hr => ?_
      cases j with
      | zero => cases hj; obtain ⟨v, hv⟩ := World.allocMany_mem w (.inst w.insts.length) tables hr; exact ⟨_, hv, rfl⟩
      | succ j => cases hj
    · rw [exec_construct_fail k w h]; exact .none rfl rfl rfl
  | point v => exact .append [{ owner := .caller, data := v }] [] (by rw [List.append_nil]; rfl) rfl rfl nofun
  | holder => exact .append [{ owner := .holder, data := [0] }] [] (by rw [List.append_nil]; rfl) rfl rfl nofun
  | setPoint r v =>
    by_cases h : w.owner? r = some .caller ∧ (w.read r).length = v.length
    · rw [exec_setPoint_ok k w h]; exact .write r v _ h.1 rfl rfl rfl rfl
    · rw [exec_setPoint_fail k w h]; exact .none rfl rfl rfl
  | calculate i p h =>
    by_cases hc : CalcOk w i p h
    · obtain ⟨inst, pc, hcell, hi, hp, hh, g⟩ := hc
      rw [exec_calc_ok k w hi hp hh g]
      exact .write h _ _ (by rw [World.owner?_of_cell hh, g.1]) rfl rfl rfl rfl
    · rw [exec_calc_fail k w hc]; exact .none rfl rfl rfl

theorem run_nil (k : Prob.GklsConsts α) (w : World α) : run k w [] = w := rfl

theorem run_append (k : Prob.GklsConsts α) (w : World α) (a b : List (Op α)) :
    run k w (a ++ b) = run k (run k w a) b := by
  simp only [run, List.foldl_append]

/-- whatever every `Effect` keeps, every history keeps -/
theorem run_induction (k : Prob.GklsConsts α) {P : World α → Prop}
    (step : ∀ w res, P w → Effect w res → P res.world) {w : World α} (hw : P w) (ops : List (Op α)) : P (run k w ops) := by
  induction ops generalizing w with
  | nil => exact hw
  | cons op ops ih => exact ih (step w _ hw (exec_effect k w op))

theorem run_ext (k : Prob.GklsConsts α) (w : World α) (ops : List (Op α)) : Ext w (run k w ops) :=
  run_induction k (P := Ext w) (fun _ _ h e => h.trans e.ext) (Ext.refl w) ops

theorem run_append_ext (k : Prob.GklsConsts α) (w : World α) (pre post : List (Op α)) :
    Ext (run k w pre) (run k w (pre ++ post)) := by
  rw [run_append]; exact run_ext k _ post

theorem Inv.run (k : Prob.GklsConsts α) {mod : ModTab → List α} {w : World α} (h : Inv mod w) (ops : List (Op α)) :
    Inv mod (run k w ops) :=
  run_induction k (fun _ _ h e => ⟨fun t => e.ext.tables _ _ (h.module t) rfl, e.wf h.wf⟩) h ops

theorem Inv.eval (k : Prob.GklsConsts α) {mod : ModTab → List α} {w w' : World α} (h : Inv mod w) (he : Ext w w')
    {j : Nat} {inst : Inst} (hj : w.insts[j]? = some inst) (x : List α) :
    evalInst k w' inst x = evalOn k inst.family inst.args mod (inst.priv.map w.read) x := by
  unfold evalInst
  rw [show (fun t : ModTab => w'.read t.ref) = mod from
      funext fun t => World.read_of_cell (he.tables _ _ (h.module t) rfl),
    List.map_congr_left fun r hr => World.read_congr (he.priv h.wf hj hr).1]

end Ops
end ProbWorld

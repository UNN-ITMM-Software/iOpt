import IOptProofs.EvFin
import IOptProofs.EvShape
/-!
# Evolvent, forward direction: the inductions over the digit list, generic in the dimension

Digit lists of ARBITRARY length `m`, from an arbitrary valid level state.  What an induction needs of one level is in its
hypotheses: `Yc_cell`, `Yc_take_drop`, `Yc_snoc`, `cubeY_spec` need only the shape of a level (`step_shape`: every digit,
no `EvFacts`); `Yc_inj`, `Yc_surj` take `F : EvFacts n` for `F.inj`, `F.surj`; `Yc_adjacent`, `Yc_coord_bound` for
`F.self0`, `F.selfL`, `F.glue`.  The coordinate sums `Yc n s ds i` are used instead of the list-valued `cubeY`;
`cubeY_spec` is the bridge.

The arithmetic of all of them is one fact: a cell centre of density `m+1` is `±2^m` plus a cell centre of
density `m`, in exactly one way (`cell_succ`, `cell_succ_inj`, `cell_pred`).

Also here: what `indexOf` / `digitsOf` do on constant lists, on prefixes and on consecutive indices (`indexOf_replicate_zero`,
`digitsOf_last`, `digitsOf_take`, `digits_succ`, …); `EvBasic.lean`, where such facts would sit, is below the kernel-evaluated
certificates.
-/

namespace Ev

/-- `y` is the centre of a grid cell on one axis at density `m`, in units of `2^-(m+1)`:
`|y| ≤ 2^m - 1` and `y ≡ 2^m - 1 (mod 2)` (i.e. `y = 2k + 1 - 2^m` with `0 ≤ k < 2^m`).
For `m ≥ 1` this is "`y` odd and `|y| ≤ 2^m - 1`" (`cell_iff_odd`); for `m = 0` it is `y = 0`. -/
def cell (m : Nat) (y : Int) : Prop :=
  -((2:Int)^m - 1) ≤ y ∧ y ≤ (2:Int)^m - 1 ∧ (y + (2:Int)^m - 1) % 2 = 0

theorem two_pow_pos_int (m : Nat) : (0:Int) < (2:Int)^m := Int.pow_pos (by omega)

theorem cell_zero (y : Int) : cell 0 y ↔ y = 0 := by
  simp only [cell, Int.pow_zero]; omega

theorem cell_iff_odd {m : Nat} (hm : 0 < m) (y : Int) :
    cell m y ↔ (y % 2 = 1 ∧ -((2:Int)^m - 1) ≤ y ∧ y ≤ (2:Int)^m - 1) := by
  obtain ⟨k, rfl⟩ : ∃ k, m = k + 1 := ⟨m - 1, by omega⟩
  simp only [cell, Int.pow_succ]
  omega

theorem cell_index {m : Nat} {y : Int} (h : cell m y) :
    ∃ k : Nat, k < 2^m ∧ y = 2 * (k : Int) + 1 - 2^m := by
  obtain ⟨h1, h2, h3⟩ := h
  have hP : ((2^m : Nat) : Int) = (2:Int)^m := Int.natCast_pow 2 m
  exact ⟨((y + 2^m - 1) / 2).toNat, by omega, by omega⟩

theorem cell_succ {m : Nat} {o R : Int} (ho : o = 1 ∨ o = -1) (hR : cell m R) :
    cell (m+1) (o * 2^m + R) := by
  simp only [cell, Int.pow_succ] at hR ⊢
  have hP := two_pow_pos_int m
  rcases ho with rfl | rfl <;> omega

theorem cell_succ_inj {m : Nat} {o o' R R' : Int} (ho : o = 1 ∨ o = -1) (ho' : o' = 1 ∨ o' = -1)
    (hR : cell m R) (hR' : cell m R') (e : o * 2^m + R = o' * 2^m + R') : o = o' ∧ R = R' := by
  -- only the bounds `|R|, |R'| < 2^m` matter
  obtain ⟨h1, h2, -⟩ := hR
  obtain ⟨h1', h2', -⟩ := hR'
  rcases ho with rfl | rfl <;> rcases ho' with rfl | rfl <;> omega

/-- the leading offset is the sign of the coordinate -/
theorem cell_pred {m : Nat} {y : Int} (hy : cell (m+1) y) :
    cell m (y - (if 0 < y then 1 else -1) * 2^m) := by
  simp only [cell, Int.pow_succ] at hy ⊢
  have hP := two_pow_pos_int m
  split <;> omega

theorem cell_sub_lt {m : Nat} {R R' : Int} (h : cell m R) (h' : cell m R') :
    -(2:Int)^(m+1) < R - R' ∧ R - R' < (2:Int)^(m+1) := by
  obtain ⟨h1, h2, -⟩ := h
  obtain ⟨h1', h2', -⟩ := h'
  rw [Int.pow_succ]
  omega

theorem stateAfter_valid {n : Nat} {s : St} (hs : validState n s) (ds : List Nat) :
    validState n (stateAfter n s ds) := by
  induction ds generalizing s with
  | nil => exact hs
  | cons d ds ih => exact ih (step_shape hs d).1

theorem signs_lengths {n : Nat} {s : St} (hs : validState n s) (ds : List Nat) :
    ∀ o ∈ signs n s ds, o.length = n := by
  induction ds generalizing s with
  | nil => intro o ho; cases ho
  | cons d ds ih =>
    rw [signs_cons, List.forall_mem_cons]
    exact ⟨(step_shape hs d).2.1, ih (step_shape hs d).1⟩

theorem cubeY_spec {n : Nat} (hn : 0 < n) (ds : List Nat) :
    (cubeY n ds).length = n ∧ ∀ i, i < n → getI (cubeY n ds) i = Yc n (St.init n) ds i :=
  cubeY_getI_of_lengths n ds (signs_lengths (validState_init hn) ds)

theorem cubeY_eq_map {n : Nat} (hn : 0 < n) (ds : List Nat) :
    cubeY n ds = (List.range n).map (Yc n (St.init n) ds) := by
  obtain ⟨hlen, hY⟩ := cubeY_spec hn ds
  rw [← map_getI_range hlen]
  exact List.map_congr_left fun i hi => hY i (List.mem_range.1 hi)

theorem Yc_cell {n : Nat} {s : St} (hs : validState n s) (ds : List Nat)
    {i : Nat} (hi : i < n) : cell ds.length (Yc n s ds i) := by
  induction ds generalizing s with
  | nil => exact (cell_zero _).2 rfl
  | cons d ds ih =>
    obtain ⟨hs', ho⟩ := step_shape hs d
    exact cell_succ (signVec_getI ho hi) (ih hs')

theorem Yc_take_drop {n : Nat} {s : St} (hs : validState n s) (ds : List Nat) (p : Nat)
    {i : Nat} (hi : i < n) : ∃ R, cell (ds.length - p) R ∧
      Yc n s ds i = Yc n s (ds.take p) i * (2:Int)^(ds.length - p) + R := by
  refine ⟨Yc n (stateAfter n s (ds.take p)) (ds.drop p) i, ?_, ?_⟩
  · have := Yc_cell (stateAfter_valid hs (ds.take p)) (ds.drop p) hi
    rwa [List.length_drop] at this
  · conv => lhs; rw [← List.take_append_drop p ds]
    rw [Yc_append, List.length_drop]

/-- (C07, injectivity) digit lists of the same length reaching the same point are equal -/
theorem Yc_inj {n : Nat} (F : EvFacts n) {s : St} (hs : validState n s) {ds ds' : List Nat}
    (hd : validDigits n ds) (hd' : validDigits n ds') (hl : ds.length = ds'.length)
    (he : ∀ i, i < n → Yc n s ds i = Yc n s ds' i) : ds = ds' := by
  induction ds generalizing s ds' with
  | nil => exact (List.eq_nil_of_length_eq_zero hl.symm).symm
  | cons d ds ih =>
    obtain ⟨d', ds', rfl⟩ := List.exists_cons_of_length_eq_add_one hl.symm
    rw [validDigits_cons] at hd hd'
    simp only [List.length_cons, Nat.add_right_cancel_iff] at hl
    obtain ⟨hs1, ho1⟩ := step_shape hs d
    obtain ⟨hs2, ho2⟩ := step_shape hs d'
    -- coordinate by coordinate, the leading offsets and the remainders agree
    have split : ∀ i, i < n → getI (step n s d).2 i = getI (step n s d').2 i ∧
        Yc n (step n s d).1 ds i = Yc n (step n s d').1 ds' i := by
      intro i hi
      have e := he i hi
      have c2 := Yc_cell hs2 ds' hi
      rw [Yc_cons, Yc_cons, ← hl] at e
      rw [← hl] at c2
      exact cell_succ_inj (signVec_getI ho1 hi) (signVec_getI ho2 hi) (Yc_cell hs1 ds hi) c2 e
    have hdd : d = d' :=
      F.inj s d d' hs hd.1 hd'.1 (ext_getI ho1.1 ho2.1 fun i hi => (split i hi).1)
    subst hdd
    rw [ih hs1 hd.2 hd'.2 hl fun i hi => (split i hi).2]

/-- (C07, surjectivity) every vector of cell centres is reached, from any valid start state -/
theorem Yc_surj {n : Nat} (F : EvFacts n) (m : Nat) {s : St} (hs : validState n s) {y : List Int}
    (hy : y.length = n) (hc : ∀ i, i < n → cell m (getI y i)) :
    ∃ ds, ds.length = m ∧ validDigits n ds ∧ ∀ i, i < n → Yc n s ds i = getI y i := by
  induction m generalizing s y with
  | zero =>
    refine ⟨[], rfl, validDigits_nil n, fun i hi => ?_⟩
    rw [Yc_nil, (cell_zero _).1 (hc i hi)]
  | succ m ih =>
    -- leading offset: the sign of each coordinate; remainder: one level finer
    let o : List Int := y.map fun v => if 0 < v then 1 else -1
    let r : List Int := y.map fun v => v - (if 0 < v then 1 else -1) * (2:Int)^m
    have ho : signVec n o := by
      apply signVec_of_getI (by simp [o, hy])
      intro i hi
      rw [getI_map (by rw [hy]; exact hi)]
      split <;> simp
    obtain ⟨d, hd, hstep⟩ := F.surj s o hs ho
    have hrc : ∀ i, i < n → cell m (getI r i) := by
      intro i hi
      rw [getI_map (by rw [hy]; exact hi)]
      exact cell_pred (hc i hi)
    obtain ⟨ds, hl, hv, hY⟩ := ih (step_shape hs d).1 (y := r) (by simp [r, hy]) hrc
    refine ⟨d :: ds, by simp [hl], validDigits_cons.2 ⟨hd, hv⟩, fun i hi => ?_⟩
    rw [Yc_cons, hY i hi, hstep, hl, getI_map (by rw [hy]; exact hi),
      getI_map (by rw [hy]; exact hi)]
    omega

/-- if the child `e` of a child `e` always starts in the corner of its parent, then below `a e e … e` all offsets after the
first equal that corner of child `a` -/
theorem Yc_cons_replicate {n e : Nat}
    (hself : ∀ s, validState n s → (step n (step n s e).1 e).2 = (step n s e).2)
    {s : St} (hs : validState n s) (a k : Nat) {i : Nat} (hi : i < n) :
    Yc n s (a :: List.replicate k e) i =
      getI (step n s a).2 i * (2:Int)^k + getI (step n (step n s a).1 e).2 i * ((2:Int)^k - 1) := by
  induction k generalizing s a with
  | zero => simp
  | succ k ih =>
    obtain ⟨hs', -⟩ := step_shape hs a
    rw [List.replicate_succ, Yc_cons, ih hs', hself _ hs', List.length_cons, List.length_replicate, Int.pow_succ]
    rcases signVec_getI (step_shape hs' e).2 hi with h | h <;> rw [h] <;> omega

theorem indexOf_replicate_zero (n k : Nat) : indexOf n (List.replicate k 0) = 0 := by
  induction k with
  | zero => rfl
  | succ k ih => rw [List.replicate_succ, indexOf_cons, ih]; simp

theorem indexOf_replicate_last (n k : Nat) :
    indexOf n (List.replicate k (2^n - 1)) + 1 = (2^n)^k := by
  induction k with
  | zero => rfl
  | succ k ih =>
    rw [List.replicate_succ, indexOf_cons, List.length_replicate, Nat.add_assoc, ih, Nat.pow_succ]
    have hB : 0 < 2^n := Nat.two_pow_pos n
    calc (2^n - 1) * (2^n)^k + (2^n)^k = ((2^n - 1) + 1) * (2^n)^k := by
          rw [Nat.add_mul, Nat.one_mul]
      _ = (2^n)^k * 2^n := by rw [Nat.sub_add_cancel hB, Nat.mul_comm]

theorem digitsOf_zero (n m : Nat) : digitsOf n m 0 = List.replicate m 0 := by
  have h := digitsOf_indexOf (n := n) (validDigits_replicate (k := m) (Nat.two_pow_pos n))
  rwa [List.length_replicate, indexOf_replicate_zero] at h

theorem digitsOf_last (n m : Nat) :
    digitsOf n m ((2^n)^m - 1) = List.replicate m (2^n - 1) := by
  have h := digitsOf_indexOf (n := n)
    (validDigits_replicate (k := m) (Nat.sub_lt (Nat.two_pow_pos n) Nat.one_pos))
  rwa [List.length_replicate, Nat.eq_sub_of_add_eq (indexOf_replicate_last n m)] at h

theorem digitsOf_take (n : Nat) {m p : Nat} (hp : p ≤ m) (i : Nat) :
    (digitsOf n m i).take p = digitsOf n p (i / (2^n)^(m - p)) := by
  apply List.ext_getElem
  · simp [digitsOf_length, List.length_take, Nat.min_eq_left hp]
  · intro j h1 h2
    have hj : j < p := by
      rw [digitsOf_length] at h2; exact h2
    simp only [digitsOf, List.getElem_take, List.getElem_map, List.getElem_range]
    rw [Nat.div_div_eq_div_mul, ← Nat.pow_add]
    have e : m - p + (p - 1 - j) = m - 1 - j := by omega
    rw [e]

theorem indexOf_take_digitsOf (n : Nat) {m p : Nat} (hp : p ≤ m) {i : Nat} (hi : i < (2^n)^m) :
    indexOf n ((digitsOf n m i).take p) = i / (2^n)^(m - p) := by
  rw [digitsOf_take n hp, indexOf_digitsOf]
  rw [Nat.div_lt_iff_lt_mul (Nat.pow_pos (Nat.two_pow_pos n)), ← Nat.pow_add]
  have e : p + (m - p) = m := by omega
  rw [e]; exact hi

theorem succ_cases {Q a a' r r' : Nat} (hr : r < Q) (hr' : r' < Q) (h : a' * Q + r' = a * Q + r + 1) :
    (a' = a ∧ r' = r + 1) ∨ (a' = a + 1 ∧ r + 1 = Q ∧ r' = 0) := by
  by_cases hc : r + 1 < Q
  · exact Or.inl (mul_add_inj hr' hc (by omega))
  · have hQ : r + 1 = Q := by omega
    obtain ⟨h1, h2⟩ := mul_add_inj (a := a') (a' := a + 1) (r' := 0) hr' (by omega)
      (by rw [Nat.add_mul, Nat.one_mul]; omega)
    exact Or.inr ⟨h1, hQ, h2⟩

/-- consecutive numbers in positional notation are `p a L…L` and `p (a+1) 0…0` -/
theorem digits_succ {n : Nat} {ds ds' : List Nat} (hd : validDigits n ds) (hd' : validDigits n ds')
    (hl : ds.length = ds'.length) (hi : indexOf n ds' = indexOf n ds + 1) :
    ∃ p a k, a + 1 < 2^n ∧ ds = p ++ a :: List.replicate k (2^n - 1) ∧
      ds' = p ++ (a+1) :: List.replicate k 0 := by
  induction ds generalizing ds' with
  | nil =>
    rw [List.eq_nil_of_length_eq_zero hl.symm] at hi
    exact absurd hi (Nat.ne_of_lt (Nat.lt_succ_self _))
  | cons a t ih =>
    obtain ⟨a', t', rfl⟩ := List.exists_cons_of_length_eq_add_one hl.symm
    rw [validDigits_cons] at hd hd'
    simp only [List.length_cons, Nat.add_right_cancel_iff] at hl
    rw [indexOf_cons, indexOf_cons, ← hl] at hi
    have b2 := indexOf_lt hd'.2
    rw [← hl] at b2
    rcases succ_cases (indexOf_lt hd.2) b2 hi with ⟨rfl, hi'⟩ | ⟨rfl, hmax, hzero⟩
    · obtain ⟨p, b, k, hb, rfl, rfl⟩ := ih hd.2 hd'.2 hl hi'
      exact ⟨a' :: p, b, k, hb, rfl, rfl⟩
    · -- the tails are determined by their indices
      refine ⟨[], a, t.length, hd'.1, congrArg _ ?_, congrArg _ ?_⟩
      · exact indexOf_inj hd.2 (validDigits_replicate (Nat.sub_lt (Nat.two_pow_pos n) Nat.one_pos)) (by simp)
          (by have := indexOf_replicate_last n t.length; omega)
      · rw [hl]
        exact indexOf_inj hd'.2 (validDigits_replicate (Nat.two_pow_pos n)) (by simp)
          (by rw [hzero, indexOf_replicate_zero])

/-- two neighbouring children with offsets `a ≠ b` on the axis where they differ, the first continued towards
`b`, the second towards `a`: the points are one cell width apart -/
theorem corner_diff {a b P : Int} (ha : a = 1 ∨ a = -1) (hb : b = 1 ∨ b = -1) (hab : a ≠ b) :
    (a * P + b * (P - 1)) - (b * P + a * (P - 1)) = 2 ∨
    (a * P + b * (P - 1)) - (b * P + a * (P - 1)) = -2 := by
  rcases ha with rfl | rfl <;> rcases hb with rfl | rfl <;> first | omega | exact absurd rfl hab

/-- (C08) consecutive subintervals are mapped to cells that differ in exactly one coordinate, by
exactly one cell width (`2` in these units) — from any valid start state -/
theorem Yc_adjacent {n : Nat} (F : EvFacts n) {s : St} (hs : validState n s) {ds ds' : List Nat}
    (hd : validDigits n ds) (hd' : validDigits n ds') (hl : ds.length = ds'.length)
    (hi : indexOf n ds' = indexOf n ds + 1) :
    ∃ c, c < n ∧ (∀ i, i < n → i ≠ c → Yc n s ds i = Yc n s ds' i) ∧
      (Yc n s ds c - Yc n s ds' c = 2 ∨ Yc n s ds c - Yc n s ds' c = -2) := by
  obtain ⟨p, a, k, ha, rfl, rfl⟩ := digits_succ hd hd' hl hi
  have hs' := stateAfter_valid hs p
  obtain ⟨c, hc, g1, g2, g3, g4⟩ := F.glue _ a hs' ha
  -- below the common prefix: child `a` continued to its exit corner, child `a+1` to its entry corner
  simp only [Yc_append, List.length_cons, List.length_replicate]
  refine ⟨c, hc, fun i hin hic => ?_, ?_⟩
  · rw [Yc_cons_replicate F.selfL hs' _ _ hin, Yc_cons_replicate F.self0 hs' _ _ hin,
      (g4 i hin hic).1, (g4 i hin hic).2]
  · rw [Yc_cons_replicate F.selfL hs' _ _ hc, Yc_cons_replicate F.self0 hs' _ _ hc, g2, g3,
      Int.add_sub_add_left]
    exact corner_diff (signVec_getI (step_shape hs' a).2 hc) (signVec_getI (step_shape hs' (a+1)).2 hc) g1

/-- (C08, nesting) appending one digit refines the cell: `Y' = 2·Y + o` -/
theorem Yc_snoc {n : Nat} (s : St) (ds : List Nat) (d : Nat) (i : Nat) :
    Yc n s (ds ++ [d]) i = 2 * Yc n s ds i + getI (step n (stateAfter n s ds) d).2 i := by
  rw [Yc_append, Yc_cons, Yc_nil]
  simp only [List.length_cons, List.length_nil, Nat.zero_add, Int.pow_zero, Int.pow_succ]
  omega

/-- points whose prefixes are at most one cell width apart, after `k` more levels (`Q = 2^k`) -/
theorem scaled_sub_lt {Q A B R R' : Int} (hR : -(Q * 2) < R - R' ∧ R - R' < Q * 2)
    (h : A - B = 0 ∨ A - B = 2 ∨ A - B = -2) :
    -(2 * (Q * 2)) < A * Q + R - (B * Q + R') ∧ A * Q + R - (B * Q + R') < 2 * (Q * 2) := by
  have e : A * Q - B * Q = (A - B) * Q := (Int.sub_mul A B Q).symm
  rcases h with h | h | h <;> rw [h] at e <;> omega

/-- (C08, coordinate bound) if the length-`p` prefixes are equal or consecutive subintervals, then
all coordinates are within `2·2^(m-p+1) - 2` and all but one within `2^(m-p+1) - 2` -/
theorem Yc_coord_bound {n : Nat} (F : EvFacts n) {s : St} (hs : validState n s) {ds ds' : List Nat}
    (hd : validDigits n ds) (hd' : validDigits n ds') (hl : ds.length = ds'.length) (p : Nat)
    (hidx : indexOf n (ds.take p) = indexOf n (ds'.take p) ∨
            indexOf n (ds'.take p) = indexOf n (ds.take p) + 1 ∨
            indexOf n (ds.take p) = indexOf n (ds'.take p) + 1) :
    ∃ c, c < n ∧
      (∀ i, i < n → i ≠ c →
        -(2:Int)^(ds.length - p + 1) < Yc n s ds i - Yc n s ds' i ∧
        Yc n s ds i - Yc n s ds' i < (2:Int)^(ds.length - p + 1)) ∧
      -(2 * (2:Int)^(ds.length - p + 1)) < Yc n s ds c - Yc n s ds' c ∧
      Yc n s ds c - Yc n s ds' c < 2 * (2:Int)^(ds.length - p + 1) := by
  have hpv := validDigits_take hd p
  have hpv' := validDigits_take hd' p
  have hpl : (ds.take p).length = (ds'.take p).length := by
    rw [List.length_take, List.length_take, hl]
  -- the prefixes' points: equal or adjacent
  have hpre : ∃ c, c < n ∧
      (∀ i, i < n → i ≠ c → Yc n s (ds.take p) i = Yc n s (ds'.take p) i) ∧
      (Yc n s (ds.take p) c - Yc n s (ds'.take p) c = 0 ∨
       Yc n s (ds.take p) c - Yc n s (ds'.take p) c = 2 ∨
       Yc n s (ds.take p) c - Yc n s (ds'.take p) c = -2) := by
    rcases hidx with h | h | h
    · have := indexOf_inj hpv hpv' hpl h
      exact ⟨0, Nat.zero_lt_of_lt hs.1, fun i _ _ => by rw [this], Or.inl (by rw [this]; omega)⟩
    · obtain ⟨c, hc, h1, h2⟩ := Yc_adjacent F hs hpv hpv' hpl h
      exact ⟨c, hc, h1, Or.inr h2⟩
    · obtain ⟨c, hc, h1, h2⟩ := Yc_adjacent F hs hpv' hpv hpl.symm h
      exact ⟨c, hc, fun i hi hic => (h1 i hi hic).symm, Or.inr (by omega)⟩
  obtain ⟨c, hc, h1, h2⟩ := hpre
  -- both points: prefix point times `2^(m-p)` plus a cell centre of density `m-p`
  have dec : ∀ i, i < n → ∃ R R', (-(2:Int)^(ds.length - p + 1) < R - R' ∧
      R - R' < (2:Int)^(ds.length - p + 1)) ∧
      Yc n s ds i = Yc n s (ds.take p) i * (2:Int)^(ds.length - p) + R ∧
      Yc n s ds' i = Yc n s (ds'.take p) i * (2:Int)^(ds.length - p) + R' := by
    intro i hi
    obtain ⟨R, cR, e⟩ := Yc_take_drop hs ds p hi
    obtain ⟨R', cR', e'⟩ := Yc_take_drop hs ds' p hi
    rw [← hl] at cR' e'
    exact ⟨R, R', cell_sub_lt cR cR', e, e'⟩
  refine ⟨c, hc, fun i hi hic => ?_, ?_⟩
  · obtain ⟨R, R', hR, e, e'⟩ := dec i hi
    rw [e, e', h1 i hi hic, Int.add_sub_add_left]
    exact hR
  · obtain ⟨R, R', hR, e, e'⟩ := dec c hc
    rw [e, e', Int.pow_succ]
    rw [Int.pow_succ] at hR
    exact scaled_sub_lt hR h2

end Ev

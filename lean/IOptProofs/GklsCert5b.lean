import IOptProofs.GklsCheck
import Mathlib.Tactic.IntervalCases
/-!
# Kernel-decided certificates of the regenerated GKLS data sets of dimension 5, function numbers 51..100

`Gkls.Cert 5 k` = well-formedness `WF` + class clauses `ClassOK` + identity (`dim = 5`, `number = k`), exact integer
arithmetic in the kernel.  Every function number is evaluated by a call of its own: the cost of one evaluation grows with the
square of the number of data sets in it.
-/

namespace Gkls

theorem cert5b : ∀ k ∈ List.range' 51 50, Cert 5 k = true := by
  intro k hk
  obtain ⟨h1, h2⟩ := List.mem_range'_1.1 hk
  interval_cases k <;> decide +kernel

end Gkls

import IOptProofs.ShekelRows
/-! Kernel-evaluated C10 certificates of the Shekel functions 200..399, fifty rows per evaluation. -/
namespace Shk
theorem shekel_block_4 : ∀ i ∈ List.range' 200 50, shekelOK i = true := shekel_block _ _ (by decide +kernel)
theorem shekel_block_5 : ∀ i ∈ List.range' 250 50, shekelOK i = true := shekel_block _ _ (by decide +kernel)
theorem shekel_block_6 : ∀ i ∈ List.range' 300 50, shekelOK i = true := shekel_block _ _ (by decide +kernel)
theorem shekel_block_7 : ∀ i ∈ List.range' 350 50, shekelOK i = true := shekel_block _ _ (by decide +kernel)
end Shk

import IOptProofs.GrishRows
/-! Kernel-evaluated certificates (V), (G), (P) of the Grishagin functions 31..40; one theorem per function,
so that the kernel's reduction cache is released between functions. -/
namespace Grish
theorem grish_ok_31 : grishOK 31 = true := grish_ok _ (by decide +kernel)
theorem grish_ok_32 : grishOK 32 = true := grish_ok _ (by decide +kernel)
theorem grish_ok_33 : grishOK 33 = true := grish_ok _ (by decide +kernel)
theorem grish_ok_34 : grishOK 34 = true := grish_ok _ (by decide +kernel)
theorem grish_ok_35 : grishOK 35 = true := grish_ok _ (by decide +kernel)
theorem grish_ok_36 : grishOK 36 = true := grish_ok _ (by decide +kernel)
theorem grish_ok_37 : grishOK 37 = true := grish_ok _ (by decide +kernel)
theorem grish_ok_38 : grishOK 38 = true := grish_ok _ (by decide +kernel)
theorem grish_ok_39 : grishOK 39 = true := grish_ok _ (by decide +kernel)
theorem grish_ok_40 : grishOK 40 = true := grish_ok _ (by decide +kernel)
end Grish

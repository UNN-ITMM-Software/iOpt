import IOptProofs.WorldRun
/-!
# C12 helpers: the shape of a component and the abstract view of one solver

`Abs` is what the user of ONE solver is entitled to see after that solver's own operations: whether it is constructed /
has iterated, the optimum value (the `z` of the last trial that became best) and the number of trials.  `Shape c a`
ties a component to its abstract view: the Solution cell carries `a.trials`, its `bestTrials` list holds a trial whose
holder carries `a.opt` (or the placeholder with an empty `functionValues` before the first iteration).
`lstep_applicable`, `lstep_inapplicable`: the local step succeeds exactly when `applicable` says so (it never gets stuck
on a missing attribute or index), and keeps the shape along `absStep`.  They rest on `lNewItem_ok` and `lTrial_ok`: from the
cells the pointer program will read, that it succeeds and what can be read afterwards.
`run_shape` carries the shape along `run_spec`; its two readings are `run_report` (`C12_own_optimum`) and `step_applicable`
(`C12_progress`).  Ownership, frame and isolation (`WorldRun`) do not use the shape.
-/

namespace World
variable {V : Type}

/-- the trial `n` carries the value `v`: its `functionValues` list `fl` holds the holder `h` with `.value = v` -/
structure Carries (c : Comp V) (n fl h : Ref) (v : V) : Prop where
  trial : lread c n = some (.item fl)
  fv : lread c fl = some (.list (some h))
  val : lread c h = some (.holder v)

/-- what can be read after `lTrial` -/
structure TrialPost (c c' : Comp V) (sol l n fl h b : Ref) (k : Nat) (z : V) : Prop where
  keep : ∀ r : Ref, r.idx ≠ h.idx → r.idx ≠ fl.idx → r.idx ≠ sol.idx → r.idx ≠ l.idx → lread c' r = lread c r
  handed : c'.handed = c.handed
  sol : lread c' sol = some (.solution l (k + 1))
  list : lread c' l = some (.list (some b))
  new : Carries c' n fl h z

theorem lTrial_ok {c : Comp V} {sol n fl h l t : Ref} {v : V} {k : Nat} (b : Ref) (z : V) (st' : SolverSt)
    (hn : Carries c n fl h v) (h4 : lread c sol = some (.solution l k)) (h5 : lread c l = some (.list (some t)))
    (hne : fl.idx ≠ l.idx) :
    ∃ c', lTrial c sol n b z st' = some (c', [h, fl, sol, l]) ∧ c'.st = some st' ∧ TrialPost c c' sol l n fl h b k z := by
  obtain ⟨h1, h2, h3⟩ := hn
  -- the four cells written are pairwise different: a holder, two lists (`hne`) and the Solution
  have hhf : h.idx ≠ fl.idx := idx_ne h3 h2 nofun
  have hhs : h.idx ≠ sol.idx := idx_ne h3 h4 nofun
  have hhl : h.idx ≠ l.idx := idx_ne h3 h5 nofun
  have hfs : fl.idx ≠ sol.idx := idx_ne h2 h4 nofun
  have hsl : sol.idx ≠ l.idx := idx_ne h4 h5 nofun
  have r4 : lread (lwrite (lwrite c h (.holder z)) fl (.list (some h))) sol = some (.solution l k) := by
    rw [lread_lwrite_ne _ _ hfs.symm, lread_lwrite_ne _ _ hhs.symm, h4]
  have r5 : lread (lwrite (lwrite (lwrite c h (.holder z)) fl (.list (some h))) sol (.solution l (k + 1))) l =
      some (.list (some t)) := by
    rw [lread_lwrite_ne _ _ hsl.symm, lread_lwrite_ne _ _ hne.symm, lread_lwrite_ne _ _ hhl.symm, h5]
  have keep : ∀ r : Ref, r.idx ≠ h.idx → r.idx ≠ fl.idx → r.idx ≠ sol.idx → r.idx ≠ l.idx →
      lread (lwrite (lwrite (lwrite (lwrite c h (.holder z)) fl (.list (some h))) sol (.solution l (k + 1))) l
        (.list (some b))) r = lread c r := fun r e1 e2 e3 e4 => by
    rw [lread_lwrite_ne _ _ e4, lread_lwrite_ne _ _ e3, lread_lwrite_ne _ _ e2, lread_lwrite_ne _ _ e1]
  refine ⟨{ lwrite (lwrite (lwrite (lwrite c h (.holder z)) fl (.list (some h))) sol (.solution l (k + 1))) l
      (.list (some b)) with st := some st' },
    by simp [lTrial, h1, h2, h3, r4, r5, Cell.fv?, Cell.head?, Cell.value?, Cell.sol?], rfl,
    { keep := keep
      handed := rfl
      sol := ?_
      list := lread_lwrite_same _ (by simpa using lread_lt h5)
      -- the trial cell itself is none of the cells written
      new := ⟨(keep n (idx_ne h1 h3 nofun) (idx_ne h1 h2 nofun) (idx_ne h1 h4 nofun) (idx_ne h1 h5 nofun)).trans h1, ?_, ?_⟩ }⟩
  · show lread (lwrite _ l _) sol = _
    rw [lread_lwrite_ne _ _ hsl, lread_lwrite_same _ (by simpa using lread_lt h4)]
  · show lread (lwrite _ l _) fl = _
    rw [lread_lwrite_ne _ _ hne, lread_lwrite_ne _ _ hfs, lread_lwrite_same _ (by simpa using lread_lt h2)]
  · show lread (lwrite _ l _) h = _
    rw [lread_lwrite_ne _ _ hhl, lread_lwrite_ne _ _ hhs, lread_lwrite_ne _ _ hhf, lread_lwrite_same _ (lread_lt h3)]

section
variable [OfNat V 0]

theorem lNewItem_old (i : Nat) {c : Comp V} {r : Ref} {x : Cell V} (hx : lread c r = some x) :
    lread (lNewItem i c).1 r = some x := by
  rw [← hx]
  simp only [lNewItem, lalloc, lread, List.append_assoc]
  exact List.getElem?_append_left (lread_lt hx)

theorem lNewItem_ok (i : Nat) (c : Comp V) :
    ∃ h fl : Ref, Carries (lNewItem i c).1 (lNewItem i c).2.1 fl h 0 ∧ lread c fl = none ∧ lread c h = none := by
  refine ⟨⟨some i, c.heap.length⟩, ⟨some i, c.heap.length + 1⟩, ⟨?_, ?_, ?_⟩, ?_, ?_⟩
  · simp [lNewItem, lalloc, lread]
  · simp [lNewItem, lalloc, lread]
  · simp [lNewItem, lalloc, lread]
  · simp [lread]
  · simp [lread]

end

structure Abs (V : Type) where
  constructed : Bool := false
  started : Bool := false
  opt : Option V := none
  trials : Nat := 0

/-- when an operation is applicable (otherwise the protocol answers `bad-op` and nothing happens) -/
def applicable (a : Abs V) : Op V → Bool
  | .construct => !a.constructed
  | .first _ => a.constructed && !a.started
  | .iter _ _ => a.started
  | .results => a.constructed

def absStep (a : Abs V) (op : Op V) : Abs V :=
  if applicable a op then
    match op with
    | .construct => { constructed := true }
    | .first z => { a with started := true, opt := some z, trials := a.trials + 1 }
    | .iter z b => { a with opt := if b then some z else a.opt, trials := a.trials + 1 }
    | .results => a
  else a

def absRun (ops : List (Op V)) : Abs V := ops.foldl absStep {}

/-- `Shape c a`: the cells of the component `c` form the chain from which `results` reads the view `a`:
Solution cell `sol` (with `a.trials`) → its `bestTrials` list → a trial, which is the placeholder with an empty
`functionValues` list `fv` (`idle`) or `method.best` and carries `a.opt` (`active`, `chain`); every Solution handed out so
far (`handed`) is this one. -/
inductive Shape (c : Comp V) : Abs V → Prop
  | fresh (st : c.st = none) (handed : c.handed = []) : Shape c {}
  | idle (s : SolverSt) (l t e : Ref) (k : Nat) (st : c.st = some s) (started : s.started = false)
      (sol : lread c s.solution = some (.solution l k))
      (list : lread c l = some (.list (some t))) (trial : lread c t = some (.item e))
      (fv : lread c e = some (.list none)) (handed : ∀ r ∈ c.handed, r = s.solution) :
      Shape c { constructed := true, trials := k }
  | active (s : SolverSt) (l t fl h : Ref) (v : V) (k : Nat) (st : c.st = some s) (started : s.started = true)
      (best : s.best = some t) (sol : lread c s.solution = some (.solution l k))
      (list : lread c l = some (.list (some t))) (chain : Carries c t fl h v)
      (handed : ∀ r ∈ c.handed, r = s.solution) :
      Shape c { constructed := true, started := true, opt := some v, trials := k }

theorem shape_report {c : Comp V} {a : Abs V} (hs : Shape c a) :
    ∀ s ∈ c.handed, lreport c s = a.opt ∧ (Cell.sol? (lread c s)).map (·.2) = some a.trials := by
  intro r hr
  cases hs with
  | fresh _ hhd => rw [hhd] at hr; cases hr
  | idle s l t e k _ _ hsol hlist htrial hfv hhd =>
    rw [hhd r hr]
    simp [lreport, hsol, hlist, htrial, hfv, Cell.sol?, Cell.head?, Cell.fv?]
  | active s l t fl h v k _ _ _ hsol hlist hch hhd =>
    rw [hhd r hr]
    simp [lreport, hsol, hlist, hch.trial, hch.fv, hch.val, Cell.sol?, Cell.head?, Cell.fv?, Cell.value?]

section
variable [OfNat V 0]

/-- an operation that the abstract view does not allow finds its guard (`st`, `started`) closed -/
theorem lstep_inapplicable (i : Nat) {c : Comp V} {a : Abs V} (hs : Shape c a) {op : Op V}
    (h : applicable a op = false) : lstep i c op = none := by
  cases hs with
  | fresh hst _ =>
    cases op with
    | construct => cases h
    | _ => simp [lstep, hst]
  | idle s _ _ _ _ hst hstarted =>
    cases op with
    | construct | iter => simp [lstep, hst, hstarted]
    | _ => cases h
  | active s _ _ _ _ _ _ hst hstarted =>
    cases op with
    | construct | first => simp [lstep, hst, hstarted]
    | _ => cases h

theorem handed_results {hd : List Ref} {x : Ref} (h : ∀ r ∈ hd, r = x) : ∀ r ∈ hd ++ [x], r = x :=
  fun r hr => (List.mem_append.1 hr).elim (h r) List.mem_singleton.1

theorem lstep_applicable (i : Nat) {c : Comp V} {a : Abs V} (hs : Shape c a) {op : Op V}
    (happ : applicable a op = true) : ∃ c' o, lstep i c op = some (c', o) ∧ Shape c' (absStep a op) := by
  rw [absStep.eq_def, if_pos happ]
  cases hs with
  | fresh hst hhd =>
    cases op with
    | construct =>
      refine ⟨_, _, by simp only [lstep, hst]; rfl, ?_⟩
      exact Shape.idle _ (l := ⟨some i, c.heap.length + 2⟩) (t := ⟨some i, c.heap.length + 1⟩)
        (e := ⟨some i, c.heap.length⟩) (k := 0) (st := rfl) (started := rfl)
        (sol := by simp [lalloc, lread])
        (list := by simp [lalloc, lread])
        (trial := by simp [lalloc, lread])
        (fv := by simp [lalloc, lread])
        (handed := by simp [lalloc, hhd])
    | _ => cases happ
  | idle s l t e k hst hstarted hsol hlist htrial hfv hhd =>
    cases op with
    | construct => cases happ
    | iter z b => cases happ
    | results =>
      refine ⟨_, _, by simp only [lstep, hst, Option.bind_eq_bind, Option.bind_some]; rfl, ?_⟩
      exact Shape.idle s l t e k rfl hstarted hsol hlist htrial hfv (handed_results hhd)
    | first z =>
      obtain ⟨hm, flm, m, nfl, -⟩ := lNewItem_ok i c
      -- the middle trial is allocated first: its cells, the Solution and the list are still there after `left`, `right`
      obtain ⟨c', e, hst', p⟩ := lTrial_ok (lNewItem i c).2.1 z
        { s with items := [(lNewItem i (lNewItem i c).1).2.1, (lNewItem i (lNewItem i (lNewItem i c).1).1).2.1,
            (lNewItem i c).2.1], best := some (lNewItem i c).2.1, started := true }
        ⟨lNewItem_old i (lNewItem_old i m.trial), lNewItem_old i (lNewItem_old i m.fv), lNewItem_old i (lNewItem_old i m.val)⟩
        (lNewItem_old i (lNewItem_old i (lNewItem_old i hsol))) (lNewItem_old i (lNewItem_old i (lNewItem_old i hlist)))
        (idx_ne nfl hlist nofun)
      exact ⟨c', _, by simp only [lstep, hst, Option.bind_eq_bind, Option.bind_some, hstarted, Bool.false_eq_true, if_false, e]; rfl,
        Shape.active _ l (lNewItem i c).2.1 flm hm z (k + 1) (st := hst') (started := rfl) (best := rfl)
          (sol := p.sol) (list := p.list) (chain := p.new) (handed := fun r hr => hhd r (p.handed ▸ hr))⟩
  | active s l t fl h v k hst hstarted hbest hsol hlist hch hhd =>
    cases op with
    | construct => cases happ
    | first z => cases happ
    | results =>
      refine ⟨_, _, by simp only [lstep, hst, Option.bind_eq_bind, Option.bind_some]; rfl, ?_⟩
      exact Shape.active s l t fl h v k rfl hstarted hbest hsol hlist ⟨hch.trial, hch.fv, hch.val⟩ (handed_results hhd)
    | iter z b =>
      obtain ⟨hm, flm, m, nfl, nh⟩ := lNewItem_ok i c
      obtain ⟨c', e, hst', p⟩ := lTrial_ok (if b = true then (lNewItem i c).2.1 else t) z
        { s with
          items := s.items ++ [(lNewItem i c).2.1]
          best := some (if b = true then (lNewItem i c).2.1 else t)
          started := true }
        m (lNewItem_old i hsol) (lNewItem_old i hlist) (idx_ne nfl hlist nofun)
      have hhd' : ∀ r ∈ c'.handed, r = s.solution := fun r hr => hhd r (p.handed ▸ hr)
      refine ⟨c', _, by simp only [lstep, hst, Option.bind_eq_bind, Option.bind_some, hstarted, Bool.not_true,
        Bool.false_eq_true, if_false, hbest, e]; rfl, ?_⟩
      cases b with
      | true =>
        exact Shape.active _ l (lNewItem i c).2.1 flm hm z (k + 1) (st := hst') (started := rfl) (best := rfl)
          (sol := p.sol) (list := p.list) (chain := p.new) (handed := hhd')
      | false =>
        -- the old best keeps its chain: its cells are old, and are neither the Solution nor the bestTrials list
        have old : ∀ (r : Ref) (x : Cell V), lread c r = some x → r.idx ≠ s.solution.idx → r.idx ≠ l.idx →
            lread c' r = some x := fun r x hx e1 e2 =>
          (p.keep r (idx_ne hx nh nofun) (idx_ne hx nfl nofun) e1 e2).trans (lNewItem_old i hx)
        have e6 : fl.idx ≠ l.idx := fun e => by
          obtain ⟨htrial, hfv, hval⟩ := hch
          rw [lread_congr c e, hlist] at hfv
          have : t = h := by injection hfv with hfv; injection hfv with hfv; injection hfv
          rw [this, hval] at htrial; cases htrial
        exact Shape.active _ l t fl h v (k + 1) (st := hst') (started := rfl) (best := rfl) (sol := p.sol) (list := p.list)
          (chain :=
            ⟨old _ _ hch.trial (idx_ne hch.trial hsol nofun) (idx_ne hch.trial hlist nofun),
              old _ _ hch.fv (idx_ne hch.fv hsol nofun) e6,
              old _ _ hch.val (idx_ne hch.val hsol nofun) (idx_ne hch.val hlist nofun)⟩)
          (handed := hhd')

theorem lstepW_shape (i : Nat) {c : Comp V} {a : Abs V} (hs : Shape c a) (op : Op V) :
    Shape (lstepW i c op) (absStep a op) := by
  unfold lstepW
  cases happ : applicable a op with
  | true =>
    obtain ⟨c', o, e, hs'⟩ := lstep_applicable i hs happ
    rw [e]; exact hs'
  | false =>
    rw [lstep_inapplicable i hs happ, absStep.eq_def, if_neg (by simp [happ])]; exact hs

theorem lrun_shape (i : Nat) {c : Comp V} {a : Abs V} (hs : Shape c a) (ops : List (Nat × Op V)) :
    Shape (lrun i c ops) (ops.foldl (fun a x => absStep a x.2) a) := by
  induction ops generalizing c a with
  | nil => exact hs
  | cons x t ih => exact ih (lstepW_shape i hs x.2)

omit [OfNat V 0] in
theorem shape_default : Shape ({} : Comp V) {} := Shape.fresh rfl rfl

theorem run_shape (sched : List (Nat × Op V)) (i : Nat) :
    Shape ((run repaired sched).solver i) (absRun ((sched.filter (·.1 = i)).map (·.2))) := by
  rw [(run_spec sched).2]
  simpa [absRun, List.foldl_map] using lrun_shape i (shape_default (V := V)) (sched.filter (·.1 = i))

theorem run_report (sched : List (Nat × Op V)) (i : Nat) :
    ∀ s ∈ ((run repaired sched).solver i).handed,
      report (run repaired sched) s = (absRun ((sched.filter (·.1 = i)).map (·.2))).opt ∧
      reportTrials (run repaired sched) s = some (absRun ((sched.filter (·.1 = i)).map (·.2))).trials := by
  intro s hs
  have hc := allClosed_run sched i
  obtain ⟨h1, h2⟩ := shape_report (run_shape sched i) s hs
  exact ⟨(report_own _ hc (hc.handed s hs)).trans h1, (reportTrials_own _ (hc.handed s hs)).trans h2⟩

/-- the pointer program never gets stuck -/
theorem step_applicable (sched : List (Nat × Op V)) (i : Nat) (op : Op V) :
    (step repaired (run repaired sched) i op).isSome =
      applicable (absRun ((sched.filter (·.1 = i)).map (·.2))) op := by
  rw [step_eq (allClosed_run sched)]
  cases happ : applicable (absRun ((sched.filter (·.1 = i)).map (·.2))) op with
  | true =>
    obtain ⟨c', o, e, -⟩ := lstep_applicable i (run_shape sched i) happ
    rw [e]; rfl
  | false => rw [lstep_inapplicable i (run_shape sched i) happ]; rfl

end
end World

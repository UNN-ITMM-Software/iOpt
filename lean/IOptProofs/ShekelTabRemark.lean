import IOptProofs.ShekelTab
/-!
# Shekel tables: why the location clause is stated against the true minimum, not against `f(pmin)`

The tabulated locations are multiples of `1e-3`, and for a few rows the true minimiser is a little more than
`5e-4` away from the tabulated one.  For those rows the sublevel set
`{x : f x ≤ f pmin}` sticks out of `[pmin - 1e-3, pmin + 1e-3]`: there is a point of the box farther than `1e-3`
from `pmin` with a value *below* `f pmin`.  So "every `x` with `f x ≤ f(pmin)` lies within
`1e-3` of `pmin`" is false for these rows, while "every global minimiser lies within `1e-3` of `pmin`"
(`ShekelTables.minimiser_near`) holds for all 1000 rows.  This file certifies five such rows.
-/

namespace Shk

/-- some point at distance `(W+1)/2^E > 1e-3` from the tabulated minimum location has a smaller value -/
noncomputable def sublevelOutCert (k a c : List Dy) (pn px : Dy) : Bool :=
  force (expForTab k a c pn px) fun E =>
  force (2 ^ (3 * E + P)) fun A =>
  force (scale E pn) fun X =>
  force (10 * 2 ^ E) fun X10 =>
  force (2 ^ E / 1000) fun W =>
  tabOK E k a c && scaleOK E pn && Nat.ble X X10 &&
  forceTerms (nterms E k a c) fun ts =>
  force (sUpR A ts X X) fun up =>
  (Nat.ble (W + 1) X && Nat.blt up (sDnR A ts (X - (W + 1)) (X - (W + 1)))) ||
  (Nat.ble (X + (W + 1)) X10 && Nat.blt up (sDnR A ts (X + (W + 1)) (X + (W + 1))))

noncomputable def sublevelOut (i : Nat) : Bool :=
  force Gen.shekelRows[i]! fun row =>
    sublevelOutCert (Dy.slice row 0 10) (Dy.slice row 10 10) (Dy.slice row 20 10) (Dy.get row 31) (Dy.get row 33)

theorem sublevelOutCert_sound (k a c : List Dy) (pn px : Dy) (h : sublevelOutCert k a c pn px = true) :
    ∃ x : ℝ, 0 ≤ x ∧ x ≤ 10 ∧ 1e-3 < |x - dyR pn| ∧
      Prob.shekel (k.map dyR) (a.map dyR) (c.map dyR) x < Prob.shekel (k.map dyR) (a.map dyR) (c.map dyR) (dyR pn) := by
  simp only [sublevelOutCert, force_eq, forceTerms_eq, Bool.and_eq_true, Bool.or_eq_true, sUpR_eq, sDnR_eq] at h
  set E := expForTab k a c pn px
  obtain ⟨⟨⟨htab, hpn⟩, hX10⟩, hcase⟩ := h
  set ts := nterms E k a c
  have hts := nterms_pos E k a c htab
  have hf : Prob.shekel (k.map dyR) (a.map dyR) (c.map dyR) = fR E ts :=
    funext fun x => fR_eq_shekel E k a c htab x
  rw [hf]
  have hs := two_pow_pos' E
  have hP := two_pow_pos' P
  have hpX := dyR_mul_pow E pn hpn
  have hWlt : (2 : ℝ) ^ E / 1000 < ((2 ^ E / 1000 + 1 : Nat) : ℝ) := by
    push_cast; linarith [(W_bounds E).2]
  have e3 : (1e-3 : ℝ) = 1 / 1000 := by norm_num
  -- an integer point `Y` of the domain, farther than `2^E/1000` from `X`, whose value beats the value at `pmin`
  have key : ∀ Y : Nat, Y ≤ 10 * 2 ^ E → (2 : ℝ) ^ E / 1000 < |(Y : ℝ) - scale E pn| →
      sUp (2 ^ (3 * E + P)) ts (scale E pn) (scale E pn) < sDn (2 ^ (3 * E + P)) ts Y Y →
      ∃ x : ℝ, 0 ≤ x ∧ x ≤ 10 ∧ 1e-3 < |x - dyR pn| ∧ fR E ts x < fR E ts (dyR pn) := by
    intro Y hY hd hlt
    have hm : (Y : ℝ) / 2 ^ E * 2 ^ E = Y := div_mul_cancel₀ _ hs.ne'
    refine ⟨(Y : ℝ) / 2 ^ E, (scaled_in_box hm hY).1, (scaled_in_box hm hY).2, ?_, ?_⟩
    · have := abs_scaled hs hpX ((Y : ℝ) / 2 ^ E)
      rw [hm] at this
      rw [this] at hd
      rw [e3]
      exact lt_of_mul_lt_mul_right (by linarith) hs.le
    · have hlo := fR_le_of_le_sDn E ts hts _ hm.ge hm.le le_rfl
      have hup := fR_ge_of_sUp_le E ts hts _ hpX.ge hpX.le le_rfl
      exact hlo.trans_lt ((div_lt_div_of_pos_right (neg_lt_neg (Nat.cast_lt.2 hlt)) hP).trans_le hup)
  rcases hcase with ⟨hW, hlt⟩ | ⟨hW, hlt⟩
  · refine key _ ((Nat.sub_le _ _).trans (Nat.le_of_ble_eq_true hX10)) ?_ (lt_of_blt hlt)
    rw [Nat.cast_sub (Nat.le_of_ble_eq_true hW), sub_sub_cancel_left, abs_neg, abs_of_nonneg (Nat.cast_nonneg _)]
    exact hWlt
  · refine key _ (Nat.le_of_ble_eq_true hW) ?_ (lt_of_blt hlt)
    rw [Nat.cast_add, add_sub_cancel_left, abs_of_nonneg (Nat.cast_nonneg _)]
    exact hWlt

theorem sublevelOut_sound (i : Nat) (h : sublevelOut i = true) :
    ∃ x : ℝ, 0 ≤ x ∧ x ≤ 10 ∧ 1e-3 < |x - dyR (Gen.shekelMinPoint i)| ∧
      shekelFn i x < shekelFn i (dyR (Gen.shekelMinPoint i)) := by
  unfold sublevelOut at h
  rw [force_eq] at h
  exact sublevelOutCert_sound _ _ _ _ _ h

/-- five rows where this happens; nothing is claimed about the others -/
theorem sublevelOut_rows : ∀ i ∈ [492, 640, 797, 913, 970], sublevelOut i = true := by decide +kernel

end Shk

import IOptProofs.MethodProc
import IOptProps.C03
/-!
# `eps` and `itersLimit` do not enter the trial sequence

`SameMethod p1 p2`: the two parameter objects differ at most in `eps` / `itersLimit`, which is what a user changes in place between two
`Solve` calls.  One pass, the canonical sequence and the selected lengths are then the same (`iterN_sameMethod` … `delta_sameMethod`, over
the bare operations: `p2` is `p1` with the two fields updated, and no operation of a pass reads them), and so are the runs, the reachable
states and the invariants of the method and of the process over an ordered field (`Run_sameMethod` … `procOK_sameMethod`).
-/
set_option linter.unusedSectionVars false

section
variable {α : Type} [Add α] [Sub α] [Mul α] [Div α] [Neg α] [LT α] [LE α]
  [DecidableLT α] [DecidableLE α] [OfNat α 0] [OfNat α 1] [OfNat α 2] [OfNat α 4] [Fns α]

namespace AGP

/-- `eps` and `itersLimit`, in which the two may differ, are what a user changes in place between two `Solve` calls -/
def SameMethod (p1 p2 : Params α) : Prop := p2.n = p1.n ∧ p2.r = p1.r ∧ p2.image = p1.image

theorem SameMethod.eq_update {p1 p2 : Params α} (h : SameMethod p1 p2) :
    p2 = { p1 with eps := p2.eps, itersLimit := p2.itersLimit } := by
  obtain ⟨n, r, e, l, im⟩ := p1
  obtain ⟨n', r', e', l', im'⟩ := p2
  obtain ⟨h1, h2, h3⟩ := h
  simp only at h1 h2 h3
  subst h1; subst h2; subst h3
  rfl

theorem SameMethod.symm {p1 p2 : Params α} (h : SameMethod p1 p2) : SameMethod p2 p1 :=
  ⟨h.1.symm, h.2.1.symm, h.2.2.symm⟩

theorem SameMethod.refl (p : Params α) : SameMethod p p := ⟨rfl, rfl, rfl⟩

theorem SameMethod.update (p : Params α) (e : α) (l : Nat) : SameMethod p { p with eps := e, itersLimit := l } :=
  ⟨rfl, rfl, rfl⟩

theorem prepare_update (p : Params α) (e : α) (l : Nat) (s : State α) :
    prepare { p with eps := e, itersLimit := l } s = prepare p s := rfl

theorem commit_update (p : Params α) (e : α) (l : Nat) (pr : Prep α) (z : α) :
    commit { p with eps := e, itersLimit := l } pr z = commit p pr z := rfl

theorem firstIteration_update (p : Params α) (e : α) (l : Nat) (z : α) :
    firstIteration { p with eps := e, itersLimit := l } z = firstIteration p z := rfl

end AGP

namespace Proc
open AGP AGP.Ctl

theorem oneIteration_update (p : Params α) (e : α) (l : Nat) (f : Nat → List α → Option α) (ps : PState α) :
    oneIteration { p with eps := e, itersLimit := l } f ps = oneIteration p f ps := rfl

theorem nextDelta_update (p : Params α) (e : α) (l : Nat) (ps : PState α) :
    nextDelta { p with eps := e, itersLimit := l } ps = nextDelta p ps := rfl

theorem iterN_update (p : Params α) (e : α) (l : Nat) (f : Nat → List α → Option α) (k : Nat) (ps : PState α) :
    iterN { p with eps := e, itersLimit := l } f k ps = iterN p f k ps := by
  induction k generalizing ps with
  | zero => rfl
  | succ k ih =>
    rw [iterN, iterN, oneIteration_update]
    cases oneIteration p f ps with
    | error x => rfl
    | ok x => obtain ⟨ps', id⟩ := x; simp only []; rw [ih]

variable {p1 p2 : Params α}

theorem oneIteration_sameMethod (h : SameMethod p1 p2) (f : Nat → List α → Option α) (ps : PState α) :
    oneIteration p2 f ps = oneIteration p1 f ps := by
  rw [h.eq_update]; rfl

theorem iterN_sameMethod (h : SameMethod p1 p2) (f : Nat → List α → Option α) (k : Nat) (ps : PState α) :
    iterN p2 f k ps = iterN p1 f k ps := by
  rw [h.eq_update]; exact iterN_update p1 _ _ f k ps

theorem nextDelta_sameMethod (h : SameMethod p1 p2) (ps : PState α) : nextDelta p2 ps = nextDelta p1 ps := by
  rw [h.eq_update]; rfl

theorem stateAt_sameMethod (h : SameMethod p1 p2) (f : Nat → List α → Option α) (ps : PState α) (j : Nat) :
    stateAt p2 f ps j = stateAt p1 f ps j := by
  unfold stateAt; rw [iterN_sameMethod h]

theorem deltaAt_sameMethod (h : SameMethod p1 p2) (f : Nat → List α → Option α) (ps : PState α) (j : Nat) :
    deltaAt p2 f ps j = deltaAt p1 f ps j := by
  unfold deltaAt; rw [stateAt_sameMethod h]
  cases stateAt p1 f ps j with
  | none => rfl
  | some x => exact nextDelta_sameMethod h x

theorem deltas_sameMethod (h : SameMethod p1 p2) (f : Nat → List α → Option α) (ps : PState α) (k : Nat) :
    deltas p2 f ps k = deltas p1 f ps k := by
  unfold deltas
  have : deltaAt p2 f ps = deltaAt p1 f ps := funext (deltaAt_sameMethod h f ps)
  rw [this]

theorem delta_sameMethod (h : SameMethod p1 p2) (f : Nat → List α → Option α) (k : Nat) :
    C03.delta p2 f k = C03.delta p1 f k := deltaAt_sameMethod h f {} (k - 1)

end Proc
end

namespace AGP
variable {α : Type} [Field α] [LinearOrder α] [IsStrictOrderedRing α] [Fns α]

theorem Run_update (p : Params α) (e : α) (l : Nat) {hist : List (State α)} {log : List (List α × α)}
    (h : Run p hist log) : Run { p with eps := e, itersLimit := l } hist log := by
  induction h with
  | first z => exact Run.first (p := { p with eps := e, itersLimit := l }) z
  | step z _ hp ih => exact Run.step (p := { p with eps := e, itersLimit := l }) z ih hp

variable {p1 p2 : Params α}

theorem Run_sameMethod (h : SameMethod p1 p2) {hist : List (State α)} {log : List (List α × α)} :
    Run p2 hist log ↔ Run p1 hist log := by
  constructor
  · intro hr; rw [h.symm.eq_update]; exact Run_update p2 _ _ hr
  · intro hr; rw [h.eq_update]; exact Run_update p1 _ _ hr

theorem Reach_sameMethod (h : SameMethod p1 p2) {s : State α} {log : List (List α × α)} :
    Reach p2 s log ↔ Reach p1 s log := by
  unfold Reach
  constructor
  · rintro ⟨hist, hr⟩; exact ⟨hist, (Run_sameMethod h).1 hr⟩
  · rintro ⟨hist, hr⟩; exact ⟨hist, (Run_sameMethod h).2 hr⟩

theorem Inv_update (p : Params α) (e : α) (l : Nat) {s : State α} (h : Inv p s) :
    Inv { p with eps := e, itersLimit := l } s :=
  { h with }

theorem Inv_sameMethod (h : SameMethod p1 p2) {s : State α} : Inv p2 s ↔ Inv p1 s := by
  constructor
  · intro hi; rw [h.symm.eq_update]; exact Inv_update p2 _ _ hi
  · intro hi; rw [h.eq_update]; exact Inv_update p1 _ _ hi

end AGP

namespace Proc
open AGP AGP.Ctl
variable {α : Type} [Field α] [LinearOrder α] [IsStrictOrderedRing α] [Fns α]
variable {p1 p2 : Params α} {f : Nat → List α → Option α}

theorem procOK_sameMethod (h : SameMethod p1 p2) {ps : PState α} : ProcOK p2 ps ↔ ProcOK p1 ps := by
  unfold ProcOK
  cases ps.m with
  | none => exact Iff.rfl
  | some s => exact Reach_sameMethod h

end Proc

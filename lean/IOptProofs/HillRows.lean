import IOptProofs.HillDefs
import IOptProofs.EnclRec
import IOptProofs.CertBlocks
/-!
# Hill: the certificate in the form the kernel evaluates (no Mathlib)

Not a second checker: `rowOKR` is `rowOK` of `HillDefs` with every loop written with the recursor (`pow2R`, `evGoR`,
`bnbR` for `pow2`, `evGo`, `bnb`) and the bisection handing literals to its children; same arithmetic, same tests, same
order, equal to `rowOK` (`rowOKR_eq`), and that equation is all that is used of it.  A row is about 173 evaluations of
the trigonometric sums; each runs 14 steps of `evGo` and 5 of `pow2`, and the kernel unfolds a step of a function compiled
from structural recursion at about 115 heartbeats more than a step of the recursor (a run of `evGo` 5.85 k, of `evGoR`
4.25 k).  The table is walked once per block (`CertBlocks`); a block of twenty rows costs the kernel 35 to 39 M
heartbeats.  `hill_block` turns one such evaluation into the statement about rows `a, …, a+n-1`.
-/
namespace Hill
open Encl

/-- `evGo`, by the recursor -/
noncomputable def evGoR (l : List Coef) : Nat → Nat → Nat → Nat → Nat → Nat → Nat → Nat → Acc :=
  @List.rec Coef (fun _ => Nat → Nat → Nat → Nat → Nat → Nat → Nat → Nat → Acc)
    (fun _ _ _ _ f g1 g2 sc => ⟨f, g1, g2, sc⟩)
    (fun c _ ih X U Y V f g1 g2 sc =>
      ih (cmulRe X Y U V) (cmulIm X Y U V) Y V
        (Nat.add (Nat.add f (Nat.mul c.a0 U)) (Nat.mul c.b0 X))
        (Nat.add (Nat.add g1 (Nat.mul c.a1 X)) (Nat.mul c.b1 U))
        (Nat.add (Nat.add g2 (Nat.mul c.a2 U)) (Nat.mul c.b2 X))
        (Nat.add (Nat.add sc X) U)) l

theorem evGoR_eq (l : List Coef) (X U Y V f g1 g2 sc : Nat) :
    evGoR l X U Y V f g1 g2 sc = evGo l X U Y V f g1 g2 sc := by
  induction l generalizing X U f g1 g2 sc with
  | nil => rfl
  | cons c l ih => exact ih ..

/-- `evAcc` through `pow2R`, `evGoR` -/
noncomputable def evAccR (cs : List Coef) (num k : Nat) : Acc :=
  pow2R 5 (Nat.add B (cosT (usq (phi num k)))) (Nat.add B (sinT (phi num k) (usq (phi num k))))
    fun Y V => evGoR cs (Nat.add ONE B) B Y V 0 0 0 0

theorem evAccR_eq (cs : List Coef) (num k : Nat) : evAccR cs num k = evAcc cs num k := by
  simp only [evAccR, evAcc, trig, pow2R_eq, evGoR_eq]

/-- `ev` through `evAccR` -/
noncomputable def evR {α : Type} (ctx : Ctx) (num k : Nat) (cont : Nat → Nat → Nat → Nat → Nat → α) : α :=
  (fun (acc : Acc) (sh : Nat) =>
    cont (Nat.sub (Nat.add acc.f ctx.kF) (Nat.add ctx.c0 sh))
         (Nat.sub (Nat.add acc.g1 ctx.kG) (Nat.add ctx.c1 sh))
         (Nat.sub (Nat.add ctx.c1 sh) (Nat.add acc.g1 ctx.kG))
         (Nat.sub (Nat.add acc.g2 ctx.kG) (Nat.add ctx.c2 sh))
         (Nat.sub (Nat.add ctx.c2 sh) (Nat.add acc.g2 ctx.kG)))
  (evAccR ctx.coefs num k) (Nat.shiftLeft (evAccR ctx.coefs num k).sc 89)

theorem evR_eq {α : Type} (ctx : Ctx) (num k : Nat) (cont : Nat → Nat → Nat → Nat → Nat → α) :
    evR ctx num k cont = ev ctx num k cont := by
  simp only [evR, ev, evAccR_eq]

/-- `bnb`, by the recursor on the fuel, with `leaf` through `evR`; the children get literals -/
noncomputable def bnbR (ctx : Ctx) (fuel k n : Nat) : Option Nat :=
  @Nat.rec (fun _ => Nat → Nat → Option Nat) (fun _ _ => none)
    (fun _ ih k n =>
      force (Nat.add k 1) fun k1 => force (Nat.mul 2 n) fun n0 => force (Nat.add n0 1) fun n1 =>
      cond (Nat.ble 6 k)
        (match evR ctx n1 k1 fun F P1 N1 P2 N2 =>
            cond (leafTests ctx k n F
                    (slack ctx k1 (Nat.add (Nat.add P1 N1) ctx.e1) (Nat.add P2 ctx.e2))
                    (slack ctx k1 (Nat.add (Nat.add P1 N1) ctx.e1) (Nat.add N2 ctx.e2)) &&
                  Nat.ble (derivHi ctx k1 (Nat.add (Nat.add P1 N1) ctx.e1) (Nat.add (Nat.add P2 N2) ctx.e2)) ctx.tL)
              (some (Nat.sub (Nat.add P1 N1) ctx.e1)) none with
        | some w => some w
        | none => both (ih k1 n0) (ih k1 n1))
        (both (ih k1 n0) (ih k1 n1))) fuel k n

theorem bnbR_eq (ctx : Ctx) (fuel k n : Nat) : bnbR ctx fuel k n = bnb ctx fuel k n := by
  induction fuel generalizing k n with
  | zero => rfl
  | succ fuel ih =>
    show (force (Nat.add k 1) fun k1 => force (Nat.mul 2 n) fun n0 => force (Nat.add n0 1) fun n1 =>
      cond (Nat.ble 6 k)
        (match evR ctx n1 k1 fun F P1 N1 P2 N2 =>
            cond (leafTests ctx k n F
                    (slack ctx k1 (Nat.add (Nat.add P1 N1) ctx.e1) (Nat.add P2 ctx.e2))
                    (slack ctx k1 (Nat.add (Nat.add P1 N1) ctx.e1) (Nat.add N2 ctx.e2)) &&
                  Nat.ble (derivHi ctx k1 (Nat.add (Nat.add P1 N1) ctx.e1) (Nat.add (Nat.add P2 N2) ctx.e2)) ctx.tL)
              (some (Nat.sub (Nat.add P1 N1) ctx.e1)) none with
        | some w => some w
        | none => both (bnbR ctx fuel k1 n0) (bnbR ctx fuel k1 n1))
        (both (bnbR ctx fuel k1 n0) (bnbR ctx fuel k1 n1))) = _
    simp only [force_eq, ih, evR_eq]
    rfl

/-- `rowOK` through `evR`, `bnbR` -/
noncomputable def rowOKR (a b : List Dy) (vmin pmin vmax pmax lip : Dy) : Bool :=
  a.length == b.length && a.length ≤ 16 && allOK a && allOK b &&
  decide (0 ≤ pmin.1) && decide (0 ≤ pmax.1) && decide (0 ≤ lip.1) &&
  Nat.ble pmin.1.toNat (2^pmin.2) && Nat.ble pmax.1.toNat (2^pmax.2) &&
  Nat.ble TOL4 (encLo vmin) && Nat.ble TOL4 (encLo vmax) &&
  (fun ctx =>
    (evR ctx ctx.pminN ctx.pminK fun F _ _ _ _ =>
      Nat.ble (Nat.add F ctx.e0) (Nat.add TOL6 ctx.vminLo) &&
        Nat.ble (Nat.add (Nat.add 1 ctx.vminLo) ctx.e0) (Nat.add TOL6 F)) &&
    (evR ctx ctx.pmaxN ctx.pmaxK fun F _ _ _ _ =>
      Nat.ble (Nat.add F ctx.e0) (Nat.add TOL6 ctx.vmaxLo) &&
        Nat.ble (Nat.add (Nat.add 1 ctx.vmaxLo) ctx.e0) (Nat.add TOL6 F)) &&
    match bnbR ctx 32 0 0 with
    | some w => witnessOK lip w
    | none => false) (mkCtx a b vmin pmin vmax pmax lip)

-- over variables: stated about table rows, the closing `rfl` would make the kernel evaluate the bisection on open terms
theorem rowOKR_eq (a b : List Dy) (vmin pmin vmax pmax lip : Dy) :
    rowOKR a b vmin pmin vmax pmax lip = rowOK a b vmin pmin vmax pmax lip := by
  simp only [rowOKR, rowOK, valueOK, evR_eq, bnbR_eq]
  rfl

/-- `hillOK` as a test on the packed table row -/
noncomputable def hillRowOK (row : Nat) : Bool :=
  rowOKR (Dy.slice row 0 14) (Dy.slice row 14 14) (Dy.get row 28) (Dy.get row 29) (Dy.get row 30) (Dy.get row 31)
    (Dy.get row 32)

theorem hill_block (a n : Nat) (h : CertBlocks.firstAll (fun _ => hillRowOK) n (CertBlocks.skip a Gen.hillRows.toList) = true) :
    ∀ i ∈ List.range' a n, hillOK i = true := fun i hi =>
  (rowOKR_eq ..).symm.trans (CertBlocks.forall_range' (fun _ => hillRowOK) Gen.hillRows a n h i hi)

end Hill

import IOptProofs.EvNum
import IOptProofs.EvFwd
import IOptProofs.EvInv
/-!
# Cube points from level offsets; digits of a subinterval index at the field level

* `Ev.Num.ptOf n os r`: the cube point `Σ_j (r / 2^(j+1)) · os_j` (list level, head recursive);
  with `r = 1/2` and `os = signs n (St.init n) ds` this is `cubeY n ds / 2^(m+1)` (`cubeY_map_eq_ptOf`).
* `Ev.Num.frac n ds = indexOf n ds / (2^n)^|ds|`.
-/

set_option linter.unusedSectionVars false
namespace Ev.Num
variable {α : Type} [Field α] [LinearOrder α] [IsStrictOrderedRing α] [FloorSemiring α]

theorem forall_mem_zipWith {β γ δ : Type} {f : β → γ → δ} {P : β → Prop} {Q : γ → Prop}
    {R : δ → Prop} (h : ∀ s c, P s → Q c → R (f s c)) (a : List β) (b : List γ)
    (ha : ∀ s ∈ a, P s) (hb : ∀ c ∈ b, Q c) : ∀ x ∈ List.zipWith f a b, R x := by
  intro x hx
  rw [← List.map_uncurry_zip_eq_zipWith, List.mem_map] at hx
  obtain ⟨⟨s, c⟩, hsc, rfl⟩ := hx
  obtain ⟨hs, hc⟩ := List.of_mem_zip hsc
  exact h s c (ha s hs) (hb c hc)

theorem valid_iff (n : Nat) (s : St) : Inv.Valid n s ↔ validState n s := by
  simp only [Inv.Valid, validState, Inv.pm1_iff]

def ptOf (n : Nat) : List (List Int) → α → List α
  | [], _ => List.replicate n 0
  | o :: os, r => List.zipWith (fun (s : Int) (b : α) => (s : α) * (r / 2) + b) o (ptOf n os (r / 2))

def SignList (n : Nat) (os : List (List Int)) : Prop := ∀ o ∈ os, o.length = n ∧ Inv.pm1 o = true

theorem signList_cons {n : Nat} {o : List Int} {os : List (List Int)} :
    SignList n (o :: os) ↔ (o.length = n ∧ Inv.pm1 o = true) ∧ SignList n os := by
  simp [SignList]

theorem length_ptOf {n : Nat} : ∀ (os : List (List Int)) (r : α), SignList n os →
    (ptOf n os r).length = n
  | [], _, _ => by simp [ptOf]
  | o :: os, r, h => by
    rw [signList_cons] at h
    simp [ptOf, length_ptOf os (r / 2) h.2, h.1.1]

theorem abs_pm_mul_add_le {s : Int} (hs : s = 1 ∨ s = -1) {h c b : α} (hh : 0 ≤ h)
    (hc : |c| ≤ b) : |(s : α) * h + c| ≤ h + b := by
  have e : |(s : α) * h| = h := by
    rcases hs with rfl | rfl
    · rw [Int.cast_one, one_mul, abs_of_nonneg hh]
    · rw [Int.cast_neg, Int.cast_one, neg_one_mul, abs_neg, abs_of_nonneg hh]
  exact (abs_add_le _ _).trans (add_le_add e.le hc)

/-- `|x| ≤ r (1 - 2^-k)` for `k` levels: level `j` contributes `±r/2^j` -/
theorem abs_ptOf_le {n : Nat} : ∀ (os : List (List Int)) (r : α), 0 < r → SignList n os →
    ∀ x ∈ ptOf n os r, |x| ≤ r - r / 2^os.length
  | [], r, hr, _ => by
    intro x hx
    simp only [ptOf, List.mem_replicate] at hx
    simp [hx.2]
  | o :: os, r, hr, h => by
    rw [signList_cons] at h
    have e : r - r / 2 ^ (o :: os).length = r / 2 + (r / 2 - r / 2 / 2^os.length) := by
      rw [List.length_cons, pow_succ', ← div_div]; ring
    rw [e]
    exact forall_mem_zipWith (P := fun s => s = 1 ∨ s = -1)
      (Q := fun b : α => |b| ≤ r / 2 - r / 2 / 2^os.length)
      (fun s c hs hc => abs_pm_mul_add_le hs (by positivity) hc) _ _
      (Inv.pm1_iff.1 h.1.2) (abs_ptOf_le os (r / 2) (by positivity) h.2)

theorem abs_ptOf_lt {n : Nat} (os : List (List Int)) (r : α) (hr : 0 < r) (h : SignList n os) :
    ∀ x ∈ ptOf n os r, |x| < r := fun x hx =>
  lt_of_le_of_lt (abs_ptOf_le os r hr h x hx) (sub_lt_self r (by positivity))

theorem signList_signs {n : Nat} : ∀ (ds : List Nat) (s : St),
    validState n s → SignList n (signs n s ds)
  | [], _, _ => by simp [SignList]
  | d :: ds, s, hs => by
    obtain ⟨hs', ho⟩ := step_shape hs d
    rw [signs_cons, signList_cons]
    exact ⟨⟨ho.1, Inv.pm1_iff.2 ho.2⟩, signList_signs ds _ hs'⟩

theorem ptOf_signs {n : Nat} : ∀ (ds : List Nat) (s : St) (r : α),
    validState n s →
    ptOf n (signs n s ds) r = (List.range n).map fun i => (Yc n s ds i : α) * (r / 2^ds.length)
  | [], s, r, _ => by simp [ptOf]
  | d :: ds, s, r, hs => by
    obtain ⟨hs', ho⟩ := step_shape hs d
    rw [signs_cons, ptOf, ptOf_signs ds _ (r / 2) hs', ← map_getI_range ho.1,
      List.zipWith_map, List.zipWith_self]
    apply List.map_congr_left
    intro i _
    rw [Yc_cons, List.length_cons, pow_succ]
    push_cast
    field_simp

theorem cubeY_map_eq_ptOf {n : Nat} (hn : Ev.DimOK n) (ds : List Nat) :
    (cubeY n ds).map (fun (Y : Int) => (Y : α) / 2^(ds.length + 1)) =
      ptOf n (signs n (St.init n) ds) (1 / 2) := by
  rw [cubeY_eq_map hn.pos ds, ptOf_signs ds _ _ (validState_init hn.pos),
    List.map_map]
  apply List.map_congr_left
  intro i _
  rw [Function.comp, pow_succ, div_div, mul_one_div, mul_comm (2 : α)]

def frac (n : Nat) (ds : List Nat) : α := (indexOf n ds : α) / (2^n)^ds.length

theorem frac_nil (n : Nat) : (frac n [] : α) = 0 := by simp [frac, indexOf]

theorem frac_cons (n d : Nat) (ds : List Nat) :
    (frac n (d :: ds) : α) = ((d : α) + frac n ds) / 2^n := by
  simp only [frac, indexOf_cons, List.length_cons]
  push_cast
  rw [pow_succ, ← div_div, add_div, mul_div_cancel_right₀ _ (by positivity)]

end Ev.Num

import IOptProofs.EnclDefs
/-!
# Enclosure kit: pieces in the form the kernel evaluates cheaply (no Mathlib)

The kernel unfolds one call of a function compiled from structural recursion (`Nat.brecOn`, `List.brecOn`) at about 115
heartbeats more than one step of the same loop written with the recursor, and it pays again for every use of an argument
that is handed down as an unevaluated term.  `pow2R` is `pow2` by the recursor; `force` evaluates a number before it is
handed on.  Used by the kernel forms of the Hill and Grishagin checkers (`HillRows`, `GrishRows`).
-/
namespace Encl

/-- evaluate `n` to a literal before continuing (`force n k = k n`) -/
@[reducible] def force {α : Type} (n : Nat) (k : Nat → α) : α :=
  @Nat.casesOn (fun _ => α) n (k 0) (fun m => k (Nat.succ m))

theorem force_eq {α : Type} (n : Nat) (k : Nat → α) : force n k = k n := by cases n <;> rfl

/-- `pow2`, by the recursor -/
noncomputable def pow2R {α : Type} (m X U : Nat) (k : Nat → Nat → α) : α :=
  @Nat.rec (fun _ => Nat → Nat → α) (fun X U => k X U) (fun _ ih X U => ih (cmulRe X X U U) (cmulIm X X U U)) m X U

theorem pow2R_eq {α : Type} (m X U : Nat) (k : Nat → Nat → α) : pow2R m X U k = pow2 m X U k := by
  induction m generalizing X U with
  | zero => rfl
  | succ m ih => exact ih ..

end Encl

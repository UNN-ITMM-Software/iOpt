import IOptModel.Problems
import IOptGen.Gkls
import Mathlib.Algebra.Ring.Int.Defs
import Mathlib.Algebra.Group.Nat.Defs
/-!
# GKLS: the decidable certificates, as the kernel evaluates them

`Gkls.WF r` – well-formedness of a regenerated data set `r : Gen.GklsRaw`, checked in exact integer arithmetic on the
numerators of the dyadics over the common denominator `2^1074` (every finite double is a multiple of `2^-1074`);
`Gkls.ClassOK r` – the declared optimum and the class parameters agree with the data; `Gkls.Cert d k` – both, for the data set
`Gen.gkls d k`, with its identity.  What they mean over ℝ is proved in `GklsDefs` (`good_of_WF`) and `GklsClass`
(`classSpec_of_ClassOK`); the certificate blocks `GklsCert*` import only this file, so no proof edit re-runs them.
-/

namespace Gkls
open Prob

/-- common binary exponent: every finite double is an integer multiple of `2^-1074` -/
def E : Nat := 1074
/-- the common denominator `2^1074` -/
def unit : Int := ((2 ^ E : Nat) : Int)
/-- numerator of a dyadic over the common denominator `2^E` (exact when `d.2 ≤ E`) -/
def sc (d : Dy) : Int := d.1 * ((2 ^ (E - d.2) : Nat) : Int)

/-- the numerators over the common denominator -/
def toDataZ (r : Gen.GklsRaw) : GklsData Int :=
  { dim := r.dim, localMin := r.localMin.map (·.map sc), rho := r.rho.map sc, f := r.f.map sc }

def sqDistZ (x y : List Int) : Int := (List.zipWith (fun a b => (a - b) * (a - b)) x y).sum
def MiZ (D : GklsData Int) (i : Nat) : List Int := D.localMin.getD i []
def rhoZ (D : GklsData Int) (i : Nat) : Int := D.rho.getD i 0
def fZ (D : GklsData Int) (i : Nat) : Int := D.f.getD i 0
/-- `a_i` over the denominator `u²` -/
def cubAZ (u : Int) (D : GklsData Int) (i : Nat) : Int :=
  sqDistZ (MiZ D 0) (MiZ D i) + (fZ D 0 - fZ D i) * u

/-- shapes -/
def ShapeZ (D : GklsData Int) : Prop :=
  (2 ≤ D.dim ∧ D.localMin.length = 10 ∧ D.rho.length = 10 ∧ D.f.length = 10) ∧
  (∀ i < 10, (MiZ D i).length = D.dim)
/-- radii positive and at least `10⁻¹⁰`; `f_0 = 0`, `f_1 = -1`, `f_i > -1`; minimisers in the box -/
def RangeZ (u : Int) (D : GklsData Int) : Prop :=
  (∀ i < 10, 0 < rhoZ D i ∧ u ≤ rhoZ D i * 10000000000) ∧
  (fZ D 0 = 0 ∧ fZ D 1 = -u) ∧
  (∀ i < 10, 2 ≤ i → -u < fZ D i) ∧
  (∀ i < 10, ∀ c ∈ MiZ D i, -u ≤ c ∧ c ≤ u)
/-- balls pairwise disjoint, vertex outside every ball -/
def DisjZ (D : GklsData Int) : Prop :=
  (∀ i < 10, ∀ j < 10, 1 ≤ i → i < j →
    (rhoZ D i + rhoZ D j) * (rhoZ D i + rhoZ D j) < sqDistZ (MiZ D i) (MiZ D j)) ∧
  (∀ i < 10, 1 ≤ i → rhoZ D i * rhoZ D i < sqDistZ (MiZ D 0) (MiZ D i))
/-- `2dρ_i < ρ_i² + a_i` and `4dρ_i ≤ ρ_i² + 3a_i` (`d = ‖T - M_i‖`), each as the sign of its right side and the
inequality of the squares, so that no root is taken: they keep the cubic inside ball `i` above `f_i` everywhere but at the
centre `M_i` (`Gkls.cubicVal_gt`) -/
def CubicZ (u : Int) (D : GklsData Int) : Prop :=
  (∀ i < 10, 1 ≤ i → 0 ≤ rhoZ D i * rhoZ D i + cubAZ u D i ∧
    4 * sqDistZ (MiZ D 0) (MiZ D i) * (rhoZ D i * rhoZ D i) <
      (rhoZ D i * rhoZ D i + cubAZ u D i) * (rhoZ D i * rhoZ D i + cubAZ u D i)) ∧
  (∀ i < 10, 1 ≤ i → 0 ≤ rhoZ D i * rhoZ D i + 3 * cubAZ u D i ∧
    16 * sqDistZ (MiZ D 0) (MiZ D i) * (rhoZ D i * rhoZ D i) ≤
      (rhoZ D i * rhoZ D i + 3 * cubAZ u D i) * (rhoZ D i * rhoZ D i + 3 * cubAZ u D i))

/-- the clauses of `Good` for data given as integer numerators over the common denominator `u` -/
def GoodZ (u : Int) (D : GklsData Int) : Prop := ShapeZ D ∧ RangeZ u D ∧ DisjZ D ∧ CubicZ u D

instance (D : GklsData Int) : Decidable (ShapeZ D) := by unfold ShapeZ; infer_instance
instance (u : Int) (D : GklsData Int) : Decidable (RangeZ u D) := by unfold RangeZ; infer_instance
instance (D : GklsData Int) : Decidable (DisjZ D) := by unfold DisjZ; infer_instance
instance (u : Int) (D : GklsData Int) : Decidable (CubicZ u D) := by unfold CubicZ; infer_instance
instance (u : Int) (D : GklsData Int) : Decidable (GoodZ u D) := by unfold GoodZ; infer_instance

/-- every binary exponent of the data set is at most `E` (so that `sc` is exact) -/
def expOK (r : Gen.GklsRaw) : Bool :=
  r.localMin.all (fun m => m.all fun d => decide (d.2 ≤ E)) && r.rho.all (fun d => decide (d.2 ≤ E)) &&
    r.f.all (fun d => decide (d.2 ≤ E))

/-- the decidable well-formedness certificate of a regenerated data set (exact integer arithmetic) -/
def WF (r : Gen.GklsRaw) : Bool :=
  r.numMinima == 10 && expOK r && decide (GoodZ unit (toDataZ r))

def ClassOK (r : Gen.GklsRaw) : Bool :=
  r.gmIndex == 1 && r.numGlobal == 1 && r.isArgSet == 1 &&
  decide (r.optPoint = r.localMin.getD 1 []) &&
  decide (r.optValue.1 = -((2 ^ r.optValue.2 : Nat) : Int)) &&
  decide (r.rho.getD 1 (0, 0) = r.globalRadius) &&
  decide (r.globalDist.2 ≤ E) &&
  decide ((sqDistZ (MiZ (toDataZ r) 1) (MiZ (toDataZ r) 0) - sc r.globalDist * sc r.globalDist) * 1000000000
      ≤ unit * unit ∧
    (sc r.globalDist * sc r.globalDist - sqDistZ (MiZ (toDataZ r) 1) (MiZ (toDataZ r) 0)) * 1000000000
      ≤ unit * unit)

/-- the full per-data-set certificate: well-formedness, class clauses, and the identity of the data set -/
def Cert (d k : Nat) : Bool :=
  WF (Gen.gkls d k) && ClassOK (Gen.gkls d k) && (Gen.gkls d k).dim == d && (Gen.gkls d k).number == k

end Gkls

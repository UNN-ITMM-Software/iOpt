import IOptProofs.HolderCover
import Mathlib.Analysis.InnerProductSpace.PiL2
/-!
# Coordinate lists as points of `EuclideanSpace ℝ (Fin n)`; points of a box
-/

namespace Ev

noncomputable def toEuc (n : Nat) (a : List ℝ) : EuclideanSpace ℝ (Fin n) :=
  WithLp.toLp 2 (fun i : Fin n => getR a i)

def InBox (lower upper b : List ℝ) : Prop :=
  b.length = lower.length ∧
  ∀ i (_ : i < b.length) (_ : i < lower.length) (_ : i < upper.length),
    lower[i] ≤ b[i] ∧ b[i] ≤ upper[i]

/-- `__TransformP2D` maps the cube into the box -/
theorem p2d_inBox {n : Nat} {lower upper y : List ℝ} (hl : lower.length = n) (hu : upper.length = n)
    (hle : ∀ i (h1 : i < lower.length) (h2 : i < upper.length), lower[i] ≤ upper[i])
    (hy : InCube n y) : InBox lower upper (p2d lower upper y) := by
  have hlen : (p2d lower upper y).length = n := by rw [length_p2d, hl, hu, hy.1]; simp
  refine ⟨by rw [hlen, hl], ?_⟩
  intro i h0 h1 h2
  have hi : i < y.length := by rw [hy.1, ← hlen]; exact h0
  rw [Num.getElem_p2d lower upper y i h0 hi h1 h2]
  exact Num.p2d_coord_mem _ _ _ (hle i h1 h2) (hy.2 _ (List.getElem_mem hi))

end Ev

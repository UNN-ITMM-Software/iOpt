import Lean.Elab.Tactic.Basic
import Lean.Elab.ElabRules
import Lean.Meta.AppBuilder

open Lean Elab Tactic Meta in
/-- close `a = b` by `Eq.refl a`; the definitional equality is checked by the KERNEL only (the elaborator's unifier is not run: on a
run of one of the source interpreters it compares the string keys by unfolding `String.decEq` and needs ten times the kernel's work, or
does not terminate in reasonable time).  Nothing is assumed: the kernel accepts the declaration iff `a` and `b` are definitionally
equal. -/
elab "kernel_rfl" : tactic => do
  let g ← getMainGoal
  let t := (← instantiateMVars (← g.getType)).consumeMData
  let some (_, lhs, _) := t.eq? | throwError "kernel_rfl: the goal is not an equality{indentExpr t}"
  g.assign (← mkEqRefl lhs)

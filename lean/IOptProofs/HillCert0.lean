import IOptProofs.HillRows
/-! Kernel-evaluated certificates (V), (G), (P), (L) of the Hill functions 0..99, twenty rows per evaluation. -/
namespace Hill
theorem hill_block_0 : ∀ i ∈ List.range' 0 20, hillOK i = true := hill_block _ _ (by decide +kernel)
theorem hill_block_1 : ∀ i ∈ List.range' 20 20, hillOK i = true := hill_block _ _ (by decide +kernel)
theorem hill_block_2 : ∀ i ∈ List.range' 40 20, hillOK i = true := hill_block _ _ (by decide +kernel)
theorem hill_block_3 : ∀ i ∈ List.range' 60 20, hillOK i = true := hill_block _ _ (by decide +kernel)
theorem hill_block_4 : ∀ i ∈ List.range' 80 20, hillOK i = true := hill_block _ _ (by decide +kernel)
end Hill

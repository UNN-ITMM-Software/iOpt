import IOptProofs.ShekelTabBnb
import Mathlib.Analysis.Calculus.Deriv.MeanValue
/-!
# Shekel: soundness of the table certificate `shekelTabOK` over ℝ (C18, Shekel half)

* `ringTest_sound`: the derivative-sign argument.  If `φ ≥ t` outside `(p - ρ, p + ρ)` (the outer clause, `outer_sound`, which is
  also the location clause of C10), `φ ≥ t` at `p ∓ 1/1000`, `φ' < 0` on `[p - ρ, p - 1/1000]` and `φ' > 0` on
  `[p + 1/1000, p + ρ]` (all inside `[0,10]`), then `φ ≥ t` at every point of `[0,10]` farther than `1/1000` from `p`; the tests
  speak of integer boxes of the scaled coordinate, clipped to `[0, X10]`;
* `side_sound`: with the core clause; `minSide_sound` is the case `φ = f`, `maxSide_sound` the case `φ = -f`; `lipOK_sound`
  (in `ShekelTabBnb`) is the third group of clauses;
* `ShekelTables`: the clauses over ℝ; `shekelTabOK_sound`.
-/

namespace Shk

theorem le_of_deriv_pos {φ φ' : ℝ → ℝ} (hd : ∀ x, HasDerivAt φ (φ' x) x) {u v : ℝ} (huv : u ≤ v)
    (hpos : ∀ z, u ≤ z → z ≤ v → 0 < φ' z) : φ u ≤ φ v := by
  have hmono : MonotoneOn φ (Set.Icc u v) := by
    apply monotoneOn_of_deriv_nonneg (convex_Icc u v)
    · exact fun x _ => (hd x).continuousAt.continuousWithinAt
    · exact fun x _ => (hd x).differentiableAt.differentiableWithinAt
    · intro x hx
      rw [interior_Icc] at hx
      rw [(hd x).deriv]
      exact (hpos x hx.1.le hx.2.le).le
  exact hmono ⟨le_rfl, huv⟩ ⟨huv, le_rfl⟩ huv

theorem le_of_deriv_neg {φ φ' : ℝ → ℝ} (hd : ∀ x, HasDerivAt φ (φ' x) x) {u v : ℝ} (huv : u ≤ v)
    (hneg : ∀ z, u ≤ z → z ≤ v → φ' z < 0) : φ v ≤ φ u :=
  neg_le_neg_iff.1 (le_of_deriv_pos (fun x => (hd x).neg) huv fun z h1 h2 => neg_pos.2 (hneg z h1 h2))

theorem W_bounds (E : Nat) : (((2 ^ E / 1000 : Nat) : ℝ)) * 1000 ≤ 2 ^ E ∧
    (2 : ℝ) ^ E < (((2 ^ E / 1000 : Nat) : ℝ) + 1) * 1000 := by
  have h1 : ((2 ^ E / 1000 : Nat) : ℝ) ≤ ((2 ^ E : Nat) : ℝ) / (1000 : Nat) := Nat.cast_div_le
  have h2 := lt_cast_div_succ (2 ^ E) 1000 (by norm_num)
  push_cast at h1 h2
  exact ⟨by linarith only [h1], by linarith only [h2]⟩

/-- the common shape of `minRing` and `maxRing`: the value test `v` outside `(X - R, X + R)` and on the two
edge boxes, the derivative tests `dl` on the left ring and `dr` on the right ring -/
noncomputable def ringTest (v dl dr : Nat → Nat → Bool) (X X10 W R : Nat) : Bool :=
  (Nat.blt X R || gbnb v 64 0 (Nat.sub X R)) &&
  (Nat.blt X10 (Nat.add X R) || gbnb v 64 (Nat.add X R) X10) &&
  (Nat.ble X W ||
    (v (Nat.sub X (Nat.add W 1)) (Nat.sub X W) && gbnb dl 64 (Nat.sub X R) (Nat.sub X W))) &&
  (Nat.blt X10 (Nat.add (Nat.add X W) 1) ||
    (v (Nat.add X W) (Nat.add (Nat.add X W) 1) && gbnb dr 64 (Nat.add X W) (Nat.min (Nat.add X R) X10)))

theorem minRing_eq (A : Nat) (ts : List NTerm) (ds : List DT) (X X10 W Ts R : Nat) :
    minRing A ts ds X X10 W Ts R = ringTest (vLo A ts Ts) (dNeg ds) (dPos ds) X X10 W R := rfl

theorem maxRing_eq (A : Nat) (ts : List NTerm) (ds : List DT) (X X10 W Ts R : Nat) :
    maxRing A ts ds X X10 W Ts R = ringTest (vHi A ts Ts) (dPos ds) (dNeg ds) X X10 W R := rfl

theorem ringTest_sound (φ φ' : ℝ → ℝ) (hd : ∀ x, HasDerivAt φ (φ' x) x) (E : Nat) (t : ℝ)
    (v dl dr : Nat → Nat → Bool)
    (hv : Sound1 E v fun x => t ≤ φ x) (hdl : Sound1 E dl fun x => φ' x < 0) (hdr : Sound1 E dr fun x => 0 < φ' x)
    (X X10 W R : Nat) (p : ℝ) (hpX : p * 2 ^ E = (X : ℝ)) (hX10 : X10 = 10 * 2 ^ E) (hW : W = 2 ^ E / 1000)
    (h : ringTest v dl dr X X10 W R = true) :
    ∀ x : ℝ, 0 ≤ x → x ≤ 10 → 1 / 1000 < |x - p| → t ≤ φ x := by
  unfold ringTest at h
  simp only [Bool.and_eq_true, Bool.or_eq_true] at h
  obtain ⟨⟨⟨h1, h2⟩, h3⟩, h4⟩ := h
  intro x hx0 hx10 hfar
  have hs : (0 : ℝ) < 2 ^ E := two_pow_pos' E
  have sc : ∀ {u v : ℝ}, u ≤ v → u * 2 ^ E ≤ v * 2 ^ E := fun h => mul_le_mul_of_nonneg_right h hs.le
  obtain ⟨hW1, hW2⟩ := W_bounds E
  rw [← hW] at hW1 hW2
  have hy0 : 0 ≤ x * 2 ^ E := mul_nonneg hx0 hs.le
  have hy10 : x * 2 ^ E ≤ (X10 : ℝ) := by
    rw [hX10]; push_cast; exact sc hx10
  -- outside `(X - R, X + R)` the outer clause applies; inside, `x` lies on one of the two rings
  by_cases hR : (R : ℝ) ≤ |x * 2 ^ E - X|
  · exact outer_sound (gbnb_sound hv 64) h1 h2 hy0 hy10 hR
  obtain ⟨hRl, hRr⟩ := abs_lt.1 (not_le.1 hR)
  rcases lt_abs.1 hfar with hr | hl
  · -- the right ring: `t ≤ φ` at `p + 1/1000`, a point of the edge box, and from there to `x` the ring box has `φ' > 0`
    have hes : (p + 1 / 1000) * 2 ^ E = X + 2 ^ E / 1000 := by rw [add_mul, hpX]; ring
    have hxr : p + 1 / 1000 < x := lt_sub_iff_add_lt'.1 hr
    have hys := mul_lt_mul_of_pos_right hxr hs
    rw [hes] at hys
    have hel : ((X + W : Nat) : ℝ) ≤ X + 2 ^ E / 1000 := by push_cast; linarith only [hW1]
    rcases h4 with hc | ⟨hedge, hring⟩
    · have : X10 ≤ X + W := Nat.lt_succ_iff.1 (lt_of_blt hc)
      exact absurd (((Nat.cast_le.2 this).trans hel).trans_lt hys) (not_lt.2 hy10)
    · refine (hv _ _ hedge (p + 1 / 1000) ?_ ?_).trans (le_of_deriv_pos hd hxr.le fun z hz1 hz2 =>
        gbnb_sound hdr 64 _ _ hring z ?_ ?_)
      · rw [hes]; exact hel
      · show _ ≤ ((X + W + 1 : Nat) : ℝ)
        rw [hes]; push_cast; linarith only [hW2]
      · exact hel.trans (hes ▸ sc hz1)
      · show _ ≤ ((min (X + R) X10 : Nat) : ℝ)
        rw [Nat.cast_min, Nat.cast_add]
        exact le_min ((sc hz2).trans (sub_lt_iff_lt_add'.1 hRr).le) ((sc hz2).trans hy10)
  · -- the left ring: `t ≤ φ` at `p - 1/1000`, and from `x` to there the ring box has `φ' < 0`
    have hes : (p - 1 / 1000) * 2 ^ E = X - 2 ^ E / 1000 := by rw [sub_mul, hpX]; ring
    have hxl : x < p - 1 / 1000 := by linarith only [hl]
    have hys := mul_lt_mul_of_pos_right hxl hs
    rw [hes] at hys
    have her : (X : ℝ) - 2 ^ E / 1000 ≤ ((X - W : Nat) : ℝ) := le_trans (by linarith only [hW1]) (le_natSub X W)
    rcases h3 with hc | ⟨hedge, hring⟩
    · have : (X : ℝ) ≤ W := Nat.cast_le.2 (Nat.le_of_ble_eq_true hc)
      exfalso; linarith only [this, hys, hW1, hy0]
    · refine (hv _ _ hedge (p - 1 / 1000) ?_ ?_).trans (le_of_deriv_neg hd hxl.le fun z hz1 hz2 =>
        gbnb_sound hdl 64 _ _ hring z ?_ ?_)
      · rw [hes]
        exact natSub_le (n := W + 1) (by push_cast; linarith only [hW2]) (hy0.trans hys.le)
      · rw [hes]; exact her
      · exact natSub_le (by linarith only [hRl, sc hz1]) (hy0.trans (sc hz1))
      · exact (hes ▸ sc hz2).trans her

theorem q_in_box (E Q X10 : Nat) (hX10 : X10 = 10 * 2 ^ E) (hQ : Q ≤ X10) :
    0 ≤ (Q : ℝ) / 2 ^ E ∧ (Q : ℝ) / 2 ^ E ≤ 10 :=
  scaled_in_box (div_mul_cancel₀ _ (two_pow_pos' E).ne') (hX10 ▸ hQ)

/-- **what a side certificate establishes about `φ`** (`= f` for the minimum, `= -f` for the maximum): the ring
tests give the threshold `ts` away from the table point, the core test the weaker `tv` near it, and the point
`Q/2^E` is `η` below `ts`; so `tv ≤ φ` on the box, and `φ (Q/2^E) + η ≤ φ` away from the table point -/
theorem side_sound (φ φ' : ℝ → ℝ) (hd : ∀ x, HasDerivAt φ (φ' x) x) (E : Nat) (tv ts η : ℝ)
    (v v' dl dr : Nat → Nat → Bool)
    (hv : Sound1 E v fun x => ts ≤ φ x) (hv' : Sound1 E v' fun x => tv ≤ φ x)
    (hdl : Sound1 E dl fun x => φ' x < 0) (hdr : Sound1 E dr fun x => 0 < φ' x)
    (X X10 W Q : Nat) (p : ℝ) (hpX : p * 2 ^ E = (X : ℝ)) (hX10 : X10 = 10 * 2 ^ E) (hW : W = 2 ^ E / 1000)
    (hQ : Q ≤ X10) (htv : tv ≤ ts) (hq : φ ((Q : ℝ) / 2 ^ E) + η ≤ ts)
    (hcore : gbnb v' 64 (Nat.sub X (Nat.add W 1)) (Nat.min (Nat.add (Nat.add X W) 1) X10) = true)
    (hring : (ringTest v dl dr X X10 W (Nat.div X10 256) = true ∨ ringTest v dl dr X X10 W (Nat.div X10 1024) = true) ∨
      ringTest v dl dr X X10 W (Nat.div X10 4096) = true) :
    (∀ x : ℝ, 0 ≤ x → x ≤ 10 → tv ≤ φ x) ∧
    (∃ q : ℝ, 0 ≤ q ∧ q ≤ 10 ∧ ∀ x : ℝ, 0 ≤ x → x ≤ 10 → 1 / 1000 < |x - p| → φ q + η ≤ φ x) := by
  have hs : (0 : ℝ) < 2 ^ E := two_pow_pos' E
  have hW2 := (W_bounds E).2
  rw [← hW] at hW2
  have hfar : ∀ x : ℝ, 0 ≤ x → x ≤ 10 → 1 / 1000 < |x - p| → ts ≤ φ x := by
    have := ringTest_sound φ φ' hd E ts v dl dr hv hdl hdr X X10 W
    rcases hring with (hr | hr) | hr <;> exact this _ p hpX hX10 hW hr
  refine ⟨fun x h0 h10 => (le_or_gt |x - p| (1 / 1000)).elim (fun hn => ?_) fun hx => htv.trans (hfar x h0 h10 hx),
    _, (q_in_box E Q X10 hX10 hQ).1, (q_in_box E Q X10 hX10 hQ).2, fun x h0 h10 hx => hq.trans (hfar x h0 h10 hx)⟩
  -- the core `[p - 1/1000, p + 1/1000] ∩ [0,10]` lies in the integer box of the core clause
  have hy : |x * 2 ^ E - X| ≤ 2 ^ E / 1000 := by
    rw [abs_scaled hs hpX]
    linarith only [mul_le_mul_of_nonneg_right hn hs.le]
  obtain ⟨h1, h2⟩ := abs_le.1 hy
  refine gbnb_sound hv' 64 _ _ hcore x
    (natSub_le (n := W + 1) (by push_cast; linarith only [h1, hW2]) (mul_nonneg h0 hs.le)) ?_
  show _ ≤ ((min (X + W + 1) X10 : Nat) : ℝ)
  rw [Nat.cast_min, hX10]; push_cast
  exact le_min (by linarith only [h2, hW2]) (mul_le_mul_of_nonneg_right h10 hs.le)

section sides
variable (E : Nat) (ts : List NTerm) (hts : ∀ t ∈ ts, 0 < t.2.2)
include hts

theorem vHi_sound' (T : Nat) : Sound1 E (vHi (2 ^ (3 * E + P)) ts T) fun x => (T : ℝ) / 2 ^ P ≤ -fR E ts x :=
  (vHi_sound E ts hts T).mono fun _ h => le_neg.1 (neg_div _ (T : ℝ) ▸ h)

theorem minSide_sound (X X10 W etaP Tv : Nat) (p : ℝ) (hpX : p * 2 ^ E = (X : ℝ)) (hX10 : X10 = 10 * 2 ^ E)
    (hW : W = 2 ^ E / 1000)
    (h : minSide (2 ^ (3 * E + P)) ts (ts.map (mkDT (2 ^ (4 * E + P)))) X X10 W etaP Tv = true) :
    (∀ x : ℝ, 0 ≤ x → x ≤ 10 → -(Tv : ℝ) / 2 ^ P ≤ fR E ts x) ∧
    (∃ q : ℝ, 0 ≤ q ∧ q ≤ 10 ∧ ∀ x : ℝ, 0 ≤ x → x ≤ 10 → 1 / 1000 < |x - p| →
      fR E ts q + (etaP : ℝ) / 2 ^ P ≤ fR E ts x) := by
  unfold minSide at h
  simp only [force_eq, Bool.and_eq_true, Bool.or_eq_true, minRing_eq] at h
  set Q := argBest true (fun q => sDnR (2 ^ (3 * E + P)) ts q q) (cands X W X10) X
  set dnQ := sDnR (2 ^ (3 * E + P)) ts Q Q with hdnQ
  set Ts := Nat.sub dnQ etaP
  obtain ⟨hQ, ⟨⟨hTs1, hTs2⟩, hcore⟩, hring⟩ := h
  have hP := two_pow_pos' P
  have hm : (Q : ℝ) / 2 ^ E * 2 ^ E = Q := div_mul_cancel₀ _ (two_pow_pos' E).ne'
  refine side_sound (fR E ts) (dfR E ts) (fR_hasDerivAt E ts hts) E (-(Tv : ℝ) / 2 ^ P) (-(Ts : ℝ) / 2 ^ P) _ _ _ _ _
    (vLo_sound E ts hts Ts) (vLo_sound E ts hts Tv) (dNeg_sound E ts hts) (dPos_sound E ts hts) X X10 W Q p
    hpX hX10 hW (Nat.le_of_ble_eq_true hQ) ?_ ?_ hcore hring
  · exact div_le_div_of_nonneg_right (neg_le_neg (Nat.cast_le.2 (Nat.le_of_ble_eq_true hTs2))) hP.le
  · -- `f(Q) ≤ -dnQ/2^P` and `Ts + etaP ≤ dnQ`
    have hfq := fR_le_of_le_sDn E ts hts _ hm.ge hm.le (sDnR_eq _ Q Q ts).le
    rw [← hdnQ] at hfq
    have hsum : (Ts : ℝ) + etaP ≤ dnQ := by exact_mod_cast Nat.le_of_ble_eq_true hTs1
    have : -(dnQ : ℝ) / 2 ^ P + (etaP : ℝ) / 2 ^ P ≤ -(Ts : ℝ) / 2 ^ P := by
      rw [← add_div]; exact div_le_div_of_nonneg_right (by linarith only [hsum]) hP.le
    linarith only [hfq, this]

theorem maxSide_sound (X X10 W etaP Tv : Nat) (p : ℝ) (hpX : p * 2 ^ E = (X : ℝ)) (hX10 : X10 = 10 * 2 ^ E)
    (hW : W = 2 ^ E / 1000)
    (h : maxSide (2 ^ (3 * E + P)) ts (ts.map (mkDT (2 ^ (4 * E + P)))) X X10 W etaP Tv = true) :
    (∀ x : ℝ, 0 ≤ x → x ≤ 10 → fR E ts x ≤ -(Tv : ℝ) / 2 ^ P) ∧
    (∃ q : ℝ, 0 ≤ q ∧ q ≤ 10 ∧ ∀ x : ℝ, 0 ≤ x → x ≤ 10 → 1 / 1000 < |x - p| →
      fR E ts x + (etaP : ℝ) / 2 ^ P ≤ fR E ts q) := by
  unfold maxSide at h
  simp only [force_eq, Bool.and_eq_true, Bool.or_eq_true, maxRing_eq] at h
  set Q := argBest false (fun q => sUpR (2 ^ (3 * E + P)) ts q q) (cands X W X10) X
  set upQ := sUpR (2 ^ (3 * E + P)) ts Q Q with hupQ
  set Ts := Nat.add upQ etaP
  obtain ⟨hQ, ⟨hTs2, hcore⟩, hring⟩ := h
  have hP := two_pow_pos' P
  have hm : (Q : ℝ) / 2 ^ E * 2 ^ E = Q := div_mul_cancel₀ _ (two_pow_pos' E).ne'
  obtain ⟨hA, q, q0, q10, hB⟩ := side_sound (fun x => -fR E ts x) (fun x => -dfR E ts x)
    (fun x => (fR_hasDerivAt E ts hts x).neg) E ((Tv : ℝ) / 2 ^ P) ((Ts : ℝ) / 2 ^ P) ((etaP : ℝ) / 2 ^ P) _ _ _ _
    (vHi_sound' E ts hts Ts) (vHi_sound' E ts hts Tv)
    ((dPos_sound E ts hts).mono fun _ => neg_neg_of_pos) ((dNeg_sound E ts hts).mono fun _ => neg_pos.2) X X10 W Q p
    hpX hX10 hW (Nat.le_of_ble_eq_true hQ)
    (div_le_div_of_nonneg_right (Nat.cast_le.2 (Nat.le_of_ble_eq_true hTs2)) hP.le)
    (by
      -- `-upQ/2^P ≤ f(Q)` and `Ts = upQ + etaP`
      have hfq := fR_ge_of_sUp_le E ts hts _ hm.ge hm.le (sUpR_eq _ Q Q ts).ge
      rw [← hupQ, neg_div] at hfq
      have hsum : (Ts : ℝ) = (upQ : ℝ) + etaP := Nat.cast_add upQ etaP
      rw [hsum, add_div]
      linarith only [hfq]) hcore hring
  refine ⟨fun x h0 h10 => ?_, q, q0, q10, fun x h0 h10 hx => ?_⟩
  · rw [neg_div]; exact le_neg.1 (hA x h0 h10)
  · have := hB x h0 h10 hx
    linarith only [this]

end sides

/-- the derivative of `Prob.shekel K A C`: `Σ 2 k (x-a)/(k (x-a)² + c)²` -/
noncomputable def shekelD (K A C : List ℝ) (x : ℝ) : ℝ :=
  ((List.zip K (List.zip A C)).map fun t => 2 * t.1 * (x - t.2.1) / (t.1 * (x - t.2.1) ^ 2 + t.2.2) ^ 2).sum

theorem dfR_eq_shekelD (E : Nat) (k a c : List Dy) (h : tabOK E k a c = true) (x : ℝ) :
    dfR E (nterms E k a c) x = shekelD (k.map dyR) (a.map dyR) (c.map dyR) x :=
  congrArg List.sum (map_nterms E k a c h fun k a c => 2 * k * (x - a) / (k * (x - a) ^ 2 + c) ^ 2)

/-- **The table clauses of C18 for a function `f` on `[0,10]`** with derivative `f'`, tabulated minimum
`vmin` at `pmin`, maximum `vmax` at `pmax` and Lipschitz constant `L`:
values within `1e-4`, locations within `1e-3` (= `1e-4` of the range), constant within `0.1 %`. -/
structure ShekelTables (f f' : ℝ → ℝ) (vmin pmin vmax pmax L : ℝ) : Prop where
  deriv : ∀ x, HasDerivAt f (f' x) x
  pmin_in : 0 ≤ pmin ∧ pmin ≤ 10
  pmax_in : 0 ≤ pmax ∧ pmax ≤ 10
  min_lower : ∀ x, 0 ≤ x → x ≤ 10 → vmin - 1e-4 ≤ f x
  min_upper : f pmin ≤ vmin + 1e-4
  max_upper : ∀ x, 0 ≤ x → x ≤ 10 → f x ≤ vmax + 1e-4
  max_lower : vmax - 1e-4 ≤ f pmax
  min_loc : ∃ q, 0 ≤ q ∧ q ≤ 10 ∧ ∀ x, 0 ≤ x → x ≤ 10 → 1e-3 < |x - pmin| → f q + 5e-7 ≤ f x
  max_loc : ∃ q, 0 ≤ q ∧ q ≤ 10 ∧ ∀ x, 0 ≤ x → x ≤ 10 → 1e-3 < |x - pmax| → f x + 3e-9 ≤ f q
  lip_upper : ∀ x, 0 ≤ x → x ≤ 10 → |f' x| ≤ 1.001 * L
  lip_lower : ∃ w, 0 ≤ w ∧ w ≤ 10 ∧ 0.999 * L ≤ |f' w|

theorem etaMin_le : (5e-7 : ℝ) ≤ (etaMinP : ℝ) / 2 ^ P := by
  rw [le_div_iff₀ (two_pow_pos' P)]; norm_num [etaMinP, P]

theorem etaMax_le : (3e-9 : ℝ) ≤ (etaMaxP : ℝ) / 2 ^ P := by
  rw [le_div_iff₀ (two_pow_pos' P)]; norm_num [etaMaxP, P]

theorem shekelTabCertE_sound (E : Nat) (k a c : List Dy) (vn pn vx px L : Dy)
    (h : shekelTabCertE E k a c vn pn vx px L = true) :
    ShekelTables (Prob.shekel (k.map dyR) (a.map dyR) (c.map dyR))
      (shekelD (k.map dyR) (a.map dyR) (c.map dyR)) (dyR vn) (dyR pn) (dyR vx) (dyR px) (dyR L) := by
  simp only [shekelTabCertE, force_eq, forceTerms_eq, forceDTs_eq, Bool.and_eq_true, decide_eq_true_eq,
    sDnR_eq, sUpR_eq] at h
  obtain ⟨⟨⟨⟨⟨htab, hpn⟩, hpx⟩, hXn⟩, hXx⟩, ⟨⟨⟨⟨⟨d1, d2⟩, d3⟩, hmin⟩, hmax⟩, d4⟩, hlip⟩ := h
  set ts := nterms E k a c with htsdef
  have hts := nterms_pos E k a c htab
  have hf : Prob.shekel (k.map dyR) (a.map dyR) (c.map dyR) = fR E ts :=
    funext fun x => fR_eq_shekel E k a c htab x
  have hf' : shekelD (k.map dyR) (a.map dyR) (c.map dyR) = dfR E ts :=
    funext fun x => (dfR_eq_shekelD E k a c htab x).symm
  rw [hf, hf']
  have hpnX := dyR_mul_pow E pn hpn
  have hpxX := dyR_mul_pow E px hpx
  have hX10 : (10 * 2 ^ E : Nat) = 10 * 2 ^ E := rfl
  obtain ⟨mnA, q, q0, q10, mnB⟩ := minSide_sound E ts hts _ _ _ etaMinP _ (dyR pn) hpnX hX10 rfl hmin
  obtain ⟨mxA, q', q0', q10', mxB⟩ := maxSide_sound E ts hts _ _ _ etaMaxP _ (dyR px) hpxX hX10 rfl hmax
  obtain ⟨lpA, m, hm, lpB⟩ := lipOK_sound E ts hts _ _ _ hlip
  -- the decimal constants of the clauses, as the fractions the certificate computes with
  have e4 : (1e-4 : ℝ) = ((1 / 10000 : ℚ) : ℝ) := by norm_num
  have e3 : (1e-3 : ℝ) = 1 / 1000 := by norm_num
  have eU : (1.001 : ℝ) * dyR L = ((L.toRat * (1001 / 1000) : ℚ) : ℝ) := by
    rw [dyR_def]; push_cast; norm_num; ring
  have eL : (0.999 : ℝ) * dyR L = ((L.toRat * (999 / 1000) : ℚ) : ℝ) := by
    rw [dyR_def]; push_cast; norm_num; ring
  refine
    { deriv := fR_hasDerivAt E ts hts
      pmin_in := scaled_in_box hpnX (Nat.le_of_ble_eq_true hXn)
      pmax_in := scaled_in_box hpxX (Nat.le_of_ble_eq_true hXx)
      min_lower := fun x h0 h10 => ?min_lower
      min_upper := ?min_upper
      max_upper := fun x h0 h10 => ?max_upper
      max_lower := ?max_lower
      min_loc := ⟨q, q0, q10, fun x h0 h10 hx => ?min_loc⟩
      max_loc := ⟨q', q0', q10', fun x h0 h10 hx => ?max_loc⟩
      lip_upper := fun x h0 h10 => ?lip_upper
      lip_lower := ?lip_lower }
  case min_lower =>
    rw [e4, dyR_def vn, ← Rat.cast_sub]
    exact (le_neg_floorNat_div _ d3).trans (mnA x h0 h10)
  case min_upper =>
    rw [e4, dyR_def vn, ← Rat.cast_add]
    refine (fR_le_of_le_sDn E ts hts _ hpnX.ge hpnX.le le_rfl).trans ?_
    have := (Rat.cast_le (K := ℝ)).2 d1
    push_cast at this ⊢
    exact this
  case max_upper =>
    rw [e4, dyR_def vx, ← Rat.cast_add]
    exact (mxA x h0 h10).trans (neg_ceilNat_div_le _)
  case max_lower =>
    rw [e4, dyR_def vx, ← Rat.cast_sub]
    refine le_trans ?_ (fR_ge_of_sUp_le E ts hts _ hpxX.ge hpxX.le le_rfl)
    have := (Rat.cast_le (K := ℝ)).2 d2
    push_cast at this ⊢
    exact this
  case min_loc =>
    exact (add_le_add le_rfl etaMin_le).trans (mnB x h0 h10 (e3 ▸ hx))
  case max_loc =>
    exact (add_le_add le_rfl etaMax_le).trans (mxB x h0 h10 (e3 ▸ hx))
  case lip_upper =>
    rw [eU]
    exact (lpA x (mul_nonneg h0 (two_pow_pos' E).le) (box_scaled E h0 h10).2).trans (floorNat_div_le _ d4)
  case lip_lower =>
    refine ⟨_, (q_in_box E m _ hX10 hm).1, (q_in_box E m _ hX10 hm).2, ?_⟩
    rw [eL]
    exact (le_ceilNat_div _).trans lpB

theorem shekelTabCert_sound (k a c : List Dy) (vn pn vx px L : Dy) (h : shekelTabCert k a c vn pn vx px L = true) :
    ShekelTables (Prob.shekel (k.map dyR) (a.map dyR) (c.map dyR))
      (shekelD (k.map dyR) (a.map dyR) (c.map dyR)) (dyR vn) (dyR pn) (dyR vx) (dyR px) (dyR L) := by
  unfold shekelTabCert at h
  rw [force_eq] at h
  exact shekelTabCertE_sound _ k a c vn pn vx px L h

/-- the derivative of function `i` of the Shekel family over ℝ, with the generated tables:
`Σⱼ 2 kⱼ (x - aⱼ)/(kⱼ (x - aⱼ)² + cⱼ)²` -/
noncomputable def shekelDeriv (i : Nat) : ℝ → ℝ :=
  shekelD ((Gen.shekelK i).map dyR) ((Gen.shekelA i).map dyR) ((Gen.shekelC i).map dyR)

/-- **generic C18 table theorem for Shekel**: if the Boolean certificate of function `i` evaluates to
`true`, the table clauses hold over ℝ for `Prob.shekel` with row `i` of the tables -/
theorem shekelTabOK_sound (i : Nat) (h : shekelTabOK i = true) :
    ShekelTables (shekelFn i) (shekelDeriv i) (dyR (Gen.shekelMinValue i)) (dyR (Gen.shekelMinPoint i))
      (dyR (Gen.shekelMaxValue i)) (dyR (Gen.shekelMaxPoint i)) (dyR (Gen.shekelLip i)) := by
  unfold shekelTabOK at h
  rw [force_eq] at h
  exact shekelTabCert_sound _ _ _ _ _ _ _ _ h

end Shk

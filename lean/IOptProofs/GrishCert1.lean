import IOptProofs.GrishRows
/-! Kernel-evaluated certificates (V), (G), (P) of the Grishagin functions 11..20; one theorem per function,
so that the kernel's reduction cache is released between functions. -/
namespace Grish
theorem grish_ok_11 : grishOK 11 = true := grish_ok _ (by decide +kernel)
theorem grish_ok_12 : grishOK 12 = true := grish_ok _ (by decide +kernel)
theorem grish_ok_13 : grishOK 13 = true := grish_ok _ (by decide +kernel)
theorem grish_ok_14 : grishOK 14 = true := grish_ok _ (by decide +kernel)
theorem grish_ok_15 : grishOK 15 = true := grish_ok _ (by decide +kernel)
theorem grish_ok_16 : grishOK 16 = true := grish_ok _ (by decide +kernel)
theorem grish_ok_17 : grishOK 17 = true := grish_ok _ (by decide +kernel)
theorem grish_ok_18 : grishOK 18 = true := grish_ok _ (by decide +kernel)
theorem grish_ok_19 : grishOK 19 = true := grish_ok _ (by decide +kernel)
theorem grish_ok_20 : grishOK 20 = true := grish_ok _ (by decide +kernel)
end Grish

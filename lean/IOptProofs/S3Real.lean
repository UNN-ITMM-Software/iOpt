import IOptProofs.S3Defs
import IOptProofs.BenchReal
import IOptProofs.BenchDy
import Mathlib.Tactic.Ring
import Mathlib.Tactic.Linarith
import Mathlib.Tactic.NormNum
import Mathlib.Tactic.Positivity
/-!
# StronginC3 over ℝ: the generated expression trees with the exact values of their double literals

`S3.f`, `S3.g0`, `S3.g1`, `S3.g2` are `Gen.S3.objective`, `Gen.S3.constraint0..2` (generated from the Python source
text) at `α := ℝ` with `MathFns ℝ` and `lit k :=` the exact real value of the k-th double literal.
Here they are rewritten to closed forms with explicit rational constants.
-/

namespace S3

/-- the exact real value of the `k`-th literal of a literal list (IEEE bit patterns) -/
noncomputable def litR (L : List Nat) (k : Nat) : ℝ := dyR (Dy.ofBits (L.getD k 0))

/-- `StronginC3.Calculate`, objective, over ℝ -/
noncomputable def f (x1 x2 : ℝ) : ℝ := Gen.S3.objective (litR Gen.S3.objectiveLits) x1 x2
/-- `StronginC3.Calculate`, constraint 0, over ℝ -/
noncomputable def g0 (x1 x2 : ℝ) : ℝ := Gen.S3.constraint0 (litR Gen.S3.constraint0Lits) x1 x2
/-- `StronginC3.Calculate`, constraint 1, over ℝ -/
noncomputable def g1 (x1 x2 : ℝ) : ℝ := Gen.S3.constraint1 (litR Gen.S3.constraint1Lits) x1 x2
/-- `StronginC3.Calculate`, constraint 2, over ℝ -/
noncomputable def g2 (x1 x2 : ℝ) : ℝ := Gen.S3.constraint2 (litR Gen.S3.constraint2Lits) x1 x2

theorem dyR_pair (n : Int) (e : Nat) : dyR (n, e) = (n : ℝ) / 2 ^ e := dyR_eq (n, e)

theorem litR_map (L : List Nat) (k : Nat) : litR L k = dyR ((L.map Dy.ofBits).getD k (Dy.ofBits 0)) := by
  rw [litR, List.getD_eq_getElem?_getD, List.getD_eq_getElem?_getD, List.getElem?_map]
  cases L[k]? <;> rfl

/-- the real value of the double `1.2` -/
noncomputable def c12 : ℝ := 5404319552844595 / 2 ^ 52
/-- the real value of the double `2.2` -/
noncomputable def c22 : ℝ := 2476979795053773 / 2 ^ 50
/-- the real value of the double `0.01` -/
noncomputable def c001 : ℝ := 5764607523034235 / 2 ^ 59
/-- the real value of the double `6.283` -/
noncomputable def c6283 : ℝ := 7074029114692207 / 2 ^ 50

theorem objectiveLits_dy : Gen.S3.objectiveLits.map Dy.ofBits =
    [(4503599627370496, 53), (4503599627370496, 53), (4503599627370496, 50), (4503599627370496, 52),
     (4503599627370496, 50), (6755399441055744, 52), (4503599627370496, 52), (5699868278390784, 48),
     (4503599627370496, 51)] := by decide +kernel

theorem constraint0Lits_dy : Gen.S3.constraint0Lits.map Dy.ofBits =
    [(5764607523034235, 59), (4953959590107546, 51), (4953959590107546, 51), (5404319552844595, 52),
     (5404319552844595, 52), (5066549580791808, 51)] := by decide +kernel

theorem constraint1Lits_dy : Gen.S3.constraint1Lits.map Dy.ofBits =
    [(7036874417766400, 46), (4503599627370496, 52), (4503599627370496, 51), (5404319552844595, 52),
     (4503599627370496, 51), (5404319552844595, 52), (4503599627370496, 51), (4503599627370496, 51)] := by
  decide +kernel

theorem constraint2Lits_dy : Gen.S3.constraint2Lits.map Dy.ofBits =
    [(5629499534213120, 49), (6755399441055744, 52), (6755399441055744, 52), (7074029114692207, 50),
     (7881299347898368, 52)] := by decide +kernel

noncomputable def A (x1 x2 : ℝ) : ℝ := 3 / 2 * x1 ^ 2 * Real.exp (1 - x1 ^ 2 - 81 / 4 * (x1 - x2) ^ 2)
noncomputable def t1 (x1 : ℝ) : ℝ := ((x1 - 1) / 2) ^ 4
noncomputable def t2 (x2 : ℝ) : ℝ := (x2 - 1) ^ 4
noncomputable def B (x1 x2 : ℝ) : ℝ := t1 x1 * t2 x2 * Real.exp (2 - t1 x1 - t2 x2)

theorem f_eq (x1 x2 : ℝ) : f x1 x2 = -(A x1 x2 + B x1 x2) := by
  unfold f Gen.S3.objective A B t1 t2
  simp only [litR_map, objectiveLits_dy, List.getD_cons_zero, List.getD_cons_succ, dyR_pair, BenchReal.exp_eq,
    BenchReal.pow_eq]
  -- the literals are `1/2, 1/2, 4, 1, 4, 3/2, 1, 81/4, 2`; the real power `· ^ (4 : ℝ)` becomes `· ^ 4`
  norm_num
  rw [show (1 / 2 * x1 - 1 / 2 : ℝ) = (x1 - 1) / 2 by ring,
    show (1 : ℝ) - x1 * x1 - 81 / 4 * (x1 - x2) * (x1 - x2) = 1 - x1 ^ 2 - 81 / 4 * (x1 - x2) ^ 2 by ring]
  ring

theorem g0_eq (x1 x2 : ℝ) : g0 x1 x2 = c001 * ((x1 - c22) ^ 2 + (x2 - c12) ^ 2 - 9 / 4) := by
  unfold g0 Gen.S3.constraint0 c001 c22 c12
  simp only [litR_map, constraint0Lits_dy, List.getD_cons_zero, List.getD_cons_succ, dyR_pair]
  norm_num
  ring

theorem g1_eq (x1 x2 : ℝ) : g1 x1 x2 = 100 * (1 - ((x1 - 2) / c12) ^ 2 - (x2 / 2) ^ 2) := by
  unfold g1 Gen.S3.constraint1 c12
  simp only [litR_map, constraint1Lits_dy, List.getD_cons_zero, List.getD_cons_succ, dyR_pair]
  norm_num
  ring

theorem g2_eq (x1 x2 : ℝ) : g2 x1 x2 = 10 * (x2 - 3 / 2 - 3 / 2 * Real.sin (c6283 * (x1 - 7 / 4))) := by
  unfold g2 Gen.S3.constraint2 c6283
  simp only [litR_map, constraint2Lits_dy, List.getD_cons_zero, List.getD_cons_succ, dyR_pair, BenchReal.sin_eq]
  norm_num

end S3

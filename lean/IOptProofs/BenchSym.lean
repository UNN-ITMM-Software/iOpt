import IOptProofs.BenchReal
import Mathlib.Tactic.Ring
import Mathlib.Tactic.Linarith
import Mathlib.Tactic.Positivity
import Mathlib.Algebra.Order.BigOperators.Group.List
/-!
# XSquared and Rastrigin over ℝ, in every dimension (helper lemmas for C10)
-/

namespace BenchSym

theorem xsquared_eq_sum (x : List ℝ) : Prob.xsquared x = (x.map fun xi => xi * xi).sum :=
  (BenchReal.foldl_add_eq (fun xi => xi * xi) x 0).trans (zero_add _)

noncomputable def rterm (xi : ℝ) : ℝ := xi * xi - 10 * Real.cos (2 * Real.pi * xi) + 10

/-- at `ℝ` the loop body of `Prob.rastrigin` is `sum + rterm xi` as it stands -/
theorem rastrigin_eq_sum (x : List ℝ) : Prob.rastrigin x = (x.map rterm).sum :=
  (BenchReal.foldl_add_eq rterm x 0).trans (zero_add _)

theorem sq_le_rterm (xi : ℝ) : xi * xi ≤ rterm xi := by
  unfold rterm
  have := Real.cos_le_one (2 * Real.pi * xi)
  linarith

theorem rterm_nonneg (xi : ℝ) : 0 ≤ rterm xi :=
  le_trans (mul_self_nonneg xi) (sq_le_rterm xi)

theorem rterm_zero : rterm 0 = 0 := by simp [rterm]

theorem map_nonneg {g : ℝ → ℝ} (hg : ∀ t, 0 ≤ g t) (x : List ℝ) : ∀ y ∈ x.map g, 0 ≤ y :=
  List.forall_mem_map.2 fun t _ => hg t

theorem sum_replicate_zero (g : ℝ → ℝ) (h0 : g 0 = 0) (n : Nat) :
    ((List.replicate n (0 : ℝ)).map g).sum = 0 := by
  induction n with
  | zero => simp
  | succ n ih => simp only [List.replicate_succ, List.map_cons, List.sum_cons, ih, h0, add_zero]

theorem xsquared_nonneg (x : List ℝ) : 0 ≤ Prob.xsquared x := by
  rw [xsquared_eq_sum]; exact List.sum_nonneg (map_nonneg mul_self_nonneg x)

theorem xsquared_origin (n : Nat) : Prob.xsquared (List.replicate n (0 : ℝ)) = 0 := by
  rw [xsquared_eq_sum]; exact sum_replicate_zero _ (by simp) n

theorem xsquared_local (x : List ℝ) (τ : ℝ) (h : Prob.xsquared x ≤ τ) :
    ∀ xi ∈ x, xi ^ 2 ≤ τ := by
  intro xi hxi
  rw [xsquared_eq_sum] at h
  rw [pow_two]
  exact (List.single_le_sum (map_nonneg mul_self_nonneg x) _ (List.mem_map_of_mem hxi)).trans h

theorem xsquared_le_rastrigin (x : List ℝ) : Prob.xsquared x ≤ Prob.rastrigin x := by
  rw [xsquared_eq_sum, rastrigin_eq_sum]; exact List.sum_le_sum fun t _ => sq_le_rterm t

theorem rastrigin_origin (n : Nat) : Prob.rastrigin (List.replicate n (0 : ℝ)) = 0 := by
  rw [rastrigin_eq_sum]; exact sum_replicate_zero _ rterm_zero n

end BenchSym

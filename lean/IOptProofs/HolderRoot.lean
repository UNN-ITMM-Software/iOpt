import IOptProofs.HolderSq
import Mathlib.Data.Nat.Find
import Mathlib.Analysis.SpecialFunctions.Pow.Real
import Mathlib.Analysis.SpecialFunctions.Sqrt
/-!
# Hölder property of the evolvent: the root-free form, and the affine map to a box
-/

namespace Ev

attribute [local instance] Ev.Num.floorTrunc

theorem pow_pow_swap (n p : Nat) : 1 / ((2:ℝ)^n)^p = (1 / 2^p)^n := by
  rw [one_div_pow, ← pow_mul, ← pow_mul, mul_comm]

/-- choice of the level: the greatest `p ≤ m` with `|Δx| ≤ 2^(-p n)` -/
theorem exists_level (n m : Nat) {d : ℝ} (hd1 : d ≤ 1) :
    ∃ p, p ≤ m ∧ d ≤ 1 / ((2:ℝ)^n)^p ∧ (p = m ∨ 1 / ((2:ℝ)^n)^(p+1) < d) := by
  classical
  let P : Nat → Prop := fun p => d ≤ 1 / ((2:ℝ)^n)^p
  have h0 : P 0 := by simp only [P, pow_zero, div_one]; exact hd1
  refine ⟨Nat.findGreatest P m, Nat.findGreatest_le m, Nat.findGreatest_spec (Nat.zero_le m) h0, ?_⟩
  rcases Nat.lt_or_ge (Nat.findGreatest P m) m with h | h
  · right
    have := Nat.findGreatest_is_greatest (P := P) (Nat.lt_succ_self _) h
    exact not_le.1 this
  · left
    exact le_antisymm (Nat.findGreatest_le m) h

theorem dist2_imageCube_le_level {n : Nat} (hn : Ev.DimOK n) {m p : Nat} (hp : p ≤ m)
    {x' x'' : ℝ} (h0' : 0 ≤ x') (h0'' : 0 ≤ x'') (hd : |x' - x''| ≤ 1 / ((2:ℝ)^n)^p) :
    dist2 (imageCube n m x') (imageCube n m x'') ≤ Real.sqrt (n + 3) * (1 / 2^p) := by
  apply dist2_le_of_sq (by positivity)
  rw [mul_pow, Real.sq_sqrt (by positivity)]
  exact sqDist_imageCube_le_sq hn hp h0' h0'' hd

/-- the root-free form, with no lower bound on `|Δx|` -/
theorem dist2_imageCube_le_max {n : Nat} (hn : Ev.DimOK n) (m : Nat)
    {x' x'' : ℝ} (h0' : 0 ≤ x') (h1' : x' ≤ 1) (h0'' : 0 ≤ x'') (h1'' : x'' ≤ 1)
    {t : ℝ} (ht : 0 ≤ t) (hd : |x' - x''| ≤ t^n) :
    dist2 (imageCube n m x') (imageCube n m x'') ≤
      2 * Real.sqrt (n + 3) * max t (1 / 2^(m+1)) := by
  have hd1 : |x' - x''| ≤ 1 := by rw [abs_le]; constructor <;> linarith
  obtain ⟨p, hp, hle, hgt⟩ := exists_level n m hd1
  have h := dist2_imageCube_le_level hn hp h0' h0'' hle
  have hs : (0:ℝ) ≤ Real.sqrt (n + 3) := Real.sqrt_nonneg _
  have key : (1:ℝ) / 2^p ≤ 2 * max t (1 / 2^(m+1)) := by
    rw [show (1:ℝ) / 2^p = 2 * (1 / 2^(p+1)) by ring]
    refine mul_le_mul_of_nonneg_left ?_ (by norm_num)
    rcases hgt with rfl | hgt
    · exact le_max_right _ _
    · refine le_trans (le_of_lt (lt_of_pow_lt_pow_left₀ n ht ?_)) (le_max_left _ _)
      rw [← pow_pow_swap]
      exact lt_of_lt_of_le hgt hd
  calc _ ≤ Real.sqrt (n + 3) * (1 / 2^p) := h
    _ ≤ Real.sqrt (n + 3) * (2 * max t (1 / 2^(m+1))) := mul_le_mul_of_nonneg_left key hs
    _ = _ := by ring

theorem dist2_imageCube_le_add {n : Nat} (hn : Ev.DimOK n) (m : Nat)
    {x' x'' : ℝ} (h0' : 0 ≤ x') (h1' : x' ≤ 1) (h0'' : 0 ≤ x'') (h1'' : x'' ≤ 1)
    {t : ℝ} (ht : 0 ≤ t) (hd : |x' - x''| ≤ t^n) :
    dist2 (imageCube n m x') (imageCube n m x'') ≤
      2 * Real.sqrt (n + 3) * t + Real.sqrt (n + 3) / 2^m := by
  have h := dist2_imageCube_le_max hn m h0' h1' h0'' h1'' ht hd
  have hm : max t (1 / (2:ℝ)^(m+1)) ≤ t + 1 / 2^(m+1) :=
    max_le_add_of_nonneg ht (by positivity)
  calc _ ≤ 2 * Real.sqrt (n + 3) * max t (1 / 2^(m+1)) := h
    _ ≤ 2 * Real.sqrt (n + 3) * (t + 1 / 2^(m+1)) :=
        mul_le_mul_of_nonneg_left hm (by positivity)
    _ = _ := by ring

theorem rpow_inv_pow {n : Nat} (hn : n ≠ 0) {d : ℝ} (hd : 0 ≤ d) :
    (d ^ (1 / (n:ℝ))) ^ n = d := by
  rw [one_div]; exact Real.rpow_inv_natCast_pow hd hn

theorem rpow_inv_nonneg (n : Nat) {d : ℝ} (hd : 0 ≤ d) : 0 ≤ d ^ (1 / (n:ℝ)) :=
  Real.rpow_nonneg hd _

theorem getR_p2d {n : Nat} {lower upper y : List ℝ} (hl : lower.length = n) (hu : upper.length = n)
    (hy : y.length = n) {i : Nat} (hi : i < n) :
    getR (p2d lower upper y) i =
      getR y i * (getR upper i - getR lower i) + (getR upper i + getR lower i) / 2 := by
  have hp : i < (p2d lower upper y).length := by
    rw [length_p2d, hl, hu, hy]; simpa using hi
  rw [getR_eq_getElem hp, getR_eq_getElem (hy ▸ hi), getR_eq_getElem (hu ▸ hi),
    getR_eq_getElem (hl ▸ hi)]
  exact Num.getElem_p2d lower upper y i hp (hy ▸ hi) (hl ▸ hi) (hu ▸ hi)

theorem sqDist_p2d_le {n : Nat} {lower upper a b : List ℝ} (hl : lower.length = n)
    (hu : upper.length = n) (ha : a.length = n) (hb : b.length = n) {S : ℝ}
    (hS : ∀ i, i < n → |getR upper i - getR lower i| ≤ S) :
    sqDist (p2d lower upper a) (p2d lower upper b) ≤ S^2 * sqDist a b := by
  have hpa : (p2d lower upper a).length = n := by rw [length_p2d, hl, hu, ha]; simp
  have hpb : (p2d lower upper b).length = n := by rw [length_p2d, hl, hu, hb]; simp
  rw [sqDist_eq_sum hpa hpb, sqDist_eq_sum ha hb, Finset.mul_sum]
  apply Finset.sum_le_sum
  intro i hi
  have hi := Finset.mem_range.1 hi
  rw [getR_p2d hl hu ha hi, getR_p2d hl hu hb hi, add_sub_add_right_eq_sub, ← sub_mul, mul_pow,
    mul_comm ((getR a i - getR b i)^2)]
  exact mul_le_mul_of_nonneg_right (sq_le_sq_of_abs_le (hS i hi)) (sq_nonneg _)

theorem dist2_p2d_le {n : Nat} {lower upper a b : List ℝ} (hl : lower.length = n)
    (hu : upper.length = n) (ha : a.length = n) (hb : b.length = n) {S : ℝ} (hS0 : 0 ≤ S)
    (hS : ∀ i, i < n → |getR upper i - getR lower i| ≤ S) :
    dist2 (p2d lower upper a) (p2d lower upper b) ≤ S * dist2 a b := by
  apply dist2_le_of_sq (mul_nonneg hS0 (dist2_nonneg a b))
  rw [mul_pow, dist2, Real.sq_sqrt (sqDist_nonneg a b)]
  exact sqDist_p2d_le hl hu ha hb hS

def maxSide (lower upper : List ℝ) : ℝ :=
  (List.zipWith (fun l u => u - l) lower upper).foldr max 0

theorem maxSide_nonneg (lower upper : List ℝ) : 0 ≤ maxSide lower upper := by
  unfold maxSide
  generalize List.zipWith (fun l u => u - l) lower upper = L
  induction L with
  | nil => simp
  | cons x L ih => simp only [List.foldr_cons]; exact le_max_of_le_right ih

theorem le_maxSide {lower upper : List ℝ} {i : Nat} (hl : i < lower.length)
    (hu : i < upper.length) : getR upper i - getR lower i ≤ maxSide lower upper := by
  unfold maxSide
  induction lower generalizing upper i with
  | nil => simp at hl
  | cons l lower ih =>
    cases upper with
    | nil => simp at hu
    | cons u upper =>
      simp only [List.zipWith_cons_cons, List.foldr_cons]
      cases i with
      | zero => simp only [getR_cons_zero]; exact le_max_left _ _
      | succ i =>
        simp only [getR_cons_succ]
        simp only [List.length_cons, Nat.add_lt_add_iff_right] at hl hu
        exact le_max_of_le_right (ih hl hu)

theorem abs_side_le_maxSide {n : Nat} {lower upper : List ℝ} (hl : lower.length = n)
    (hu : upper.length = n)
    (hle : ∀ i (h1 : i < lower.length) (h2 : i < upper.length), lower[i] ≤ upper[i]) :
    ∀ i, i < n → |getR upper i - getR lower i| ≤ maxSide lower upper := by
  intro i hi
  have h1 : i < lower.length := hl ▸ hi
  have h2 : i < upper.length := hu ▸ hi
  rw [abs_of_nonneg]
  · exact le_maxSide h1 h2
  · rw [getR_eq_getElem h1, getR_eq_getElem h2]
    exact sub_nonneg.2 (hle i h1 h2)

end Ev

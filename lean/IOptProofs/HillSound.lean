import IOptProofs.HillSoundD
/-!
# Hill certificate: soundness of `Hill.rowOK` / `Hill.hillOK`

`rowOK a b vmin pmin vmax pmax lip = true` (a kernel-evaluable Boolean, `HillDefs.lean`) implies the table
claims `HillClaims` over `ℝ` for the model function `Prob.hill (a.map dyR) (b.map dyR)`.  The structural checks of
`rowOK` make `mkCtx a b …` a represented context (`ctxRep_mk`: `ev_spec` of part B, and here what the constants `d3f`,
`d3g`, `vminLo`, `vmaxLo`, `tL` stand for); the checks that run on the context then give `ctx_claims` (part D), and
`witnessOK` turns the witness of the bisection into the lower bound of the Lipschitz constant.
-/

namespace Hill
open Encl

/-- the Hill function of a table row, over `ℝ` (the model function `Prob.hill` on the exact values of the
doubles) -/
noncomputable def hillF (a b : List Dy) : ℝ → ℝ := Prob.hill (a.map dyR) (b.map dyR)

/-- its derivative `f'(x) = Σ 2πi (a_i cos 2πix - b_i sin 2πix)` -/
noncomputable def hillF' (a b : List Dy) : ℝ → ℝ := hf1 (List.zip (a.map dyR) (b.map dyR))

theorem hillF_eq (a b : List Dy) : hillF a b = hf (rl a b) := funext fun x => hill_eq_hf _ _ x

/-- **the table claims of one Hill row** (`vmin, pmin` = tabulated minimum value / point, `vmax, pmax` =
tabulated maximum, `lip` = tabulated Lipschitz constant), for `f = hillF a b` on `[0,1]` -/
structure HillClaims (a b : List Dy) (vmin pmin vmax pmax lip : Dy) : Prop where
  -- the tabulated points lie in `[0,1]`, the Lipschitz constant is non-negative
  pmin_mem : 0 ≤ dyR pmin ∧ dyR pmin ≤ 1
  pmax_mem : 0 ≤ dyR pmax ∧ dyR pmax ≤ 1
  lip_nonneg : 0 ≤ dyR lip
  -- (V) the values at the tabulated points agree with the tabulated values within `1e-6`
  value_min : |hillF a b (dyR pmin) - dyR vmin| ≤ 1e-6
  value_max : |hillF a b (dyR pmax) - dyR vmax| ≤ 1e-6
  -- (G) `vmin - 1e-4 ≤ f ≤ vmax + 1e-4` on `[0,1]`
  global : ∀ x, 0 ≤ x → x ≤ 1 → dyR vmin - 1e-4 ≤ hillF a b x ∧ hillF a b x ≤ dyR vmax + 1e-4
  -- (P, C10 form) points with value within `1e-4` of the extremum lie within `1/200` of the tabulated point
  loc10_min : ∀ x, 0 ≤ x → x ≤ 1 → hillF a b x ≤ dyR vmin + 1e-4 → |x - dyR pmin| ≤ 1 / 200
  loc10_max : ∀ x, 0 ≤ x → x ≤ 1 → dyR vmax - 1e-4 ≤ hillF a b x → |x - dyR pmax| ≤ 1 / 200
  -- (P, C18 form) points with value within `1e-6` of the extremum lie within `1e-4` of the tabulated point
  loc18_min : ∀ x, 0 ≤ x → x ≤ 1 → hillF a b x ≤ dyR vmin + 1e-6 → |x - dyR pmin| ≤ 1e-4
  loc18_max : ∀ x, 0 ≤ x → x ≤ 1 → dyR vmax - 1e-6 ≤ hillF a b x → |x - dyR pmax| ≤ 1e-4
  -- (L) `hillF'` is the derivative; `|f'| ≤ 1.001·lip` on `[0,1]`, and `|f'|` reaches `0.999·lip` there
  deriv : ∀ x, HasDerivAt (hillF a b) (hillF' a b x) x
  lip_upper : ∀ x, 0 ≤ x → x ≤ 1 → |hillF' a b x| ≤ 1.001 * dyR lip
  lip_lower : ∃ w, 0 ≤ w ∧ w ≤ 1 ∧ 0.999 * dyR lip ≤ |hillF' a b w|

theorem PI3_43_HI_cast : (PI3_43_HI : ℝ) = 11915934387502487030 := by norm_num [PI3_43_HI]

theorem shl_mul_ge (S C j s : ℕ) {κ : ℝ} (hκ : κ ≤ (C : ℝ) / 2 ^ s) (hjs : j + s = 64) :
    (S : ℝ) * 2 ^ 64 * κ ≤ ((Nat.shiftLeft (S * C) j : ℕ) : ℝ) := by
  rw [shl_cast, Nat.cast_mul, ← hjs, pow_add]
  calc (S : ℝ) * (2 ^ j * 2 ^ s) * κ ≤ S * (2 ^ j * 2 ^ s) * (C / 2 ^ s) :=
        mul_le_mul_of_nonneg_left hκ (by positivity)
    _ = S * C * 2 ^ j := by field_simp

/-- the third-derivative constants of the context dominate `D/6` and `D/(2·2π)`, `D = (2π)³ Σ i³(|a_i|+|b_i|)` -/
theorem d3_spec {a b : List Dy} (H : RowHyp a b) (vmin pmin vmax pmax lip : Dy) :
    (2 * Real.pi) ^ 3 * wsum 3 (rl a b) 0 / 6 * U ≤ ((mkCtx a b vmin pmin vmax pmax lip).d3f : ℝ) ∧
    (2 * Real.pi) ^ 3 * wsum 3 (rl a b) 0 / 2 / (2 * Real.pi) * U
      ≤ ((mkCtx a b vmin pmin vmax pmax lip).d3g : ℝ) := by
  rw [show wsum 3 (rl a b) 0 = (sumAbs 3 0 a b : ℝ) / 2 ^ 80 from
    eq_div_of_mul_eq (by positivity) (wsum_rl 3 a b 0 H.oka H.okb)]
  constructor
  · refine le_trans (le_of_eq ?_) (shl_mul_ge (κ := 4 * Real.pi ^ 3 / 3) (sumAbs 3 0 a b) PI3_43_HI 6 58
      (by rw [PI3_43_HI_cast]; exact four_thirds_pi_cube_le) rfl)
    show _ * (2 : ℝ) ^ 144 = _
    field_simp
    ring
  · refine le_trans (le_of_eq ?_) (shl_mul_ge (κ := 2 * Real.pi ^ 2) (sumAbs 3 0 a b) PISQ2_HI 4 60
      (by rw [PISQ2_HI_cast]; exact two_pi_sq_le) rfl)
    show _ * (2 : ℝ) ^ 144 = _
    field_simp

/-- `encLo d - BF = ⌊d·2^144⌋` when the biased value is positive -/
theorem encLo_spec (d : Dy) (h : Nat.ble TOL4 (encLo d) = true) :
    (encLo d : ℝ) - BF ≤ dyR d * U ∧ dyR d * U < (encLo d : ℝ) - BF + 1 := by
  have h' := Nat.le_of_ble_eq_true h
  set q : Int := (d.1 * (2:Int) ^ 144) / (2:Int) ^ d.2
  have hpos : 0 < encLo d := lt_of_lt_of_le (by decide) h'
  have hnn : 0 ≤ q + (BF : Int) := by
    by_contra hneg
    have : encLo d = 0 := by
      show (q + (BF : Int)).toNat = 0
      exact Int.toNat_of_nonpos (by omega)
    omega
  have hcast : ((encLo d : ℕ) : Int) = q + BF := Int.toNat_of_nonneg hnn
  have hcastR : (encLo d : ℝ) = (q : ℝ) + BF := by exact_mod_cast hcast
  have hp : (0 : Int) < (2:Int) ^ d.2 := by positivity
  have h1 : q * (2:Int) ^ d.2 ≤ d.1 * (2:Int) ^ 144 := Int.ediv_mul_le _ (ne_of_gt hp)
  have h2 : d.1 * (2:Int) ^ 144 < (q + 1) * (2:Int) ^ d.2 := Int.lt_ediv_add_one_mul_self _ hp
  have h1R : (q : ℝ) * 2 ^ d.2 ≤ (d.1 : ℝ) * 2 ^ 144 := by exact_mod_cast h1
  have h2R : (d.1 : ℝ) * 2 ^ 144 < ((q : ℝ) + 1) * 2 ^ d.2 := by exact_mod_cast h2
  have hk : (0 : ℝ) < 2 ^ d.2 := by positivity
  rw [dyR_eq, hcastR]
  have e : (d.1 : ℝ) / 2 ^ d.2 * U = (d.1 : ℝ) * 2 ^ 144 / 2 ^ d.2 := by
    show _ * (2:ℝ) ^ 144 = _; ring
  rw [e]
  constructor
  · rw [le_div_iff₀ hk]; linarith only [h1R]
  · rw [div_lt_iff₀ hk]; linarith only [h2R]

/-- the sign / range checks of `rowOK` on the table entries -/
structure TabHyp (vmin pmin vmax pmax lip : Dy) : Prop where
  pmin0 : 0 ≤ pmin.1
  pmax0 : 0 ≤ pmax.1
  lip0 : 0 ≤ lip.1
  pmin1 : Nat.ble pmin.1.toNat (2 ^ pmin.2) = true
  pmax1 : Nat.ble pmax.1.toNat (2 ^ pmax.2) = true
  vminOK : Nat.ble TOL4 (encLo vmin) = true
  vmaxOK : Nat.ble TOL4 (encLo vmax) = true

/-- comparisons with the Lipschitz constant: `T` is `y/κ` in units of `U`, `κ = 2π` is replaced by a rational bound `C`, and the
checker's integer inequality is `hM` -/
theorem le_of_scaled_le {y κ C T M : ℝ} (hκ : 0 < κ) (hT : 0 ≤ T) (hy : y / κ * U ≤ T) (hC : κ ≤ C)
    (hM : T * C ≤ M * U) : y ≤ M := by
  have s : y * U ≤ T * κ := by
    have := mul_le_mul_of_nonneg_right hy hκ.le
    rwa [mul_right_comm, div_mul_cancel₀ _ hκ.ne'] at this
  exact le_of_mul_le_mul_right (s.trans ((mul_le_mul_of_nonneg_left hC hT).trans hM)) U_pos

theorem le_of_le_scaled {y κ C T M : ℝ} (hκ : 0 < κ) (hT : 0 ≤ T) (hy : T ≤ y / κ * U) (hC : C ≤ κ)
    (hM : M * U ≤ T * C) : M ≤ y := by
  have s : T * κ ≤ y * U := by
    have := mul_le_mul_of_nonneg_right hy hκ.le
    rwa [mul_right_comm, div_mul_cancel₀ _ hκ.ne'] at this
  exact le_of_mul_le_mul_right ((hM.trans (mul_le_mul_of_nonneg_left hC hT)).trans s) U_pos

/-- the derivative test: `y/2π·U ≤ tL` gives `y ≤ 1.001·lip`, by `tL·TWOPI_HI/2^62 ≤ 1.001·lip·U` (the floor in `tL`) -/
theorem tL_sound (a b : List Dy) {vmin pmin vmax pmax lip : Dy} (T : TabHyp vmin pmin vmax pmax lip) {y : ℝ}
    (hy : y / (2 * Real.pi) * U ≤ ((mkCtx a b vmin pmin vmax pmax lip).tL : ℝ)) :
    y ≤ 1.001 * dyR lip := by
  rw [show (1.001 : ℝ) = 1001 / 1000 by norm_num]
  refine le_of_scaled_le (by positivity) (Nat.cast_nonneg _) hy two_pi_le ?_
  have h : (((mkCtx a b vmin pmin vmax pmax lip).tL : ℕ) : ℝ) * (1000 * 2 ^ lip.2 * 28976077832308491370)
      ≤ 1001 * (lip.1.toNat : ℝ) * 2 ^ 206 := by
    exact_mod_cast Nat.div_mul_le_self (1001 * lip.1.toNat * 2 ^ 206) (1000 * 2 ^ lip.2 * TWOPI_HI)
  rw [dyR_of_nonneg T.lip0, ← sub_nonneg] at *
  have e : 1001 / 1000 * ((lip.1.toNat : ℝ) / 2 ^ lip.2) * U
      - ((mkCtx a b vmin pmin vmax pmax lip).tL : ℝ) * (28976077832308491370 / 2 ^ 62)
      = (1001 * (lip.1.toNat : ℝ) * 2 ^ 206
        - ((mkCtx a b vmin pmin vmax pmax lip).tL : ℝ) * (1000 * 2 ^ lip.2 * 28976077832308491370))
        / (1000 * 2 ^ lip.2 * 2 ^ 62) := by
    show _ * (2 : ℝ) ^ 144 - _ = _; field_simp
  rw [e]
  exact div_nonneg h (by positivity)

/-- the witness test: `0.999·lip ≤ |f'(c)|`, by `0.999·lip·U ≤ w·TWOPI_LO/2^62` (the comparison of `witnessOK`) -/
theorem witness_sound {lip : Dy} (h0 : 0 ≤ lip.1) {w : ℕ} (h : witnessOK lip w = true) {y : ℝ}
    (hw : (w : ℝ) ≤ y / (2 * Real.pi) * U) : 0.999 * dyR lip ≤ y := by
  rw [show (0.999 : ℝ) = 999 / 1000 by norm_num]
  refine le_of_le_scaled (by positivity) (Nat.cast_nonneg _) hw le_two_pi ?_
  have h : 999 * (lip.1.toNat : ℝ) * 2 ^ 206 ≤ (w : ℝ) * 28976077832308491369 * 1000 * 2 ^ lip.2 := by
    exact_mod_cast ble_cast h
  rw [dyR_of_nonneg h0, ← sub_nonneg] at *
  have e : (w : ℝ) * (28976077832308491369 / 2 ^ 62) - 999 / 1000 * ((lip.1.toNat : ℝ) / 2 ^ lip.2) * U
      = ((w : ℝ) * 28976077832308491369 * 1000 * 2 ^ lip.2 - 999 * (lip.1.toNat : ℝ) * 2 ^ 206)
        / (1000 * 2 ^ lip.2 * 2 ^ 62) := by
    show _ - _ * (2 : ℝ) ^ 144 = _; field_simp
  rw [e]
  exact div_nonneg h (by positivity)

theorem point_mem (p : Dy) (h0 : 0 ≤ p.1) (h1 : Nat.ble p.1.toNat (2 ^ p.2) = true) :
    0 ≤ dyR p ∧ dyR p ≤ 1 := by
  rw [dyR_of_nonneg h0]
  exact unit_of_le (Nat.le_of_ble_eq_true h1)

/-- the context of a row that passes the structural checks represents it -/
theorem ctxRep_mk {a b : List Dy} (H : RowHyp a b) {vmin pmin vmax pmax lip : Dy} (T : TabHyp vmin pmin vmax pmax lip) :
    CtxRep (mkCtx a b vmin pmin vmax pmax lip) (rl a b) (dyR vmin) (dyR pmin) (dyR vmax) (dyR pmax) (dyR lip) where
  ev := ev_spec H vmin pmin vmax pmax lip
  d3f := (d3_spec H vmin pmin vmax pmax lip).1
  d3g := (d3_spec H vmin pmin vmax pmax lip).2
  vmin := encLo_spec vmin T.vminOK
  vmax := encLo_spec vmax T.vmaxOK
  pmin := ⟨Nat.le_of_ble_eq_true T.pmin1, dyR_of_nonneg T.pmin0⟩
  pmax := ⟨Nat.le_of_ble_eq_true T.pmax1, dyR_of_nonneg T.pmax0⟩
  tL := fun _ hy => tL_sound a b T hy

theorem rowOK_sound (a b : List Dy) (vmin pmin vmax pmax lip : Dy)
    (h : rowOK a b vmin pmin vmax pmax lip = true) : HillClaims a b vmin pmin vmax pmax lip := by
  simp only [rowOK, Bool.and_eq_true] at h
  obtain ⟨⟨⟨⟨⟨⟨⟨⟨⟨⟨⟨hlen, hle⟩, hoka⟩, hokb⟩, hpmin0⟩, hpmax0⟩, hlip0⟩, hpmin1⟩, hpmax1⟩, hvmin⟩, hvmax⟩,
    ⟨hv1, hv2⟩, hrest⟩ := h
  have H : RowHyp a b := ⟨by simpa using hlen, by simpa using hle, hoka, hokb⟩
  have T : TabHyp vmin pmin vmax pmax lip :=
    { pmin0 := by simpa using hpmin0
      pmax0 := by simpa using hpmax0
      lip0 := by simpa using hlip0
      pmin1 := hpmin1, pmax1 := hpmax1, vminOK := hvmin, vmaxOK := hvmax }
  obtain ⟨w, hbnb, hwit⟩ : ∃ w, bnb (mkCtx a b vmin pmin vmax pmax lip) 32 0 0 = some w ∧
      witnessOK lip w = true := by
    generalize bnb (mkCtx a b vmin pmin vmax pmax lip) 32 0 0 = o at hrest
    cases o with
    | none => exact absurd hrest (by simp)
    | some w => exact ⟨w, rfl, hrest⟩
  obtain ⟨V1, V2, pt, c, c0, c1, hcw⟩ := ctx_claims (ctxRep_mk H T) hv1 hv2 hbnb
  rw [← hillF_eq] at V1 V2 pt
  exact
    { pmin_mem := point_mem pmin T.pmin0 T.pmin1
      pmax_mem := point_mem pmax T.pmax0 T.pmax1
      lip_nonneg := by rw [dyR_of_nonneg T.lip0]; positivity
      value_min := V1
      value_max := V2
      global := fun x h0 h1 => ⟨(pt x h0 h1).lower, (pt x h0 h1).upper⟩
      loc10_min := fun x h0 h1 => (pt x h0 h1).minLoc10
      loc10_max := fun x h0 h1 => (pt x h0 h1).maxLoc10
      loc18_min := fun x h0 h1 => (pt x h0 h1).minLoc18
      loc18_max := fun x h0 h1 => (pt x h0 h1).maxLoc18
      deriv := fun x => by rw [hillF_eq]; exact hasDerivAt_hf _ x
      lip_upper := fun x h0 h1 => (pt x h0 h1).deriv
      lip_lower := ⟨c, c0, c1, witness_sound T.lip0 hwit hcw⟩ }

theorem hillOK_sound (i : ℕ) (h : hillOK i = true) :
    HillClaims (Gen.hillA i) (Gen.hillB i) (Gen.hillMinValue i) (Gen.hillMinPoint i)
      (Gen.hillMaxValue i) (Gen.hillMaxPoint i) (Gen.hillLip i) :=
  rowOK_sound _ _ _ _ _ _ _ h

end Hill

import IOptProofs.EnclSoundTaylor
/-!
# Enclosure kit, soundness part 2: biased complex multiplication, squarings, `trig`, one step of the angle-addition recurrence

Ball arithmetic in `ℂ`: a pair of biased fixed-point numbers `(X, U)` denotes `dZ X U`; multiplication by
a unit complex number is an isometry, so radii add up.
-/

namespace Encl
open Complex

noncomputable def dZ (X U : ℕ) : ℂ := ⟨dT X, dT U⟩

@[simp] theorem dZ_re (X U : ℕ) : (dZ X U).re = dT X := rfl
@[simp] theorem dZ_im (X U : ℕ) : (dZ X U).im = dT U := rfl

theorem cast_eq_dT (X : ℕ) : (X : ℝ) = dT X * 2 ^ 64 + 2 ^ 65 := by
  unfold dT; rw [B_cast]; field_simp; ring

theorem dT_sub_B (X : ℕ) : (X : ℝ) - B = dT X * 2 ^ 64 := by
  rw [cast_eq_dT X, B_cast, add_sub_cancel_right]

theorem CIM_cast : (CIM : ℝ) = 5 * 2 ^ 129 := by norm_num [CIM]

/-- a biased difference `M - S = t·2^128 + 2^129` with `|t| ≤ 25/16` is not truncated; shifted by 64 it
decodes to `t` rounded down by less than a unit -/
theorem sub_shr_spec {M S : ℕ} {t : ℝ} (hd : (M : ℝ) - S = t * 2 ^ 128 + 2 ^ 129) (ht : |t| ≤ 25 / 16) :
    ∃ ρ : ℝ, 0 ≤ ρ ∧ ρ < 1 ∧ dT (Nat.shiftRight (Nat.sub M S) 64) = t - ρ / 2 ^ 64 := by
  have hle : S ≤ M := by
    have : (S : ℝ) ≤ M := by
      have := mul_le_mul_of_nonneg_right (abs_le.mp ht).1 (by positivity : (0 : ℝ) ≤ 2 ^ 128)
      linarith only [hd, this]
    exact_mod_cast this
  have hc : ((Nat.sub M S : ℕ) : ℝ) = (M : ℝ) - S := Nat.cast_sub hle
  have h1 := shr_cast_le (Nat.sub M S) 64
  have h2 := lt_shr_cast (Nat.sub M S) 64
  rw [hc, hd] at h1 h2
  refine ⟨(t * 2 ^ 128 + 2 ^ 129) / 2 ^ 64 - (Nat.shiftRight (Nat.sub M S) 64 : ℕ),
    by linarith only [h1], by linarith only [h2], ?_⟩
  unfold dT
  rw [B_cast]
  ring

theorem cmulRe_spec {X Y U V : ℕ} (h : |dT X * dT Y - dT U * dT V| ≤ 25 / 16) :
    ∃ ρ : ℝ, 0 ≤ ρ ∧ ρ < 1 ∧ dT (cmulRe X Y U V) = dT X * dT Y - dT U * dT V - ρ / 2 ^ 64 := by
  refine sub_shr_spec ?_ h
  simp only [cast_nat_add, cast_nat_mul, shl_cast, ONE_cast]
  rw [cast_eq_dT X, cast_eq_dT Y, cast_eq_dT U, cast_eq_dT V]
  ring

theorem cmulIm_spec {X Y U V : ℕ} (h : |dT X * dT V + dT U * dT Y| ≤ 25 / 16) :
    ∃ ρ : ℝ, 0 ≤ ρ ∧ ρ < 1 ∧ dT (cmulIm X Y U V) = dT X * dT V + dT U * dT Y - ρ / 2 ^ 64 := by
  refine sub_shr_spec ?_ h
  simp only [cast_nat_add, cast_nat_mul, shl_cast, CIM_cast]
  rw [cast_eq_dT X, cast_eq_dT Y, cast_eq_dT U, cast_eq_dT V]
  ring

/-- the biased complex product is the exact product minus a rounding error of norm `≤ 2·2^-64` -/
theorem cmul_spec {X Y U V : ℕ} (hz : ‖dZ X U‖ ≤ 5 / 4) (hw : ‖dZ Y V‖ ≤ 5 / 4) :
    ∃ r : ℂ, ‖r‖ ≤ 2 / 2 ^ 64 ∧
      dZ (cmulRe X Y U V) (cmulIm X Y U V) = dZ X U * dZ Y V - r := by
  have hprod : ‖dZ X U * dZ Y V‖ ≤ 25 / 16 := by
    rw [norm_mul]
    exact (mul_le_mul hz hw (norm_nonneg _) (by norm_num)).trans_eq (by norm_num)
  have hre : |dT X * dT Y - dT U * dT V| ≤ 25 / 16 := by
    simpa only [mul_re, dZ_re, dZ_im] using (abs_re_le_norm _).trans hprod
  have him : |dT X * dT V + dT U * dT Y| ≤ 25 / 16 := by
    simpa only [mul_im, dZ_re, dZ_im] using (abs_im_le_norm _).trans hprod
  obtain ⟨ρ1, r10, r11, eRe⟩ := cmulRe_spec hre
  obtain ⟨ρ2, r20, r21, eIm⟩ := cmulIm_spec him
  have h64 : (0 : ℝ) < 2 ^ 64 := by positivity
  refine ⟨⟨ρ1 / 2 ^ 64, ρ2 / 2 ^ 64⟩, (norm_le_abs_re_add_abs_im _).trans ?_, ?_⟩
  · rw [abs_of_nonneg (div_nonneg r10 h64.le), abs_of_nonneg (div_nonneg r20 h64.le), ← add_div]
    exact div_le_div_of_nonneg_right (by linarith only [r11, r21]) h64.le
  · apply Complex.ext
    · simp only [dZ_re, sub_re, mul_re, dZ_im]
      rw [eRe]
    · simp only [dZ_im, sub_im, mul_im, dZ_re]
      rw [eIm]

theorem norm_le_of_near_unit {Z z : ℂ} {e : ℝ} (nZ : ‖Z‖ = 1) (h : ‖Z - z‖ ≤ e) : ‖z‖ ≤ 1 + e := by
  have := norm_sub_le Z (Z - z)
  rw [sub_sub_cancel, nZ] at this
  exact this.trans (add_le_add le_rfl h)

/-- centres within `a`, `b` units of `2^-64` (`a, b ≤ 2^32`) of unit complex numbers `Z`, `W`: the biased product is within
`a + b + 3` units of `Z·W`.  From `ZW - zw = (Z - z)W + z(W - w)` the radius is `a + (1 + a)·b`; the cross term `a·b` is at most one
unit, two more are lost by rounding.  The first centre is small enough for `cmul_spec`. -/
theorem cmul_ball {X Y U V : ℕ} {Z W : ℂ} {a b : ℝ} (nZ : ‖Z‖ = 1) (nW : ‖W‖ = 1)
    (hz : ‖Z - dZ X U‖ ≤ a / 2 ^ 64) (hw : ‖W - dZ Y V‖ ≤ b / 2 ^ 64) (ha : a ≤ 2 ^ 32) (hb : b ≤ 2 ^ 32) :
    ‖dZ X U‖ ≤ 5 / 4 ∧
    ‖Z * W - dZ (cmulRe X Y U V) (cmulIm X Y U V)‖ ≤ (a + b + 3) / 2 ^ 64 := by
  have ha' : a / 2 ^ 64 ≤ 1 / 2 ^ 32 := (div_le_div_of_nonneg_right ha (by positivity)).trans_eq (by norm_num)
  have hb' : b / 2 ^ 64 ≤ 1 / 2 ^ 32 := (div_le_div_of_nonneg_right hb (by positivity)).trans_eq (by norm_num)
  have hab : a / 2 ^ 64 * (b / 2 ^ 64) ≤ 1 / 2 ^ 64 :=
    (mul_le_mul ha' hb' ((norm_nonneg _).trans hw) (by positivity)).trans_eq (by norm_num)
  have nz := norm_le_of_near_unit nZ hz
  have nw := norm_le_of_near_unit nW hw
  have nz' : ‖dZ X U‖ ≤ 5 / 4 := nz.trans (by linarith only [ha'])
  obtain ⟨r, hr, e⟩ := cmul_spec nz' (nw.trans (by linarith only [hb']))
  rw [e, show Z * W - (dZ X U * dZ Y V - r) = (Z - dZ X U) * W + dZ X U * (W - dZ Y V) + r by ring]
  refine ⟨nz', ((norm_add_le _ _).trans (add_le_add ((norm_add_le _ _).trans (add_le_add ?_ ?_)) hr)).trans
    (by linarith only [hab] : a / 2 ^ 64 + (1 + a / 2 ^ 64) * (b / 2 ^ 64) + 2 / 2 ^ 64 ≤ _)⟩
  · rw [norm_mul, nW, mul_one]
    exact hz
  · rw [norm_mul]
    exact mul_le_mul nz hw (norm_nonneg _) ((norm_nonneg _).trans nz)

/-- `m` squarings (the non-CPS form of `pow2`) -/
def sqN : ℕ → ℕ × ℕ → ℕ × ℕ
  | 0, z => z
  | m+1, z => sqN m (cmulRe z.1 z.1 z.2 z.2, cmulIm z.1 z.1 z.2 z.2)

theorem pow2_eq {α : Type} (m X U : ℕ) (k : ℕ → ℕ → α) :
    pow2 m X U k = k (sqN m (X, U)).1 (sqN m (X, U)).2 := by
  induction m generalizing X U with
  | zero => simp only [pow2, sqN]
  | succ m ih => simp only [pow2, sqN, ih]

theorem exp_two_mul (φ : ℝ) : exp (((2 * φ : ℝ) : ℂ) * I) = exp ((φ : ℂ) * I) * exp ((φ : ℂ) * I) := by
  rw [← Complex.exp_add]; congr 1; push_cast; ring

/-- one squaring doubles the radius (plus 3 units), for radii `≤ 2^-32` -/
theorem sq_spec {X U : ℕ} {φ E : ℝ} (hE : E ≤ 2 ^ 32)
    (h : ‖exp ((φ : ℂ) * I) - dZ X U‖ ≤ E / 2 ^ 64) :
    ‖exp (((2 * φ : ℝ) : ℂ) * I) - dZ (cmulRe X X U U) (cmulIm X X U U)‖ ≤ (2 * E + 3) / 2 ^ 64 := by
  have nZ := norm_exp_ofReal_mul_I φ
  rw [exp_two_mul, two_mul]
  exact (cmul_ball nZ nZ h h hE hE).2

/-- `m` squarings: the radius plus 3 doubles `m` times -/
theorem sqN_spec (m : ℕ) : ∀ {X U : ℕ} {φ E : ℝ}, 0 ≤ E → 2 ^ m * (E + 3) ≤ 2 ^ 32 →
    ‖exp ((φ : ℂ) * I) - dZ X U‖ ≤ E / 2 ^ 64 →
    ‖exp (((2 ^ m * φ : ℝ) : ℂ) * I) - dZ (sqN m (X, U)).1 (sqN m (X, U)).2‖
      ≤ (2 ^ m * (E + 3) - 3) / 2 ^ 64 := by
  induction m with
  | zero =>
    intro X U φ E _ _ h
    simpa [sqN] using h
  | succ m ih =>
    intro X U φ E hE0 hE h
    have hm : (1 : ℝ) ≤ 2 ^ m := one_le_pow₀ (by norm_num)
    have hE' : E ≤ 2 ^ 32 := by
      have : E + 3 ≤ 2 ^ m * (E + 3) := le_mul_of_one_le_left (by linarith only [hE0]) hm
      rw [pow_succ, mul_right_comm] at hE
      linarith only [hE, this, hE0]
    have s := sq_spec hE' h
    have := ih (X := cmulRe X X U U) (U := cmulIm X X U U) (φ := 2 * φ) (E := 2 * E + 3)
      (by linarith) (by
        have : 2 ^ m * (2 * E + 3 + 3) = 2 ^ (m + 1) * (E + 3) := by ring
        rw [this]; exact hE) s
    have e1 : (2 : ℝ) ^ m * (2 * φ) = 2 ^ (m + 1) * φ := by ring
    have e2 : (2 : ℝ) ^ m * (2 * E + 3 + 3) - 3 = 2 ^ (m + 1) * (E + 3) - 3 := by ring
    rw [e1, e2] at this
    exact this

def trigC (num k : ℕ) : ℕ :=
  (sqN 5 (Nat.add B (cosT (usq (phi num k))), Nat.add B (sinT (phi num k) (usq (phi num k))))).1
def trigS (num k : ℕ) : ℕ :=
  (sqN 5 (Nat.add B (cosT (usq (phi num k))), Nat.add B (sinT (phi num k) (usq (phi num k))))).2

theorem trig_eq {α : Type} (num k : ℕ) (cont : ℕ → ℕ → α) :
    trig num k cont = cont (trigC num k) (trigS num k) := by
  unfold trig trigC trigS
  rw [pow2_eq]

theorem dT_add_B (c : ℕ) : dT (Nat.add B c) = (c : ℝ) / 2 ^ 64 := by
  unfold dT
  rw [cast_nat_add, add_sub_cancel_left]

theorem norm_exp_sub_exp_le (a b : ℝ) : ‖exp ((a : ℂ) * I) - exp ((b : ℂ) * I)‖ ≤ |a - b| := by
  have : exp ((a : ℂ) * I) - exp ((b : ℂ) * I)
      = exp ((b : ℂ) * I) * (exp (I * ((a - b : ℝ) : ℂ)) - 1) := by
    rw [mul_sub, mul_one, ← Complex.exp_add]; congr 2; push_cast; ring
  rw [this, norm_mul, norm_exp_ofReal_mul_I, one_mul]
  exact Real.norm_exp_I_mul_ofReal_sub_one_le

/-- **soundness of `trig`**: for `t = num/2^k ∈ [0,1]` the centre is within `330973·2^-64` of
`e^{2πit}` -/
theorem trig_spec {num k : ℕ} (h : num ≤ 2 ^ k) :
    ‖exp (((2 * Real.pi * (num / 2 ^ k) : ℝ) : ℂ) * I) - dZ (trigC num k) (trigS num k)‖
      ≤ 330973 / 2 ^ 64 := by
  obtain ⟨hp1, hp2⟩ := phi_spec h
  set p := phi num k
  obtain ⟨tc, ts⟩ := taylor_spec hp2
  have h64 : (0 : ℝ) < 2 ^ 64 := by positivity
  set φ : ℝ := Real.pi * num / 2 ^ (k + 4) with hφ
  set φ₀ : ℝ := (p : ℝ) / 2 ^ 64 with hφ₀
  have hφ₀0 : 0 ≤ φ₀ := by positivity
  have hφ₀1 : φ₀ ≤ 1 / 5 := by rw [hφ₀, div_le_iff₀ h64]; linarith only [hp2]
  -- angle error
  have a1 : ‖exp ((φ : ℂ) * I) - exp ((φ₀ : ℂ) * I)‖ ≤ 2 / 2 ^ 64 := by
    refine (norm_exp_sub_exp_le _ _).trans ?_
    have : φ - φ₀ = (φ * 2 ^ 64 - p) / 2 ^ 64 := by rw [hφ₀]; field_simp
    rw [this, abs_div, abs_of_pos h64]
    gcongr
  -- Taylor remainder
  have a2 : ‖exp ((φ₀ : ℂ) * I) - (⟨C11 φ₀, S11 φ₀⟩ : ℂ)‖ ≤ 10330 / 2 ^ 64 := by
    have habs : |φ₀| ≤ 1 := by rw [abs_of_nonneg hφ₀0]; exact hφ₀1.trans (by norm_num)
    refine (exp_taylor11 habs).trans ?_
    rw [abs_of_nonneg hφ₀0]
    calc φ₀ ^ 11 * (12 / (39916800 * 11)) ≤ (1 / 5) ^ 11 * (12 / (39916800 * 11)) := by
          gcongr
      _ ≤ 10330 / 2 ^ 64 := by norm_num
  -- rounding of the Taylor stage
  set X0 := Nat.add B (cosT (usq p)) with hX0
  set U0 := Nat.add B (sinT p (usq p)) with hU0
  have a3 : ‖(⟨C11 φ₀, S11 φ₀⟩ : ℂ) - dZ X0 U0‖ ≤ 4 / 2 ^ 64 := by
    refine (norm_le_abs_re_add_abs_im _).trans ?_
    simp only [sub_re, sub_im, dZ_re, dZ_im, hX0, hU0, dT_add_B]
    have : (4 : ℝ) / 2 ^ 64 = 2 / 2 ^ 64 + 2 / 2 ^ 64 := by ring
    rw [this]
    exact add_le_add tc ts
  have base : ‖exp ((φ : ℂ) * I) - dZ X0 U0‖ ≤ 10340 / 2 ^ 64 := by
    rw [show exp ((φ : ℂ) * I) - dZ X0 U0
        = (exp ((φ : ℂ) * I) - exp ((φ₀ : ℂ) * I)) + (exp ((φ₀ : ℂ) * I) - ⟨C11 φ₀, S11 φ₀⟩)
          + (⟨C11 φ₀, S11 φ₀⟩ - dZ X0 U0) by ring]
    refine (norm_add_le _ _).trans ?_
    have := norm_add_le (exp ((φ : ℂ) * I) - exp ((φ₀ : ℂ) * I)) (exp ((φ₀ : ℂ) * I) - ⟨C11 φ₀, S11 φ₀⟩)
    linarith only [this, a1, a2, a3]
  have := sqN_spec 5 (X := X0) (U := U0) (φ := φ) (E := 10340) (by norm_num) (by norm_num) base
  have e1 : (2 : ℝ) ^ 5 * φ = 2 * Real.pi * (num / 2 ^ k) := by
    rw [hφ, pow_add]; field_simp
  have e2 : ((2 : ℝ) ^ 5 * (10340 + 3) - 3) = 330973 := by norm_num
  rw [e1, e2] at this
  unfold trigC trigS
  exact this

/-- the radius grows by `κ = 330976 = 330973 + 3` units per index -/
theorem rec_step {X U Y V : ℕ} {θ : ℝ} {i : ℕ} (hi : i ≤ 16)
    (hw : ‖exp ((θ : ℂ) * I) - dZ Y V‖ ≤ 330973 / 2 ^ 64)
    (hz : ‖exp (((i * θ : ℝ) : ℂ) * I) - dZ X U‖ ≤ i * 330976 / 2 ^ 64) :
    ‖dZ X U‖ ≤ 5 / 4 ∧
    ‖exp ((((i + 1 : ℕ) * θ : ℝ) : ℂ) * I) - dZ (cmulRe X Y U V) (cmulIm X Y U V)‖
      ≤ ((i + 1 : ℕ) : ℝ) * 330976 / 2 ^ 64 := by
  have hi' : (i : ℝ) * 330976 ≤ 2 ^ 32 :=
    (mul_le_mul_of_nonneg_right (Nat.cast_le.2 hi) (by norm_num)).trans (by norm_num)
  have hexp : exp ((((i + 1 : ℕ) * θ : ℝ) : ℂ) * I) = exp (((i * θ : ℝ) : ℂ) * I) * exp ((θ : ℂ) * I) := by
    rw [← Complex.exp_add]; congr 1; push_cast; ring
  obtain ⟨nz, hb⟩ := cmul_ball (norm_exp_ofReal_mul_I _) (norm_exp_ofReal_mul_I _) hz hw hi' (by norm_num)
  rw [hexp]
  exact ⟨nz, hb.trans_eq (by push_cast; ring)⟩

end Encl

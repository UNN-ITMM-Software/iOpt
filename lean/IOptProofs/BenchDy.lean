import IOptGen.Dy
import Mathlib.Data.Real.Basic
import Mathlib.Data.Rat.Cast.Order
import Mathlib.Data.Rat.Cast.Lemmas
import Mathlib.Data.Nat.Cast.Order.Field
/-!
# Doubles as real numbers

A table entry `d : Dy` (the exact dyadic value of an IEEE double) denotes the rational `d.toRat`
and the real `dyR d`. The Boolean checkers compute with such entries scaled to naturals; the operations of ℕ that
are not ring operations (truncated subtraction, floor division, right shift) are read in ℝ here.
-/

noncomputable def dyR (d : Dy) : ℝ := ((d.toRat : ℚ) : ℝ)

theorem dyR_def (d : Dy) : dyR d = ((d.toRat : ℚ) : ℝ) := rfl

theorem dyR_eq (d : Dy) : dyR d = (d.1 : ℝ) / 2 ^ d.2 := by
  unfold dyR Dy.toRat; push_cast; rfl

/-- the real value of a constant double, from its rational value (which the kernel can evaluate) -/
theorem dyR_of_toRat {d : Dy} {q : ℚ} (h : d.toRat = q) : dyR d = q := by rw [dyR_def, h]

theorem dyR_eq_zero {d : Dy} (h : d.toRat = 0) : dyR d = 0 := by simp [dyR, h]

theorem cast_tsub (m n : ℕ) : ((m - n : ℕ) : ℝ) = max ((m : ℝ) - n) 0 := by
  rcases Nat.le_total n m with h | h
  · rw [Nat.cast_sub h, max_eq_left (sub_nonneg.2 (Nat.cast_le.2 h))]
  · rw [Nat.sub_eq_zero_of_le h, Nat.cast_zero, max_eq_right (sub_nonpos.2 (Nat.cast_le.2 h))]

/-- the distance of two integer intervals `[lo, hi] ∋ X`, `[lo', hi'] ∋ Y`, from below (at most one of the two truncated
differences is non-zero) … -/
theorem tsub_add_tsub_le_abs {lo hi lo' hi' : ℕ} {X Y : ℝ} (h1 : (lo : ℝ) ≤ X) (h2 : X ≤ hi) (h3 : (lo' : ℝ) ≤ Y)
    (h4 : Y ≤ hi') : ((lo - hi' + (lo' - hi) : ℕ) : ℝ) ≤ |X - Y| := by
  rw [Nat.cast_add, cast_tsub, cast_tsub]
  rcases le_total Y X with h | h
  · rw [max_eq_right (sub_nonpos.2 (h3.trans (h.trans h2))), add_zero]
    exact max_le ((sub_le_sub h1 h4).trans (le_abs_self _)) (abs_nonneg _)
  · rw [max_eq_right (sub_nonpos.2 (h1.trans (h.trans h4))), zero_add]
    exact max_le ((sub_le_sub h3 h2).trans (abs_sub_comm X Y ▸ le_abs_self (Y - X))) (abs_nonneg _)

/-- … and from above -/
theorem abs_le_tsub_add_tsub {lo hi lo' hi' : ℕ} {X Y : ℝ} (h1 : (lo : ℝ) ≤ X) (h2 : X ≤ hi) (h3 : (lo' : ℝ) ≤ Y)
    (h4 : Y ≤ hi') : |X - Y| ≤ ((hi - lo' + (hi' - lo) : ℕ) : ℝ) := by
  rw [Nat.cast_add, cast_tsub, cast_tsub]
  exact abs_sub_le_iff.2
    ⟨(sub_le_sub h2 h3).trans ((le_max_left _ 0).trans (le_add_of_nonneg_right (le_max_right _ 0))),
      (sub_le_sub h4 h1).trans ((le_max_left _ 0).trans (le_add_of_nonneg_left (le_max_right _ 0)))⟩

theorem even_pow_le {n : ℕ} (hn : Even n) {y t : ℝ} (h : |y| ≤ t) : y ^ n ≤ t ^ n := by
  rw [← hn.pow_abs y]; exact pow_le_pow_left₀ (abs_nonneg y) h n

theorem le_even_pow {n : ℕ} (hn : Even n) {y t : ℝ} (h0 : 0 ≤ t) (h : t ≤ |y|) : t ^ n ≤ y ^ n := by
  rw [← hn.pow_abs y]; exact pow_le_pow_left₀ h0 h n

/-- the upper side of `Nat.cast_div_le` -/
theorem lt_cast_div_succ (a d : ℕ) (hd : 0 < d) : (a : ℝ) / d < ((a / d : ℕ) : ℝ) + 1 := by
  rw [div_lt_iff₀ (Nat.cast_pos.mpr hd)]
  exact_mod_cast (Nat.div_lt_iff_lt_mul hd).mp (Nat.lt_succ_self (a / d))

theorem shr_cast_le (n k : ℕ) : ((Nat.shiftRight n k : ℕ) : ℝ) ≤ (n : ℝ) / 2 ^ k := by
  rw [show Nat.shiftRight n k = n / 2 ^ k from Nat.shiftRight_eq_div_pow n k]
  simpa using (Nat.cast_div_le : ((n / 2 ^ k : ℕ) : ℝ) ≤ _)

theorem lt_shr_cast (n k : ℕ) : (n : ℝ) / 2 ^ k < ((Nat.shiftRight n k : ℕ) : ℝ) + 1 := by
  rw [show Nat.shiftRight n k = n / 2 ^ k from Nat.shiftRight_eq_div_pow n k]
  simpa using lt_cast_div_succ n (2 ^ k) (Nat.two_pow_pos k)

/- The checkers are written with the primitives `Nat.add`, `Nat.mul` (fast in the kernel), which `rw` and `push_cast`
do not see as `+`, `*`. -/
theorem cast_nat_add (x y : ℕ) : ((Nat.add x y : ℕ) : ℝ) = (x : ℝ) + y := Nat.cast_add x y
theorem cast_nat_mul (x y : ℕ) : ((Nat.mul x y : ℕ) : ℝ) = (x : ℝ) * y := Nat.cast_mul x y

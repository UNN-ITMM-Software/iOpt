import IOptProofs.S3Real
import Mathlib.Analysis.Complex.ExponentialBounds
/-!
# StronginC3: fixed-point pairs over ℝ (`Within`, one lemma per primitive of the checker) and the enclosures of `e^{-s}`
-/

namespace S3

@[simp] theorem forceNat_eq {α : Type} (n : Nat) (k : Nat → α) : forceNat n k = k n := by
  cases n <;> rfl

theorem ONE_cast : ((ONE : Nat) : ℝ) = 2 ^ 64 := by norm_num [ONE]
theorem U_cast : ((U : Nat) : ℝ) = 2 ^ 26 := by norm_num [U]

theorem div_le_real (n d : Nat) : ((Nat.div n d : Nat) : ℝ) ≤ (n : ℝ) / d := Nat.cast_div_le

theorem le_div_succ (n d : Nat) (hd : 0 < d) : (n : ℝ) / d ≤ ((Nat.add (Nat.div n d) 1 : Nat) : ℝ) := by
  rw [cast_nat_add, Nat.cast_one]
  exact (lt_cast_div_succ n d hd).le

theorem le_shr_succ (n k : Nat) : (n : ℝ) / 2 ^ k ≤ ((Nat.add (Nat.shiftRight n k) 1 : Nat) : ℝ) := by
  rw [cast_nat_add, Nat.cast_one]
  exact (lt_shr_cast n k).le

/-- the fixed-point number `x`, in units of `2^-k`, lies between the naturals `lo` and `hi`.  Every bound the checker
computes is one end of such a pair, and the checker's term for it is what the lemmas below build from the pairs of its
inputs; the scales add up in the type, so no power of two has to be moved by hand. -/
structure Within (k lo hi : Nat) (x : ℝ) : Prop where
  lo_le : (lo : ℝ) ≤ x * 2 ^ k
  le_hi : x * 2 ^ k ≤ (hi : ℝ)

namespace Within
variable {j k a b c d : Nat} {x y : ℝ}

theorem nonneg (h : Within k a b x) : 0 ≤ x * 2 ^ k := (Nat.cast_nonneg a).trans h.1

theorem of_eq {n : Nat} (e : (n : ℝ) = x * 2 ^ k) : Within k n n x := ⟨e.le, e.ge⟩

theorem add (h : Within k a b x) (l : Within k c d y) : Within k (Nat.add a c) (Nat.add b d) (x + y) := by
  constructor <;> rw [cast_nat_add, add_mul]
  exacts [add_le_add h.1 l.1, add_le_add h.2 l.2]

theorem mul (h : Within j a b x) (l : Within k c d y) : Within (j + k) (Nat.mul a c) (Nat.mul b d) (x * y) := by
  constructor <;> rw [cast_nat_mul, pow_add, mul_mul_mul_comm]
  exacts [mul_le_mul h.1 l.1 (Nat.cast_nonneg c) h.nonneg, mul_le_mul h.2 l.2 l.nonneg (Nat.cast_nonneg b)]

theorem shr (m : Nat) (h : Within (k + m) a b x) :
    Within k (Nat.shiftRight a m) (Nat.add (Nat.shiftRight b m) 1) x := by
  have e : x * 2 ^ k = x * 2 ^ (k + m) / 2 ^ m := by
    rw [pow_add, ← mul_assoc, mul_div_cancel_right₀ _ (by positivity)]
  constructor <;> rw [e]
  exacts [(shr_cast_le a m).trans (div_le_div_of_nonneg_right h.1 (by positivity)),
    (div_le_div_of_nonneg_right h.2 (by positivity)).trans (le_shr_succ b m)]

theorem shl (m : Nat) (h : Within k a b x) : Within (k + m) (Nat.shiftLeft a m) (Nat.shiftLeft b m) x := by
  have e (n : Nat) : ((Nat.shiftLeft n m : Nat) : ℝ) = n * 2 ^ m := by
    rw [show Nat.shiftLeft n m = n * 2 ^ m from Nat.shiftLeft_eq n m, Nat.cast_mul, Nat.cast_pow, Nat.cast_ofNat]
  constructor <;> rw [e, pow_add, ← mul_assoc]
  exacts [mul_le_mul_of_nonneg_right h.1 (by positivity), mul_le_mul_of_nonneg_right h.2 (by positivity)]

/-- the same pair read in finer units -/
theorem scale (m : Nat) (h : Within k a b x) : Within (k + m) a b (x / 2 ^ m) := by
  have e : x / 2 ^ m * 2 ^ (k + m) = x * 2 ^ k := by
    rw [pow_add, mul_comm (2 ^ k), ← mul_assoc, div_mul_cancel₀ _ (by positivity)]
  exact ⟨e ▸ h.1, e ▸ h.2⟩

theorem absSub (h : Within k a b x) (l : Within k c d y) : Within k (nearI a b c d) (farI a b c d) |x - y| := by
  have e : |x - y| * 2 ^ k = |x * 2 ^ k - y * 2 ^ k| := by
    rw [← sub_mul, abs_mul, abs_of_pos (by positivity : (0 : ℝ) < 2 ^ k)]
  exact ⟨e ▸ tsub_add_tsub_le_abs h.1 h.2 l.1 l.2, e ▸ abs_le_tsub_add_tsub h.1 h.2 l.1 l.2⟩

end Within

theorem sq_sound : ∀ (n : Nat) {a b : Nat} {c : ℝ}, Within 64 a b c → Within 64 (sqDn n a) (sqUp n b) (c ^ 2 ^ n)
  | 0, _, _, _, h => by simpa [sqUp, sqDn] using h
  | n + 1, _, _, c, h => by
    have := sq_sound n ((h.mul h).shr 64)
    simp only [sqUp, sqDn, forceNat_eq]
    rwa [← pow_two, ← pow_mul, ← pow_succ'] at this

theorem exp_neg_pow (r : ℝ) (n : Nat) : Real.exp (-r) ^ n = Real.exp (-((n : ℝ) * r)) := by
  rw [← Real.exp_nat_mul]; congr 1; ring

theorem quad_le (R : Nat) : ((quad R : Nat) : ℝ) ≤ Real.exp ((R : ℝ) / 2 ^ 64) * 2 ^ 64 := by
  have hR : Within 64 R R ((R : ℝ) / 2 ^ 64) := .of_eq (div_mul_cancel₀ _ (by positivity)).symm
  have := (((.of_eq (by rw [ONE_cast, one_mul]) : Within 64 ONE ONE 1).add hR).add (((hR.mul hR).shr 65).scale 1)).1
  rw [← pow_two, pow_one] at this
  exact this.trans (mul_le_mul_of_nonneg_right (Real.quadratic_le_exp_of_nonneg (by positivity)) (by positivity))

theorem quad_pos (R : Nat) : 0 < quad R :=
  Nat.add_pos_left (Nat.add_pos_left (by decide) R) _

/-- the two start values of the squarings, for `r ∈ [Rl, Ru]·2^-64`: `2^64 - Ru` (truncated at 0) because
`1 - r ≤ e^{-r}`, and `⌊2^128 / quad Rl⌋ + 1` because `quad Rl ≤ e^{Rl/2^64}·2^64 ≤ e^r·2^64` -/
theorem start_within {Rl Ru : Nat} {r : ℝ} (h : Within 64 Rl Ru r) :
    Within 64 (Nat.sub ONE Ru) (Nat.add (Nat.div (Nat.mul ONE ONE) (quad Rl)) 1) (Real.exp (-r)) := by
  constructor
  · rw [Nat.sub_eq, cast_tsub, ONE_cast]
    refine max_le ?_ (by positivity)
    calc (2 : ℝ) ^ 64 - Ru ≤ (-r + 1) * 2 ^ 64 := by linarith [h.2]
      _ ≤ _ := mul_le_mul_of_nonneg_right (Real.add_one_le_exp _) (by positivity)
  · refine le_trans ?_ (le_div_succ _ _ (quad_pos Rl))
    rw [le_div_iff₀ (Nat.cast_pos.2 (quad_pos Rl)), cast_nat_mul, ONE_cast]
    calc Real.exp (-r) * 2 ^ 64 * (quad Rl : ℝ)
        ≤ Real.exp (-r) * 2 ^ 64 * (Real.exp r * 2 ^ 64) :=
          mul_le_mul_of_nonneg_left ((quad_le Rl).trans (mul_le_mul_of_nonneg_right
            (Real.exp_le_exp.2 ((div_le_iff₀ (by positivity)).2 h.1)) (by positivity))) (by positivity)
      _ = Real.exp (-r + r) * (2 ^ 64 * 2 ^ 64) := by rw [Real.exp_add]; ring
      _ = 2 ^ 64 * 2 ^ 64 := by rw [neg_add_cancel, Real.exp_zero, one_mul]

/-- `e^{-s}` in fixed point: with `r = s/2^20`, the start values for `e^{-r}` and then 20 squarings -/
theorem en_sound {a b : Nat} {s : ℝ} (h : Within 64 a b s) : Within 64 (enLo b) (enUp a) (Real.exp (-s)) := by
  have := sq_sound 20 (start_within ((h.shr (k := 44) 20).scale 20))
  rwa [exp_neg_pow, Nat.cast_pow, Nat.cast_ofNat, mul_div_cancel₀ s (by positivity)] at this

theorem within_e : Within 64 ELO EUP (Real.exp 1) := by
  constructor
  · refine le_trans ?_ (mul_le_mul_of_nonneg_right Real.exp_one_gt_d9.le (by positivity))
    norm_num [ELO]
  · refine le_trans (mul_le_mul_of_nonneg_right Real.exp_one_lt_d9.le (by positivity)) ?_
    norm_num [EUP]

/-- the checker has no lower constant for `e²` (it bounds `B` from above only) -/
theorem within_e2 : Within 64 0 E2UP (Real.exp 2) := by
  refine ⟨Nat.cast_zero.trans_le (by positivity), ?_⟩
  have h2 : Real.exp 2 = Real.exp 1 * Real.exp 1 := by rw [← Real.exp_add]; norm_num
  have : Real.exp 1 * Real.exp 1 ≤ 2.7182818286 * 2.7182818286 :=
    mul_self_le_mul_self (Real.exp_pos 1).le Real.exp_one_lt_d9.le
  rw [h2]
  refine le_trans (mul_le_mul_of_nonneg_right this (by positivity)) ?_
  norm_num [E2UP]

end S3

/-! A list that a loop `for i in range(N): a[i] = …` has updated up to `i` (`EvLoop.mixed`): the invariant of the element-wise loops of the
statement-tree interpreters (`EvInterp`, `EvLoopInterp`, and the names loop of `ProblemCtorInterp`).  Only core Lean is used. -/

set_option linter.unusedSectionVars false

namespace EvLoop

section
variable {β : Type}

/-- The array in the middle of such a loop: the final content `a'` below the frontier `k` (the index the loop has
reached), the initial content `a` from `k` on.  One round moves the frontier by one (`set_mixed`). -/
def mixed (k : Nat) (a' a : List β) : List β := a'.take k ++ a.drop k

theorem mixed_zero (a' a : List β) : mixed 0 a' a = a := by simp [mixed]

/-- after all `n` rounds (counted from `0`, as `EvLoop.forLoop_eq` and `EvInterp.elem_loop` do) everything is new -/
theorem mixed_full {n : Nat} {a' a : List β} (h' : a'.length = n) (h : a.length = n) : mixed (0 + n) a' a = a' := by
  simp [mixed, ← h', h]

theorem length_mixed {k : Nat} {a' a : List β} (h : a'.length = a.length) (hk : k ≤ a.length) :
    (mixed k a' a).length = a.length := by
  simp [mixed]; omega

theorem getElem?_mixed {k : Nat} {a' a : List β} (h : a'.length = a.length) (hk : k < a.length) :
    (mixed k a' a)[k]? = a[k]? := by
  have hl : (a'.take k).length = k := by rw [List.length_take]; omega
  rw [mixed, List.getElem?_append_right (by omega), hl]
  simp

theorem getElem?_mixed_lt {j k : Nat} {a' a : List β} (hj : j < k) (hk : k ≤ a'.length) :
    (mixed k a' a)[j]? = a'[j]? := by
  have hl : (a'.take k).length = k := by rw [List.length_take]; omega
  rw [mixed, List.getElem?_append_left (by omega), List.getElem?_take_of_lt hj]

theorem length_zipWith_eq {γ δ : Type} (f : β → γ → δ) {a : List β} {b : List γ} {n : Nat} (ha : a.length = n)
    (hb : b.length = n) : (List.zipWith f a b).length = n := by
  rw [List.length_zipWith, ha, hb, Nat.min_self]

theorem set_mixed {k : Nat} {a' a : List β} (h : a'.length = a.length) (hk : k < a.length) :
    (mixed k a' a).set k (a'[k]'(by omega)) = mixed (k+1) a' a := by
  have hk' : k < a'.length := by omega
  have hl : (a'.take k).length = k := by rw [List.length_take]; omega
  rw [mixed, mixed, List.set_append_right _ _ (by omega), hl, Nat.sub_self,
    List.drop_eq_getElem_cons hk, List.set_cons_zero, List.take_succ_eq_append_getElem hk',
    List.append_assoc]
  rfl

end

end EvLoop

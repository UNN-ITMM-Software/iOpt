import IOptProofs.GrishRows
/-! Kernel-evaluated certificates (V), (G), (P) of the Grishagin functions 21..30; one theorem per function,
so that the kernel's reduction cache is released between functions. -/
namespace Grish
theorem grish_ok_21 : grishOK 21 = true := grish_ok _ (by decide +kernel)
theorem grish_ok_22 : grishOK 22 = true := grish_ok _ (by decide +kernel)
theorem grish_ok_23 : grishOK 23 = true := grish_ok _ (by decide +kernel)
theorem grish_ok_24 : grishOK 24 = true := grish_ok _ (by decide +kernel)
theorem grish_ok_25 : grishOK 25 = true := grish_ok _ (by decide +kernel)
theorem grish_ok_26 : grishOK 26 = true := grish_ok _ (by decide +kernel)
theorem grish_ok_27 : grishOK 27 = true := grish_ok _ (by decide +kernel)
theorem grish_ok_28 : grishOK 28 = true := grish_ok _ (by decide +kernel)
theorem grish_ok_29 : grishOK 29 = true := grish_ok _ (by decide +kernel)
theorem grish_ok_30 : grishOK 30 = true := grish_ok _ (by decide +kernel)
end Grish

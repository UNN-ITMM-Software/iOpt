import IOptProofs.ProcessRefine
import IOptProofs.ProcessSameMethod
import IOptProofs.ProcessForget
import IOptProofs.ProcessField
import IOptProofs.ComposeInv
import IOptProps.C04
/-!
# The reported trial (`GetResults`, model `Proc.reportedId`) over an ordered field

`Process.GetResults()` reports the trial improved by the last local refinement while it is another trial than the
method's best and its value holder is strictly smaller; otherwise the method's best.  This file proves that, with the laws of the
library functions, `1 < r`, `0 < n`, an objective that never raises and refinements that return a value not larger than the value
holder of the trial they start from (`RefineLe`), the reported value is the smallest value holder of all evaluated trials, in every
state reached by any sequence of user operations, and that it never increases.

One invariant, `RepOK`: the state is a reachable one up to what a refinement overwrites (`BaseOK`, so the facts about reachable method
states that do not mention point or value holder carry over: `BaseOK.facts`), and the value holders stand as `GetResults` needs them
(`HvOK`; its preservation by a commit, `HvOK.step`, and by a refinement, `HvOK.refine`, is the case analysis new best × the refined
trial is the best × new / old item).  `RepOK`, `ResOK` (in addition: the trial refined last is stored, which the tie of `GetResults` to
its source asks for) and `RepLe v` ("reports a value `≤ v`") are pass invariants (`StepInv`, ComposeInv), which is what carries them
through every sequence of operations.
-/
set_option linter.unusedSectionVars false

namespace Proc
open AGP AGP.Ctl
variable {α : Type} [Field α] [LinearOrder α] [IsStrictOrderedRing α] [Fns α]

theorem reportedId_refine_of_le {ps : PState α} {s : State α} (lr : LocalResult α) (hm : ps.m = some s) {b : Item α}
    (hb : findItem s.items (reportedId ps s) = some b) (hle : lr.fx ≤ b.hv) :
    reportedId (doLocalRefinement ps lr) { s with items := s.items.map (refineItem (reportedId ps s) lr) } =
      reportedId ps s := by
  apply reportedId_doLocalRefinement lr hm hb
  rcases reportedId_cases ps s with h | ⟨ri, bi, -, -, hri, hbi, hlt⟩
  · exact .inl h
  · refine .inr fun bi' hbi' => ?_
    rw [hbi] at hbi'; cases hbi'
    rw [hb] at hri; cases hri
    exact lt_of_le_of_lt hle hlt

def BaseOK (p : Params α) (ps : PState α) : Prop := ∃ ps0, ProcOK p ps0 ∧ ps.forget = ps0.forget

theorem baseOK_fresh (p : Params α) : BaseOK p ({} : PState α) := ⟨{}, procOK_fresh p, rfl⟩

theorem baseOK_log {p : Params α} {ps : PState α} (l : List Event) (h : BaseOK p ps) : BaseOK p { ps with log := l } := by
  obtain ⟨ps0, hok, hf⟩ := h
  refine ⟨{ ps0 with log := l }, procOK_of_core (ps := ps0) rfl hok, ?_⟩
  show ({ ps.forget with log := l } : PState α) = { ps0.forget with log := l }
  rw [hf]

theorem baseOK_refine {p : Params α} {ps : PState α} (lr : LocalResult α) (h : BaseOK p ps) :
    BaseOK p (doLocalRefinement ps lr) := by
  obtain ⟨ps0, hok, hf⟩ := h
  exact ⟨ps0, hok, by rw [doLocalRefinement_forget]; exact hf⟩

theorem baseOK_sameMethod {p1 p2 : Params α} (h : SameMethod p1 p2) {ps : PState α} : BaseOK p2 ps ↔ BaseOK p1 ps := by
  constructor
  · rintro ⟨ps0, hok, hf⟩; exact ⟨ps0, (procOK_sameMethod h).1 hok, hf⟩
  · rintro ⟨ps0, hok, hf⟩; exact ⟨ps0, (procOK_sameMethod h).2 hok, hf⟩

theorem baseOK_ok {p : Params α} {f : Nat → List α → Option α} {ps ps' : PState α} {id : Nat} (h : BaseOK p ps)
    (hok : oneIteration p f ps = .ok (ps', id)) : BaseOK p ps' := by
  obtain ⟨ps0, hok0, hf⟩ := h
  obtain ⟨ps0', ho, hf'⟩ := oneIteration_forget_ok hf hok
  exact ⟨ps0', oneIteration_procOK hok0 ho, hf'⟩

theorem baseOK_no_error {p : Params α} {f : Nat → List α → Option α} (hL : FnsLaws α) (hr : 1 < p.r) (hn : 0 < p.n)
    (htot : ∀ i pt, f i pt ≠ none) {ps ps' : PState α} {e : Raise} (h : BaseOK p ps)
    (herr : oneIteration p f ps = .error (ps', e)) : False := by
  obtain ⟨ps0, hok0, hf⟩ := h
  obtain ⟨pe, he, -⟩ := oneIteration_forget_error hf herr
  obtain ⟨-, i, pt, hfail⟩ := oneIteration_fails hL hr hn hok0 he
  exact htot i pt hfail

structure BaseFacts (ps : PState α) (s : State α) : Prop where
  nodup : (s.items.map (·.id)).Nodup
  ids_lt : ∀ it ∈ s.items, it.id < s.nextId
  best : ∃ bi, findItem s.items s.best = some bi ∧ bi.ev = true
  evals : ∀ e ∈ ps.evals, ∃ a ∈ s.items, a.ev = true ∧ a.z = e.2

theorem BaseOK.facts {p : Params α} (hL : FnsLaws α) (hr : 1 < p.r) (hn : 0 < p.n) {ps : PState α} {s : State α}
    (h : BaseOK p ps) (hm : ps.m = some s) : BaseFacts ps s := by
  obtain ⟨ps0, hok, hf⟩ := h
  have hm0 : ps.m.map State.forget = ps0.m.map State.forget := congrArg (·.m) hf
  have he : ps.evals = ps0.evals := congrArg (·.evals) hf
  rw [hm] at hm0
  cases hm0' : ps0.m with
  | none => rw [hm0'] at hm0; simp at hm0
  | some s0 =>
    rw [hm0'] at hm0
    simp only [Option.map_some, Option.some.injEq] at hm0
    have hre : Reach p s0 ps0.evals := hok.reach hm0'
    have hitems : s.items.map Item.forget = s0.items.map Item.forget := congrArg (·.items) hm0
    have hnext : s.nextId = s0.nextId := congrArg (·.nextId) hm0
    have hbest : s.best = s0.best := congrArg (·.best) hm0
    have hI := (hre.inv hL hr hn).toInvItems
    refine ⟨?_, ?_, ?_, fun e hmem => ?_⟩
    · rw [map_transfer (·.id) hitems fun _ => rfl]; exact hI.ids_nodup
    · rw [hnext]; exact (forall_transfer (P := fun it => it.id < s0.nextId) hitems fun _ => Iff.rfl).2 hI.ids_lt
    · obtain ⟨it0, hfind0, -, -, hev0, -⟩ := C04_best hL hr hn hre
      have h1 := findItem_transfer hitems (fun _ => rfl) s0.best
      rw [hfind0] at h1
      rw [hbest]
      obtain ⟨bi, hb, e⟩ := Option.map_eq_some_iff.1 h1
      exact ⟨bi, hb, (congrArg (·.ev) e).trans hev0⟩
    · rw [he] at hmem
      obtain ⟨it0, h0, hev0, rfl⟩ := (hre.logInv hL hr hn).mem_log.1 hmem
      exact (exists_transfer (P := fun a => a.ev = true ∧ a.z = it0.z) hitems fun _ => Iff.rfl).2 ⟨it0, h0, hev0, rfl⟩

theorem reported_spec (ps : PState α) (s : State α) {bi : Item α} (hb : findItem s.items s.best = some bi) :
    ∃ rep, findItem s.items (reportedId ps s) = some rep ∧ rep.hv ≤ bi.hv ∧
      (∀ r ri, ps.refined = some r → findItem s.items r = some ri → rep.hv ≤ ri.hv) ∧
      (rep = bi ∨ ∃ r, ps.refined = some r ∧ r ≠ s.best ∧ findItem s.items r = some rep) := by
  cases hr : ps.refined with
  | none =>
    refine ⟨bi, by rw [reportedId_of_none s hr]; exact hb, le_refl _, ?_, .inl rfl⟩
    intro r ri h; cases h
  | some r =>
    rw [reportedId_of_some s hr]
    cases hri : findItem s.items r with
    | none =>
      refine ⟨bi, by simpa using hb, le_refl _, ?_, .inl rfl⟩
      intro r' ri' h h'
      cases h
      rw [hri] at h'; cases h'
    | some ri =>
      rw [hb]
      simp only []
      by_cases hc : r ≠ s.best ∧ ri.hv < bi.hv
      · rw [if_pos hc]
        refine ⟨ri, hri, le_of_lt hc.2, ?_, .inr ⟨r, rfl, hc.1, hri⟩⟩
        intro r' ri' h h'
        cases h
        rw [hri] at h'; cases h'
        exact le_refl _
      · rw [if_neg hc]
        refine ⟨bi, hb, le_refl _, ?_, .inl rfl⟩
        intro r' ri' h h'
        cases h
        rw [hri] at h'; cases h'
        by_cases hrb : r = s.best
        · rw [hrb, hb] at hri; cases hri; exact le_refl _
        · exact not_lt.1 fun hlt => hc ⟨hrb, hlt⟩

/-- what the reported trial depends on -/
def rec4 (it : Item α) : Nat × Bool × α × α := (it.id, it.ev, it.z, it.hv)

structure HvOK (ps : PState α) (s : State α) : Prop where
  /-- refinements only lower a value holder -/
  le_z : ∀ it ∈ s.items, it.ev = true → it.hv ≤ it.z
  refined_ev : ∀ it ∈ s.items, ps.refined = some it.id → it.ev = true
  best_fresh : ps.refined ≠ some s.best → ∀ b, findItem s.items s.best = some b → b.hv = b.z
  rep_min : ∀ rep, findItem s.items (reportedId ps s) = some rep → ∀ a ∈ s.items, a.ev = true → rep.hv ≤ a.hv

theorem HvOK.step {ps ps' : PState α} {s s' : State α} {z : α} {b b' : Item α}
    (hR : ps'.refined = ps.refined)
    (hnd : (s.items.map (·.id)).Nodup) (hnd' : (s'.items.map (·.id)).Nodup)
    (hlt : ∀ it ∈ s.items, it.id < s.nextId)
    (hext : ∀ r, r ∈ s'.items.map rec4 ↔ r = (s.nextId, true, z, z) ∨ r ∈ s.items.map rec4)
    (hb : findItem s.items s.best = some b) (hbev : b.ev = true) (hb' : findItem s'.items s'.best = some b')
    (hbest : s'.best = if z < b.z then s.nextId else s.best)
    (h : HvOK ps s) : HvOK ps' s' := by
  -- `hext` by id: a trial of `s` is found in `s'` with its `ev`, `z` and value holder; a trial of `s'` is the new one or such a one
  have hold : ∀ {id a}, findItem s.items id = some a →
      ∃ a', findItem s'.items id = some a' ∧ a'.ev = a.ev ∧ a'.z = a.z ∧ a'.hv = a.hv := by
    intro id a ha
    obtain ⟨hmem, hid⟩ := findItem_some ha
    obtain ⟨a', ha', e⟩ := List.mem_map.1 ((hext (rec4 a)).2 (.inr (List.mem_map_of_mem hmem)))
    simp only [rec4, Prod.mk.injEq] at e
    exact ⟨a', (findItem_iff_mem hnd').2 ⟨ha', e.1.trans hid⟩, e.2⟩
  have hcase : ∀ {id a'}, findItem s'.items id = some a' → (id = s.nextId ∧ a'.ev = true ∧ a'.z = z ∧ a'.hv = z) ∨
      id ≠ s.nextId ∧ ∃ a, findItem s.items id = some a ∧ a.ev = a'.ev ∧ a.z = a'.z ∧ a.hv = a'.hv := by
    intro id a' ha'
    obtain ⟨hmem, hid⟩ := findItem_some ha'
    rcases (hext (rec4 a')).1 (List.mem_map_of_mem hmem) with h1 | h1
    · simp only [rec4, Prod.mk.injEq] at h1
      exact .inl ⟨hid.symm.trans h1.1, h1.2⟩
    · obtain ⟨a, ha, e⟩ := List.mem_map.1 h1
      simp only [rec4, Prod.mk.injEq] at e
      exact .inr ⟨by have := hlt a ha; omega, a, (findItem_iff_mem hnd).2 ⟨ha, e.1.trans hid⟩, e.2⟩
  have hnb : (z < b.z ∧ s'.best = s.nextId ∧ b'.z = z ∧ b'.hv = z) ∨
      (¬ z < b.z ∧ s'.best = s.best ∧ b'.z = b.z ∧ b'.hv = b.hv) := by
    by_cases hz : z < b.z
    · rw [if_pos hz] at hbest
      rw [hbest] at hb'
      rcases hcase hb' with ⟨-, -, e⟩ | ⟨hne, -⟩
      · exact .inl ⟨hz, hbest, e⟩
      · exact absurd rfl hne
    · rw [if_neg hz] at hbest
      obtain ⟨a', ha', -, e⟩ := hold hb
      rw [hbest, ha'] at hb'; cases hb'
      exact .inr ⟨hz, hbest, e⟩
  refine ⟨fun a' ha' hev => ?_, fun a' ha' hr => ?_, fun hne b'' hb'' => ?_, fun rep' hrep' a' ha' hev' => ?_⟩
  · rcases hcase (findItem_of_mem hnd' ha') with ⟨-, -, e3, e4⟩ | ⟨-, a, ha, e2, e3, e4⟩
    · rw [e3, e4]
    · rw [← e3, ← e4]; exact h.le_z a (findItem_some ha).1 (e2.trans hev)
  · rcases hcase (findItem_of_mem hnd' ha') with ⟨-, e2, -⟩ | ⟨-, a, ha, e2, -⟩
    · exact e2
    · rw [← e2]; exact h.refined_ev a (findItem_some ha).1 (by rw [(findItem_some ha).2, ← hR]; exact hr)
  · rw [hb'] at hb''; cases hb''
    rcases hnb with ⟨-, -, e3, e4⟩ | ⟨-, hbe, e3, e4⟩
    · rw [e3, e4]
    · rw [e3, e4]; exact h.best_fresh (by rw [← hR, ← hbe]; exact hne) b hb
  · obtain ⟨rep'', hrep'', hle1, hle2, -⟩ := reported_spec ps' s' hb'
    rw [hrep'] at hrep''; cases hrep''
    obtain ⟨rep, hrep, -, -, hwho⟩ := reported_spec ps s hb
    rcases hcase (findItem_of_mem hnd' ha') with ⟨-, -, -, e4⟩ | ⟨-, a, ha, e2, -, e4⟩
    · -- the new trial: it is the new best, or the old best stays because `z` does not undercut it
      rw [e4]
      refine le_trans hle1 ?_
      rcases hnb with ⟨-, -, -, e⟩ | ⟨hz, -, -, e⟩
      · rw [e]
      · rw [e]; exact le_trans (h.le_z b (findItem_some hb).1 hbev) (not_lt.1 hz)
    · -- an old trial: the reported value has not gone up. What was reported was the refined trial or the old best; if a new best took
      -- its place, the old one was refined last, or still holds its `z`, which the new value undercuts
      rw [← e4]
      refine le_trans ?_ (h.rep_min rep hrep a (findItem_some ha).1 (e2.trans hev'))
      rcases hwho with rfl | ⟨r, hr, -, hfr⟩
      · rcases hnb with ⟨hz, -, -, e⟩ | ⟨-, -, -, e⟩
        · by_cases hrb : ps.refined = some s.best
          · obtain ⟨b'', hfb'', -, -, e4⟩ := hold hb
            rw [← e4]; exact hle2 s.best b'' (hR.trans hrb) hfb''
          · rw [h.best_fresh hrb rep hb]; exact le_of_lt (lt_of_le_of_lt (by rw [← e]; exact hle1) hz)
        · rw [← e]; exact hle1
      · obtain ⟨ri', hfri', -, -, e4⟩ := hold hfr
        rw [← e4]; exact hle2 r ri' (hR.trans hr) hfri'

theorem HvOK.congr {ps ps' : PState α} {s : State α} (hR : ps'.refined = ps.refined) (h : HvOK ps s) : HvOK ps' s := by
  have hrep : reportedId ps' s = reportedId ps s := reportedId_congr hR rfl rfl
  exact ⟨h.le_z, fun it hit hr => h.refined_ev it hit (by rw [← hR]; exact hr),
    fun hne => h.best_fresh (by rw [← hR]; exact hne), fun rep hrep' => h.rep_min rep (by rw [← hrep]; exact hrep')⟩

theorem HvOK.first (p : Params α) (z : α) {ps : PState α} (hr : ps.refined = none) : HvOK ps (firstIteration p z) := by
  -- the only evaluated trial is the middle one, with id 2 and value holder `z`
  have hev : ∀ it ∈ (firstIteration p z).items, it.ev = true → it.hv = z ∧ it.z = z := by
    intro it hit hev
    simp only [firstIteration, List.mem_cons, List.not_mem_nil, or_false] at hit
    rcases hit with rfl | rfl | rfl
    · cases hev
    · exact ⟨rfl, rfl⟩
    · cases hev
  have h2 : ∀ b, findItem (firstIteration p z).items 2 = some b → b.hv = z ∧ b.z = z := by
    intro b hb
    simp only [firstIteration, findItem, List.find?] at hb
    simp at hb
    subst hb; exact ⟨rfl, rfl⟩
  have hrep : reportedId ps (firstIteration p z) = 2 := by rw [reportedId_of_none _ hr]; rfl
  refine ⟨fun it hit hev' => ?_, fun it _ h => (by rw [hr] at h; cases h), fun _ b hb => ?_,
    fun rep hrep' a ha hev' => ?_⟩
  · obtain ⟨e1, e2⟩ := hev it hit hev'; rw [e1, e2]
  · obtain ⟨e1, e2⟩ := h2 b hb; rw [e1, e2]
  · rw [hrep] at hrep'; rw [(h2 rep hrep').1, (hev a ha hev').1]

theorem HvOK.refine {ps : PState α} {s : State α} (lr : LocalResult α) (hm : ps.m = some s)
    (hnd : (s.items.map (·.id)).Nodup) {bi : Item α} (hbi : findItem s.items s.best = some bi) (hbev : bi.ev = true)
    {rep : Item α} (hrep : findItem s.items (reportedId ps s) = some rep) (hle : lr.fx ≤ rep.hv) (h : HvOK ps s) :
    HvOK (doLocalRefinement ps lr) { s with items := s.items.map (refineItem (reportedId ps s) lr) } := by
  obtain ⟨hrepmem, hrepid⟩ := findItem_some hrep
  have hrepev : rep.ev = true := by
    obtain ⟨rep'', hrep'', -, -, hwho⟩ := reported_spec ps s hbi
    rw [hrep] at hrep''; cases hrep''
    rcases hwho with rfl | ⟨r, hr, -, hfr⟩
    · exact hbev
    · exact h.refined_ev rep hrepmem (by rw [hr, findItem_id_eq hfr])
  have hcase : ∀ a' ∈ s.items.map (refineItem (reportedId ps s) lr),
      a' ∈ s.items ∧ a'.id ≠ reportedId ps s ∨ a' = { rep with point := lr.x, hv := lr.fx } := by
    intro a' ha'
    obtain ⟨a, ha, rfl⟩ := List.mem_map.1 ha'
    by_cases hid : a.id = reportedId ps s
    · have : rep = a := Option.some.inj (hrep.symm.trans ((findItem_iff_mem hnd).2 ⟨ha, hid⟩))
      rw [refineItem_of_eq lr hid, ← this]; exact .inr rfl
    · rw [refineItem_of_ne lr hid]; exact .inl ⟨ha, hid⟩
  refine ⟨fun a' ha' hev => ?_, fun a' ha' hr => ?_, fun hne b' hb' => ?_, fun rep' hrep' a' ha' hev => ?_⟩
  · rcases hcase a' ha' with ⟨ha, -⟩ | rfl
    · exact h.le_z a' ha hev
    · exact le_trans hle (h.le_z rep hrepmem hrepev)
  · rw [doLocalRefinement_refined lr hm] at hr
    rcases hcase a' ha' with ⟨-, hid⟩ | rfl
    · exact absurd (Option.some.inj hr).symm hid
    · exact hrepev
  · rw [doLocalRefinement_refined lr hm] at hne
    have hne' : reportedId ps s ≠ s.best := fun e => hne (by rw [e])
    obtain ⟨hmem, hid⟩ := findItem_some hb'
    rcases hcase b' hmem with ⟨hb, -⟩ | rfl
    · refine h.best_fresh ?_ b' ((findItem_iff_mem hnd).2 ⟨hb, hid⟩)
      rcases reportedId_cases ps s with e | ⟨_, _, e, -⟩
      · exact absurd e hne'
      · rw [e]; exact hne
    · exact absurd (hrepid.symm.trans hid) hne'
  · rw [reportedId_refine_of_le lr hm hrep hle] at hrep'
    obtain ⟨hmem, hid⟩ := findItem_some hrep'
    rcases hcase rep' hmem with ⟨-, hid'⟩ | rfl
    · exact absurd hid hid'
    · show lr.fx ≤ _
      rcases hcase a' ha' with ⟨ha, -⟩ | rfl
      · exact le_trans hle (h.rep_min rep hrep a' ha hev)
      · exact le_refl _

theorem commit_ext {p : Params α} {s : State α} {pr : Prep α} (hp : prepare p s = .ok pr) (z : α) :
    (∀ r, r ∈ (commit p pr z).items.map rec4 ↔ r = (s.nextId, true, z, z) ∨ r ∈ s.items.map rec4) ∧
    (∀ b, findItem s.items s.best = some b → (commit p pr z).best = if z < b.z then s.nextId else s.best) := by
  have hold := (Ctl.prepare_ok_refs hp).1
  have hnext : pr.s.nextId = s.nextId := (Ctl.prepare_ok_fields hp).nextId
  have hbest := Ctl.prepare_ok_best hp
  have hrec : pr.s.items.map rec4 = s.items.map rec4 := map_transfer rec4 (prepare_ok_items_erase hp) fun _ => rfl
  obtain ⟨as, bs, hdec, hitems⟩ := commit_items_split (p := p) hold z
  constructor
  · intro r
    rw [hitems, ← hrec, hdec]
    have h1 : rec4 (cNew2 p pr z) = (s.nextId, true, z, z) := by rw [← hnext]; rfl
    have h2 : rec4 (cOld2 p pr z) = rec4 pr.old := rfl
    simp only [List.map_append, List.map_cons, List.mem_append, List.mem_cons, h1, h2]
    exact or_left_comm
  · intro b hb
    have h2 := findItem_transfer (prepare_ok_items_erase hp) (fun _ => rfl) s.best
    rw [hb, ← hbest] at h2
    obtain ⟨b1, hb1, e⟩ := Option.map_eq_some_iff.1 h2
    have hz : b1.z = b.z := congrArg (·.z) e
    rw [commit_best]
    unfold cBest better
    rw [hb1]
    simp only [Option.map_some, decide_eq_true_eq, hz, hnext, hbest]

def RepOK (p : Params α) (ps : PState α) : Prop :=
  BaseOK p ps ∧ (ps.m = none → ps.refined = none) ∧ ∀ s, ps.m = some s → HvOK ps s

theorem repOK_fresh (p : Params α) : RepOK p ({} : PState α) :=
  ⟨baseOK_fresh p, fun _ => rfl, fun s hs => absurd hs (by simp)⟩

theorem repOK_sameMethod {p1 p2 : Params α} (h : SameMethod p1 p2) {ps : PState α} : RepOK p2 ps ↔ RepOK p1 ps := by
  unfold RepOK; rw [baseOK_sameMethod h]

theorem repOK_ok {p : Params α} {f : Nat → List α → Option α} (hL : FnsLaws α) (hr : 1 < p.r) (hn : 0 < p.n)
    {ps ps' : PState α} {id : Nat} (h : RepOK p ps) (hok : oneIteration p f ps = .ok (ps', id)) : RepOK p ps' := by
  obtain ⟨hB, hnone, hH⟩ := h
  have hB' := baseOK_ok hB hok
  have hR := oneIteration_ok_refined hok
  have hm' := (Passes.one hok).eff.m_ne_none (.inr Nat.one_pos)
  refine ⟨hB', fun h0 => absurd h0 hm', ?_⟩
  intro s' hs'
  obtain ⟨pt, z, P⟩ := oneIteration_ok hok
  rcases P.step with F | ⟨s, pr, N⟩
  · rw [F.m'] at hs'; cases hs'
    exact HvOK.first p z (by rw [hR]; exact hnone F.m)
  · rw [N.m'] at hs'; cases hs'
    have hF := hB.facts hL hr hn N.m
    have hF' := hB'.facts hL hr hn N.m'
    obtain ⟨b, hb, hbev⟩ := hF.best
    obtain ⟨b', hb', -⟩ := hF'.best
    obtain ⟨hext, hbest⟩ := commit_ext N.prep z
    exact HvOK.step hR hF.nodup hF'.nodup hF.ids_lt hext hb hbev hb' (hbest b hb) (hH s N.m)

theorem repOK_refine {p : Params α} (hL : FnsLaws α) (hr : 1 < p.r) (hn : 0 < p.n) {ps : PState α} (lr : LocalResult α)
    (hle : ∀ s b, ps.m = some s → findItem s.items (reportedId ps s) = some b → lr.fx ≤ b.hv)
    (h : RepOK p ps) : RepOK p (doLocalRefinement ps lr) := by
  obtain ⟨hB, hnone, hH⟩ := h
  cases hm : ps.m with
  | none => rw [doLocalRefinement_none lr hm]; exact ⟨hB, hnone, hH⟩
  | some s =>
    have hF := hB.facts hL hr hn hm
    obtain ⟨bi, hbi, hbev⟩ := hF.best
    obtain ⟨rep, hrep, -⟩ := reported_spec ps s hbi
    have hm' : (doLocalRefinement ps lr).m = some { s with items := s.items.map (refineItem (reportedId ps s) lr) } := by
      rw [doLocalRefinement_some lr hm]
    refine ⟨baseOK_refine lr hB, ⟨fun h0 => ?_, ?_⟩⟩
    · rw [hm'] at h0; cases h0
    intro s' hs'
    rw [hm'] at hs'; cases hs'
    exact HvOK.refine lr hm hF.nodup hbi hbev hrep (hle s rep hm hrep) (hH s hm)

/-- the contract of the local search that matters for the reported optimum: the value returned is not larger than the value
holder of the trial the refinement starts from (the reported trial) -/
def RefineLe (refine : PState α → Option (LocalResult α)) : Prop :=
  ∀ ps lr s b, refine ps = some lr → ps.m = some s → findItem s.items (reportedId ps s) = some b → lr.fx ≤ b.hv

theorem repOK_stepInv {p : Params α} {f : Nat → List α → Option α} (hL : FnsLaws α) (hr : 1 < p.r) (hn : 0 < p.n)
    (htot : ∀ i pt, f i pt ≠ none) : StepInv p f (RepOK p) where
  log := fun ps l h => ⟨baseOK_log l h.1, h.2.1, fun s hs => HvOK.congr (ps := ps) rfl (h.2.2 s hs)⟩
  ok := fun _ _ _ h hok => repOK_ok hL hr hn h hok
  err := fun _ _ _ h herr => (baseOK_no_error hL hr hn htot h.1 herr).elim

theorem repOK_refInv {p : Params α} (hL : FnsLaws α) (hr : 1 < p.r) (hn : 0 < p.n)
    {refine : PState α → Option (LocalResult α)} (href : RefineLe refine) : RefInv (RepOK p) refine :=
  fun ps lr hlr h => repOK_refine hL hr hn lr (fun s b hm hb => href ps lr s b hlr hm hb) h

theorem repOK_runOps {p : Params α} {f : Nat → List α → Option α} (hL : FnsLaws α) (hr : 1 < p.r) (hn : 0 < p.n)
    (htot : ∀ i pt, f i pt ≠ none) {refine : PState α → Option (LocalResult α)} (href : RefineLe refine)
    (ops : List Op) : RepOK p (runOps p f refine ops {}) :=
  (repOK_stepInv hL hr hn htot).runOps (repOK_refInv hL hr hn href) ops (repOK_fresh p)

theorem RepOK.reported {p : Params α} (hL : FnsLaws α) (hr : 1 < p.r) (hn : 0 < p.n) {ps : PState α} {s : State α}
    (h : RepOK p ps) (hm : ps.m = some s) :
    ∃ it, findItem s.items (reportedId ps s) = some it ∧ it ∈ s.items ∧ it.id = reportedId ps s ∧ it.ev = true ∧
      it.hv ≤ it.z ∧ (∀ a ∈ s.items, a.ev = true → it.hv ≤ a.hv) ∧ (∀ e ∈ ps.evals, it.hv ≤ e.2) ∧
      (∀ b, findItem s.items s.best = some b → it.hv ≤ b.hv) := by
  obtain ⟨hB, -, hH⟩ := h
  have hF := hB.facts hL hr hn hm
  have hv := hH s hm
  obtain ⟨bi, hbi, hbev⟩ := hF.best
  obtain ⟨rep, hrep, hle, -, hwho⟩ := reported_spec ps s hbi
  obtain ⟨hmem, hid⟩ := (findItem_iff_mem hF.nodup).1 hrep
  have hev : rep.ev = true := by
    rcases hwho with rfl | ⟨r, hr', -, hfr⟩
    · exact hbev
    · exact hv.refined_ev rep hmem (by rw [hr', findItem_id_eq hfr])
  refine ⟨rep, hrep, hmem, hid, hev, hv.le_z rep hmem hev, hv.rep_min rep hrep, ?_, ?_⟩
  · intro e he
    obtain ⟨a, ha, haev, haz⟩ := hF.evals e he
    rw [← haz]
    exact le_trans (hv.rep_min rep hrep a ha haev) (hv.le_z a ha haev)
  · intro b hb
    rw [hbi] at hb; cases hb
    exact hle

/-- `RepOK` and: the trial refined last is stored -/
def ResOK (p : Params α) (ps : PState α) : Prop :=
  RepOK p ps ∧ ∀ s, ps.m = some s → ∀ r, ps.refined = some r → (findItem s.items r).isSome

theorem resOK_fresh (p : Params α) : ResOK p ({} : PState α) := ⟨repOK_fresh p, fun s hs => absurd hs (by simp)⟩

theorem resOK_stepInv {p : Params α} {f : Nat → List α → Option α} (hL : FnsLaws α) (hr : 1 < p.r) (hn : 0 < p.n)
    (htot : ∀ i pt, f i pt ≠ none) : StepInv p f (ResOK p) where
  log := fun ps l h => ⟨(repOK_stepInv hL hr hn htot).log ps l h.1, h.2⟩
  ok := by
    rintro ps ps' id ⟨hOK, hres⟩ hok
    refine ⟨repOK_ok hL hr hn hOK hok, ?_⟩
    intro s' hs' r hr'
    rw [oneIteration_ok_refined hok] at hr'
    obtain ⟨pt, z, P⟩ := oneIteration_ok hok
    rcases P.step with F | ⟨s, pr, N⟩
    · rw [hOK.2.1 F.m] at hr'; cases hr'
    · rw [N.m'] at hs'; cases hs'
      obtain ⟨a, ha, hid⟩ := (findItem_isSome_iff _ _).1 (hres s N.m r hr')
      obtain ⟨a', ha', e⟩ := List.mem_map.1 (((commit_ext N.prep z).1 (rec4 a)).2 (.inr (List.mem_map_of_mem ha)))
      simp only [rec4, Prod.mk.injEq] at e
      exact (findItem_isSome_iff _ _).2 ⟨a', ha', by rw [e.1]; exact hid⟩
  err := fun _ _ _ h herr => (baseOK_no_error hL hr hn htot h.1.1 herr).elim

theorem resOK_refInv {p : Params α} (hL : FnsLaws α) (hr : 1 < p.r) (hn : 0 < p.n)
    {refine : PState α → Option (LocalResult α)} (href : RefineLe refine) : RefInv (ResOK p) refine := by
  rintro ps lr hlr ⟨hOK, hres⟩
  refine ⟨repOK_refInv hL hr hn href ps lr hlr hOK, ?_⟩
  intro s' hs' r hr'
  cases hm : ps.m with
  | none =>
    rw [doLocalRefinement_none lr hm] at hs'
    rw [hm] at hs'; cases hs'
  | some s =>
    rw [doLocalRefinement_some lr hm] at hs' hr'
    simp only [Option.some.injEq] at hs' hr'
    subst hs' hr'
    obtain ⟨it, hit, -⟩ := hOK.reported hL hr hn hm
    show (findItem (s.items.map (refineItem (reportedId ps s) lr)) (reportedId ps s)).isSome
    rw [findItem_map_refineItem, hit]; rfl

def RepLe (p : Params α) (v : α) (ps : PState α) : Prop :=
  RepOK p ps ∧ ∃ s it, ps.m = some s ∧ findItem s.items (reportedId ps s) = some it ∧ it.hv ≤ v

theorem repLe_sameMethod {p1 p2 : Params α} (h : SameMethod p1 p2) {v : α} {ps : PState α} :
    RepLe p2 v ps ↔ RepLe p1 v ps := by
  unfold RepLe; rw [repOK_sameMethod h]

/-- **the reported value never increases along the global search** -/
theorem repLe_stepInv {p : Params α} {f : Nat → List α → Option α} (hL : FnsLaws α) (hr : 1 < p.r) (hn : 0 < p.n)
    (htot : ∀ i pt, f i pt ≠ none) (v : α) : StepInv p f (RepLe p v) where
  log := by
    rintro ps l ⟨hOK, s, it, hm, hit, hv⟩
    refine ⟨(repOK_stepInv hL hr hn htot).log ps l hOK, s, it, hm, ?_, hv⟩
    rw [← hit]; exact congrArg (findItem s.items) (reportedId_congr rfl rfl rfl)
  ok := by
    rintro ps ps' id ⟨hOK, s, it, hm, hit, hv⟩ hok
    have hOK' := repOK_ok hL hr hn hOK hok
    obtain ⟨pt, z, P⟩ := oneIteration_ok hok
    rcases P.step with F | ⟨s0, pr, N⟩
    · have hm0 := F.m
      rw [hm] at hm0; cases hm0
    · have hm0 := N.m
      have hms' := N.m'
      rw [hm] at hm0; cases hm0
      obtain ⟨it0, hit0, hmem, -, hev, -⟩ := hOK.reported hL hr hn hm
      rw [hit] at hit0; cases hit0
      obtain ⟨a', ha', e⟩ := List.mem_map.1 (((commit_ext N.prep z).1 (rec4 it)).2 (.inr (List.mem_map_of_mem hmem)))
      simp only [rec4, Prod.mk.injEq] at e
      obtain ⟨it', hit', -, -, -, -, hmin, -⟩ := hOK'.reported hL hr hn hms'
      refine ⟨hOK', _, it', hms', hit', le_trans (hmin a' ha' (by rw [e.2.1]; exact hev)) ?_⟩
      rw [e.2.2.2]; exact hv
  err := fun _ _ _ h herr => (baseOK_no_error hL hr hn htot h.1.1 herr).elim

theorem RepLe.mono {p : Params α} {v w : α} {ps : PState α} (hvw : v ≤ w) (h : RepLe p v ps) : RepLe p w ps := by
  obtain ⟨hOK, s, it, hm, hit, hv⟩ := h
  exact ⟨hOK, s, it, hm, hit, le_trans hv hvw⟩

theorem repLe_after_refine {p : Params α} (hL : FnsLaws α) (hr : 1 < p.r) (hn : 0 < p.n) {ps : PState α} {s : State α}
    (lr : LocalResult α) (hm : ps.m = some s)
    (hle : ∀ s b, ps.m = some s → findItem s.items (reportedId ps s) = some b → lr.fx ≤ b.hv)
    (hOK : RepOK p ps) : RepLe p lr.fx (doLocalRefinement ps lr) := by
  have hOK' := repOK_refine hL hr hn lr hle hOK
  have hm' : (doLocalRefinement ps lr).m = some { s with items := s.items.map (refineItem (reportedId ps s) lr) } := by
    rw [doLocalRefinement_some lr hm]
  obtain ⟨it, hit, hmem, hid, hev, -⟩ := hOK.reported hL hr hn hm
  obtain ⟨it', hit', -, -, -, -, hmin, -⟩ := hOK'.reported hL hr hn hm'
  refine ⟨hOK', _, it', hm', hit', ?_⟩
  have ha' : refineItem (reportedId ps s) lr it ∈ s.items.map (refineItem (reportedId ps s) lr) := List.mem_map_of_mem hmem
  have h1 := hmin _ ha' (by rw [(refineItem_fields (reportedId ps s) lr it).ev]; exact hev)
  rw [refineItem_of_eq lr hid] at h1
  exact h1

/-- **nor along a refinement that obeys the contract**: the value returned is at most the value reported before -/
theorem repLe_refInv {p : Params α} (hL : FnsLaws α) (hr : 1 < p.r) (hn : 0 < p.n)
    {refine : PState α → Option (LocalResult α)} (href : RefineLe refine) (v : α) : RefInv (RepLe p v) refine := by
  rintro ps lr hlr ⟨hOK, s, it, hm, hit, hv⟩
  exact (repLe_after_refine hL hr hn lr hm (fun s b hs hb => href ps lr s b hlr hs hb) hOK).mono
    (le_trans (href ps lr s it hlr hm hit) hv)

theorem reported_after_refine {p : Params α} (hL : FnsLaws α) (hr : 1 < p.r) (hn : 0 < p.n) {ps : PState α} {s : State α}
    (lr : LocalResult α) (hm : ps.m = some s)
    (hle : ∀ s b, ps.m = some s → findItem s.items (reportedId ps s) = some b → lr.fx ≤ b.hv)
    (hOK : RepOK p ps) :
    ∃ rep, reported ps = some rep ∧ reported (doLocalRefinement ps lr) = some { rep with point := lr.x, hv := lr.fx } := by
  obtain ⟨it, hit, -, hid, -⟩ := hOK.reported hL hr hn hm
  have hm' : (doLocalRefinement ps lr).m = some { s with items := s.items.map (refineItem (reportedId ps s) lr) } := by
    rw [doLocalRefinement_some lr hm]
  refine ⟨it, by rw [reported_of_some hm]; exact hit, ?_⟩
  rw [reported_of_some hm', reportedId_refine_of_le lr hm hit (hle s it hm hit)]
  show findItem (s.items.map (refineItem (reportedId ps s) lr)) (reportedId ps s) = _
  rw [findItem_map_refineItem, hit]
  simp only [Option.map_some, refineItem_of_eq lr hid]

/-- Only `DoLocalRefinement` sets `__refinedTrial`.  (`C04.C04_reported_eq_best_without_refinement` is stated for any numeric type and
`StepInv` over an ordered field, so it cannot go through this and has its own induction over the operations.) -/
theorem refined_none_stepInv (p : Params α) (f : Nat → List α → Option α) :
    StepInv p f (fun ps => ps.refined = none) where
  log := fun _ _ h => h
  ok := fun _ _ _ h hok => by rw [oneIteration_ok_refined hok]; exact h
  err := fun _ _ _ h herr => by rw [oneIteration_error_refined herr]; exact h

end Proc

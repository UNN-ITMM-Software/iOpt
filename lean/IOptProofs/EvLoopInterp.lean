import IOptProofs.EvLoopInterpDefs
import IOptProofs.InterpAttr
import IOptProofs.EvShape
import IOptProofs.Frontier
import IOptProofs.KernelRfl
import Mathlib.Algebra.Order.Field.Basic
import Mathlib.Algebra.Order.Field.Rat
import Mathlib.Tactic.Ring
/-!
# The level loops of `Evolvent.__GetYonX` / `__GetXonY`, taken from the SOURCE TEXT, are the model's `imageCube` / `inverseCube`

`IOptGen/EvolventLoopsSrc.lean` (regenerated from `iOpt/evolvent/evolvent.py` on every run) holds the bodies of `Evolvent.__GetYonX` and
`Evolvent.__GetXonY` as statement trees.  `IOptProofs/EvLoopInterpDefs.lean` interprets such trees generically (tables of opaque source
strings → typed statements → execution on attributes + locals + integer arrays + the scratch array).  In `IOptProofs/EvInterp.lean` the two
methods are primitives interpreted by `Ev.imageCube` / `Ev.inverseCube`; here that interpretation is PROVED from the statement trees:

* `resolve_getYonX`, `resolve_getXonY` (checked by the kernel): every string of the two generated trees is in the table its position asks for; the
  resolved trees are `getYonXR`, `getXonYR`;
* `getYonX_src`: for every carrier with the operator classes of the model (hence also `Float`) in which multiplying by `±1` is exact
  (`SignMul`: `y + r * 1 = y + r`, `y + r * (-1) = y - r`, `y - r * 1 = y - r`, `y - r * (-1) = y + r`), every `N ≥ 1`, `m`, `x`: running
  the generated tree of `__GetYonX` leaves `Ev.imageCube N m x` in `self.yValues` and returns a copy of it (`N ≥ 2`) resp. the scratch
  array itself (`N = 1`; it must have one entry);
* `getXonY_src`: likewise, on a scratch array `y` with `N` entries the generated tree of `__GetXonY` returns `Ev.inverseCube N m y`;
* `signMul_field`, `getYonX_src_field`, `getXonY_src_field`: `SignMul` holds in every field, hence the two ties over every linearly
  ordered field, for an ARBITRARY `int(·)` (`TruncNat α` abstract);
* the source computes `y[i] += r * iu[i]`, the model `Ev.addSigned` (a sign test): they agree because every entry of `iu` is `±1`, for
  EVERY digit handed to `__CalculateNode` (`Ev.node_shape`, `Ev.step_shape`, `Ev.numbr_shape`, `Ev.invStep_shape` of
  `IOptProofs/EvShape.lean`: `l < N`, `N` entries, all `±1`, no range hypothesis on the digit); `__CalculateNode` / `__CalculateNumbr` themselves stay
  primitives (`Ev.node` / `Ev.numbr`), tied to the source by the complete regenerated tables for `2 ≤ N ≤ 7` (`IOptProofs/EvNodeTable.lean`) and,
  for every `N ≥ 2`, mutually inverse (`Ev.Inv.nodeOK_all`, `Ev.Inv.numbrOK_all`);
* well-formedness along the loops (`YInv`, `XInv`): the level state is `Ev.validState` (`it < N`, `iw` has `N` entries `±1`) and the other
  integer arrays have `N` entries; they hold at the loop head and are preserved by every level (`yBody_step`, `xBody_step`), so no index is ever out of range.

The proofs follow the nesting of the resolved trees.  The `set…_…` equations (each `rfl`; the simp set `evframe` of `frame_simp`) say what
every state update does to every field.  On them rest one rule per expression and statement form (`evalI_*`, `evalN_*`, `execS_*`).  Every
block of a level body is then an EQUATION `exec block st = .normal (st with its updates written out)`: `exec_swap`, `exec_relabel`,
`exec_digit`, `exec_node`, `exec_numbr`, and the three element-wise loops (`exec_yInner`, `exec_xInner1`, `exec_xInner2`) by the loop rule
`forLoop_eq`, which asks for the state before round `k` up to the value of the loop variable (the arrays at the frontier `mixed k new old`);
that two nests of updates are the same state is `LState.ext` and the field equations.  One level (`yBody_step`, `xBody_step`) is the chain
of these equations, and the invariant of the next level is read off the written-out state by `frame_simp`: nothing is said anywhere about
what a block leaves alone.  The level loops go by induction along `Ev.yLoop` / `Ev.xLoop`.
-/

set_option linter.unusedSectionVars false
set_option linter.constructorNameAsVariable false
open Gen.EvolventLoops

section
variable {α : Type} [Add α] [Sub α] [Mul α] [Div α] [Neg α] [LT α] [LE α]
  [DecidableLT α] [DecidableLE α] [OfNat α 0] [OfNat α 1] [OfNat α 2] [NatCast α] [TruncNat α]
namespace EvLoop

@[simp] theorem setNum_num (st : LState α) (v w : NumVar) (a : α) :
    (st.setNum v a).num w = if w = v then some a else st.num w := rfl
@[simp] theorem setNum_int (st : LState α) (v : NumVar) (a : α) : (st.setNum v a).int = st.int := rfl
@[simp] theorem setNum_arr (st : LState α) (v : NumVar) (a : α) : (st.setNum v a).arr = st.arr := rfl
@[simp] theorem setNum_iis (st : LState α) (v : NumVar) (a : α) : (st.setNum v a).iis = st.iis := rfl
@[simp] theorem setNum_y (st : LState α) (v : NumVar) (a : α) : (st.setNum v a).y = st.y := rfl
@[simp] theorem setNum_n (st : LState α) (v : NumVar) (a : α) : (st.setNum v a).n = st.n := rfl
@[simp] theorem setNum_m (st : LState α) (v : NumVar) (a : α) : (st.setNum v a).m = st.m := rfl
@[simp] theorem setNum_nexp (st : LState α) (v : NumVar) (a : α) : (st.setNum v a).nexp = st.nexp := rfl

@[simp] theorem setInt_int (st : LState α) (v w : IntVar) (k : Int) :
    (st.setInt v k).int w = if w = v then some k else st.int w := rfl
@[simp] theorem setInt_num (st : LState α) (v : IntVar) (k : Int) : (st.setInt v k).num = st.num := rfl
@[simp] theorem setInt_arr (st : LState α) (v : IntVar) (k : Int) : (st.setInt v k).arr = st.arr := rfl
@[simp] theorem setInt_iis (st : LState α) (v : IntVar) (k : Int) : (st.setInt v k).iis = st.iis := rfl
@[simp] theorem setInt_y (st : LState α) (v : IntVar) (k : Int) : (st.setInt v k).y = st.y := rfl
@[simp] theorem setInt_n (st : LState α) (v : IntVar) (k : Int) : (st.setInt v k).n = st.n := rfl
@[simp] theorem setInt_m (st : LState α) (v : IntVar) (k : Int) : (st.setInt v k).m = st.m := rfl
@[simp] theorem setInt_nexp (st : LState α) (v : IntVar) (k : Int) : (st.setInt v k).nexp = st.nexp := rfl

@[simp] theorem setArr_arr (st : LState α) (a b : ArrVar) (l : List Int) :
    (st.setArr a l).arr b = if b = a then some l else st.arr b := rfl
@[simp] theorem setArr_num (st : LState α) (a : ArrVar) (l : List Int) : (st.setArr a l).num = st.num := rfl
@[simp] theorem setArr_int (st : LState α) (a : ArrVar) (l : List Int) : (st.setArr a l).int = st.int := rfl
@[simp] theorem setArr_iis (st : LState α) (a : ArrVar) (l : List Int) : (st.setArr a l).iis = st.iis := rfl
@[simp] theorem setArr_y (st : LState α) (a : ArrVar) (l : List Int) : (st.setArr a l).y = st.y := rfl
@[simp] theorem setArr_n (st : LState α) (a : ArrVar) (l : List Int) : (st.setArr a l).n = st.n := rfl
@[simp] theorem setArr_m (st : LState α) (a : ArrVar) (l : List Int) : (st.setArr a l).m = st.m := rfl
@[simp] theorem setArr_nexp (st : LState α) (a : ArrVar) (l : List Int) : (st.setArr a l).nexp = st.nexp := rfl

@[simp] theorem setDig_iis (st : LState α) (k : Nat) : (st.setDig k).iis = some k := rfl
@[simp] theorem setDig_num (st : LState α) (k : Nat) : (st.setDig k).num = st.num := rfl
@[simp] theorem setDig_int (st : LState α) (k : Nat) : (st.setDig k).int = st.int := rfl
@[simp] theorem setDig_arr (st : LState α) (k : Nat) : (st.setDig k).arr = st.arr := rfl
@[simp] theorem setDig_y (st : LState α) (k : Nat) : (st.setDig k).y = st.y := rfl
@[simp] theorem setDig_n (st : LState α) (k : Nat) : (st.setDig k).n = st.n := rfl
@[simp] theorem setDig_m (st : LState α) (k : Nat) : (st.setDig k).m = st.m := rfl
@[simp] theorem setDig_nexp (st : LState α) (k : Nat) : (st.setDig k).nexp = st.nexp := rfl

@[simp] theorem setY_y (st : LState α) (y : List α) : (st.setY y).y = y := rfl
@[simp] theorem setY_num (st : LState α) (y : List α) : (st.setY y).num = st.num := rfl
@[simp] theorem setY_int (st : LState α) (y : List α) : (st.setY y).int = st.int := rfl
@[simp] theorem setY_arr (st : LState α) (y : List α) : (st.setY y).arr = st.arr := rfl
@[simp] theorem setY_iis (st : LState α) (y : List α) : (st.setY y).iis = st.iis := rfl
@[simp] theorem setY_n (st : LState α) (y : List α) : (st.setY y).n = st.n := rfl
@[simp] theorem setY_m (st : LState α) (y : List α) : (st.setY y).m = st.m := rfl
@[simp] theorem setY_nexp (st : LState α) (y : List α) : (st.setY y).nexp = st.nexp := rfl

-- `↓`: a field of an update is rewritten before `simp` looks into the update's arguments, so reading a field off a nest of updates
-- costs its depth and not its size
attribute [evframe ↓] setNum_num setNum_int setNum_arr setNum_iis setNum_y setNum_n setNum_m setNum_nexp setInt_int setInt_num
  setInt_arr setInt_iis setInt_y setInt_n setInt_m setInt_nexp setArr_arr setArr_num setArr_int setArr_iis setArr_y setArr_n setArr_m
  setArr_nexp setDig_iis setDig_num setDig_int setDig_arr setDig_y setDig_n setDig_m setDig_nexp setY_y setY_num setY_int setY_arr
  setY_iis setY_n setY_m setY_nexp

macro "frame_simp" : tactic => `(tactic| simp only [evframe, reduceCtorEq, ↓reduceIte])

theorem LState.ext {s t : LState α} (harr : ∀ a, s.arr a = t.arr a) (hnum : ∀ v, s.num v = t.num v)
    (hint : ∀ v, s.int v = t.int v) (hn : s.n = t.n) (hm : s.m = t.m) (hx : s.nexp = t.nexp) (hy : s.y = t.y)
    (his : s.iis = t.iis) : s = t := by
  cases s; cases t
  simp only at hn hm hx hy his
  obtain rfl := funext hnum
  obtain rfl := funext hint
  obtain rfl := funext harr
  subst hn hm hx hy his
  rfl

theorem setInt_setInt (st : LState α) (v : IntVar) (x y : Int) : (st.setInt v x).setInt v y = st.setInt v y :=
  LState.ext (fun _ => rfl) (fun _ => rfl) (fun w => by frame_simp; split <;> rfl) rfl rfl rfl rfl rfl

theorem setNum_setNum (st : LState α) (v : NumVar) (x y : α) : (st.setNum v x).setNum v y = st.setNum v y :=
  LState.ext (fun _ => rfl) (fun w => by frame_simp; split <;> rfl) (fun _ => rfl) rfl rfl rfl rfl rfl

theorem setArr_setArr (st : LState α) (a : ArrVar) (x y : List Int) : (st.setArr a x).setArr a y = st.setArr a y :=
  LState.ext (fun w => by frame_simp; split <;> rfl) (fun _ => rfl) (fun _ => rfl) rfl rfl rfl rfl rfl

theorem setInt_self {st : LState α} {v : IntVar} {k : Int} (h : st.int v = some k) : st.setInt v k = st :=
  LState.ext (fun _ => rfl) (fun _ => rfl) (fun w => by frame_simp; split <;> simp [*]) rfl rfl rfl rfl rfl

theorem setArr_self {st : LState α} {a : ArrVar} {l : List Int} (h : st.arr a = some l) : st.setArr a l = st :=
  LState.ext (fun w => by frame_simp; split <;> simp [*]) (fun _ => rfl) (fun _ => rfl) rfl rfl rfl rfl rfl

theorem execL_append (a b : List RStmt) (st : LState α) :
    execL (a ++ b) st = match execL a st with
      | .normal st' => execL b st'
      | o => o := by
  induction a generalizing st with
  | nil => simp only [List.nil_append, execL]
  | cons s a ih =>
    simp only [List.cons_append, execL]
    cases execS s st with
    | normal st' => exact ih st'
    | returned st' out => rfl
    | stuck => rfl

theorem execL_append_normal {a b : List RStmt} {st st' : LState α} (h : execL a st = .normal st') :
    execL (a ++ b) st = execL b st' := by
  rw [execL_append, h]

theorem run_eq {params : List String} {body : List Gen.ProcSrc.Stmt} {n m : Nat} {nexp : α} {y args : List α} {st : LState α}
    {b : List RStmt} (hb : bindParams params args { n := n, m := m, nexp := nexp, y := y } = some st)
    (hr : resolveL body = some b) :
    run params body n m nexp y args =
      match execL b st with
      | .normal st' => some (st'.y, .unit)
      | .returned st' out => some (st'.y, out)
      | .stuck => none := by
  simp only [run, hb, hr]
  rfl

/-- The rule for a `for` loop that is entered.  `f i` has to be the state before round `i` only up to the value of the loop variable,
which the round assigns first: so `f` need not know what the variable held before the loop, and `f k` can be the start state. -/
theorem forLoop_eq (v : IntVar) (body : List RStmt) (f : Nat → LState α) :
    ∀ (cnt k : Nat) (st : LState α), 0 < cnt → st.setInt v k = (f k).setInt v k →
      (∀ i, k ≤ i → i < k + cnt → execL body ((f i).setInt v i) = .normal ((f (i + 1)).setInt v i)) →
      forLoop (List.range' k cnt) (fun i s => execL body (s.setInt v i)) st =
        .normal ((f (k + cnt)).setInt v ((k + cnt - 1 : Nat) : Int))
  | 0, _, _, h, _, _ => absurd h (Nat.lt_irrefl 0)
  | 1, k, st, _, h0, hb => by
    simp only [List.range'_succ, List.range'_zero, forLoop, h0, hb k (Nat.le_refl _) (by omega), Nat.add_sub_cancel]
  | cnt + 2, k, st, _, h0, hb => by
    rw [List.range'_succ, forLoop, h0, hb k (Nat.le_refl _) (by omega)]
    exact (forLoop_eq v body f (cnt + 1) (k + 1) _ (Nat.succ_pos _) (setInt_setInt _ _ _ _)
      (fun i h1 h2 => hb i (by omega) (by omega))).trans (by rw [show k + 1 + (cnt + 1) = k + (cnt + 2) by omega])

theorem evalIdx_var {st : LState α} {v : IntVar} {k : Nat} (h : st.int v = some (k : Int)) :
    evalIdx st (.var v) = some k := by
  simp only [evalIdx, h, Int.natCast_nonneg, ↓reduceIte, Int.toNat_natCast]

@[simp] theorem evalIdx_zero (st : LState α) : evalIdx st .zero = some 0 := rfl

/-! ### the element swap `i = a[0]; a[0] = a[it]; a[it] = i` -/

def swapR (a : ArrVar) : List RStmt :=
  [.setInt .i (.elem a .zero), .setElem a .zero (.elem a (.var .it)), .setElem a (.var .it) (.var .i)]

theorem exec_swap (a : ArrVar) (st : LState α) (l : List Int) (it : Nat) (ha : st.arr a = some l)
    (hit : st.int .it = some (it : Int)) (hlt : it < l.length) :
    execL (swapR a) st = .normal ((st.setInt .i (Ev.getI l 0)).setArr a (Ev.swap0 l it)) := by
  have h0 : 0 < l.length := by omega
  have e0 : l[0]? = some (Ev.getI l 0) := by rw [Ev.getI_eq_getElem h0]; exact List.getElem?_eq_getElem h0
  have e1 : l[it]? = some (Ev.getI l it) := by rw [Ev.getI_eq_getElem hlt]; exact List.getElem?_eq_getElem hlt
  have hit1 : (st.setInt .i (Ev.getI l 0)).int .it = some (it : Int) := by simp [hit]
  have hit2 : ((st.setInt .i (Ev.getI l 0)).setArr a (l.set 0 (Ev.getI l it))).int .it = some (it : Int) := by simp [hit]
  simp only [swapR, execL, execS, execSimple, evalI, evalIdx_zero, ha, e0, e1, evalIdx_var hit1, evalIdx_var hit2, setInt_arr,
    setArr_arr, ↓reduceIte, h0, List.length_set, hlt, setArr_int, setInt_int, setArr_setArr, Ev.swap0]

theorem execL_cons_normal {s : RStmt} {rest : List RStmt} {st st' : LState α} (h : execS s st = .normal st') :
    execL (s :: rest) st = execL rest st' := by
  simp only [execL, h]

theorem execL_nil (st : LState α) : execL [] st = .normal st := by simp only [execL]

theorem evalI_elem {st : LState α} {a : ArrVar} {i : Idx} {l : List Int} {k : Nat} {x : Int}
    (ha : st.arr a = some l) (hi : evalIdx st i = some k) (hx : l[k]? = some x) : evalI st (.elem a i) = some x := by
  simp only [evalI, ha, hi, hx]

theorem evalI_mul {st : LState α} {a b : IExpr} {x y : Int} (ha : evalI st a = some x) (hb : evalI st b = some y) :
    evalI st (.mul a b) = some (x * y) := by
  simp only [evalI, ha, hb]

theorem evalI_neg {st : LState α} {a : IExpr} {x : Int} (ha : evalI st a = some x) : evalI st (.neg a) = some (-x) := by
  simp only [evalI, ha]

theorem evalN_var {st : LState α} {v : NumVar} {x : α} (h : st.num v = some x) : evalN st (.var v) = some x := by
  simp only [evalN, h]

theorem evalN_ofInt {st : LState α} {e : IExpr} {k : Int} (h : evalI st e = some k) : evalN st (.ofInt e) = some (ofInt k) := by
  simp only [evalN, h]

theorem evalN_add {st : LState α} {a b : NExpr} {x y : α} (ha : evalN st a = some x) (hb : evalN st b = some y) :
    evalN st (.add a b) = some (x + y) := by
  simp only [evalN, ha, hb]

theorem evalN_sub {st : LState α} {a b : NExpr} {x y : α} (ha : evalN st a = some x) (hb : evalN st b = some y) :
    evalN st (.sub a b) = some (x - y) := by
  simp only [evalN, ha, hb]

theorem evalN_mul {st : LState α} {a b : NExpr} {x y : α} (ha : evalN st a = some x) (hb : evalN st b = some y) :
    evalN st (.mul a b) = some (x * y) := by
  simp only [evalN, ha, hb]

theorem execS_setNum {st : LState α} {v : NumVar} {e : NExpr} {a : α} (h : evalN st e = some a) :
    execS (.setNum v e) st = .normal (st.setNum v a) := by
  simp only [execS, execSimple, h]

theorem execS_setInt {st : LState α} {v : IntVar} {e : IExpr} {k : Int} (h : evalI st e = some k) :
    execS (.setInt v e) st = .normal (st.setInt v k) := by
  simp only [execS, execSimple, h]

theorem execS_setElem {st : LState α} {a : ArrVar} {i : Idx} {e : IExpr} {x : Int} {l : List Int} {k : Nat}
    (he : evalI st e = some x) (ha : st.arr a = some l) (hi : evalIdx st i = some k) (hk : k < l.length) :
    execS (.setElem a i e) st = .normal (st.setArr a (l.set k x)) := by
  simp only [execS, execSimple, he, ha, hi, hk, ↓reduceIte]

theorem execS_setY {st : LState α} {i : Idx} {e : NExpr} {x : α} {k : Nat}
    (he : evalN st e = some x) (hi : evalIdx st i = some k) (hk : k < st.y.length) :
    execS (.setY i e) st = .normal (st.setY (st.y.set k x)) := by
  simp only [execS, execSimple, he, hi, hk, ↓reduceIte]

/-! ### element statements on an array that the loop over `i` updates from the left (`mixed i a' a0`) -/

theorem evalI_elem_mixed {st : LState α} {a : ArrVar} {a' a0 : List Int} {i : Nat} (hlen : a'.length = a0.length)
    (hi : i < a0.length) (ha : st.arr a = some (mixed i a' a0)) (hidx : evalIdx st (.var .i) = some i) :
    evalI st (.elem a (.var .i)) = some a0[i] :=
  evalI_elem ha hidx (by rw [getElem?_mixed hlen hi]; exact List.getElem?_eq_getElem hi)

theorem execS_setElem_mixed {st : LState α} {a : ArrVar} {e : IExpr} {a' a0 : List Int} {i : Nat} (hlen : a'.length = a0.length)
    (hi : i < a0.length) (ha : st.arr a = some (mixed i a' a0)) (hidx : evalIdx st (.var .i) = some i)
    (he : evalI st e = some (a'[i]'(by omega))) :
    execS (.setElem a (.var .i) e) st = .normal (st.setArr a (mixed (i+1) a' a0)) := by
  rw [execS_setElem he ha hidx (by rw [length_mixed hlen (by omega)]; exact hi), set_mixed hlen hi]

theorem execS_setY_mixed {st : LState α} {e : NExpr} {y' y0 : List α} {i : Nat} (hlen : y'.length = y0.length)
    (hi : i < y0.length) (hy : st.y = mixed i y' y0) (hidx : evalIdx st (.var .i) = some i)
    (he : evalN st e = some (y'[i]'(by omega))) :
    execS (.setY (.var .i) e) st = .normal (st.setY (mixed (i+1) y' y0)) := by
  rw [execS_setY he hidx (by rw [hy, length_mixed hlen (by omega)]; exact hi), hy, set_mixed hlen hi]

theorem evalN_yElem_mixed {st : LState α} {y' y0 : List α} {i : Nat} (hlen : y'.length = y0.length) (hi : i < y0.length)
    (hy : st.y = mixed i y' y0) (hidx : evalIdx st (.var .i) = some i) : evalN st (.yElem (.var .i)) = some y0[i] := by
  simp only [evalN, hidx, hy, getElem?_mixed hlen hi, List.getElem?_eq_getElem hi]

/-! ### `if l == 0: l = it elif l == it: l = 0` -/

def relabelR : RStmt :=
  .ite (.ieq (.var .l) (.lit 0)) [.setInt .l (.var .it)] [.ite (.ieq (.var .l) (.var .it)) [.setInt .l (.lit 0)] []]

theorem exec_relabel (st : LState α) (l it : Nat) (hl : st.int .l = some (l : Int)) (hit : st.int .it = some (it : Int)) :
    execS relabelR st = .normal (st.setInt .l ((Ev.relabel l it : Nat) : Int)) := by
  by_cases h0 : l = 0
  · subst h0
    simp [relabelR, execS, execL, execSimple, evalC, evalI, hl, hit, Ev.relabel]
  · by_cases h1 : l = it
    · subst h1
      have h0' : ((l : Int) == 0) = false := by simpa using h0
      simp [relabelR, execS, execL, execSimple, evalC, evalI, hl, hit, Ev.relabel, h0, h0']
    · have h0' : ((l : Int) == 0) = false := by simpa using h0
      have h1' : ((l : Int) == (it : Int)) = false := by simpa using h1
      simp [relabelR, execS, execL, evalC, evalI, hl, hit, Ev.relabel, h0, h1, h0', h1', setInt_self hl]

def digitR : RStmt :=
  .ite (.ge (.var .xArg) .one) [.setDig .last, .setNum .d .zero]
    [.setNum .d (.mul (.var .d) .nexp), .trunc (.var .d), .setNum .d (.sub (.var .d) .dig)]

/-- the digit and the remainder, as in `Ev.yLoop` -/
def digitOf (n : Nat) (x1 : Bool) (d : α) : Nat × α :=
  if x1 then (2^n - 1, 0)
  else (TruncNat.toNat (d * Ev.nexp n), d * Ev.nexp n - ((TruncNat.toNat (d * Ev.nexp n) : Nat) : α))

theorem yLoop_succ (n : Nat) (x1 : Bool) (fuel : Nat) (d r : α) (s : Ev.St) (y : List α) :
    Ev.yLoop n x1 (fuel+1) d r s y =
      Ev.yLoop n x1 fuel (digitOf n x1 d).2 (r * Ev.half) (Ev.step n s (digitOf n x1 d).1).1
        (List.zipWith (fun yi ui => Ev.addSigned yi (r * Ev.half) ui) y (Ev.step n s (digitOf n x1 d).1).2) := by
  cases x1 <;> rfl

theorem exec_digit (st : LState α) (n : Nat) (x d : α) (hn : st.n = n) (hne : st.nexp = Ev.nexp n)
    (hx : st.num .xArg = some x) (hd : st.num .d = some d) :
    execS digitR st =
      .normal ((st.setDig (digitOf n (decide (1 ≤ x)) d).1).setNum .d (digitOf n (decide (1 ≤ x)) d).2) := by
  by_cases h1 : (1 : α) ≤ x
  · simp only [digitR, execS, execL, execSimple, evalC, evalN, hx, h1, decide_true, evalD, hn, digitOf, ↓reduceIte]
  · simp only [digitR, execS, execL, execSimple, evalC, evalN, hx, h1, decide_false, hd, hne, setNum_num, setDig_num,
      setDig_iis, ↓reduceIte, digitOf, Bool.false_eq_true]
    exact congrArg Res.normal (setNum_setNum (st.setDig _) .d _ _)

/-! ### the element-wise loop of `__GetYonX` -/

def yInnerBody : List RStmt := [
    .setElem .iu (.var .i) (.mul (.elem .iu (.var .i)) (.elem .iw (.var .i))),
    .setElem .iw (.var .i) (.mul (.elem .iw (.var .i)) (.neg (.elem .iv (.var .i)))),
    .setY (.var .i) (.add (.yElem (.var .i)) (.mul (.var .r) (.ofInt (.elem .iu (.var .i)))))]

def yInnerR : RStmt := .for .i .rangeN yInnerBody

/-- the state after `k` rounds of the element-wise loop of `__GetYonX` started in `st0` with `iu = A`, `iw = W`, up to the value of `i` -/
def yInnerSt (st0 : LState α) (A W V : List Int) (r : α) (k : Nat) : LState α :=
  ((st0.setArr .iu (mixed k (List.zipWith (· * ·) A W) A)).setArr .iw (mixed k (List.zipWith (fun w v => w * (-v)) W V) W)).setY
    (mixed k (List.zipWith (fun yi ui => yi + r * ofInt ui) st0.y (List.zipWith (· * ·) A W)) st0.y)

theorem yInner_step (st0 : LState α) (A W V : List Int) (r : α) (n : Nat)
    (hA : A.length = n) (hW : W.length = n) (hV : V.length = n) (hY : st0.y.length = n) (hr : st0.num .r = some r)
    (hiv : st0.arr .iv = some V) (i : Nat) (hi : i < n) :
    execL yInnerBody ((yInnerSt st0 A W V r i).setInt .i i) = .normal ((yInnerSt st0 A W V r (i+1)).setInt .i i) := by
  have hA' := (length_zipWith_eq (· * ·) hA hW).trans hA.symm
  have hW' := (length_zipWith_eq (fun w v => w * (-v)) hW hV).trans hW.symm
  have hY' := (length_zipWith_eq (fun yi ui => yi + r * ofInt ui) hY (length_zipWith_eq (· * ·) hA hW)).trans hY.symm
  have hiA : i < A.length := hA ▸ hi
  have hiW : i < W.length := hW ▸ hi
  have hiV : i < V.length := hV ▸ hi
  have hiY : i < st0.y.length := hY ▸ hi
  refine (execL_cons_normal (execS_setElem_mixed hA' hiA ?a1 ?i1 ?e1)).trans
    ((execL_cons_normal (execS_setElem_mixed hW' hiW ?a2 ?i2 ?e2)).trans
      ((execL_cons_normal (execS_setY_mixed hY' hiY ?a3 ?i3 ?e3)).trans ((execL_nil _).trans (congrArg Res.normal ?eq))))
  -- `iu[i] = iu[i] * iw[i]`
  case a1 => rfl
  case i1 => exact evalIdx_var rfl
  case e1 =>
    rw [List.getElem_zipWith]
    exact evalI_mul (evalI_elem_mixed hA' hiA rfl (evalIdx_var rfl)) (evalI_elem_mixed hW' hiW rfl (evalIdx_var rfl))
  -- `iw[i] = iw[i] * -iv[i]`
  case a2 => rfl
  case i2 => exact evalIdx_var rfl
  case e2 =>
    rw [List.getElem_zipWith]
    exact evalI_mul (evalI_elem_mixed hW' hiW rfl (evalIdx_var rfl))
      (evalI_neg (evalI_elem (by frame_simp; exact hiv) (evalIdx_var rfl) (List.getElem?_eq_getElem hiV)))
  -- `self.yValues[i] = self.yValues[i] + r * iu[i]`, with the NEW `iu[i]`
  case a3 => rfl
  case i3 => exact evalIdx_var rfl
  case e3 =>
    rw [List.getElem_zipWith]
    exact evalN_add (evalN_yElem_mixed hY' hiY rfl (evalIdx_var rfl))
      (evalN_mul (evalN_var (by frame_simp; exact hr))
        (evalN_ofInt (evalI_elem rfl (evalIdx_var rfl)
          (by rw [getElem?_mixed_lt (Nat.lt_succ_self i) (by omega), List.getElem?_eq_getElem (by omega)]))))
  case eq =>
    unfold yInnerSt
    refine LState.ext (fun a => ?_) (fun _ => ?_) (fun _ => ?_) ?_ ?_ ?_ ?_ ?_ <;> frame_simp
    cases a <;> frame_simp

theorem exec_yInner (st0 : LState α) (A W V : List Int) (r : α) (n : Nat) (hn : st0.n = n) (h0 : 0 < n)
    (hA : A.length = n) (hW : W.length = n) (hV : V.length = n) (hY : st0.y.length = n) (hr : st0.num .r = some r)
    (hiu : st0.arr .iu = some A) (hiw : st0.arr .iw = some W) (hiv : st0.arr .iv = some V) :
    execS yInnerR st0 = .normal ((((st0.setArr .iu (List.zipWith (· * ·) A W)).setArr .iw
      (List.zipWith (fun w v => w * (-v)) W V)).setY
        (List.zipWith (fun yi ui => yi + r * ofInt ui) st0.y (List.zipWith (· * ·) A W))).setInt .i ((n - 1 : Nat) : Int)) := by
  have e0 : yInnerSt st0 A W V r 0 = st0 := by
    rw [yInnerSt, mixed_zero, mixed_zero, mixed_zero, setArr_self hiu, setArr_self hiw]
    rfl
  have e := forLoop_eq .i yInnerBody (yInnerSt st0 A W V r) n 0 st0 h0 (by rw [e0])
    (fun i _ hi => yInner_step st0 A W V r n hA hW hV hY hr hiv i (by omega))
  rw [yInnerSt, mixed_full (length_zipWith_eq _ hA hW) hA, mixed_full (length_zipWith_eq _ hW hV) hW,
    mixed_full (length_zipWith_eq _ hY (length_zipWith_eq _ hA hW)) hY, Nat.zero_add] at e
  simp only [yInnerR, execS, collRange, hn, List.range_eq_range']
  exact e

theorem exec_node (st : LState α) (n d : Nat) (a b : List Int) (hn : st.n = n) (hd : st.iis = some d)
    (ha : st.arr .iu = some a) (hb : st.arr .iv = some b) (hla : a.length = n) (hlb : b.length = n) :
    execS (.node .l .iu .iv) st =
      .normal (((st.setInt .l (Ev.node n d).1).setArr .iu (Ev.node n d).2.1).setArr .iv (Ev.node n d).2.2) := by
  simp only [execS, execSimple, hd, ha, hb, hn, hla, hlb, ne_eq, reduceCtorEq, not_false_eq_true, and_self, ↓reduceIte]

/-- multiplying by the signs `±1` and adding / subtracting is exact: what the source (`y + r * iu[i]`) and the model
(`Ev.addSigned`: `y + r` or `y - r` by a sign test) need to agree on.  True in every field (`signMul_field`), and in IEEE doubles. -/
structure SignMul (α : Type) [Add α] [Sub α] [Mul α] [Neg α] [NatCast α] : Prop where
  add_pos : ∀ y r : α, y + r * ofInt 1 = y + r
  add_neg : ∀ y r : α, y + r * ofInt (-1) = y - r
  sub_pos : ∀ y r : α, y - r * ofInt 1 = y - r
  sub_neg : ∀ y r : α, y - r * ofInt (-1) = y + r

theorem SignMul.add_eq (sm : SignMul α) (y r : α) {u : Int} (hu : u = 1 ∨ u = -1) : y + r * ofInt u = Ev.addSigned y r u := by
  rcases hu with rfl | rfl
  · rw [sm.add_pos]; rfl
  · rw [sm.add_neg]; rfl

theorem SignMul.sub_eq (sm : SignMul α) (y r : α) {u : Int} (hu : u = 1 ∨ u = -1) : y - r * ofInt u = Ev.addSigned y r (-u) := by
  rcases hu with rfl | rfl
  · rw [sm.sub_pos]; rfl
  · rw [sm.sub_neg]; rfl

theorem zipWith_congr_right {β γ δ : Type} (f g : β → γ → δ) : ∀ (l1 : List β) (l2 : List γ),
    (∀ a, ∀ b ∈ l2, f a b = g a b) → List.zipWith f l1 l2 = List.zipWith g l1 l2
  | [], _, _ => by simp
  | _ :: _, [], _ => by simp
  | a :: l1, b :: l2, h => by
    simp only [List.zipWith_cons_cons]
    rw [h a b (by simp), zipWith_congr_right f g l1 l2 (fun a b hb => h a b (by simp [hb]))]

def yTailR : List RStmt := [relabelR, .setNum .r (.mul (.var .r) .half), .setInt .it (.var .l), yInnerR]

/-- the body of the level loop of `__GetYonX` -/
def yBodyR : List RStmt := digitR :: .node .l .iu .iv :: (swapR .iu ++ (swapR .iv ++ yTailR))

/-- the interpreter state at the head of the level loop of `__GetYonX` stands for the arguments `d r s y` of `Ev.yLoop` -/
structure YInv (n m : Nat) (x : α) (st : LState α) (d r : α) (s : Ev.St) (y : List α) : Prop where
  hn : st.n = n
  hm : st.m = m
  hnexp : st.nexp = Ev.nexp n
  hx : st.num .xArg = some x
  hd : st.num .d = some d
  hr : st.num .r = some r
  hit : st.int .it = some (s.it : Int)
  hiw : st.arr .iw = some s.iw
  hy : st.y = y
  hiu : ∃ a, st.arr .iu = some a ∧ a.length = n
  hiv : ∃ a, st.arr .iv = some a ∧ a.length = n
  valid : Ev.validState n s
  ylen : y.length = n

theorem yBody_step (sm : SignMul α) {n m : Nat} {x : α} {st : LState α} {d r : α} {s : Ev.St} {y : List α}
    (h : YInv n m x st d r s y) (j : Nat) :
    ∃ st', execL yBodyR (st.setInt .j j) = .normal st' ∧
      YInv n m x st' (digitOf n (decide (1 ≤ x)) d).2 (r * Ev.half) (Ev.step n s (digitOf n (decide (1 ≤ x)) d).1).1
        (List.zipWith (fun yi ui => Ev.addSigned yi (r * Ev.half) ui) y (Ev.step n s (digitOf n (decide (1 ≤ x)) d).1).2) := by
  obtain ⟨A0, hA0, hA0l⟩ := h.hiu
  obtain ⟨B0, hB0, hB0l⟩ := h.hiv
  have hn0 := Nat.zero_lt_of_lt h.valid.1
  have e1 := exec_digit (st.setInt .j j) n x d h.hn h.hnexp h.hx h.hd
  generalize (digitOf n (decide (1 ≤ x)) d).1 = dg at *
  generalize (digitOf n (decide (1 ≤ x)) d).2 = d' at *
  obtain ⟨-, ⟨hUl, -⟩, hVl, -⟩ := Ev.node_shape hn0 dg
  obtain ⟨hs', hU'l, hU'pm⟩ := Ev.step_shape h.valid dg
  rw [Ev.step_def] at hs' hU'l hU'pm ⊢
  have e2 := exec_node (((st.setInt .j j).setDig dg).setNum .d d') n dg A0 B0 h.hn rfl hA0 hB0 hA0l hB0l
  generalize hL : (Ev.node n dg).1 = L at *
  generalize hU : (Ev.node n dg).2.1 = U at *
  generalize hV : (Ev.node n dg).2.2 = V at *
  rw [yBodyR, execL_cons_normal e1, execL_cons_normal e2,
    execL_append_normal (exec_swap .iu _ U s.it ?a3 ?i3 (by rw [hUl]; exact h.valid.1)),
    execL_append_normal (exec_swap .iv _ V s.it ?a4 ?i4 (by rw [hVl]; exact h.valid.1)), yTailR,
    execL_cons_normal (exec_relabel _ L s.it ?l5 ?i5),
    execL_cons_normal (execS_setNum (a := r * Ev.half) (evalN_mul (evalN_var ?r6) rfl)),
    execL_cons_normal (execS_setInt (k := ((Ev.relabel L s.it : Nat) : Int)) ?l7),
    execL_cons_normal (exec_yInner _ (Ev.swap0 U s.it) s.iw (Ev.swap0 V s.it) (r * Ev.half) n ?n8 hn0
      (by rw [Ev.length_swap0, hUl]) h.valid.2.1 (by rw [Ev.length_swap0, hVl]) ?y8 ?r8 ?u8 ?w8 ?v8), execL_nil]
  case a3 => rfl
  case i3 => frame_simp; exact h.hit
  case a4 => rfl
  case i4 => frame_simp; exact h.hit
  case l5 => rfl
  case i5 => frame_simp; exact h.hit
  case r6 => frame_simp; exact h.hr
  case l7 => rfl
  case n8 => frame_simp; exact h.hn
  case y8 => frame_simp; rw [h.hy]; exact h.ylen
  case r8 => rfl
  case u8 => rfl
  case w8 => frame_simp; exact h.hiw
  case v8 => rfl
  -- `d`, `r`, `it`, `iw` were assigned in this round, the other fields are those of `st`
  refine ⟨_, rfl,
    { hn := ?hn, hm := ?hm, hnexp := ?hnexp, hx := ?hx, hd := rfl, hr := rfl, hit := rfl, hiw := rfl, hy := ?hy
      hiu := ⟨_, rfl, hU'l⟩, hiv := ⟨_, rfl, by rw [Ev.length_swap0, hVl]⟩
      valid := hs', ylen := length_zipWith_eq _ h.ylen hU'l }⟩ <;> frame_simp
  case hn => exact h.hn
  case hm => exact h.hm
  case hnexp => exact h.hnexp
  case hx => exact h.hx
  case hy =>
    rw [h.hy]
    exact zipWith_congr_right _ _ _ _ (fun a b hb => sm.add_eq a _ (hU'pm b hb))

theorem yLoop_exec (sm : SignMul α) {n m : Nat} {x : α} : ∀ (cnt k : Nat) (st : LState α) (d r : α) (s : Ev.St)
    (y : List α), YInv n m x st d r s y →
    ∃ st', forLoop (List.range' k cnt) (fun j s => execL yBodyR (s.setInt .j j)) st = .normal st' ∧
      st'.y = Ev.yLoop n (decide (1 ≤ x)) cnt d r s y := by
  intro cnt
  induction cnt with
  | zero => intro k st d r s y h; exact ⟨st, rfl, h.hy⟩
  | succ cnt ih =>
    intro k st d r s y h
    obtain ⟨st1, e1, h1⟩ := yBody_step sm h k
    obtain ⟨st2, e2, h2⟩ := ih (k+1) st1 _ _ _ _ h1
    refine ⟨st2, ?_, ?_⟩
    · simp only [List.range'_succ, forLoop, e1, e2]
    · rw [h2, yLoop_succ]

/-- the generated tree of `__GetYonX`, resolved -/
def getYonXR : List RStmt :=
  [.ite .nIsOne [.setY .zero (.sub (.var .xArg) .half), .ret .yRef] [],
   .setNum .d .zero, .setNum .d (.var .xArg), .setNum .r .half, .setInt .it (.lit 0),
   .ones .iw, .zerosY, .zerosInt .iu, .zerosInt .iv,
   .for .j .rangeM yBodyR,
   .ret .yCopy]

/-- every string of the generated tree of `__GetYonX` is in the table that its position asks for -/
theorem resolve_getYonX : resolveL getYonX = some getYonXR := by kernel_rfl

theorem bind_getYonX (st : LState α) (x : α) : bindParams getYonXParams [x] st = some (st.setNum .xArg x) := by rfl

/-- the state at the head of the level loop -/
def yInit (n m : Nat) (y0 : List α) (x : α) : LState α :=
  (((((((((({ n := n, m := m, nexp := Ev.nexp n, y := y0 } : LState α).setNum .xArg x).setNum .d 0).setNum .d x).setNum .r
    Ev.half).setInt .it 0).setArr .iw (List.replicate n 1)).setY (List.replicate n 0)).setArr .iu (List.replicate n 0)).setArr .iv
      (List.replicate n 0))

/-- **`__GetYonX`, source tree = model.**  For every `N ≥ 1`, every `m`, every `x`: the interpretation of the statement tree generated
from the source text of `Evolvent.__GetYonX`, run on an object with `numberOfFloatVariables = N`, `evolventDensity = m`,
`nexpExtended = Ev.nexp N` (what `__init__` leaves there: `init_src`) and any scratch array `y0` (with one entry when `N = 1`: that
branch writes `self.yValues[0]` in place), is never stuck; it leaves `Ev.imageCube N m x` in `self.yValues` and returns the scratch
array itself (`N = 1`) resp. a copy with the same content (`N ≥ 2`). -/
theorem getYonX_src (sm : SignMul α) (n m : Nat) (hn : 1 ≤ n) (x : α) (y0 : List α) (h1 : n = 1 → y0.length = 1) :
    run getYonXParams getYonX n m (Ev.nexp n) y0 [x] =
      some (Ev.imageCube n m x, if n = 1 then Out.yRef else Out.copy (Ev.imageCube n m x)) := by
  rw [run_eq (bind_getYonX _ x) resolve_getYonX]
  by_cases hn1 : n = 1
  · subst hn1
    obtain ⟨a, rfl⟩ : ∃ a, y0 = [a] := by
      match y0, h1 rfl with
      | [a], _ => exact ⟨a, rfl⟩
    simp [getYonXR, execL, execS, execSimple, evalC, evalN, Ev.imageCube, LState.setY, LState.setNum]
  · have hb : (n == 1) = false := by simpa using hn1
    have h0 : YInv n m x (yInit n m y0 x) x Ev.half (Ev.St.init n) (List.replicate n 0) :=
      { hn := rfl, hm := rfl, hnexp := rfl, hx := rfl, hd := rfl, hr := rfl, hit := rfl, hiw := rfl, hy := rfl
        hiu := ⟨_, rfl, List.length_replicate⟩, hiv := ⟨_, rfl, List.length_replicate⟩
        valid := Ev.validState_init hn, ylen := List.length_replicate }
    obtain ⟨st', e, hy⟩ := yLoop_exec sm m 0 _ _ _ _ _ h0
    have e' : forLoop (List.range' 0 m) (fun j s => execL yBodyR (s.setInt .j j)) (yInit n m y0 x) = .normal st' := e
    unfold yInit at e'
    simp only [getYonXR, execL, execS, execSimple, evalC, hb, evalN, evalI, setNum_num, ↓reduceIte, setNum_n, setInt_n,
      setArr_n, setY_n, collRange, setNum_m, setInt_m, setArr_m, setY_m, List.range_eq_range', Ev.imageCube, hn1, reduceCtorEq, e', hy, Bool.false_eq_true]

theorem execS_ite {st : LState α} {c : Cond} {thn els : List RStmt} {b : Bool} (h : evalC st c = some b) :
    execS (.ite c thn els) st = if b then execL thn st else execL els st := by
  simp only [execS, h]
  cases b <;> rfl

/-! ### the two element-wise loops of `__GetXonY` -/

def sgn (yi : α) : Int := if yi < 0 then -1 else 1

theorem signVec_map_sgn {n : Nat} {y : List α} (hy : y.length = n) : Ev.signVec n (y.map sgn) :=
  ⟨(List.length_map sgn).trans hy, fun _ ha => by
    obtain ⟨c, -, rfl⟩ := List.mem_map.1 ha
    unfold sgn; split
    · exact Or.inr rfl
    · exact Or.inl rfl⟩

def xInner1Body : List RStmt := [
    .ite (.lt (.yElem (.var .i)) .zero) [.setElem .u (.var .i) (.lit (-1))] [.setElem .u (.var .i) (.lit 1)],
    .setY (.var .i) (.sub (.yElem (.var .i)) (.mul (.var .r) (.ofInt (.elem .u (.var .i))))),
    .setElem .u (.var .i) (.mul (.elem .u (.var .i)) (.elem .w (.var .i)))]

def xInner1R : RStmt := .for .i .rangeN xInner1Body

/-- the state after `k` rounds of the first element-wise loop of `__GetXonY` started in `st0` with `u = U`, up to the value of `i` -/
def xInner1St (st0 : LState α) (U W : List Int) (r : α) (k : Nat) : LState α :=
  (st0.setArr .u (mixed k (List.zipWith (· * ·) (st0.y.map sgn) W) U)).setY
    (mixed k (List.zipWith (fun yi ui => yi - r * ofInt ui) st0.y (st0.y.map sgn)) st0.y)

theorem xInner1_step (st0 : LState α) (U W : List Int) (r : α) (n : Nat)
    (hU : U.length = n) (hW : W.length = n) (hY : st0.y.length = n) (hr : st0.num .r = some r) (hw : st0.arr .w = some W)
    (i : Nat) (hi : i < n) :
    execL xInner1Body ((xInner1St st0 U W r i).setInt .i i) = .normal ((xInner1St st0 U W r (i+1)).setInt .i i) := by
  have hU' := (length_zipWith_eq (· * ·) ((List.length_map sgn).trans hY) hW).trans hU.symm
  have hY' := (length_zipWith_eq (fun yi ui => yi - r * ofInt ui) hY ((List.length_map sgn).trans hY)).trans hY.symm
  have hiU : i < U.length := by omega
  have hiW : i < W.length := by omega
  have hiY : i < st0.y.length := by omega
  have hlen : i < (mixed i (List.zipWith (· * ·) (st0.y.map sgn) W) U).length := by rw [length_mixed hU' (by omega)]; exact hiU
  -- `u[i] = -1` if `self.yValues[i] < 0`, else `u[i] = 1`
  have idx1 : evalIdx ((xInner1St st0 U W r i).setInt .i i) (.var .i) = some i := evalIdx_var rfl
  have e1 : execS (.ite (.lt (.yElem (.var .i)) .zero) [.setElem .u (.var .i) (.lit (-1))] [.setElem .u (.var .i) (.lit 1)])
      ((xInner1St st0 U W r i).setInt .i i) =
      .normal (((xInner1St st0 U W r i).setInt .i i).setArr .u
        ((mixed i (List.zipWith (· * ·) (st0.y.map sgn) W) U).set i (sgn st0.y[i]))) := by
    have hc : evalC ((xInner1St st0 U W r i).setInt .i i) (.lt (.yElem (.var .i)) .zero) = some (decide (st0.y[i] < 0)) := by
      rw [evalC, evalN_yElem_mixed hY' hiY rfl idx1]
      rfl
    have hs (c : Int) : execS (.setElem .u (.var .i) (.lit c)) ((xInner1St st0 U W r i).setInt .i i) =
        .normal (((xInner1St st0 U W r i).setInt .i i).setArr .u
          ((mixed i (List.zipWith (· * ·) (st0.y.map sgn) W) U).set i c)) :=
      execS_setElem (by simp only [evalI]) rfl idx1 hlen
    rw [execS_ite hc]
    by_cases hlt : st0.y[i] < 0
    · simp only [hlt, decide_true, sgn, ↓reduceIte]
      rw [execL_cons_normal (hs _), execL_nil]
    · simp only [hlt, decide_false, sgn, ↓reduceIte, Bool.false_eq_true]
      rw [execL_cons_normal (hs _), execL_nil]
  refine (execL_cons_normal e1).trans ((execL_cons_normal (execS_setY_mixed hY' hiY ?y2 ?i2 ?e2)).trans
    ((execL_cons_normal (execS_setElem (l := (mixed i (List.zipWith (· * ·) (st0.y.map sgn) W) U).set i (sgn st0.y[i])) (k := i)
      (x := sgn st0.y[i] * W[i]) ?e3 ?a3 ?i3 ?k3)).trans ((execL_nil _).trans (congrArg Res.normal ?eq))))
  -- `self.yValues[i] = self.yValues[i] - r * u[i]`, with the sign just stored in `u[i]`
  case y2 => rfl
  case i2 => exact evalIdx_var rfl
  case e2 =>
    rw [List.getElem_zipWith, List.getElem_map]
    exact evalN_sub (evalN_yElem_mixed hY' hiY rfl (evalIdx_var rfl))
      (evalN_mul (evalN_var (by frame_simp; exact hr))
        (evalN_ofInt (evalI_elem rfl (evalIdx_var rfl) (List.getElem?_set_self hlen))))
  -- `u[i] = u[i] * w[i]`
  case a3 => rfl
  case i3 => exact evalIdx_var rfl
  case e3 =>
    exact evalI_mul (evalI_elem rfl (evalIdx_var rfl) (List.getElem?_set_self hlen))
      (evalI_elem (by frame_simp; exact hw) (evalIdx_var rfl) (List.getElem?_eq_getElem hiW))
  case k3 => rw [List.length_set]; exact hlen
  case eq =>
    unfold xInner1St
    refine LState.ext (fun a => ?_) (fun _ => ?_) (fun _ => ?_) ?_ ?_ ?_ ?_ ?_ <;> frame_simp
    cases a <;> frame_simp
    rw [List.set_set, ← set_mixed hU' hiU, List.getElem_zipWith, List.getElem_map]

theorem exec_xInner1 (st0 : LState α) (U W : List Int) (Y : List α) (r : α) (n : Nat) (hn : st0.n = n) (h0 : 0 < n)
    (hU : U.length = n) (hW : W.length = n) (hY : Y.length = n) (hr : st0.num .r = some r)
    (hu : st0.arr .u = some U) (hw : st0.arr .w = some W) (hy : st0.y = Y) :
    execS xInner1R st0 = .normal (((st0.setArr .u (List.zipWith (· * ·) (Y.map sgn) W)).setY
      (List.zipWith (fun yi ui => yi - r * ofInt ui) Y (Y.map sgn))).setInt .i ((n - 1 : Nat) : Int)) := by
  subst hy
  have e0 : xInner1St st0 U W r 0 = st0 := by
    rw [xInner1St, mixed_zero, mixed_zero, setArr_self hu]
    rfl
  have e := forLoop_eq .i xInner1Body (xInner1St st0 U W r) n 0 st0 h0 (by rw [e0])
    (fun i _ hi => xInner1_step st0 U W r n hU hW hY hr hw i (by omega))
  rw [xInner1St, mixed_full (length_zipWith_eq _ ((List.length_map sgn).trans hY) hW) hU,
    mixed_full (length_zipWith_eq _ hY ((List.length_map sgn).trans hY)) hY, Nat.zero_add] at e
  simp only [xInner1R, execS, collRange, hn, List.range_eq_range']
  exact e

def xInner2Body : List RStmt := [.setElem .w (.var .i) (.mul (.elem .w (.var .i)) (.neg (.elem .v (.var .i))))]

def xInner2R : RStmt := .for .i .rangeN xInner2Body

/-- the state after `k` rounds of the second element-wise loop of `__GetXonY` started in `st0` with `w = W`, up to the value of `i` -/
def xInner2St (st0 : LState α) (W V : List Int) (k : Nat) : LState α :=
  st0.setArr .w (mixed k (List.zipWith (fun w v => w * (-v)) W V) W)

theorem xInner2_step (st0 : LState α) (W V : List Int) (n : Nat) (hW : W.length = n) (hV : V.length = n)
    (hv : st0.arr .v = some V) (i : Nat) (hi : i < n) :
    execL xInner2Body ((xInner2St st0 W V i).setInt .i i) = .normal ((xInner2St st0 W V (i+1)).setInt .i i) := by
  have hW' := (length_zipWith_eq (fun w v => w * (-v)) hW hV).trans hW.symm
  have hiW : i < W.length := hW ▸ hi
  have hiV : i < V.length := hV ▸ hi
  refine (execL_cons_normal (execS_setElem_mixed hW' hiW ?a ?i ?e)).trans ((execL_nil _).trans (congrArg Res.normal ?eq))
  case a => rfl
  case i => exact evalIdx_var rfl
  case e =>
    rw [List.getElem_zipWith]
    exact evalI_mul (evalI_elem_mixed hW' hiW rfl (evalIdx_var rfl))
      (evalI_neg (evalI_elem (by frame_simp; exact hv) (evalIdx_var rfl) (List.getElem?_eq_getElem hiV)))
  case eq =>
    unfold xInner2St
    refine LState.ext (fun a => ?_) (fun _ => ?_) (fun _ => ?_) ?_ ?_ ?_ ?_ ?_ <;> frame_simp
    cases a <;> frame_simp

theorem exec_xInner2 (st0 : LState α) (W V : List Int) (n : Nat) (hn : st0.n = n) (h0 : 0 < n) (hW : W.length = n)
    (hV : V.length = n) (hw : st0.arr .w = some W) (hv : st0.arr .v = some V) :
    execS xInner2R st0 =
      .normal ((st0.setArr .w (List.zipWith (fun w v => w * (-v)) W V)).setInt .i ((n - 1 : Nat) : Int)) := by
  have e0 : xInner2St st0 W V 0 = st0 := by rw [xInner2St, mixed_zero, setArr_self hw]
  have e := forLoop_eq .i xInner2Body (xInner2St st0 W V) n 0 st0 h0 (by rw [e0])
    (fun i _ hi => xInner2_step st0 W V n hW hV hv i (by omega))
  rw [xInner2St, mixed_full (length_zipWith_eq _ hW hV) hW, Nat.zero_add] at e
  simp only [xInner2R, execS, collRange, hn, List.range_eq_range']
  exact e

theorem exec_numbr (st : LState α) (n : Nat) (a b : List Int) (hn : st.n = n)
    (ha : st.arr .u = some a) (hb : st.arr .v = some b) (hla : a.length = n) (hlb : b.length = n) :
    execS (.numbr .l .u .v) st =
      .normal (((st.setDig (Ev.numbr n a).1).setInt .l (Ev.numbr n a).2.1).setArr .v (Ev.numbr n a).2.2) := by
  simp only [execS, execSimple, ha, hb, hn, hla, hlb, ne_eq, reduceCtorEq, not_false_eq_true, and_self, ↓reduceIte]

def xTailR : List RStmt :=
  [xInner2R, relabelR, .setInt .it (.var .l), .setNum .r1 (.div (.var .r1) .nexp),
   .setNum .x (.add (.var .x) (.mul (.var .r1) .dig))]

/-- the body of the level loop of `__GetXonY` -/
def xBodyR : List RStmt :=
  .setNum .r (.mul (.var .r) .half) :: xInner1R :: (swapR .u ++ (.numbr .l .u .v :: (swapR .v ++ xTailR)))

theorem xLevel_eq (r : α) (y : List α) :
    Ev.xLevel r y = (y.map sgn, List.zipWith (fun yi ui => Ev.addSigned yi r (-ui)) y (y.map sgn)) := rfl

theorem invStep_eq (n : Nat) (s : Ev.St) (u0 : List Int) :
    Ev.invStep n s u0 =
      (⟨Ev.relabel (Ev.numbr n (Ev.swap0 (List.zipWith (· * ·) u0 s.iw) s.it)).2.1 s.it,
        List.zipWith (fun w v => w * (-v)) s.iw (Ev.swap0 (Ev.numbr n (Ev.swap0 (List.zipWith (· * ·) u0 s.iw) s.it)).2.2 s.it)⟩,
       (Ev.numbr n (Ev.swap0 (List.zipWith (· * ·) u0 s.iw) s.it)).1) := rfl

theorem xLoop_succ (n fuel : Nat) (r r1 x : α) (s : Ev.St) (y : List α) :
    Ev.xLoop n (fuel+1) r r1 x s y =
      Ev.xLoop n fuel (r * Ev.half) (r1 / Ev.nexp n)
        (x + r1 / Ev.nexp n * (((Ev.invStep n s (Ev.xLevel (r * Ev.half) y).1).2 : Nat) : α))
        (Ev.invStep n s (Ev.xLevel (r * Ev.half) y).1).1 (Ev.xLevel (r * Ev.half) y).2 := by
  simp only [Ev.xLoop]

/-- the interpreter state at the head of the level loop of `__GetXonY` stands for the arguments `r r1 x s y` of `Ev.xLoop` -/
structure XInv (n m : Nat) (st : LState α) (r r1 x : α) (s : Ev.St) (y : List α) : Prop where
  hn : st.n = n
  hm : st.m = m
  hnexp : st.nexp = Ev.nexp n
  hr : st.num .r = some r
  hr1 : st.num .r1 = some r1
  hx : st.num .x = some x
  hit : st.int .it = some (s.it : Int)
  hw : st.arr .w = some s.iw
  hy : st.y = y
  hu : ∃ a, st.arr .u = some a ∧ a.length = n
  hv : ∃ a, st.arr .v = some a ∧ a.length = n
  valid : Ev.validState n s
  ylen : y.length = n

theorem xBody_step (sm : SignMul α) {n m : Nat} {st : LState α} {r r1 x : α} {s : Ev.St} {y : List α}
    (h : XInv n m st r r1 x s y) (j : Nat) :
    ∃ st', execL xBodyR (st.setInt .j j) = .normal st' ∧
      XInv n m st' (r * Ev.half) (r1 / Ev.nexp n)
        (x + r1 / Ev.nexp n * (((Ev.invStep n s (Ev.xLevel (r * Ev.half) y).1).2 : Nat) : α))
        (Ev.invStep n s (Ev.xLevel (r * Ev.half) y).1).1 (Ev.xLevel (r * Ev.half) y).2 := by
  obtain ⟨A0, hA0, hA0l⟩ := h.hu
  obtain ⟨B0, hB0, hB0l⟩ := h.hv
  have hn0 := Nat.zero_lt_of_lt h.valid.1
  have hsg : Ev.signVec n (y.map sgn) := signVec_map_sgn h.ylen
  have hZ := Ev.signVec_zipWith (fun _ _ => Ev.sign_mul) hsg h.valid.2
  have hU1s := Ev.signVec_swap0 hZ h.valid.1
  have hinv := Ev.invStep_shape h.valid hsg
  rw [invStep_eq] at hinv
  rw [xLevel_eq, invStep_eq]
  generalize hU1 : Ev.swap0 (List.zipWith (· * ·) (y.map sgn) s.iw) s.it = U1 at *
  obtain ⟨-, hVl, -⟩ := Ev.numbr_shape hn0 hU1s
  generalize hI : (Ev.numbr n U1).1 = I at *
  generalize hL : (Ev.numbr n U1).2.1 = L at *
  generalize hV : (Ev.numbr n U1).2.2 = V at *
  rw [xBodyR, execL_cons_normal (execS_setNum (a := r * Ev.half) (evalN_mul (evalN_var ?r1) rfl)),
    execL_cons_normal (exec_xInner1 _ A0 s.iw y (r * Ev.half) n ?n2 hn0 hA0l h.valid.2.1 h.ylen ?r2 ?u2 ?w2 ?y2),
    execL_append_normal (exec_swap .u _ _ s.it ?a3 ?i3 (by rw [hZ.1]; exact h.valid.1)), hU1,
    execL_cons_normal (exec_numbr _ n U1 B0 ?n4 ?u4 ?v4 hU1s.1 hB0l), hI, hL, hV,
    execL_append_normal (exec_swap .v _ V s.it ?a5 ?i5 (by rw [hVl]; exact h.valid.1)), xTailR,
    execL_cons_normal (exec_xInner2 _ s.iw (Ev.swap0 V s.it) n ?n6 hn0 h.valid.2.1 (by rw [Ev.length_swap0, hVl]) ?w6 ?v6),
    execL_cons_normal (exec_relabel _ L s.it ?l7 ?i7),
    execL_cons_normal (execS_setInt (k := ((Ev.relabel L s.it : Nat) : Int)) ?l8),
    execL_cons_normal (execS_setNum (a := r1 / Ev.nexp n) ?r9),
    execL_cons_normal (execS_setNum (a := x + r1 / Ev.nexp n * ((I : Nat) : α)) ?x10), execL_nil]
  case r1 => frame_simp; exact h.hr
  case n2 => frame_simp; exact h.hn
  case r2 => rfl
  case u2 => frame_simp; exact hA0
  case w2 => frame_simp; exact h.hw
  case y2 => frame_simp; exact h.hy
  case a3 => rfl
  case i3 => frame_simp; exact h.hit
  case n4 => frame_simp; exact h.hn
  case u4 => rfl
  case v4 => frame_simp; exact hB0
  case a5 => rfl
  case i5 => frame_simp; exact h.hit
  case n6 => frame_simp; exact h.hn
  case w6 => frame_simp; exact h.hw
  case v6 => rfl
  case l7 => rfl
  case i7 => frame_simp; exact h.hit
  case l8 => rfl
  case r9 => simp only [evalN, evframe, reduceCtorEq, ↓reduceIte, h.hr1, h.hnexp]
  case x10 => simp only [evalN, evframe, reduceCtorEq, ↓reduceIte, h.hx]
  -- `r`, `r1`, `x`, `it`, `w` were assigned in this round, the other fields are those of `st`
  refine ⟨_, rfl,
    { hn := ?hn, hm := ?hm, hnexp := ?hnexp, hr := rfl, hr1 := rfl, hx := rfl, hit := rfl, hw := rfl, hy := ?hy
      hu := ⟨_, rfl, hU1s.1⟩, hv := ⟨_, rfl, by rw [Ev.length_swap0, hVl]⟩
      valid := hinv, ylen := length_zipWith_eq _ h.ylen hsg.1 }⟩ <;> frame_simp
  case hn => exact h.hn
  case hm => exact h.hm
  case hnexp => exact h.hnexp
  case hy => exact zipWith_congr_right _ _ _ _ (fun a b hb => sm.sub_eq a _ (hsg.2 b hb))

theorem xLoop_exec (sm : SignMul α) {n m : Nat} : ∀ (cnt k : Nat) (st : LState α) (r r1 x : α) (s : Ev.St)
    (y : List α), XInv n m st r r1 x s y →
    ∃ st', forLoop (List.range' k cnt) (fun j s => execL xBodyR (s.setInt .j j)) st = .normal st' ∧
      st'.num .x = some (Ev.xLoop n cnt r r1 x s y) := by
  intro cnt
  induction cnt with
  | zero => intro k st r r1 x s y h; exact ⟨st, rfl, h.hx⟩
  | succ cnt ih =>
    intro k st r r1 x s y h
    obtain ⟨st1, e1, h1⟩ := xBody_step sm h k
    obtain ⟨st2, e2, h2⟩ := ih (k+1) st1 _ _ _ _ _ h1
    refine ⟨st2, ?_, ?_⟩
    · simp only [List.range'_succ, forLoop, e1, e2]
    · rw [h2, xLoop_succ]

/-- the generated tree of `__GetXonY`, resolved -/
def getXonYR : List RStmt :=
  [.ite .nIsOne [.setNum .x (.add (.yElem .zero) .half), .ret (.num .x)] [],
   .setNum .r .zero, .ones .w, .zerosInt .u, .zerosInt .v, .setNum .r .half, .setNum .r1 .one, .setNum .x .zero,
   .setInt .it (.lit 0),
   .for .j .rangeM xBodyR,
   .ret (.num .x)]

/-- every string of the generated tree of `__GetXonY` is in the table that its position asks for -/
theorem resolve_getXonY : resolveL getXonY = some getXonYR := by kernel_rfl

theorem bind_getXonY (st : LState α) : bindParams getXonYParams [] st = some st := by rfl

/-- the state at the head of the level loop -/
def xInit (n m : Nat) (y : List α) : LState α :=
  (((((((({ n := n, m := m, nexp := Ev.nexp n, y := y } : LState α).setNum .r 0).setArr .w (List.replicate n 1)).setArr .u
    (List.replicate n 0)).setArr .v (List.replicate n 0)).setNum .r Ev.half).setNum .r1 1).setNum .x 0).setInt .it 0

/-- **`__GetXonY`, source tree = model.**  For every `N ≥ 1`, every `m` and every scratch array `y` with `N` entries: the
interpretation of the statement tree generated from the source text of `Evolvent.__GetXonY`, run on an object with
`numberOfFloatVariables = N`, `evolventDensity = m`, `nexpExtended = Ev.nexp N` and `self.yValues` holding `y`, is never stuck and
returns the number `Ev.inverseCube N m y`.  (For `N ≥ 2` the scratch array is consumed in place; the residuals `yres` it is left with
are not part of the model.) -/
theorem getXonY_src (sm : SignMul α) (n m : Nat) (hn : 1 ≤ n) (y : List α) (hy : y.length = n) :
    ∃ yres, run getXonYParams getXonY n m (Ev.nexp n) y [] = some (yres, Out.num (Ev.inverseCube n m y)) := by
  rw [run_eq (bind_getXonY _) resolve_getXonY]
  by_cases hn1 : n = 1
  · subst hn1
    obtain ⟨a, rfl⟩ : ∃ a, y = [a] := by
      match y, hy with
      | [a], _ => exact ⟨a, rfl⟩
    exact ⟨[a], by simp [getXonYR, execL, execS, execSimple, evalC, evalN, Ev.inverseCube, LState.setNum]⟩
  · have hb : (n == 1) = false := by simpa using hn1
    have h0 : XInv n m (xInit n m y) Ev.half 1 0 (Ev.St.init n) y :=
      { hn := rfl, hm := rfl, hnexp := rfl, hr := rfl, hr1 := rfl, hx := rfl, hit := rfl, hw := rfl, hy := rfl
        hu := ⟨_, rfl, List.length_replicate⟩, hv := ⟨_, rfl, List.length_replicate⟩
        valid := Ev.validState_init hn, ylen := hy }
    obtain ⟨st', e, hx⟩ := xLoop_exec sm m 0 _ _ _ _ _ _ h0
    unfold xInit at e
    refine ⟨st'.y, ?_⟩
    simp only [getXonYR, execL, execS, execSimple, evalC, hb, evalN, evalI, ↓reduceIte, setNum_n,
      setArr_n, collRange, setNum_m, setInt_m, setArr_m, List.range_eq_range', Ev.inverseCube,
      e, hx, Bool.false_eq_true]

end EvLoop
end

namespace EvLoop

theorem signMul_field {α : Type} [Field α] : SignMul α := by
  have e1 : (ofInt (1 : Int) : α) = 1 := by show ((1 : Nat) : α) = 1; exact Nat.cast_one
  have e2 : (ofInt (-1 : Int) : α) = -1 := by show -((0 + 1 : Nat) : α) = -1; simp
  constructor <;> intro y r
  · rw [e1, mul_one]
  · rw [e2]; ring
  · rw [e1, mul_one]
  · rw [e2]; ring

/-- **`__GetYonX`, source tree = model, over every ordered field** (with any `int(·)`). -/
theorem getYonX_src_field {α : Type} [Field α] [LinearOrder α] [IsStrictOrderedRing α] [TruncNat α]
    (n m : Nat) (hn : 1 ≤ n) (x : α) (y0 : List α) (h1 : n = 1 → y0.length = 1) :
    run getYonXParams getYonX n m (Ev.nexp n) y0 [x] =
      some (Ev.imageCube n m x, if n = 1 then Out.yRef else Out.copy (Ev.imageCube n m x)) :=
  getYonX_src signMul_field n m hn x y0 h1
/-- **`__GetXonY`, source tree = model, over every ordered field** (with any `int(·)`). -/
theorem getXonY_src_field {α : Type} [Field α] [LinearOrder α] [IsStrictOrderedRing α] [TruncNat α]
    (n m : Nat) (hn : 1 ≤ n) (y : List α) (hy : y.length = n) :
    ∃ yres, run getXonYParams getXonY n m (Ev.nexp n) y [] = some (yres, Out.num (Ev.inverseCube n m y)) :=
  getXonY_src signMul_field n m hn y hy

end EvLoop

/-! ## Non-vacuity, and what the ties exclude: concrete runs over `ℚ` (`TruncNat` = floor), checked by kernel evaluation

On the two generated trees the resolution of the strings is `resolve_getYonX` / `resolve_getXonY` (through `run_eq`) and the resolved tree
is executed by the kernel; the edited trees are resolved and executed by the kernel. -/

namespace EvLoop.Examples
open Gen.ProcSrc Gen.EvolventLoops

local instance : TruncNat Rat := ⟨fun x => x.floor.toNat⟩

/-- `__GetYonX`, `N = 2`, `m = 2`, `x = 1/3` (from ANY previous scratch array): `self.yValues` ends as `[-3/8, 3/8]`, a copy is
returned, and this is the model's `Ev.imageCube` -/
example : run getYonXParams getYonX 2 2 (Ev.nexp 2) [7, 7, 7] [(1/3 : Rat)] = some ([-3/8, 3/8], .copy [-3/8, 3/8]) ∧
    Ev.imageCube 2 2 (1/3 : Rat) = [-3/8, 3/8] := by
  simp only [run_eq (α := ℚ) (bind_getYonX _ _) resolve_getYonX]
  decide +kernel

/-- `N = 3`, `m = 1`, at `x = 5/3 ≥ 1` (the branch `iis = self.nexpExtended - 1.0`) and at `x = 2/5` -/
example : run getYonXParams getYonX 3 1 (Ev.nexp 3) [] [(5/3 : Rat)] = some ([1/4, -1/4, -1/4], .copy [1/4, -1/4, -1/4]) ∧
    Ev.imageCube 3 1 (5/3 : Rat) = [1/4, -1/4, -1/4] ∧
    run getYonXParams getYonX 3 1 (Ev.nexp 3) [] [(2/5 : Rat)] = some (Ev.imageCube 3 1 (2/5 : Rat), .copy (Ev.imageCube 3 1 (2/5 : Rat))) := by
  simp only [run_eq (α := ℚ) (bind_getYonX _ _) resolve_getYonX]
  decide +kernel

/-- `N = 1`: `self.yValues[0] = _x - 0.5` in place, the scratch array itself is returned -/
example : run getYonXParams getYonX 1 10 (Ev.nexp 1) [7] [(1/4 : Rat)] = some ([-1/4], .yRef) := by
  simp only [run_eq (α := ℚ) (bind_getYonX _ _) resolve_getYonX]
  decide +kernel

/-- `__GetXonY`, `N = 2`, `m = 2`, on the cube point `[-3/8, -1/8]`: returns `3/16 = Ev.inverseCube`, the residuals stay in the
scratch array -/
example : run getXonYParams getXonY 2 2 (Ev.nexp 2) [(-3/8 : Rat), -1/8] [] = some ([0, 0], .num (3/16)) ∧
    Ev.inverseCube 2 2 [(-3/8 : Rat), -1/8] = 3/16 := by
  simp only [run_eq (α := ℚ) (bind_getXonY _) resolve_getXonY]
  decide +kernel

example : run getXonYParams getXonY 3 1 (Ev.nexp 3) [(1/4 : Rat), -1/4, -1/4] [] =
      some ([0, 0, 0], .num (Ev.inverseCube 3 1 [(1/4 : Rat), -1/4, -1/4])) ∧
    run getXonYParams getXonY 1 10 (Ev.nexp 1) [(-1/4 : Rat)] [] = some ([-1/4], .num (1/4)) := by
  simp only [run_eq (α := ℚ) (bind_getXonY _) resolve_getXonY]
  decide +kernel

/-- the tie theorems instantiated (their hypotheses hold) -/
example := getYonX_src_field (α := ℚ) 2 2 (by decide) (1/3) [7, 7, 7] (by decide)
example := getYonX_src_field (α := ℚ) 3 1 (by decide) (5/3) [] (by decide)
example := getYonX_src_field (α := ℚ) 1 10 (by decide) (1/4) [7] (by decide)
example := getXonY_src_field (α := ℚ) 2 2 (by decide) [-3/8, -1/8] (by decide)
example := getXonY_src_field (α := ℚ) 3 1 (by decide) [1/4, -1/4, -1/4] (by decide)

/-! ### the hypotheses of the ties are needed -/

/-- `N = 0` (with `m ≥ 1`): `iu[0]` does not exist, the source raises `IndexError` (stuck); the model returns `[]` -/
example : run getYonXParams getYonX 0 1 (Ev.nexp 0) [] [(1/3 : Rat)] = none ∧ Ev.imageCube 0 1 (1/3 : Rat) = [] := by
  simp only [run_eq (α := ℚ) (bind_getYonX _ _) resolve_getYonX]
  decide +kernel

/-- `N = 1` with an empty scratch array: `self.yValues[0] = …` raises `IndexError` (stuck) -/
example : run getYonXParams getYonX 1 1 (Ev.nexp 1) [] [(1/3 : Rat)] = none := by
  simp only [run_eq (α := ℚ) (bind_getYonX _ _) resolve_getYonX]
  decide +kernel

/-- `__GetXonY` on a scratch array with fewer than `N` entries: `IndexError` (stuck), while the model's `zipWith` truncates -/
example : run getXonYParams getXonY 2 2 (Ev.nexp 2) [(1/8 : Rat)] [] = none := by
  simp only [run_eq (α := ℚ) (bind_getXonY _) resolve_getXonY]
  decide +kernel

/-! ### seeded edits of the source are stuck or NOT equal to the model -/

def editJ (f : List Stmt → List Stmt) : List Stmt → List Stmt
  | [] => []
  | .forEach "j" c b :: rest => .forEach "j" c (f b) :: editJ f rest
  | s :: rest => s :: editJ f rest

def editI (f : List Stmt → List Stmt) : List Stmt → List Stmt
  | [] => []
  | .forEach "i" c b :: rest => .forEach "i" c (f b) :: editI f rest
  | s :: rest => s :: editI f rest

/-- the level body of `__GetYonX` has 12 statements: 0 the digit, 1 `__CalculateNode`, 2–4 / 5–7 the two element swaps, 8 the
relabelling of `l`, 9 `r *= 0.5`, 10 `it = l`, 11 the element-wise loop; that of `__GetXonY` has 14: 0 `r *= 0.5`, 1 the first
element-wise loop, 2–4 the swap in `u`, 5 `__CalculateNumbr`, 6–8 the swap in `v`, 9 the second element-wise loop, 10 the relabelling,
11 `it = l`, 12 `r1 /= nexpExtended`, 13 `x += r1 * iis` -/
example : editJ (fun b => [.other (toString b.length)]) getYonX = getYonX.take 9 ++ [.forEach "j" "range(0, self.evolventDensity)"
      [.other "12"], .ret "np.copy(self.yValues)"] ∧
    editJ (fun b => [.other (toString b.length)]) getXonY = getXonY.take 9 ++ [.forEach "j" "range(0, self.evolventDensity)"
      [.other "14"], .ret "x"] := by
  constructor <;> rfl

/-- the relabelling of `l` AND `it = l` moved before the two element swaps (the swaps then use the NEW `it`) -/
def itFirst : List Stmt :=
  editJ (fun b => b.take 2 ++ [b[8]!, b[10]!] ++ (b.drop 2).take 6 ++ [b[9]!, b[11]!]) getYonX

/-- `iw[i] *= -iv[i]` before `iu[i] *= iw[i]` -/
def iwFirst : List Stmt := editJ (editI (fun b => [b[1]!, b[0]!, b[2]!])) getYonX

/-- no `r *= 0.5` -/
def noHalf : List Stmt := editJ (fun b => b.eraseIdx 9) getYonX

/-- only the relabelling of `l` moved before the swaps: a NEUTRAL edit (the swaps do not read `l`) -/
def relabelFirst : List Stmt := editJ (fun b => b.take 2 ++ [b[8]!] ++ (b.drop 2).take 6 ++ b.drop 9) getYonX

/-- **the tie of `__GetYonX` is sensitive to the order of the swaps and `it = l`, to the order `iu` / `iw` in the element-wise loop, and
to `r *= 0.5`**: on each edited tree the interpreter is not stuck and the scratch array is NOT `Ev.imageCube` (`N = 2`, `m = 2`,
`x = 1/5`: the model gives `[-3/8, -1/8]`) -/
theorem getYonX_edits_not_model :
    Ev.imageCube 2 2 (1/5 : Rat) = [-3/8, -1/8] ∧
    (run getYonXParams itFirst 2 2 (Ev.nexp 2) [] [(1/5 : Rat)]).map (·.1) = some [-1/8, -3/8] ∧
    (run getYonXParams iwFirst 2 2 (Ev.nexp 2) [] [(1/5 : Rat)]).map (·.1) = some [-1/8, -3/8] ∧
    (run getYonXParams noHalf 2 2 (Ev.nexp 2) [] [(1/5 : Rat)]).map (·.1) = some [-1, 0] := by decide +kernel

/-- moving only the relabelling of `l` before the swaps changes nothing, and the interpreter says so (it does not compare texts) -/
example : run getYonXParams relabelFirst 2 2 (Ev.nexp 2) [] [(1/5 : Rat)] =
    some (Ev.imageCube 2 2 (1/5 : Rat), .copy (Ev.imageCube 2 2 (1/5 : Rat))) := by decide +kernel

/-- `__GetXonY` without the swap in `u` -/
def noSwapU : List Stmt := editJ (fun b => b.take 2 ++ b.drop 5) getXonY

/-- `x += r1 * iis` before `r1 /= self.nexpExtended` -/
def xBeforeR1 : List Stmt := editJ (fun b => b.take 12 ++ [b[13]!, b[12]!]) getXonY

/-- `__GetXonY` without `r *= 0.5` -/
def noHalfX : List Stmt := editJ (fun b => b.drop 1) getXonY

/-- **the tie of `__GetXonY` is sensitive** to the swap in `u`, to the order of the last two updates, to `r *= 0.5`
(`N = 2`, `m = 2`, cube point `[-3/8, -1/8]`: the model gives `3/16`) -/
theorem getXonY_edits_not_model :
    Ev.inverseCube 2 2 [(-3/8 : Rat), -1/8] = 3/16 ∧
    (run getXonYParams noSwapU 2 2 (Ev.nexp 2) [(-3/8 : Rat), -1/8] []).map (·.2) = some (.num (1/16)) ∧
    (run getXonYParams xBeforeR1 2 2 (Ev.nexp 2) [(-3/8 : Rat), -1/8] []).map (·.2) = some (.num (3/4)) ∧
    (run getXonYParams noHalfX 2 2 (Ev.nexp 2) [(-3/8 : Rat), -1/8] []).map (·.2) ≠ some (.num (3/16)) := by decide +kernel

/-- statements outside the tables are stuck: an alias `iu = iv`, a literal that is not in the table (`r *= 0.25`), an integer array
stored into `self.yValues`, a `return` of a local array, an unclassified statement -/
example :
    run getYonXParams (editJ (fun b => .assign "iu" "iv" :: b) getYonX) 2 2 (Ev.nexp 2) [] [(1/5 : Rat)] = none ∧
    run getYonXParams (editJ (fun b => b.set 9 (.assign "r" "r * 0.25")) getYonX) 2 2 (Ev.nexp 2) [] [(1/5 : Rat)] = none ∧
    run getYonXParams (getYonX.set 6 (.call ["self.yValues"] "np.zeros" ["self.numberOfFloatVariables", "dtype=np.int32"]))
      2 2 (Ev.nexp 2) [] [(1/5 : Rat)] = none ∧
    run getYonXParams (getYonX.set 10 (.ret "iu")) 2 2 (Ev.nexp 2) [] [(1/5 : Rat)] = none ∧
    run getYonXParams (getYonX ++ [.other "pass"]) 2 2 (Ev.nexp 2) [] [(1/5 : Rat)] = none := by decide +kernel

/-- `__CalculateNode` called with the two arrays in the other order, or with the same array twice -/
example :
    (run getYonXParams (editJ (fun b => b.set 1
        (.call ["l"] "self.__CalculateNode" ["iis", "self.numberOfFloatVariables", "iv", "iu"])) getYonX)
      2 2 (Ev.nexp 2) [] [(1/5 : Rat)]).map (·.1) ≠ some (Ev.imageCube 2 2 (1/5 : Rat)) ∧
    run getYonXParams (editJ (fun b => b.set 1
        (.call ["l"] "self.__CalculateNode" ["iis", "self.numberOfFloatVariables", "iu", "iu"])) getYonX)
      2 2 (Ev.nexp 2) [] [(1/5 : Rat)] = none := by decide +kernel

end EvLoop.Examples

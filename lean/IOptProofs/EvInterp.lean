import IOptProofs.EvInterpDefs
import IOptProofs.EvObj
import IOptProofs.Frontier
import IOptProofs.Lookup
import IOptProps.C17
import IOptProofs.KernelRfl
/-!
# The public methods of `Evolvent`, taken from the SOURCE TEXT, are the steps of the heap model `EvObj`

`IOptGen/EvolventCtlSrc.lean` (regenerated from `iOpt/evolvent/evolvent.py` on every run) holds the bodies of `Evolvent.__init__`,
`SetBounds`, `GetImage`, `GetInverseImage`, `GetPreimages`, `__TransformP2D`, `__TransformD2P` as statement trees.
`IOptProofs/EvInterpDefs.lean` interprets such trees, generically, on heap + object + locals, accumulating the reports `wrote` and
`allocated`.  Here, for every carrier `α` with the operator classes of the model (hence also `Float`):

* `getImage_src`, `getInverseImage_src`, `getPreimages_src`, `setBounds_src`: the interpretation of the generated tree of the method
  = `EvObj.step h o op` — the same heap, the same object (`Self.ofObj`: the model's `Obj` plus `nexpValue`, `nexpExtended`, which no
  public method touches), the same output, and EQUAL LISTS `wrote` / `allocated` (same refs, same order; the interpreter reports a ref
  written in place once, at its first write, and allocations in source order, and this is the model's bookkeeping);
* `init_src`: the generated tree of `__init__`, from an object with no attribute, = `EvObj.init`, `nexpExtended = Ev.nexp N`;
* `callOp_src`, `session_src`: under the invariant `EvObj.Inv`, resp. for every valid session `Setup.Valid` of `IOptProps/C17.lean`,
  the calls run through the generated trees are the model's `step`s, resp. the model's `s.run ops`;
* hypotheses (all part of `EvObj.Inv` / `Setup.ArgsOK`): the private bounds have at least `N` entries, the array argument of an inverse
  query has `N` entries, for `N = 1` the scratch array has one entry, the constructor's refs are valid.  They are needed: where an
  index is out of range the source raises `IndexError` (the interpreter is stuck) while the model's `zipWith` truncates
  (`Examples`, last section).

`SetBounds`, and `__init__` up to its loop, read nothing but their arguments and what they have assigned themselves: the kernel runs
these trees outright, with heap, object and refs as variables (`setBounds_src`, `init_nf`).  The other trees call
`__TransformP2D/D2P`, whose loop is proved once by induction (`elem_loop`, `call_elem_method`) and leaves a state the kernel cannot
compute with; they are run statement by statement, one lemma per statement form (`stmt_*`: what the state must hold, the explicit
state afterwards) chained by `execList_cons_normal`.

Where the source does more than the model records (none of it observable through the public methods):
`__GetYonX` (`N ≥ 2`) ends with `return np.copy(self.yValues)`, an array that `GetImage` discards at once; `__GetXonY` (`N ≥ 2`) leaves
residuals in the scratch array, which is never read again before it is replaced; the bounds attributes are arrays of their own in
Python, kept by value here (see `EvInterpDefs`).  `EvObj.init` reads the two bounds arrays AFTER allocating the scratch array, the
source before: the same for valid refs.
-/

set_option linter.unusedSectionVars false

section
variable {α : Type} [Add α] [Sub α] [Mul α] [Div α] [Neg α] [LT α] [LE α]
  [DecidableLT α] [DecidableLE α] [OfNat α 0] [OfNat α 1] [OfNat α 2] [NatCast α] [TruncNat α]

namespace EvInterp
open EvObj Gen.ProcSrc

/-! ### the element-wise loop `for i in range(k, k+cnt): y[i] = f(y[i], lo[i], up[i])` as a pure function

(the ties do not go through it: `elem_loop` below is about the interpreter's loop itself) -/

/-- an index out of range stops the loop -/
def elemLoop (f : α → α → α → α) (lo up : List α) : Nat → Nat → List α → List α
  | _, 0, y => y
  | k, cnt+1, y =>
    match y[k]?, lo[k]?, up[k]? with
    | some a, some l, some u => elemLoop f lo up (k+1) cnt (y.set k (f a l u))
    | _, _, _ => y

theorem elemLoop_length (f : α → α → α → α) (lo up : List α) : ∀ (cnt k : Nat) (y : List α),
    (elemLoop f lo up k cnt y).length = y.length := by
  intro cnt
  induction cnt with
  | zero => intro k y; rfl
  | succ cnt ih =>
    intro k y
    rw [elemLoop]
    split
    · rw [ih, List.length_set]
    · rfl

theorem addOnce_nil (r : Nat) : addOnce r [] = [r] := rfl

theorem addOnce_of_mem {r : Nat} {l : List Nat} (h : r ∈ l) : addOnce r l = l := by
  simp [addOnce, h]

theorem mem_addOnce (r : Nat) (l : List Nat) : r ∈ addOnce r l := by
  unfold addOnce
  split
  · rename_i h; simpa using h
  · simp

theorem addOnce_idem (r : Nat) (l : List Nat) : addOnce r (addOnce r l) = addOnce r l :=
  addOnce_of_mem (mem_addOnce r l)

/-! ### table look-ups on the strings of the generated trees

No key occurs twice in a table (checked once per table, by evaluation), so the key of the `i`-th entry is looked up to that entry. -/

theorem primTable_nodup : (primTable.map Prod.fst).Nodup := by decide +kernel
theorem targetTable_nodup : (targetTable.map Prod.fst).Nodup := by decide +kernel
theorem assignTargets_nodup : (assignTargets.map Prod.fst).Nodup := by decide +kernel
theorem retTable_nodup : (retTable.map Prod.fst).Nodup := by decide +kernel

theorem lk_array : primTable.lookup "np.array" = some .arrayDouble := List.lookup_at primTable_nodup 1 rfl
theorem lk_getYonX : primTable.lookup "self.__GetYonX" = some .getYonX := List.lookup_at primTable_nodup 3 rfl
theorem lk_getXonY : primTable.lookup "self.__GetXonY" = some .getXonY := List.lookup_at primTable_nodup 4 rfl
theorem lk_p2d_prim : primTable.lookup "self.__TransformP2D" = none := by decide +kernel
theorem lk_d2p_prim : primTable.lookup "self.__TransformD2P" = none := by decide +kernel
theorem lk_tScratch : targetTable.lookup "self.yValues" = some .scratch := List.lookup_at targetTable_nodup 0 rfl
theorem lk_tX : targetTable.lookup "x" = some .localNum := List.lookup_at targetTable_nodup 3 rfl
theorem lk_aElem : assignTargets.lookup "self.yValues[i]" = some .elem := List.lookup_at assignTargets_nodup 4 rfl
theorem lk_coll : collTable.lookup "range(0, self.numberOfFloatVariables)" = some .rangeN := by decide +kernel
theorem lk_retCopy : retTable.lookup "np.copy(self.yValues)" = some .copyScratch := List.lookup_at retTable_nodup 0 rfl
theorem lk_retX : retTable.lookup "x" = some .localNum := List.lookup_at retTable_nodup 1 rfl
/-- the right-hand side of the assignment in the generated tree of `__TransformP2D` -/
def p2dExpr : String := "self.yValues[i] * (self.upperBoundOfFloatVariables[i] - self.lowerBoundOfFloatVariables[i]) + (self.upperBoundOfFloatVariables[i] + self.lowerBoundOfFloatVariables[i]) / 2"
/-- the right-hand side of the assignment in the generated tree of `__TransformD2P` -/
def d2pExpr : String := "(self.yValues[i] - (self.upperBoundOfFloatVariables[i] + self.lowerBoundOfFloatVariables[i]) / 2) / (self.upperBoundOfFloatVariables[i] - self.lowerBoundOfFloatVariables[i])"

theorem elemExprTable_nodup : (elemExprTable.map Prod.fst).Nodup := by decide +kernel
theorem lk_p2dExpr : elemExprTable.lookup p2dExpr = some .p2d := List.lookup_at elemExprTable_nodup 0 (by with_unfolding_all rfl)
theorem lk_d2pExpr : elemExprTable.lookup d2pExpr = some .d2p := List.lookup_at elemExprTable_nodup 1 (by with_unfolding_all rfl)

/-- what `procTable` holds for the two private methods: the generated trees, written out (a regenerated tree of another shape fails
here); this is the shape `call_elem_method` asks for -/
theorem lk_procP2D : procTable.lookup "self.__TransformP2D" =
    some (["self"], [.forEach "i" "range(0, self.numberOfFloatVariables)" [.assign "self.yValues[i]" p2dExpr]]) := by rfl
theorem lk_procD2P : procTable.lookup "self.__TransformD2P" =
    some (["self"], [.forEach "i" "range(0, self.numberOfFloatVariables)" [.assign "self.yValues[i]" d2pExpr]]) := by rfl

theorem lookup_setLocal (x : String) (v : LVal α) (l : List (String × LVal α)) : (setLocal x v l).lookup x = some v := by
  simp [setLocal]

open EvLoop in
/-- `for i in range(k, k+cnt): self.yValues[i] = expr` on a valid scratch array that the loop has already updated up to `k`
(`mixed k z y0`, `z` the model's `zipWith`): the frontier moves to `k + cnt`, in the SAME cell -/
theorem elem_loop (env : ProcEnv α) (expr : String) (ex : ElemExpr)
    (hf : elemExprTable.lookup expr = some ex) (s : Nat) (lo up y0 : List α) (hlo : y0.length ≤ lo.length)
    (hup : y0.length ≤ up.length) :
    ∀ (cnt k : Nat) (st : IState α), st.self.scratch = some s → st.self.lower = some lo → st.self.upper = some up →
      s < st.heap.size →
      st.heap.read s = mixed k (List.zipWith (fun yi (lu : α × α) => ex.fn yi lu.1 lu.2) y0 (lo.zip up)) y0 →
      k + cnt ≤ y0.length →
      ∃ ls, forLoop (List.range' k cnt)
          (fun i s' => execList env [.assign "self.yValues[i]" expr] { s' with locals := setLocal "i" (.int i) s'.locals }) st =
        .normal { st with heap := st.heap.write s
                            (mixed (k + cnt) (List.zipWith (fun yi (lu : α × α) => ex.fn yi lu.1 lu.2) y0 (lo.zip up)) y0),
                          locals := ls, wrote := if cnt = 0 then st.wrote else addOnce s st.wrote } := by
  have hz : (List.zipWith (fun yi (lu : α × α) => ex.fn yi lu.1 lu.2) y0 (lo.zip up)).length = y0.length := by
    rw [List.length_zipWith, List.length_zip]; omega
  intro cnt
  induction cnt with
  | zero =>
    intro k st _ _ _ hs hy _
    exact ⟨st.locals, by simp only [List.range'_zero, forLoop, Nat.add_zero, ← hy, Heap.write_read_self _ hs, ↓reduceIte]⟩
  | succ cnt ih =>
    intro k st hsc hl hu hs hy hk
    have hky : k < y0.length := by omega
    have e := set_mixed hz hky
    rw [List.getElem_zipWith, List.getElem_zip] at e
    have hs' : s < (st.heap.write s (mixed (k+1) (List.zipWith (fun yi (lu : α × α) => ex.fn yi lu.1 lu.2) y0 (lo.zip up)) y0)).size := by
      simpa using hs
    obtain ⟨ls, h⟩ := ih (k+1)
      { st with heap := st.heap.write s (mixed (k+1) (List.zipWith (fun yi (lu : α × α) => ex.fn yi lu.1 lu.2) y0 (lo.zip up)) y0),
                locals := setLocal "i" (.int k) st.locals, wrote := addOnce s st.wrote }
      hsc hl hu hs' (Heap.read_write_same _ _ hs) (by omega)
    refine ⟨ls, ?_⟩
    simp only [List.range'_succ, forLoop, execList, execStmt, lk_aElem, execAssign, hf, lookup_setLocal, hsc, hl, hu, execElem, hy,
      getElem?_mixed hz hky, List.getElem?_eq_getElem hky, List.getElem?_eq_getElem (show k < lo.length by omega),
      List.getElem?_eq_getElem (show k < up.length by omega), e] at h ⊢
    rw [h]
    simp only [Heap.write_write, addOnce_idem, ite_self, Nat.add_eq_zero_iff, Nat.succ_ne_self, and_false, ↓reduceIte,
      Nat.add_right_comm, Nat.add_assoc]

theorem bind_self : bindParams (α := α) ["self"] [] = some [] := by
  simp [bindParams]

/-- a call, at depth `d+1`, of a method of the shape `for i in range(0, N): self.yValues[i] = expr` on a valid scratch array with `N`
entries: the per-coordinate function mapped over the array, written back to the SAME ref; the caller's locals survive -/
theorem call_elem_method (d : Nat) (callee expr : String) (ex : ElemExpr) (hprim : primTable.lookup callee = none)
    (hproc : procTable.lookup callee =
      some (["self"], [.forEach "i" "range(0, self.numberOfFloatVariables)" [.assign "self.yValues[i]" expr]]))
    (hex : elemExprTable.lookup expr = some ex) (st : IState α) (s n : Nat) (lo up : List α)
    (hsc : st.self.scratch = some s) (hn : st.self.n = some n) (hlo : st.self.lower = some lo) (hup : st.self.upper = some up)
    (hs : s < st.heap.size) (hy : (st.heap.read s).length = n) (hl : n ≤ lo.length) (hu : n ≤ up.length) :
    execStmt (envN (d+1)) (.call [] callee []) st =
      .normal { st with heap := st.heap.write s
                          (List.zipWith (fun yi (lu : α × α) => ex.fn yi lu.1 lu.2) (st.heap.read s) (lo.zip up)),
                        wrote := if n = 0 then st.wrote else addOnce s st.wrote } := by
  obtain ⟨ls, h⟩ := elem_loop (envN d) expr ex hex s lo up (st.heap.read s) (by omega) (by omega) n 0 { st with locals := [] }
    hsc hlo hup hs (EvLoop.mixed_zero _ _).symm (by omega)
  have hz : (List.zipWith (fun yi (lu : α × α) => ex.fn yi lu.1 lu.2) (st.heap.read s) (lo.zip up)).length = n := by
    rw [List.length_zipWith, List.length_zip]; omega
  simp only [execStmt, execList, EvLoop.mixed_full hz hy] at h
  simp only [execStmt, hprim, envN, hproc, bind_self, and_self, ↓reduceIte, execList, evalColl, lk_coll, hn, Option.map_some,
    List.range_eq_range', h]

/-- `self.__TransformP2D()` through its GENERATED tree: `Ev.p2d` of the scratch array, written back in place -/
theorem call_p2d (d : Nat) (st : IState α) (s n : Nat) (lo up : List α)
    (hsc : st.self.scratch = some s) (hn : st.self.n = some n) (hlo : st.self.lower = some lo) (hup : st.self.upper = some up)
    (hs : s < st.heap.size) (hy : (st.heap.read s).length = n) (hl : n ≤ lo.length) (hu : n ≤ up.length) :
    execStmt (envN (d+1)) (.call [] "self.__TransformP2D" []) st =
      .normal { st with heap := st.heap.write s (Ev.p2d lo up (st.heap.read s)),
                        wrote := if n = 0 then st.wrote else addOnce s st.wrote } := by
  rw [call_elem_method d "self.__TransformP2D" p2dExpr .p2d lk_p2d_prim lk_procP2D lk_p2dExpr
    st s n lo up hsc hn hlo hup hs hy hl hu]
  rfl

/-- `self.__TransformD2P()` through its GENERATED tree: `Ev.d2p` of the scratch array, written back in place -/
theorem call_d2p (d : Nat) (st : IState α) (s n : Nat) (lo up : List α)
    (hsc : st.self.scratch = some s) (hn : st.self.n = some n) (hlo : st.self.lower = some lo) (hup : st.self.upper = some up)
    (hs : s < st.heap.size) (hy : (st.heap.read s).length = n) (hl : n ≤ lo.length) (hu : n ≤ up.length) :
    execStmt (envN (d+1)) (.call [] "self.__TransformD2P" []) st =
      .normal { st with heap := st.heap.write s (Ev.d2p lo up (st.heap.read s)),
                        wrote := if n = 0 then st.wrote else addOnce s st.wrote } := by
  rw [call_elem_method d "self.__TransformD2P" d2pExpr .d2p lk_d2p_prim lk_procD2P lk_d2pExpr
    st s n lo up hsc hn hlo hup hs hy hl hu]
  rfl

theorem nl_x : numLits.lookup "x" = none := by decide +kernel
theorem ne_x : numExprs.lookup "x" = none := by decide +kernel

theorem evalNum_x (st : IState α) (x : α) (hx : st.locals.lookup "x" = some (.num x)) : evalNum st "x" = some x := by
  simp only [evalNum, nl_x, ne_x, hx]

/-- `self.__GetYonX(x)`, `N = 1`: `self.yValues[0] = x - 0.5` in place -/
theorem stmt_getYonX_one (env : ProcEnv α) (st : IState α) (x : α) (m s : Nat)
    (hx : st.locals.lookup "x" = some (.num x)) (hn : st.self.n = some 1) (hm : st.self.m = some m)
    (hsc : st.self.scratch = some s) (hy : (st.heap.read s).length = 1) :
    execStmt env (.call [] "self.__GetYonX" ["x"]) st =
      .normal { st with heap := st.heap.write s ((st.heap.read s).set 0 (x - Ev.half)), wrote := addOnce s st.wrote } := by
  have h0 : (st.heap.read s)[0]? = some ((st.heap.read s)[0]'(by omega)) := List.getElem?_eq_getElem (by omega)
  simp only [execStmt, lk_getYonX, evalPrim, evalNum_x st x hx, hn, hm, hsc, BEq.rfl, ↓reduceIte, h0]
  rfl

/-- `self.__GetYonX(x)`, `N ≠ 1`: a fresh zero array becomes the scratch array and is filled in place with `Ev.imageCube` -/
theorem stmt_getYonX_ne (env : ProcEnv α) (st : IState α) (x : α) (n m s : Nat)
    (hx : st.locals.lookup "x" = some (.num x)) (hn : st.self.n = some n) (hm : st.self.m = some m)
    (hsc : st.self.scratch = some s) (hn1 : n ≠ 1) :
    execStmt env (.call [] "self.__GetYonX" ["x"]) st =
      .normal { st with heap := (st.heap.alloc (List.replicate n 0)).1.write st.heap.size (Ev.imageCube n m x),
                        self := { st.self with scratch := some st.heap.size },
                        wrote := addOnce st.heap.size st.wrote, allocated := st.allocated ++ [st.heap.size] } := by
  have hb : (n == 1) = false := by simpa using hn1
  simp only [execStmt, lk_getYonX, evalPrim, evalNum_x st x hx, hn, hm, hsc, hb, Bool.false_eq_true, ↓reduceIte]
  rfl

theorem stmt_retCopy (env : ProcEnv α) (st : IState α) (s : Nat) (hsc : st.self.scratch = some s) :
    execStmt env (.ret "np.copy(self.yValues)") st =
      .returned { st with heap := (st.heap.alloc (st.heap.read s)).1, allocated := st.allocated ++ [st.heap.size] }
        (.array st.heap.size) := by
  simp only [execStmt, lk_retCopy, execRet, hsc]
  rfl

theorem stmt_storeArray (env : ProcEnv α) (st : IState α) (r : Nat) (hy : st.locals.lookup "y" = some (.ref r)) :
    execStmt env (.call ["self.yValues"] "np.array" ["y", "dtype=np.double"]) st =
      .normal { st with heap := (st.heap.alloc (st.heap.read r)).1, self := { st.self with scratch := some st.heap.size },
                        allocated := st.allocated ++ [st.heap.size] } := by
  simp only [execStmt, lk_array, evalPrim, ↓reduceIte, evalArr, hy, lk_tScratch, store]
  rfl

theorem stmt_getXonY (env : ProcEnv α) (st : IState α) (n m s : Nat) (hn : st.self.n = some n) (hm : st.self.m = some m)
    (hsc : st.self.scratch = some s) :
    execStmt env (.call ["x"] "self.__GetXonY" []) st =
      .normal { st with locals := setLocal "x" (.num (Ev.inverseCube n m (st.heap.read s))) st.locals,
                        wrote := if n == 1 then st.wrote else addOnce s st.wrote } := by
  simp only [execStmt, lk_getXonY, evalPrim, hn, hm, hsc, lk_tX, store]

theorem stmt_retX (env : ProcEnv α) (st : IState α) (v : α) (hx : st.locals.lookup "x" = some (.num v)) :
    execStmt env (.ret "x") st = .returned st (.number v) := by
  simp only [execStmt, lk_retX, execRet, hx]

theorem execList_cons_normal {env : ProcEnv α} {s : Stmt} {rest : List Stmt} {st st' : IState α}
    (h : execStmt env s st = .normal st') : execList env (s :: rest) st = execList env rest st' := by
  simp only [execList, h]

theorem bind_one (p : String) (v : LVal α) : bindParams ["self", p] [v] = some [(p, v)] := by
  simp [bindParams]

/-- **`GetImage`, source tree = model.**  The interpretation of the statement tree generated from the source text of
`Evolvent.GetImage` (which calls `self.__TransformP2D()` through ITS generated tree, call depth `d+1 ≥ 1`), run on any heap `h`, on a
fully initialised object whose bounds have at least `N` entries and whose scratch array has one entry when `N = 1` (both part of
the invariant `EvObj.Inv`), with `x` bound to any number, is `EvObj.step h o (.image x)`: the same heap, the same object, the same
output ref, and EQUAL LISTS `wrote` and `allocated` (same refs in the same order). -/
theorem getImage_src (d : Nat) (h : Heap α) (o : Obj α) (nv : Nat) (ne x : α)
    (hl : o.n ≤ o.lower.length) (hu : o.n ≤ o.upper.length) (h1 : o.n = 1 → (h.read o.scratch).length = 1) :
    runMethod (d+1) Gen.EvolventCtl.getImageParams Gen.EvolventCtl.getImage h (Self.ofObj o nv ne) [.num x] =
      some (MRes.ofStep (step h o (.image x)) nv ne) := by
  have hx : List.lookup "x" [("x", LVal.num x)] = some (.num x) := by simp [List.lookup]
  simp only [runMethod, Gen.EvolventCtl.getImageParams, bind_one, Gen.EvolventCtl.getImage]
  by_cases hn : o.n = 1
  · have hy := h1 hn
    have hs : o.scratch < h.size := by
      rcases Nat.lt_or_ge o.scratch h.size with h' | h'
      · exact h'
      · rw [Heap.read_of_size_le h h'] at hy; simp at hy
    rw [step_image_one h o x hn,
      execList_cons_normal (stmt_getYonX_one _ _ x o.m o.scratch hx ?n1 ?m1 ?s1 ?y1),
      execList_cons_normal (call_p2d d _ o.scratch o.n o.lower o.upper ?s2 ?n2 ?l2 ?u2 ?v2 ?a2 hl hu)]
    case n1 => exact congrArg some hn
    case m1 => rfl
    case s1 => rfl
    case y1 => exact hy
    case s2 => rfl
    case n2 => rfl
    case l2 => rfl
    case u2 => rfl
    case v2 => simpa using hs
    case a2 => simp only [Heap.read_write_same _ _ hs, List.length_set, hy, hn]
    simp only [execList]
    rw [stmt_retCopy _ _ o.scratch rfl]
    simp only [Heap.read_write_same _ _ hs, Heap.write_write, Heap.size_write, addOnce_nil, hn, Nat.succ_ne_self, ↓reduceIte,
      addOnce_of_mem (List.mem_singleton.2 rfl)]
    rfl
  · have hs0 : h.size < (h.alloc (List.replicate o.n (0 : α))).1.size := by simp
    rw [step_image_ne_one h o x hn,
      execList_cons_normal (stmt_getYonX_ne _ _ x o.n o.m o.scratch hx ?n1 ?m1 ?s1 hn),
      execList_cons_normal (call_p2d d _ h.size o.n o.lower o.upper ?s2 ?n2 ?l2 ?u2 ?v2 ?a2 hl hu)]
    case n1 => rfl
    case m1 => rfl
    case s1 => rfl
    case s2 => rfl
    case n2 => rfl
    case l2 => rfl
    case u2 => rfl
    case v2 => simp
    case a2 => simp only [Heap.read_write_same _ _ hs0, Ev.length_imageCube]
    simp only [execList]
    rw [stmt_retCopy _ _ h.size rfl]
    simp only [Heap.alloc_write, Heap.read_alloc_new, Heap.size_alloc, Ev.getImage, addOnce_nil, List.nil_append, ite_self,
      addOnce_of_mem (List.mem_singleton.2 rfl)]
    rfl

/-- the common body of `GetInverseImage` and `GetPreimages` -/
theorem inverse_body (d : Nat) (h : Heap α) (o : Obj α) (nv : Nat) (ne : α) (arg : Nat)
    (hl : o.n ≤ o.lower.length) (hu : o.n ≤ o.upper.length) (ha : (h.read arg).length = o.n) :
    runMethod (d+1) ["self", "y"]
      [.call ["self.yValues"] "np.array" ["y", "dtype=np.double"],
       .call [] "self.__TransformD2P" [],
       .call ["x"] "self.__GetXonY" [],
       .ret "x"] h (Self.ofObj o nv ne) [.ref arg] =
      some (MRes.ofStep (step h o (.inverse arg)) nv ne) := by
  rw [step_inverse]
  simp only [runMethod, bind_one]
  rw [execList_cons_normal (stmt_storeArray _ _ arg ?y1),
    execList_cons_normal (call_d2p d _ h.size o.n o.lower o.upper ?s2 ?n2 ?l2 ?u2 ?v2 ?a2 hl hu),
    execList_cons_normal (stmt_getXonY _ _ o.n o.m h.size ?n3 ?m3 ?s3)]
  case y1 => simp [List.lookup]
  case s2 => rfl
  case n2 => rfl
  case l2 => rfl
  case u2 => rfl
  case v2 => simp
  case a2 => exact (congrArg List.length (Heap.read_alloc_new h _)).trans ha
  case n3 => rfl
  case m3 => rfl
  case s3 => rfl
  simp only [execList]
  rw [stmt_retX _ _ _ (lookup_setLocal _ _ _)]
  have hw : (if (o.n == 1) = true then (if o.n = 0 then [] else [h.size]) else addOnce h.size (if o.n = 0 then [] else [h.size])) =
      [h.size] := by
    by_cases h0 : o.n = 0
    · simp [h0, addOnce_nil]
    · by_cases h1 : o.n = 1
      · simp [h1]
      · simp [h0, h1, addOnce_of_mem]
  simp only [Heap.alloc_write, Heap.read_alloc_new, Ev.getInverseImage, addOnce_nil, hw]
  rfl

/-- **`GetInverseImage`, source tree = model.**  The interpretation of the statement tree generated from the source text of
`Evolvent.GetInverseImage` (call depth `d+1 ≥ 1` for `self.__TransformD2P()`), run on any heap, on a fully initialised object whose
bounds have at least `N` entries, with `y` bound to a ref of an array with `N` entries (`Setup.ArgsOK`), is
`EvObj.step h o (.inverse arg)`: same heap, object, number, and equal lists `wrote`, `allocated`. -/
theorem getInverseImage_src (d : Nat) (h : Heap α) (o : Obj α) (nv : Nat) (ne : α) (arg : Nat)
    (hl : o.n ≤ o.lower.length) (hu : o.n ≤ o.upper.length) (ha : (h.read arg).length = o.n) :
    runMethod (d+1) Gen.EvolventCtl.getInverseImageParams Gen.EvolventCtl.getInverseImage h (Self.ofObj o nv ne) [.ref arg] =
      some (MRes.ofStep (step h o (.inverse arg)) nv ne) :=
  inverse_body d h o nv ne arg hl hu ha

/-- **`GetPreimages`, source tree = model** (the generated tree is, statement for statement, that of `GetInverseImage`). -/
theorem getPreimages_src (d : Nat) (h : Heap α) (o : Obj α) (nv : Nat) (ne : α) (arg : Nat)
    (hl : o.n ≤ o.lower.length) (hu : o.n ≤ o.upper.length) (ha : (h.read arg).length = o.n) :
    runMethod (d+1) Gen.EvolventCtl.getPreimagesParams Gen.EvolventCtl.getPreimages h (Self.ofObj o nv ne) [.ref arg] =
      some (MRes.ofStep (step h o (.preimages arg)) nv ne) :=
  inverse_body d h o nv ne arg hl hu ha

/-- **`SetBounds`, source tree = model**, for every heap, object, pair of refs and call depth: the two `np.copy` stores set the
private bounds to the CONTENTS of the argument arrays at the time of the call; nothing is written, nothing is allocated in the
shared heap; the method returns `None`.  The tree has no loop and reads nothing but its arguments: with heap, object and refs as
variables both sides unfold to the same record, and the kernel checks that (`kernel_rfl`), looking up every string of the tree in the
tables on the way. -/
theorem setBounds_src (d : Nat) (h : Heap α) (o : Obj α) (nv : Nat) (ne : α) (lo hi : Nat) :
    runMethod d Gen.EvolventCtl.setBoundsParams Gen.EvolventCtl.setBounds h (Self.ofObj o nv ne) [.ref lo, .ref hi] =
      some (MRes.ofStep (step h o (.setBounds lo hi)) nv ne) := by
  kernel_rfl

def dbl : Nat → α → α
  | 0, a => a
  | k+1, a => dbl k (a + a)

theorem dbl_succ (k : Nat) (a : α) : dbl (k+1) a = dbl k a + dbl k a := by
  induction k generalizing a with
  | zero => rfl
  | succ k ih => rw [dbl, ih (a + a)]; rfl

theorem dbl_one (n : Nat) : dbl n (1 : α) = Ev.nexp n := by
  induction n with
  | zero => rfl
  | succ n ih => rw [dbl_succ, ih]; rfl

theorem nl_dbl : numLits.lookup "self.nexpExtended + self.nexpExtended" = none := by decide +kernel
theorem ne_dbl : numExprs.lookup "self.nexpExtended + self.nexpExtended" = some .nexpDoubled := by decide +kernel

/-- the end of `runMethod` -/
def finish : Res α → Option (MRes α)
  | .normal st => some { heap := st.heap, self := st.self, out := .unit, wrote := st.wrote, allocated := st.allocated }
  | .returned st out => some { heap := st.heap, self := st.self, out := out, wrote := st.wrote, allocated := st.allocated }
  | .stuck => none

/-- the state in which the loop of `__init__` starts: the attributes assigned, the scratch array allocated, the parameters bound -/
def initSt (h : Heap α) (n m lo hi : Nat) : IState α :=
  { heap := (h.alloc (List.replicate n 0)).1,
    self := { n := some n, m := some m, lower := some (h.read lo), upper := some (h.read hi), scratch := some h.size,
              nexpValue := some 0, nexp := some 1 },
    locals := [("lowerBoundOfFloatVariables", .ref lo), ("upperBoundOfFloatVariables", .ref hi),
      ("numberOfFloatVariables", .int n), ("evolventDensity", .int m)],
    wrote := [], allocated := [h.size] }

/-- **The generated tree of `__init__`, run up to its loop.**  The statements before the loop read nothing but the parameters and what
they have assigned themselves, so with heap, refs, `N` and `m` as variables the kernel runs them (`kernel_rfl`: every string of the
tree is looked up in the tables, the parameters are bound); what is left is the loop `for i in range(0, N): nexpExtended += nexpExtended`
started in `initSt`, its body already resolved to the assignment it stands for.  (The two `match … | .normal st' => .normal st' | o => o`
are what `execList` leaves of a one-statement list: the loop body, and the loop as last statement of the tree.) -/
theorem init_nf (d : Nat) (h : Heap α) (n m lo hi : Nat) :
    runMethod d Gen.EvolventCtl.initParams Gen.EvolventCtl.init h {} [.ref lo, .ref hi, .int n, .int m] =
      finish (
        match forLoop (List.range n)
            (fun i (s : IState α) =>
              match execAssign .nexp "self.nexpExtended + self.nexpExtended"
                  { s with locals := setLocal "i" (.int i) s.locals } with
              | .normal st' => .normal st'
              | o => o)
            (initSt h n m lo hi) with
        | .normal st' => .normal st'
        | o => o) := by
  kernel_rfl

theorem nexp_loop : ∀ (is : List Nat) (st : IState α) (a : α), st.self.nexp = some a →
    ∃ ls, forLoop is
        (fun i (s : IState α) =>
          match execAssign .nexp "self.nexpExtended + self.nexpExtended"
              { s with locals := setLocal "i" (.int i) s.locals } with
          | .normal st' => .normal st'
          | o => o) st =
      .normal { st with self := { st.self with nexp := some (dbl is.length a) }, locals := ls } := by
  intro is
  induction is with
  | nil => intro st a ha; exact ⟨st.locals, by simp only [forLoop, List.length_nil, dbl, ← ha]⟩
  | cons i is ih =>
    intro st a ha
    obtain ⟨ls, h⟩ := ih { st with self := { st.self with nexp := some (a + a) }, locals := setLocal "i" (.int i) st.locals }
      (a + a) rfl
    refine ⟨ls, ?_⟩
    simp only [execAssign, evalNum, nl_dbl, ne_dbl] at h ⊢
    simp only [forLoop, ha, Option.map_some, h, List.length_cons, dbl]

/-- **`__init__`, source tree = model.**  The interpretation of the statement tree generated from the source text of
`Evolvent.__init__`, run on any heap from an object with NO attribute set, with the parameters bound to two VALID refs, `N` and `m`,
ends normally (returns `None`) with the heap and the object of `EvObj.init h n m lo hi`, with `nexpValue = 0` and
`nexpExtended = Ev.nexp n` (`1.0` doubled `N` times by the loop of the source), nothing written in place and exactly one array
allocated: the scratch array. -/
theorem init_src (d : Nat) (h : Heap α) (n m lo hi : Nat) (hlo : lo < h.size) (hhi : hi < h.size) :
    runMethod d Gen.EvolventCtl.initParams Gen.EvolventCtl.init h {} [.ref lo, .ref hi, .int n, .int m] =
      some { heap := (EvObj.init h n m lo hi).1, self := Self.ofObj (EvObj.init h n m lo hi).2 0 (Ev.nexp n), out := .unit,
             wrote := [], allocated := [(EvObj.init h n m lo hi).2.scratch] } := by
  rw [init_nf]
  obtain ⟨ls, hloop⟩ := nexp_loop (List.range n) (initSt h n m lo hi) (1 : α) rfl
  rw [hloop, init_heap, init_obj, Heap.read_alloc_old _ _ hlo, Heap.read_alloc_old _ _ hhi, List.length_range, dbl_one]
  rfl

def callOp (d : Nat) (h : Heap α) (self : Self α) : Op α → Option (MRes α)
  | .image x => runMethod d Gen.EvolventCtl.getImageParams Gen.EvolventCtl.getImage h self [.num x]
  | .inverse a => runMethod d Gen.EvolventCtl.getInverseImageParams Gen.EvolventCtl.getInverseImage h self [.ref a]
  | .preimages a => runMethod d Gen.EvolventCtl.getPreimagesParams Gen.EvolventCtl.getPreimages h self [.ref a]
  | .setBounds lo hi => runMethod d Gen.EvolventCtl.setBoundsParams Gen.EvolventCtl.setBounds h self [.ref lo, .ref hi]

/-- **one call under the invariant of C17.**  In every state satisfying `EvObj.Inv` (the invariant of every point of every valid
session), a call whose array arguments have `N` entries, run through the generated tree of its method, is `EvObj.step`. -/
theorem callOp_src {base n m : Nat} {b : List α × List α} {ret : List Nat} {h : Heap α} {o : Obj α} (hi : Inv base n m b ret h o)
    (d nv : Nat) (ne : α)
    (op : Op α) (hargs : ∀ r ∈ op.args, (h.read r).length = n) :
    callOp (d+1) h (Self.ofObj o nv ne) op = some (MRes.ofStep (step h o op) nv ne) := by
  have hl : o.n ≤ o.lower.length := by rw [hi.lower_len, hi.n_eq]; exact Nat.le_refl _
  have hu : o.n ≤ o.upper.length := by rw [hi.upper_len, hi.n_eq]; exact Nat.le_refl _
  cases op with
  | image x => exact getImage_src d h o nv ne x hl hu (fun h1 => hi.scratch_len (by rw [← hi.n_eq, h1]))
  | inverse a => exact getInverseImage_src d h o nv ne a hl hu (by rw [hi.n_eq]; exact hargs a (by simp [Op.args]))
  | preimages a => exact getPreimages_src d h o nv ne a hl hu (by rw [hi.n_eq]; exact hargs a (by simp [Op.args]))
  | setBounds lo hi' => exact setBounds_src (d+1) h o nv ne lo hi'

def session (d : Nat) : List (Op α) → Heap α → Self α → List (Out α) → Option (Heap α × Self α × List (Out α))
  | [], h, self, outs => some (h, self, outs)
  | op :: ops, h, self, outs =>
    match callOp d h self op with
    | none => none
    | some r => session d ops r.heap r.self (outs ++ [r.out])

theorem session_append (d : Nat) : ∀ (ops1 ops2 : List (Op α)) (h : Heap α) (self : Self α) (outs : List (Out α)),
    session d (ops1 ++ ops2) h self outs =
      (session d ops1 h self outs).bind fun t => session d ops2 t.1 t.2.1 t.2.2 := by
  intro ops1
  induction ops1 with
  | nil => intro ops2 h self outs; rfl
  | cons op ops1 ih =>
    intro ops2 h self outs
    simp only [List.cons_append, session]
    cases callOp d h self op with
    | none => rfl
    | some r => exact ih ops2 _ _ _

def runSetup (d : Nat) (s : Setup α) (ops : List (Op α)) : Option (Heap α × Self α × List (Out α)) :=
  (runMethod d Gen.EvolventCtl.initParams Gen.EvolventCtl.init s.heap {} [.ref s.lo, .ref s.hi, .int s.n, .int s.m]).bind
    fun r => session d ops r.heap r.self []

/-- **every valid session of C17, run through the generated trees, is the model's run.**  For every `Setup` and every call
sequence satisfying the hypotheses of the C17 theorems (`Setup.Valid`), interpreting `__init__` and then every call through the
statement tree generated from the source text of its method (call depth `d+1 ≥ 1`) is never stuck and ends in the heap, the object
and the outputs of `s.run ops`; `nexpExtended` is `Ev.nexp N` throughout.  Hence every theorem of `IOptProps/C17.lean` about
`s.run ops` is a theorem about the interpreted source trees. -/
theorem session_src (s : Setup α) (ops : List (Op α)) (hv : s.Valid ops) (d : Nat) :
    runSetup (d+1) s ops = some ((s.run ops).heap, Self.ofObj (s.run ops).obj 0 (Ev.nexp s.n), (s.run ops).outs) := by
  have hwf := hv.wf
  simp only [runSetup, init_src (d+1) s.heap s.n s.m s.lo s.hi hwf.1 hwf.2.1, Option.bind_some]
  induction hv with
  | nil _ => simp only [session, Setup.run_nil]
  | @snoc ops op hv' ha ih =>
    rw [session_append, ih]
    simp only [Option.bind_some, session]
    rw [callOp_src hv'.inv d 0 (Ev.nexp s.n) op (fun r hr => (ha r hr).2), Setup.run_snoc]
    rfl

end EvInterp
end

/-! ## Non-vacuity, and what the ties exclude: concrete runs over `ℚ` (`TruncNat` = floor)

The two runs of `__init__` are runs: `init_nf` takes the tree to its loop and the kernel evaluates the loop on the concrete state, so
they compare interpreter and model without `init_src`.  A run of one of the other trees on concrete data costs the kernel about ten times
what the tie costs (`GetImage` at `g1`: 4.8M heartbeats against 0.5M); there, where the hypotheses of a tie hold, the run is rewritten by
the tie and the model's side is evaluated by the kernel: those examples show that the hypotheses can be met and what the model computes.
The seeded trees and the runs outside the hypotheses are evaluated by the kernel as they stand. -/

namespace EvInterp.Examples
open EvObj Gen.ProcSrc
open Gen.EvolventCtl

local instance : TruncNat Rat := ⟨fun x => x.floor.toNat⟩

/-- a decidable view of an outcome -/
structure View where
  cells : List (List Rat)
  n : Option Nat
  m : Option Nat
  lower : Option (List Rat)
  upper : Option (List Rat)
  scratch : Option Nat
  nexpValue : Option Nat
  nexp : Option Rat
  outArray : Option Nat
  outNumber : Option Rat
  wrote : List Nat
  allocated : List Nat
deriving DecidableEq

def viewR (r : MRes Rat) : View :=
  { cells := r.heap.cells.toList, n := r.self.n, m := r.self.m, lower := r.self.lower, upper := r.self.upper,
    scratch := r.self.scratch, nexpValue := r.self.nexpValue, nexp := r.self.nexp,
    outArray := match r.out with | .array a => some a | _ => none,
    outNumber := match r.out with | .number x => some x | _ => none,
    wrote := r.wrote, allocated := r.allocated }

def view (r : Option (MRes Rat)) : Option View := r.map viewR

/-- caller arrays: `0 ↦ [0]` (lower), `1 ↦ [10]` (upper), `2 ↦ [7]` -/
def h1 : Heap Rat := { cells := #[[0], [10], [7]] }

/-- the interpreter RUN on the generated tree of `__init__` (no attribute set before): the model's `init`, scratch array at ref 3,
`nexpExtended = 2` -/
example : view (runMethod 0 initParams init h1 {} [.ref 0, .ref 1, .int 1, .int 10]) =
    some { cells := [[0], [10], [7], [0]], n := some 1, m := some 10, lower := some [0], upper := some [10], scratch := some 3,
           nexpValue := some 0, nexp := some 2, outArray := none, outNumber := none, wrote := [], allocated := [3] } ∧
    view (runMethod 0 initParams init h1 {} [.ref 0, .ref 1, .int 1, .int 10]) =
      view (some { heap := (EvObj.init h1 1 10 0 1).1, self := Self.ofObj (EvObj.init h1 1 10 0 1).2 0 2, out := .unit,
                   wrote := [], allocated := [3] }) := by
  rw [init_nf]
  decide +kernel

def o1 : Obj Rat := (EvObj.init h1 1 10 0 1).2
def g1 : Heap Rat := (EvObj.init h1 1 10 0 1).1

/-- `GetImage`, `N = 1`, by `getImage_src`: the scratch array (ref 3) is written IN PLACE, the result is a fresh array (ref 4) -/
example : view (runMethod 1 getImageParams getImage g1 (Self.ofObj o1 0 2) [.num (1/4)]) =
    some { cells := [[0], [10], [7], [5/2], [5/2]], n := some 1, m := some 10, lower := some [0], upper := some [10],
           scratch := some 3, nexpValue := some 0, nexp := some 2, outArray := some 4, outNumber := none,
           wrote := [3], allocated := [4] } ∧
    view (runMethod 1 getImageParams getImage g1 (Self.ofObj o1 0 2) [.num (1/4)]) =
      view (some (MRes.ofStep (step g1 o1 (.image (1/4))) 0 2)) := by
  rw [getImage_src 0 g1 o1 0 2 (1/4) (by decide) (by decide) (by decide)]
  decide +kernel

/-- `GetInverseImage` on the caller's array `2 ↦ [7]`, by `getInverseImage_src`: a fresh scratch array (ref 4), the argument untouched -/
example : view (runMethod 1 getInverseImageParams getInverseImage g1 (Self.ofObj o1 0 2) [.ref 2]) =
    some { cells := [[0], [10], [7], [0], [1/5]], n := some 1, m := some 10, lower := some [0], upper := some [10],
           scratch := some 4, nexpValue := some 0, nexp := some 2, outArray := none, outNumber := some (7/10),
           wrote := [4], allocated := [4] } ∧
    view (runMethod 1 getInverseImageParams getInverseImage g1 (Self.ofObj o1 0 2) [.ref 2]) =
      view (some (MRes.ofStep (step g1 o1 (.inverse 2)) 0 2)) := by
  rw [getInverseImage_src 0 g1 o1 0 2 2 (by decide) (by decide) (by decide)]
  decide +kernel

/-- the tie theorems instantiated at these runs (their hypotheses hold) -/
example := init_src 0 h1 1 10 0 1 (by decide) (by decide)
example := getImage_src 0 g1 o1 0 2 (1/4) (by decide) (by decide) (by decide)
example := getInverseImage_src 0 g1 o1 0 2 2 (by decide) (by decide) (by decide)
example := getPreimages_src 0 g1 o1 0 2 2 (by decide) (by decide) (by decide)
example := setBounds_src 0 g1 o1 0 2 2 1

def h2 : Heap Rat := { cells := #[[0, 0], [1, 2], [1/3, 1/5], [-1, -1]] }
def o2 : Obj Rat := (EvObj.init h2 2 3 0 1).2
def g2 : Heap Rat := (EvObj.init h2 2 3 0 1).1

example : view (runMethod 0 initParams init h2 {} [.ref 0, .ref 1, .int 2, .int 3]) =
    some { cells := [[0, 0], [1, 2], [1/3, 1/5], [-1, -1], [0, 0]], n := some 2, m := some 3, lower := some [0, 0],
           upper := some [1, 2], scratch := some 4, nexpValue := some 0, nexp := some 4, outArray := none, outNumber := none,
           wrote := [], allocated := [4] } := by
  rw [init_nf]
  decide +kernel

/-- `GetImage`, `N = 2`: a NEW scratch array (ref 5; the old one, ref 4, is left alone), result at ref 6 -/
example : view (runMethod 1 getImageParams getImage g2 (Self.ofObj o2 0 4) [.num (1/3)]) =
    some { cells := [[0, 0], [1, 2], [1/3, 1/5], [-1, -1], [0, 0], [1/16, 15/8], [1/16, 15/8]], n := some 2, m := some 3,
           lower := some [0, 0], upper := some [1, 2], scratch := some 5, nexpValue := some 0, nexp := some 4,
           outArray := some 6, outNumber := none, wrote := [5], allocated := [5, 6] } ∧
    view (runMethod 1 getImageParams getImage g2 (Self.ofObj o2 0 4) [.num (1/3)]) =
      view (some (MRes.ofStep (step g2 o2 (.image (1/3))) 0 4)) := by
  rw [getImage_src 0 g2 o2 0 4 (1/3) (by decide) (by decide) (by decide)]
  decide +kernel

example : view (runMethod 1 getPreimagesParams getPreimages g2 (Self.ofObj o2 0 4) [.ref 2]) =
      view (some (MRes.ofStep (step g2 o2 (.preimages 2)) 0 4)) ∧
    (view (runMethod 1 getPreimagesParams getPreimages g2 (Self.ofObj o2 0 4) [.ref 2])).map
        (fun v => (v.outNumber, v.scratch, v.wrote, v.allocated)) = some (some (1/16), some 5, [5], [5]) := by
  rw [getPreimages_src 0 g2 o2 0 4 2 (by decide) (by decide) (by decide)]
  decide +kernel

/-- `SetBounds`: the CONTENTS of the arrays 3 and 1 become the private bounds; heap untouched, nothing reported -/
example : view (runMethod 0 setBoundsParams setBounds g2 (Self.ofObj o2 0 4) [.ref 3, .ref 1]) =
      view (some (MRes.ofStep (step g2 o2 (.setBounds 3 1)) 0 4)) ∧
    (view (runMethod 0 setBoundsParams setBounds g2 (Self.ofObj o2 0 4) [.ref 3, .ref 1])).map
        (fun v => (v.lower, v.upper, v.cells.length, v.wrote, v.allocated)) =
      some (some [-1, -1], some [1, 2], 5, [], []) := by
  rw [setBounds_src 0 g2 o2 0 4 3 1]
  decide +kernel

example := getImage_src 0 g2 o2 0 4 (1/3) (by decide) (by decide) (by decide)
example := getPreimages_src 0 g2 o2 0 4 2 (by decide) (by decide) (by decide)

/-! ### whole sessions: the sessions of `IOptProps/C17.lean`, run through the generated trees -/

structure SView where
  cells : List (List Rat)
  scratch : Option Nat
  outs : List (Option Nat × Option Rat)
deriving DecidableEq

def viewS (t : Option (Heap Rat × Self Rat × List (Out Rat))) : Option SView :=
  t.map fun t =>
    { cells := t.1.cells.toList, scratch := t.2.1.scratch,
      outs := t.2.2.map fun o =>
        (match o with | .array a => some a | _ => none, match o with | .number x => some x | _ => none) }

example : viewS (runSetup 1 EvObj.Example.s1 EvObj.Example.ops1) =
      viewS (some ((EvObj.Example.s1.run EvObj.Example.ops1).heap, Self.ofObj (EvObj.Example.s1.run EvObj.Example.ops1).obj 0 2,
                   (EvObj.Example.s1.run EvObj.Example.ops1).outs)) ∧
    viewS (runSetup 1 EvObj.Example.s1 EvObj.Example.ops1) =
      some { cells := [[0], [10], [7], [15/2], [5/2], [15/2], [-1/4]], scratch := some 6,
             outs := [(some 4, none), (some 5, none), (none, some (1/4))] } := by
  rw [session_src EvObj.Example.s1 EvObj.Example.ops1 EvObj.Example.valid1 0]
  decide +kernel

example : viewS (runSetup 1 EvObj.Example.s2 EvObj.Example.ops2) =
      viewS (some ((EvObj.Example.s2.run EvObj.Example.ops2).heap, Self.ofObj (EvObj.Example.s2.run EvObj.Example.ops2).obj 0 4,
                   (EvObj.Example.s2.run EvObj.Example.ops2).outs)) := by
  rw [session_src EvObj.Example.s2 EvObj.Example.ops2 EvObj.Example.valid2 0]
  decide +kernel

example := session_src EvObj.Example.s1 EvObj.Example.ops1 EvObj.Example.valid1 0
example := session_src EvObj.Example.s2 EvObj.Example.ops2 EvObj.Example.valid2 0

/-! ### outside the fragment = stuck -/

/-- at call depth 0 `self.__TransformP2D()` cannot be called: the hypothesis `d+1` of `getImage_src` is needed -/
example : view (runMethod 0 getImageParams getImage g1 (Self.ofObj o1 0 2) [.num (1/4)]) = none := by decide +kernel

/-- on an object without attributes a query is stuck -/
example : view (runMethod 1 getImageParams getImage g1 {} [.num (1/4)]) = none := by decide +kernel

/-- a statement outside the fragment is not silently accepted: an unclassified statement, `np.copy` of an ATTRIBUTE as a
statement, `np.array` without `dtype=np.double` -/
example : view (runMethod 1 ["self"] [.other "self.yValues = None"] g1 (Self.ofObj o1 0 2) []) = none ∧
    view (runMethod 1 ["self"] [.call [] "np.copy" ["self.yValues"]] g1 (Self.ofObj o1 0 2) []) = none ∧
    view (runMethod 1 ["self", "y"] [.call ["self.yValues"] "np.array" ["y"]] g1 (Self.ofObj o1 0 2) [.ref 2]) = none := by
  decide +kernel

/-! ### seeded edits of the source are stuck or NOT equal to the model -/

/-- `GetImage` with `return self.yValues` instead of the copy (the aliasing defect `stepNoCopy` of C17) -/
def getImageNoCopy : List Stmt :=
  [
    .call [] "self.__GetYonX" ["x"],
    .call [] "self.__TransformP2D" [],
    .ret "self.yValues"]

/-- **a dropped copy on `return` is not accepted**: stuck, for `N = 1` and `N = 2` -/
theorem noCopy_stuck :
    view (runMethod 1 getImageParams getImageNoCopy g1 (Self.ofObj o1 0 2) [.num (1/4)]) = none ∧
    view (runMethod 1 getImageParams getImageNoCopy g2 (Self.ofObj o2 0 4) [.num (1/3)]) = none := by decide +kernel

/-- `GetInverseImage` with `self.yValues = y` (the caller's array becomes the scratch array) -/
def getInverseAlias : List Stmt :=
  [
    .assign "self.yValues" "y",
    .call [] "self.__TransformD2P" [],
    .call ["x"] "self.__GetXonY" [],
    .ret "x"]

/-- `GetInverseImage` with `self.yValues = np.asarray(y)` (no copy for a float64 array) -/
def getInverseAsarray : List Stmt :=
  [
    .call ["self.yValues"] "np.asarray" ["y"],
    .call [] "self.__TransformD2P" [],
    .call ["x"] "self.__GetXonY" [],
    .ret "x"]

/-- **an alias stored into `self.yValues` is not accepted**: stuck -/
theorem alias_stuck :
    view (runMethod 1 getInverseImageParams getInverseAlias g1 (Self.ofObj o1 0 2) [.ref 2]) = none ∧
    view (runMethod 1 getInverseImageParams getInverseAsarray g1 (Self.ofObj o1 0 2) [.ref 2]) = none ∧
    view (runMethod 1 getInverseImageParams getInverseAlias g2 (Self.ofObj o2 0 4) [.ref 2]) = none := by decide +kernel

/-- `SetBounds` keeping the caller's arrays -/
def setBoundsAlias : List Stmt :=
  [
    .assign "self.lowerBoundOfFloatVariables" "lowerBoundOfFloatVariables",
    .assign "self.upperBoundOfFloatVariables" "upperBoundOfFloatVariables"]

theorem setBoundsAlias_stuck :
    view (runMethod 1 setBoundsParams setBoundsAlias g2 (Self.ofObj o2 0 4) [.ref 3, .ref 1]) = none := by decide +kernel

/-- `GetImage` with `__TransformP2D` called BEFORE `__GetYonX` -/
def getImageSwapped : List Stmt :=
  [
    .call [] "self.__TransformP2D" [],
    .call [] "self.__GetYonX" ["x"],
    .ret "np.copy(self.yValues)"]

/-- what the swapped tree leaves in the heap: the cube point is returned untransformed (`[-1/4]` instead of `[5/2]`;
`[-7/16, 7/16]` instead of `[1/16, 15/8]`), and for `N = 2` the OLD scratch array is transformed instead -/
theorem swapped_cells :
    (view (runMethod 1 getImageParams getImageSwapped g1 (Self.ofObj o1 0 2) [.num (1/4)])).map (·.cells) =
      some [[0], [10], [7], [-1/4], [-1/4]] ∧
    (view (runMethod 1 getImageParams getImageSwapped g2 (Self.ofObj o2 0 4) [.num (1/3)])).map (·.cells) =
      some [[0, 0], [1, 2], [1/3, 1/5], [-1, -1], [1/2, 1], [-7/16, 7/16], [-7/16, 7/16]] := by decide +kernel

/-- **the tie is sensitive to the order `__GetYonX`; `__TransformP2D`**: on the swapped tree the interpreter is not stuck and its
result differs from the model (`swapped_cells` against the cells of the model's step) -/
theorem swapped_not_model :
    runMethod 1 getImageParams getImageSwapped g1 (Self.ofObj o1 0 2) [.num (1/4)] ≠
      some (MRes.ofStep (step g1 o1 (.image (1/4))) 0 2) ∧
    runMethod 1 getImageParams getImageSwapped g2 (Self.ofObj o2 0 4) [.num (1/3)] ≠
      some (MRes.ofStep (step g2 o2 (.image (1/3))) 0 4) := by
  constructor
  · intro h
    have h' := swapped_cells.1.symm.trans (congrArg (fun o => (view o).map (·.cells)) h)
    revert h'
    decide +kernel
  · intro h
    have h' := swapped_cells.2.symm.trans (congrArg (fun o => (view o).map (·.cells)) h)
    revert h'
    decide +kernel

example : (view (runMethod 1 getImageParams getImageSwapped g1 (Self.ofObj o1 0 2) [.num (1/4)])).map (·.cells) =
      some [[0], [10], [7], [-1/4], [-1/4]] ∧
    (view (runMethod 1 getImageParams getImageSwapped g2 (Self.ofObj o2 0 4) [.num (1/3)])).map (·.cells) =
      some [[0, 0], [1, 2], [1/3, 1/5], [-1, -1], [1/2, 1], [-7/16, 7/16], [-7/16, 7/16]] := swapped_cells

/-- `GetInverseImage` without `__TransformD2P` -/
def getInverseNoD2P : List Stmt :=
  [
    .call ["self.yValues"] "np.array" ["y", "dtype=np.double"],
    .call ["x"] "self.__GetXonY" [],
    .ret "x"]

theorem noD2P_not_model :
    runMethod 1 getInverseImageParams getInverseNoD2P g1 (Self.ofObj o1 0 2) [.ref 2] ≠
      some (MRes.ofStep (step g1 o1 (.inverse 2)) 0 2) := by
  intro h
  have h' := congrArg (fun o => (view o).map (·.outNumber)) h
  revert h'
  decide +kernel

/-- `__init__` allocating the scratch array BEFORE `numberOfFloatVariables` is stored -/
def initZerosFirst : List Stmt :=
  [
    .call ["self.yValues"] "np.zeros" ["self.numberOfFloatVariables", "dtype=np.double"],
    .assign "self.numberOfFloatVariables" "numberOfFloatVariables",
    .call ["self.lowerBoundOfFloatVariables"] "np.copy" ["lowerBoundOfFloatVariables"],
    .call ["self.upperBoundOfFloatVariables"] "np.copy" ["upperBoundOfFloatVariables"],
    .assign "self.evolventDensity" "evolventDensity",
    .assign "self.nexpValue" "0",
    .assign "self.nexpExtended" "1.0",
    .forEach "i" "range(0, self.numberOfFloatVariables)" [
      .assign "self.nexpExtended" "self.nexpExtended + self.nexpExtended"]]

/-- reading an attribute that is not assigned yet is stuck -/
theorem initZerosFirst_stuck :
    view (runMethod 0 initParams initZerosFirst h1 {} [.ref 0, .ref 1, .int 1, .int 10]) = none := by decide +kernel

/-- `__init__` without the doubling loop: not the model's object (`nexpExtended = 1` instead of `Ev.nexp 2 = 4`) -/
theorem initNoLoop_not_model :
    runMethod 0 initParams (init.take 7) h2 {} [.ref 0, .ref 1, .int 2, .int 3] ≠
      some { heap := (EvObj.init h2 2 3 0 1).1, self := Self.ofObj (EvObj.init h2 2 3 0 1).2 0 (Ev.nexp 2), out := .unit,
             wrote := [], allocated := [4] } := by
  intro h
  have h' := congrArg (fun o => (view o).map (·.nexp)) h
  revert h'
  decide +kernel

/-! ### the hypotheses of the ties are needed -/

/-- **`init_src` needs valid refs, because the MODEL reads the bounds after allocating the scratch array**: with the dangling ref
`3` (= the size of the heap) as lower bound, the source copies an array that does not exist (empty content here; in Python the
caller cannot even name it), whereas `EvObj.init` reads ref 3 AFTER `alloc` and gets the new scratch array `[0]`.  Irrelevant for
real inputs (`Setup.WF`). -/
example : (view (runMethod 0 initParams init h1 {} [.ref 3, .ref 1, .int 1, .int 10])).map (·.lower) = some (some []) ∧
    (EvObj.init h1 1 10 3 1).2.lower = [0] := by decide +kernel

/-- **`getInverseImage_src` needs an argument with `N` entries**: on a shorter array (here a dangling ref, empty content) the
source raises `IndexError` (stuck), the model's `zipWith` truncates silently -/
example : view (runMethod 1 getInverseImageParams getInverseImage g2 (Self.ofObj o2 0 4) [.ref 9]) = none := by decide +kernel

end EvInterp.Examples

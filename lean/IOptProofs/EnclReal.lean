import Mathlib.Analysis.Calculus.MeanValue
import Mathlib.Analysis.Calculus.Deriv.Pow
import Mathlib.Analysis.Calculus.Deriv.Mul
import Mathlib.Analysis.Calculus.Deriv.Add
import Mathlib.Tactic.Linarith
import Mathlib.Tactic.Ring
import Mathlib.Tactic.Positivity
/-!
# Enclosure kit, real analysis part 1: Taylor bounds with explicit remainder from derivative bounds

`abs_le_of_deriv_bound`: if `h c = 0` and `|h' x| ≤ K |x - c|^n` everywhere then
`|h x| ≤ K |x - c|^(n+1) / (n+1)` (Mathlib's fencing theorem along the segment from `c` to `x`).  One application per order gives the
Taylor bounds `taylor1`, `taylor2`, `taylor3` used by the leaf tests of the bisection certificates.
-/

namespace Encl

theorem abs_le_of_deriv_bound_right {h h' : ℝ → ℝ} {c K : ℝ} {n : ℕ}
    (hd : ∀ x, HasDerivAt h (h' x) x) (hc : h c = 0)
    (hb : ∀ x, c ≤ x → |h' x| ≤ K * (x - c) ^ n) {x : ℝ} (hx : c ≤ x) :
    |h x| ≤ K * (x - c) ^ (n + 1) / (n + 1) := by
  -- fencing: `|h|` starts below `B y = K (y-c)^(n+1)/(n+1)` at `c` and `|h'| ≤ B'` to the right of `c`
  have hB : ∀ y, HasDerivAt (fun y : ℝ => K * (y - c) ^ (n + 1) / (n + 1)) (K * (y - c) ^ n) y := by
    intro y
    have h1 : HasDerivAt (fun y : ℝ => (y - c) ^ (n + 1)) (((n + 1 : ℕ) : ℝ) * (y - c) ^ n * 1) y := by
      simpa using ((hasDerivAt_id' y).sub_const c).fun_pow (n + 1)
    refine ((h1.const_mul K).div_const ((n : ℝ) + 1)).congr_deriv ?_
    push_cast
    field_simp
  exact image_norm_le_of_norm_deriv_right_le_deriv_boundary
    (B := fun y => K * (y - c) ^ (n + 1) / (n + 1))
    (fun y _ => (hd y).continuousAt.continuousWithinAt) (fun y _ => (hd y).hasDerivWithinAt)
    (by simp [hc]) hB (fun y hy => hb y hy.1) ⟨hx, le_rfl⟩

theorem abs_le_of_deriv_bound {h h' : ℝ → ℝ} {c K : ℝ} {n : ℕ}
    (hd : ∀ x, HasDerivAt h (h' x) x) (hc : h c = 0)
    (hb : ∀ x, |h' x| ≤ K * |x - c| ^ n) (x : ℝ) :
    |h x| ≤ K * |x - c| ^ (n + 1) / (n + 1) := by
  -- along the segment from `c` to `x`: `t ↦ h (c + t (x - c))` on `[0, 1]`, so that `x` may lie on either side of `c`
  have hg : ∀ t, HasDerivAt (fun t : ℝ => h (c + t * (x - c))) (h' (c + t * (x - c)) * (x - c)) t := fun t => by
    have h1 : HasDerivAt (fun t : ℝ => c + t * (x - c)) (x - c) t := by
      simpa using ((hasDerivAt_id' t).mul_const (x - c)).const_add c
    exact (hd _).comp t h1
  have := abs_le_of_deriv_bound_right (n := n) (K := K * |x - c| ^ (n + 1)) (c := 0) hg (by simp [hc])
    (fun t ht => by
      have := hb (c + t * (x - c))
      rw [add_sub_cancel_left, abs_mul, abs_of_nonneg ht, mul_pow] at this
      rw [abs_mul, sub_zero]
      calc _ ≤ K * (t ^ n * |x - c| ^ n) * |x - c| := mul_le_mul_of_nonneg_right this (abs_nonneg _)
        _ = _ := by ring) zero_le_one
  simpa using this

theorem taylor1 {f f1 : ℝ → ℝ} {D : ℝ} (h0 : ∀ x, HasDerivAt f (f1 x) x) (hD : ∀ x, |f1 x| ≤ D) (c x : ℝ) :
    |f x - f c| ≤ D * |x - c| := by
  have := abs_le_of_deriv_bound (h := fun x => f x - f c) (h' := f1) (c := c) (K := D) (n := 0)
    (fun x => (h0 x).sub_const _) (by simp) (fun x => by simpa using hD x) x
  simpa using this

theorem taylor2 {f f1 f2 : ℝ → ℝ} {D : ℝ}
    (h0 : ∀ x, HasDerivAt f (f1 x) x) (h1 : ∀ x, HasDerivAt f1 (f2 x) x) (hD : ∀ x, |f2 x| ≤ D) (c x : ℝ) :
    |f1 x - f1 c| ≤ D * |x - c| ∧ |f x - f c - f1 c * (x - c)| ≤ D * |x - c| ^ 2 / 2 := by
  refine ⟨taylor1 h1 hD c x, ?_⟩
  have hd : ∀ x, HasDerivAt (fun x => f x - f c - f1 c * (x - c)) (f1 x - f1 c) x := by
    intro x
    have := ((h0 x).sub_const (f c)).fun_sub ((((hasDerivAt_id' x).sub_const c)).const_mul (f1 c))
    simpa using this
  have := abs_le_of_deriv_bound (c := c) (K := D) (n := 1) hd (by simp)
    (fun x => by simpa using taylor1 h1 hD c x) x
  norm_num at this ⊢
  linarith

theorem taylor3 {f f1 f2 f3 : ℝ → ℝ} {D : ℝ}
    (h0 : ∀ x, HasDerivAt f (f1 x) x) (h1 : ∀ x, HasDerivAt f1 (f2 x) x)
    (h2 : ∀ x, HasDerivAt f2 (f3 x) x) (hD : ∀ x, |f3 x| ≤ D) (c x : ℝ) :
    |f2 x - f2 c| ≤ D * |x - c| ∧
    |f1 x - f1 c - f2 c * (x - c)| ≤ D * |x - c| ^ 2 / 2 ∧
    |f x - f c - f1 c * (x - c) - f2 c * (x - c) ^ 2 / 2| ≤ D * |x - c| ^ 3 / 6 := by
  have t := fun x => taylor2 h1 h2 hD c x
  refine ⟨(t x).1, (t x).2, ?_⟩
  have hd : ∀ x, HasDerivAt (fun x => f x - f c - f1 c * (x - c) - f2 c * (x - c) ^ 2 / 2)
      (f1 x - f1 c - f2 c * (x - c)) x := by
    intro x
    have hp : HasDerivAt (fun x : ℝ => (x - c) ^ 2) (((2 : ℕ) : ℝ) * (x - c) ^ 1 * 1) x := by
      simpa using ((hasDerivAt_id' x).sub_const c).fun_pow 2
    have := (((h0 x).sub_const (f c)).fun_sub ((((hasDerivAt_id' x).sub_const c)).const_mul (f1 c))).fun_sub
      ((hp.const_mul (f2 c)).div_const 2)
    exact this.congr_deriv (by push_cast; ring)
  have := abs_le_of_deriv_bound (c := c) (K := D / 2) (n := 2) hd (by simp)
    (fun x => by have := (t x).2; linarith only [this]) x
  norm_num at this ⊢
  linarith

theorem mul_le_max_mul {a s r : ℝ} (hs : 0 ≤ s) (hsr : s ≤ r) : a * s ≤ max a 0 * r :=
  (mul_le_mul_of_nonneg_right (le_max_left a 0) hs).trans (mul_le_mul_of_nonneg_left hsr (le_max_right a 0))

/-- the leaf bounds of the bisection: on `|x - c| ≤ ρ`,
`f x ≥ f c - |f' c| ρ - max(-f'' c, 0) ρ²/2 - D ρ³/6`, the symmetric upper bound, and
`|f' x| ≤ |f' c| + |f'' c| ρ + D ρ²/2` -/
theorem taylor3_leaf {f f1 f2 f3 : ℝ → ℝ} {D : ℝ}
    (h0 : ∀ x, HasDerivAt f (f1 x) x) (h1 : ∀ x, HasDerivAt f1 (f2 x) x)
    (h2 : ∀ x, HasDerivAt f2 (f3 x) x) (hD : ∀ x, |f3 x| ≤ D) {c x ρ : ℝ} (hx : |x - c| ≤ ρ) :
    f c - |f1 c| * ρ - max (-f2 c) 0 * ρ ^ 2 / 2 - D * ρ ^ 3 / 6 ≤ f x ∧
    f x ≤ f c + |f1 c| * ρ + max (f2 c) 0 * ρ ^ 2 / 2 + D * ρ ^ 3 / 6 ∧
    |f1 x| ≤ |f1 c| + |f2 c| * ρ + D * ρ ^ 2 / 2 := by
  obtain ⟨_, t1, t0⟩ := taylor3 h0 h1 h2 hD c x
  have hD0 : 0 ≤ D := le_trans (abs_nonneg _) (hD c)
  have hd := abs_nonneg (x - c)
  have p2 : (x - c) ^ 2 ≤ ρ ^ 2 := by rw [← sq_abs]; exact pow_le_pow_left₀ hd hx 2
  have d3 := mul_le_mul_of_nonneg_left (pow_le_pow_left₀ hd hx 3) hD0
  have d2 := mul_le_mul_of_nonneg_left (pow_le_pow_left₀ hd hx 2) hD0
  -- each term of the Taylor polynomial about `c` against its bound on the ball
  have a1 : |f1 c * (x - c)| ≤ |f1 c| * ρ := by
    rw [abs_mul]; exact mul_le_mul_of_nonneg_left hx (abs_nonneg _)
  have a2 : |f2 c * (x - c)| ≤ |f2 c| * ρ := by
    rw [abs_mul]; exact mul_le_mul_of_nonneg_left hx (abs_nonneg _)
  have a1' := abs_le.mp a1
  have b1 := mul_le_max_mul (a := -f2 c) (sq_nonneg (x - c)) p2
  have b2 := mul_le_max_mul (a := f2 c) (sq_nonneg (x - c)) p2
  have t0' := abs_le.mp t0
  refine ⟨by linarith only [t0'.1, a1'.1, b1, d3], by linarith only [t0'.2, a1'.2, b2, d3], ?_⟩
  have := abs_add_three (f1 x - f1 c - f2 c * (x - c)) (f1 c) (f2 c * (x - c))
  rw [show f1 x - f1 c - f2 c * (x - c) + f1 c + f2 c * (x - c) = f1 x by ring] at this
  linarith only [this, t1, a2, d2]

end Encl

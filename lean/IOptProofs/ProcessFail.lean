import IOptProofs.ProcessOps
/-!
# An objective that raises in the middle of `Solve`
-/

set_option linter.unusedSectionVars false

section
variable {α : Type} [Add α] [Sub α] [Mul α] [Div α] [Neg α] [LT α] [LE α]
  [DecidableLT α] [DecidableLE α] [OfNat α 0] [OfNat α 1] [OfNat α 2] [OfNat α 4] [Fns α]

namespace AGP.Ctl

def eraseR (it : Item α) : Item α := { it with R := none }

theorem recalcAll_items_eraseR (p : Params α) (s : State α) :
    (recalcAll p s).items.map eraseR = s.items.map eraseR :=
  recalcAll_items_map_R_none p s

theorem recalcAll_items_of_not_recalc (p : Params α) (s : State α) (h : s.recalc = false) :
    (recalcAll p s).items = s.items := by
  unfold recalcAll; simp [h]

end AGP.Ctl

namespace Proc
open AGP AGP.Ctl

theorem RunPrefix.oracle_congr {p : Params α} {f g : Nat → List α → Option α} {ps psj : PState α} {j : Nat} {ids : List Nat}
    (h : ∀ i pt, ps.calls ≤ i → i < ps.calls + j → f i pt = g i pt) (hg : RunPrefix p g ps j psj ids) :
    RunPrefix p f ps j psj ids := by
  constructor
  · rw [iterN_oracle_congr h]; exact hg.run
  · intro i hi
    obtain ⟨psi, idsi, hr, hst⟩ := hg.notStop i hi
    refine ⟨psi, idsi, ?_, hst⟩
    rw [iterN_oracle_congr (fun i' pt h1 h2 => h i' pt h1 (by omega))]; exact hr

theorem RunPrefix.take {p : Params α} {f : Nat → List α → Option α} {ps psj : PState α} {j : Nat} {ids : List Nat}
    (h : RunPrefix p f ps j psj ids) (i : Nat) (hi : i < j) :
    ∃ psi idsi ps' id, RunPrefix p f ps i psi idsi ∧ stopNow p psi = false ∧ oneIteration p f psi = .ok (ps', id) := by
  obtain ⟨psi, idsi, hri, hst⟩ := h.notStop i hi
  have hrun := h.run
  rw [show j = i + ((j - i - 1) + 1) by omega] at hrun
  obtain ⟨psi', _, _, hri', hrest, -⟩ := iterN_add_ok hrun
  cases hri.symm.trans hri'
  obtain ⟨ps', id, _, ho, -, -⟩ := iterN_cons_ok hrest
  exact ⟨psi, idsi, ps', id, ⟨hri, fun i' hi' => h.notStop i' (Nat.lt_trans hi' hi)⟩, hst, ho⟩

/-- What the selection of the failed iteration keeps (`s.nTrials = s.iters = n` in the state it starts from): the clauses of
`C16_fail_contained_partial` and of the routes in `IOptProps/C16routes.lean`, in their order, followed by whatever the statement goes on with. -/
theorem prepare_fail_kept {p : Params α} {s : State α} {pr : Prep α} (hpr : prepare p s = .ok pr) {n : Nat}
    (hnt : s.nTrials = n) (hit : s.iters = n) {T : Prop} (t : T) :
    pr.s.items.map eraseR = s.items.map eraseR ∧ (s.recalc = false → pr.s.items = s.items) ∧
    pr.s.M = s.M ∧ pr.s.Z = s.Z ∧ pr.s.best = s.best ∧
    (findItem pr.s.items pr.s.best).map eraseR = (findItem s.items s.best).map eraseR ∧
    pr.s.nTrials = s.nTrials ∧ pr.s.nTrials = n ∧ pr.s.iters = s.iters ∧ pr.s.iters = n ∧ pr.s.nextId = s.nextId ∧ T := by
  have F := prepare_ok_fields hpr
  have hitems : pr.s.items.map eraseR = s.items.map eraseR := by rw [F.items]; exact recalcAll_items_eraseR p s
  refine ⟨hitems, fun h => by rw [F.items]; exact recalcAll_items_of_not_recalc p s h, F.M, F.Z, F.best, ?_, F.nTrials,
    F.nTrials.trans hnt, F.iters, F.iters.trans hit, F.nextId, t⟩
  rw [F.best]; exact findItem_transfer hitems (fun _ => rfl) _

/-- what it changes: the clauses after `sf = pr.s` -/
theorem prepare_fail_changed {p : Params α} {s : State α} {pr : Prep α} (hpr : prepare p s = .ok pr) {T : Prop} (t : T) :
    pr.s.minDelta = some (minOpt pr.old.delta s.minDelta) ∧ (∃ key oid, (selState p s).queue = (key, oid) :: pr.s.queue) ∧
    pr.s.recalc = false ∧ T := by
  obtain ⟨key, oid, q, S⟩ := prepare_ok hpr
  exact ⟨prepare_ok_minDelta hpr, ⟨key, oid, by rw [S.queue, S.s_eq]⟩, (prepare_ok_fields hpr).recalc, t⟩

/-- the counters of state `K` of the canonical sequence from a fresh solver -/
theorem fresh_run_fields {p : Params α} {g : Nat → List α → Option α} {K : Nat} {psk : PState α} {ids : List Nat}
    (hrun : iterN p g K {} = .ok (psk, ids)) {s : State α} (hm : psk.m = some s) :
    psk.evals.length = K ∧ s.nTrials = K ∧ s.iters = K := by
  have e := iterN_eff hrun
  have h1 := e.nTrials_fresh
  have h2 := e.iters_fresh
  simp only [PState.nTrials, PState.iters, hm] at h1 h2
  exact ⟨e.evals_length_fresh, h1, h2⟩

/-- `Solve` is called in a state `ps`.  The objective `f` raises at call index `ps.calls + i`
(the `(i+1)`-th evaluation made inside this `Solve`, not the first iteration ever: `ps.m ≠ none ∨ 0 < i`); `g` agrees with
`f` at the `i` call indices before, and the `g`-run of this `Solve` makes at least `i + 1` trials.  Then `Solve` with `f`
makes `i` iterations (those of the `g`-run), its `(i+1)`-th iteration selects (`pr`) and fails, and the `try` block ends in
the state described explicitly: method state `pr.s`, no new record, one more call, one `OnEndIteration` per completed
iteration and the printed line. -/
theorem fail_contained_of_run {p : Params α} {f g : Nat → List α → Option α} {ps : PState α} {i : Nat}
    (hm : ps.m ≠ none ∨ 0 < i) (hf : ∀ pt, f (ps.calls + i) pt = none)
    (hg : ∀ j pt, ps.calls ≤ j → j < ps.calls + i → g j pt = f j pt)
    {refine' : PState α → Option (LocalResult α)}
    (hK : ps.nTrials + i + 1 ≤ (solve p g refine' ps).nTrials) :
    ∃ psi ids s pr, iterN p g i ps = .ok (psi, ids) ∧ psi.m = some s ∧ prepare p s = .ok pr ∧ stopNow p psi = false ∧
      ∀ refine : PState α → Option (LocalResult α),
        solve p f refine ps =
          (refineStep refine
            { m := some pr.s, log := ps.log ++ firstMark ps i ++ endEach ids ++ [Event.exceptionPrinted],
              evals := psi.evals, nLocal := ps.nLocal, calls := ps.calls + i + 1, refined := ps.refined }).appendLog
          [Event.methodStop (stopCond p pr.s)] := by
  obtain ⟨K, psK, idsK, rG, YG, G⟩ := solve_passes p g ps
  have hKn : (solve p g refine' ps).nTrials = ps.nTrials + K := by rw [G.solve_eq]; simpa using G.passes.eff.nTrials
  rw [hKn] at hK
  have hiK : i < K := Nat.lt_of_add_lt_add_left (Nat.lt_of_succ_le hK)
  obtain ⟨psi, ids, ps', id, hpreg, hst, hog⟩ := G.pre.take i hiK
  have hpref : RunPrefix p f ps i psi ids := hpreg.oracle_congr (fun j pt h1 h2 => (hg j pt h1 h2).symm)
  have e := iterN_eff hpreg.run
  have c3 : psi.calls = ps.calls + i := e.calls
  have hmi : psi.m ≠ none := e.m_ne_none hm
  have hlog : psi.log = ps.log ++ firstMark ps i := e.log
  obtain ⟨pt, z, P⟩ := oneIteration_ok hog
  rcases P.step with F | ⟨s, pr, N⟩
  · exact absurd F.m hmi
  have hms := N.m
  have hpr := N.prep
  have hfail : f psi.calls pr.point = none := by rw [c3]; exact hf _
  -- the budget leaves room for the failing pass
  obtain ⟨d, hd⟩ : ∃ d, p.itersLimit + 1 = i + (d + 1) := by
    have := G.pre.iters_le (Nat.zero_lt_of_lt hiK)
    exact ⟨p.itersLimit - i, by omega⟩
  refine ⟨psi, ids, s, pr, hpreg.run, hms, hpr, hst, fun refine => ?_⟩
  have hX : (solveLoop p f (p.itersLimit + 1) ps).1 =
      { m := some pr.s, log := ps.log ++ firstMark ps i ++ endEach ids ++ [Event.exceptionPrinted],
        evals := psi.evals, nLocal := ps.nLocal, calls := ps.calls + i + 1, refined := ps.refined } := by
    have hend : LoopEnd p f psi (some .objective) { psi with calls := psi.calls + 1, m := some pr.s } :=
      .raise hst (by rw [oneIteration_eq]; simp only [hms, hpr, hfail])
    rw [hd, (solveLoop_of_end hpref hend d).1]
    simp only [PState.appendLog, hlog, c3, e.nLocal, e.refined, excOf, List.append_assoc]
  rw [solve_eq, hX, stopNow_refineStep]
  rfl

end Proc
end

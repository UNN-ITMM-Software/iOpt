import IOptProofs.GrishSound5
/-!
# Grishagin checker, soundness part 6: the complete row check `rowOK`

`ctx_cert`: what the value test, the comparison `swlo ≤ gthr` and the bisection certify about `S` for any represented
context; `rowOK_sound` puts in the context of the table row.
-/

namespace Grish
open Encl Finset

/-- what an accepted row certifies about `S = d1² + d2²`, the declared point `(px, py)` and the declared value `v`:
the value window (V), the global bound (G), and a witness point that beats every point of the box outside the
`0.005`-neighbourhood of the declared point (P) -/
structure SCert (S : ℝ → ℝ → ℝ) (px py v : ℝ) : Prop where
  px0 : 0 ≤ px
  px1 : px ≤ 1
  py0 : 0 ≤ py
  py1 : py ≤ 1
  vge : 1 ≤ -v
  V1 : (-v - 1 / 10000) ^ 2 ≤ S px py
  V2 : S px py ≤ (-v + 1 / 10000) ^ 2
  G : ∀ x y, 0 ≤ x → x ≤ 1 → 0 ≤ y → y ≤ 1 → S x y ≤ (501 / 500 * -v) ^ 2
  P : ∃ w1 w2 : ℝ, 0 ≤ w1 ∧ w1 ≤ 1 ∧ 0 ≤ w2 ∧ w2 ≤ 1 ∧
    ∀ x y, 0 ≤ x → x ≤ 1 → 0 ≤ y → y ≤ 1 → ¬(|x - px| ≤ 1 / 200 ∧ |y - py| ≤ 1 / 200) → S x y < S w1 w2

theorem tsub_le_and_le_add {n e : ℕ} {t : ℝ} (ht : 0 ≤ t) (h : |t - n| ≤ e) :
    ((Nat.sub n e : ℕ) : ℝ) ≤ t ∧ t ≤ ((Nat.add n e : ℕ) : ℝ) := by
  obtain ⟨h1, h2⟩ := abs_le.mp h
  constructor
  · rw [Nat.sub_eq, cast_tsub]
    exact max_le (by linarith only [h1]) ht
  · rw [cast_nat_add]
    linarith only [h2]

/-- lower / upper bound of `|d|·2^164` at a dyadic point from the computed `absVal` -/
theorem absVal_spec {M : Mat} {α β : ℕ → ℕ → ℝ} (hM : MatRep M α β)
    {nx kx ny ky : ℕ} (hx : nx ≤ 2 ^ kx) (hy : ny ≤ 2 ^ ky) :
    ((Nat.sub (absVal M (trigs nx kx) (trigs ny ky)) E0T : ℕ) : ℝ)
        ≤ |gen (coAB α β) (nx / 2 ^ kx) (ny / 2 ^ ky)| * 2 ^ 164 ∧
    |gen (coAB α β) (nx / 2 ^ kx) (ny / 2 ^ ky)| * 2 ^ 164
        ≤ ((Nat.add (absVal M (trigs nx kx) (trigs ny ky)) E0T : ℕ) : ℝ) := by
  obtain ⟨tyok, _, _⟩ := trigs_ok hy
  obtain ⟨c0, _, _⟩ := centre_spec hM.ha hM.hb hx hy
  refine tsub_le_and_le_add (by positivity) ?_
  unfold absVal
  rw [adiff_cast, val_spec hM tyok, abs_mul, abs_of_pos (by positivity : (0 : ℝ) < 2 ^ 164), mul_comm,
    ← mul_sub, abs_mul, abs_of_pos (by positivity : (0 : ℝ) < 2 ^ 164), E0T_cast]
  calc (2 : ℝ) ^ 164 * |(|gen (coAB α β) (nx / 2 ^ kx) (ny / 2 ^ ky)|
          - |genH (coAB α β) (trigs nx kx) (trigs ny ky)|)|
      ≤ 2 ^ 164 * (1 / 2 ^ 34) :=
        mul_le_mul_of_nonneg_left ((abs_abs_sub_abs_le_abs_sub _ _).trans c0) (by positivity)
    _ ≤ 2 ^ 137 := by norm_num

/-- `sLo ≤ S·2^328 ≤ sHi` at a dyadic point -/
theorem point_bounds {M1 M2 : Mat} {α1 β1 α2 β2 : ℕ → ℕ → ℝ} (h1 : MatRep M1 α1 β1) (h2 : MatRep M2 α2 β2)
    {nx kx ny ky : ℕ} (hx : nx ≤ 2 ^ kx) (hy : ny ≤ 2 ^ ky) :
    ((sLo M1 M2 (trigs nx kx) (trigs ny ky) : ℕ) : ℝ) ≤ SS α1 β1 α2 β2 (nx / 2 ^ kx) (ny / 2 ^ ky) * 2 ^ 328 ∧
    SS α1 β1 α2 β2 (nx / 2 ^ kx) (ny / 2 ^ ky) * 2 ^ 328 ≤ ((sHi M1 M2 (trigs nx kx) (trigs ny ky) : ℕ) : ℝ) := by
  obtain ⟨l1, u1⟩ := absVal_spec h1 hx hy
  obtain ⟨l2, u2⟩ := absVal_spec h2 hx hy
  have e328 : (2 : ℝ) ^ 328 = 2 ^ 164 * 2 ^ 164 := by rw [← pow_add]
  have sq : ∀ A : ℝ, A ^ 2 * (2 ^ 164 * 2 ^ 164) = (|A| * 2 ^ 164) * (|A| * 2 ^ 164) := fun A => by
    rw [← sq_abs A]; ring
  unfold SS sLo sHi
  simp only [Nat.add_eq, Nat.mul_eq, Nat.cast_add, Nat.cast_mul] at u1 u2 ⊢
  rw [e328, add_mul, sq, sq]
  exact ⟨add_le_add (mul_self_le_mul_self (Nat.cast_nonneg _) l1) (mul_self_le_mul_self (Nat.cast_nonneg _) l2),
    add_le_add (mul_self_le_mul_self (by positivity) u1) (mul_self_le_mul_self (by positivity) u2)⟩

/-- comparisons of the checker, all scaled by `T` and cleared of the denominator `D` -/
theorem sq_div_le_of_mul_le {a D T L S : ℝ} (hD : 0 < D) (hT : 0 < T) (h : a ^ 2 * T ≤ L * D ^ 2)
    (hL : L ≤ S * T) : (a / D) ^ 2 ≤ S := by
  rw [div_pow, div_le_iff₀ (by positivity)]
  refine le_of_mul_le_mul_right (h.trans ((mul_le_mul_of_nonneg_right hL (by positivity)).trans_eq ?_)) hT
  ring

theorem le_sq_div_of_mul_le {b D T H S : ℝ} (hD : 0 < D) (hT : 0 < T) (h : H * D ^ 2 ≤ b ^ 2 * T)
    (hH : S * T ≤ H) : S ≤ (b / D) ^ 2 := by
  rw [div_pow, le_div_iff₀ (by positivity)]
  refine le_of_mul_le_mul_right (((mul_le_mul_of_nonneg_right hH (by positivity)).trans h).trans_eq' ?_) hT
  ring

/-- (V): the window `(|v| ∓ 1e-4)²` around `S` at the declared point, `|v| = vn/2^vk` -/
theorem valueOK_sound {ctx : Ctx} {vn vk : ℕ} (h : valueOK ctx vn vk = true) {S : ℝ}
    (lo : ((sLo ctx.m1 ctx.m2 (trigs ctx.pxN ctx.pxK) (trigs ctx.pyN ctx.pyK) : ℕ) : ℝ) ≤ S * 2 ^ 328)
    (hi : S * 2 ^ 328 ≤ ((sHi ctx.m1 ctx.m2 (trigs ctx.pxN ctx.pxK) (trigs ctx.pyN ctx.pyK) : ℕ) : ℝ)) :
    ((vn : ℝ) / 2 ^ vk - 1 / 10000) ^ 2 ≤ S ∧ S ≤ ((vn : ℝ) / 2 ^ vk + 1 / 10000) ^ 2 := by
  unfold valueOK at h
  simp only [Bool.and_eq_true, Nat.ble_eq] at h
  obtain ⟨⟨h1, h2⟩, h3⟩ := h
  have h1' : 2 ^ vk ≤ 10000 * vn := by
    have e : Nat.shiftLeft 1 vk = 1 * 2 ^ vk := Nat.shiftLeft_eq 1 vk
    rw [e, one_mul] at h1
    exact h1
  have c2 := (Nat.cast_le (α := ℝ)).mpr h2
  have c3 := (Nat.cast_le (α := ℝ)).mpr h3
  rw [shl_cast] at c2 c3
  push_cast [Nat.cast_sub h1'] at c2 c3
  have hD : (0 : ℝ) < 10000 * 2 ^ vk := by positivity
  have hT : (0 : ℝ) < 2 ^ 328 := by positivity
  have e1 : (vn : ℝ) / 2 ^ vk - 1 / 10000 = (10000 * (vn : ℝ) - 2 ^ vk) / (10000 * 2 ^ vk) := by field_simp
  have e2 : (vn : ℝ) / 2 ^ vk + 1 / 10000 = (10000 * (vn : ℝ) + 2 ^ vk) / (10000 * 2 ^ vk) := by field_simp
  rw [e1, e2]
  exact ⟨sq_div_le_of_mul_le hD hT c2 lo, le_sq_div_of_mul_le hD hT c3 hi⟩

/-- the threshold of (G) -/
theorem gthr_le (vn vk : ℕ) :
    ((Nat.shiftLeft ((501 * vn) ^ 2) 328 / (500 * 2 ^ vk) ^ 2 : ℕ) : ℝ)
      ≤ (501 / 500 * ((vn : ℝ) / 2 ^ vk)) ^ 2 * 2 ^ 328 := by
  refine Nat.cast_div_le.trans (le_of_eq ?_)
  rw [shl_cast]
  push_cast
  generalize (2 : ℝ) ^ 328 = T
  field_simp

/-- the facts that the checks on the per-function constants `ctx` certify about `S`; the witness is
`(wx, wy)/2^32` and `|v| = vn/2^vk` -/
theorem ctx_cert {ctx : Ctx} {α1 β1 α2 β2 : ℕ → ℕ → ℝ} (hc : CtxRep ctx α1 β1 α2 β2) {vn vk wx wy : ℕ}
    (hpx : ctx.pxN ≤ 2 ^ ctx.pxK) (hpy : ctx.pyN ≤ 2 ^ ctx.pyK) (hwx : wx ≤ 2 ^ 32) (hwy : wy ≤ 2 ^ 32)
    (hvge : 2 ^ vk ≤ vn) (hval : valueOK ctx vn vk = true)
    (hsw : ctx.swlo = sLo ctx.m1 ctx.m2 (trigs wx 32) (trigs wy 32))
    (hgt : ctx.gthr = Nat.shiftLeft ((501 * vn) ^ 2) 328 / (500 * 2 ^ vk) ^ 2)
    (hsg : ctx.swlo ≤ ctx.gthr) (hbnb : bnb ctx 24 0 0 0 = true) :
    SCert (SS α1 β1 α2 β2) (ctx.pxN / 2 ^ ctx.pxK) (ctx.pyN / 2 ^ ctx.pyK) (-((vn : ℝ) / 2 ^ vk)) := by
  obtain ⟨ux0, ux1⟩ := unit_of_le hpx
  obtain ⟨uy0, uy1⟩ := unit_of_le hpy
  obtain ⟨uw0, uw1⟩ := unit_of_le hwx
  obtain ⟨uv0, uv1⟩ := unit_of_le hwy
  obtain ⟨plo, phi⟩ := point_bounds hc.m1 hc.m2 hpx hpy
  obtain ⟨V1, V2⟩ := valueOK_sound hval plo phi
  have wlo := (point_bounds hc.m1 hc.m2 hwx hwy).1
  rw [← hsw] at wlo
  have hsg' : (ctx.swlo : ℝ) ≤ ctx.gthr := Nat.cast_le.mpr hsg
  have hg : (ctx.gthr : ℝ) ≤ (501 / 500 * ((vn : ℝ) / 2 ^ vk)) ^ 2 * 2 ^ 328 := by
    rw [hgt]
    exact gthr_le vn vk
  have hT : (0 : ℝ) < 2 ^ 328 := by positivity
  have hvge' : (1 : ℝ) ≤ (vn : ℝ) / 2 ^ vk := by
    rw [one_le_div (by positivity)]
    exact_mod_cast hvge
  rw [← neg_neg ((vn : ℝ) / 2 ^ vk)] at hvge' V1 V2 hg
  refine
    { px0 := ux0, px1 := ux1, py0 := uy0, py1 := uy1, vge := hvge', V1 := V1, V2 := V2, G := ?G
      P := ⟨(wx : ℝ) / 2 ^ 32, (wy : ℝ) / 2 ^ 32, uw0, uw1, uv0, uv1, ?P⟩ }
  case G =>
    intro x y a b c d
    refine le_of_mul_le_mul_right (le_trans ?_ hg) hT
    rcases bnb_sound_unit hc hbnb a b c d with g | g
    · exact g.le.trans hsg'
    · exact g.1
  case P =>
    intro x y a b c d hout
    rcases bnb_sound_unit hc hbnb a b c d with g | g
    · exact lt_of_mul_lt_mul_right (g.trans_le wlo) hT.le
    · exact absurd g.2 hout

theorem dyR_natAbs_neg {d : Dy} (h : d.1 < 0) : dyR d = -(((d.1.natAbs : ℕ) : ℝ) / 2 ^ d.2) := by
  rw [dyR_eq, natAbs_cast, abs_of_neg (by exact_mod_cast h)]
  ring

/-- `d1² + d2²` of a packed table row -/
noncomputable def rowS (row : ℕ) (x y : ℝ) : ℝ :=
  SS (cA row 0) (fun i j => ((1 : ℤ) : ℝ) * cA row 1 i j) (cA row 2) (fun i j => ((-1 : ℤ) : ℝ) * cA row 3 i j) x y

/-- the declared point among the fields of a `Ctx`.  Stated for variable fields and then instantiated: asked whether
`(mkCtx row wx wy).pxK` and `(Dy.get row 197).2` agree by unfolding, the kernel evaluates `Dy.get`, which is dear. -/
theorem ctx_point (m1 m2 : Mat) (w1 w2 g s a b c d : ℕ) :
    ((Ctx.mk m1 m2 w1 w2 g s a b c d).pxN = a ∧ (Ctx.mk m1 m2 w1 w2 g s a b c d).pxK = b) ∧
    ((Ctx.mk m1 m2 w1 w2 g s a b c d).pyN = c ∧ (Ctx.mk m1 m2 w1 w2 g s a b c d).pyK = d) :=
  ⟨⟨rfl, rfl⟩, ⟨rfl, rfl⟩⟩

theorem mkCtx_point (row wx wy : ℕ) :
    ((mkCtx row wx wy).pxN = (Dy.get row 197).1.toNat ∧ (mkCtx row wx wy).pxK = (Dy.get row 197).2) ∧
    ((mkCtx row wx wy).pyN = (Dy.get row 198).1.toNat ∧ (mkCtx row wx wy).pyK = (Dy.get row 198).2) := by
  unfold mkCtx
  exact ctx_point ..

theorem mkCtx_swlo (row wx wy : ℕ) :
    (mkCtx row wx wy).swlo = sLo (mkCtx row wx wy).m1 (mkCtx row wx wy).m2 (trigs wx 32) (trigs wy 32) := by
  simp only [mkCtx]

theorem mkCtx_gthr (row wx wy : ℕ) :
    (mkCtx row wx wy).gthr
      = Nat.shiftLeft ((501 * (Dy.get row 199).1.natAbs) ^ 2) 328 / (500 * 2 ^ (Dy.get row 199).2) ^ 2 := by
  simp only [mkCtx]

theorem rowOK_sound {row wx wy : ℕ} (h : rowOK row wx wy = true) :
    SCert (rowS row) (dyR (Dy.get row 197)) (dyR (Dy.get row 198)) (dyR (Dy.get row 199)) := by
  unfold rowOK at h
  simp only [Bool.and_eq_true, decide_eq_true_eq, Nat.ble_eq] at h
  obtain ⟨⟨⟨⟨⟨⟨⟨⟨⟨hcoef, hpx0⟩, hpy0⟩, hpx1⟩, hpy1⟩, hwx⟩, hwy⟩, hvneg⟩, hvge⟩, ⟨hval, hsg⟩, hbnb⟩ := h
  obtain ⟨⟨xN, xK⟩, ⟨yN, yK⟩⟩ := mkCtx_point row wx wy
  rw [← xN, ← xK] at hpx1
  rw [← yN, ← yK] at hpy1
  have key := ctx_cert (ctxRep_mk hcoef wx wy) hpx1 hpy1 hwx hwy hvge hval
    (mkCtx_swlo row wx wy) (mkCtx_gthr row wx wy) hsg hbnb
  rwa [xN, xK, yN, yK, ← dyR_of_nonneg hpx0, ← dyR_of_nonneg hpy0, ← dyR_natAbs_neg hvneg] at key

end Grish

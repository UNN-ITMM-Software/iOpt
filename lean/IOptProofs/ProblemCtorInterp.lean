import IOptProofs.ProblemCtorInterpDefs
import IOptProofs.BenchMeta
import IOptProofs.KernelRfl
import IOptProofs.Frontier
/-!
# `Rastrigin(n)` and `XSquared(n)`, constructed from the source text, declare the model's metadata rows, for every `n`

The two trees of `IOptGen/ProblemCtorsSrc.lean` have the same shape: eight statements that set the scalar attributes and allocate the
names array, the loop that fills it, twelve statements for the bounds and the known optimum.  Only the loop depends on `n` through the
control flow: it is handled by induction on the number of rounds (`names_loop`).  The two straight-line parts are run by the kernel
with `n` a variable (`*_pre`, `*_post`).

NOT modelled: the `dtype` of an array (`dtypes` only lists the accepted texts).  `self.floatVariableNames[i] = i` stores `int i` here;
NumPy converts to the item type of `dtype=str`, which has width 0, so the cells of the real object are empty strings (DESIGN.md §0).
The metadata row records only the length of the names array.
-/

namespace PCInterp
open Gen Gen.ProcSrc Gen.ProblemCtors BenchMeta EvLoop

theorem execList_append (sup : String → Option (Store → Option Store)) (a b : List Stmt) (st : Store) :
    execList sup (a ++ b) st = (execList sup a st).bind (execList sup b) := by
  induction a generalizing st with
  | nil => simp [execList]
  | cons s t ih =>
    simp only [List.cons_append, execList]
    cases execStmt sup s st with
    | none => rfl
    | some st' => simpa using ih st'

/-- the store after the scalar assignments and the allocation of the names array -/
def S (n : Nat) (nm : String) (names : List Val) : Store :=
  [("dimension", .int n), ("self.numberOfFloatVariables", .int n), ("self.numberOfDisreteVariables", .lit "0"),
   ("self.numberOfObjectives", .lit "1"), ("self.numberOfConstraints", .lit "0"), ("self.floatVariableNames", .arr names),
   ("self.discreteVariableNames", .arr []), ("self.lowerBoundOfFloatVariables", .arr []),
   ("self.upperBoundOfFloatVariables", .arr []), ("self.discreteVariableValues", .arr []), ("self.knownOptimum", .arr []),
   ("self.name", .cls nm), ("self.dimension", .int n)]

/-- The first eight statements (`super().__init__()` through the generated tree of `Problem.__init__`, the scalar attributes, the
allocation of the names array) do not branch on `n`: the kernel runs them with `n` a variable. -/
theorem rastrigin_pre (n : Nat) :
    execList supers (rastrigin_init.take 8) [("dimension", .int n)] = some (S n "Rastrigin" (List.replicate n .unset)) := by
  kernel_rfl

theorem xsquared_pre (n : Nat) :
    execList supers (xSquared_init.take 8) [("dimension", .int n)] = some (S n "XSquared" (List.replicate n .unset)) := by
  kernel_rfl

/-- the body of `for i in range(self.dimension): self.floatVariableNames[i] = i`, as `execStmt` runs it -/
def namesBody (i : Nat) (s : Store) : Option Store :=
  (execList supers [.assign "self.floatVariableNames[i]" "i"] (setKey s "i" (.int i))).map (eraseKey · "i")

theorem setKey_i (n : Nat) (nm : String) (cells : List Val) (k : Nat) :
    setKey (S n nm cells) "i" (.int k) = S n nm cells ++ [("i", .int k)] := by
  simp [setKey, S]
theorem evalExpr_i (n : Nat) (nm : String) (cells : List Val) (k : Nat) :
    evalExpr (S n nm cells ++ [("i", .int k)]) "i" = some (.int k) := by
  simp [evalExpr, lookup, S]
theorem storeTo_names (n : Nat) (nm : String) (cells : List Val) (k : Nat) (v : Val) (hk : k < cells.length) :
    storeTo (S n nm cells ++ [("i", .int k)]) "self.floatVariableNames[i]" v
      = some (S n nm (cells.set k v) ++ [("i", .int k)]) := by
  simp [lookup, storeTo, setKey, elemTable, evalNat, Val.toNat?, Val.asArr, evalExpr, setCell, S, hk]
theorem eraseKey_i (n : Nat) (nm : String) (cells : List Val) (k : Nat) :
    eraseKey (S n nm cells ++ [("i", .int k)]) "i" = S n nm cells := by
  simp [eraseKey, S]

theorem namesBody_S (n : Nat) (nm : String) (cells : List Val) (k : Nat) (hk : k < cells.length) :
    namesBody k (S n nm cells) = some (S n nm (cells.set k (.int k))) := by
  simp only [namesBody, execList, execStmt, setKey_i, evalExpr_i, Option.bind_some, storeTo_names n nm cells k _ hk,
    Option.map_some, eraseKey_i]

/-- after `k` rounds the names array is `EvLoop.mixed k` of the final and the freshly allocated content -/
theorem names_loop (n : Nat) (nm : String) : ∀ k, k ≤ n →
    forIter namesBody k (S n nm (List.replicate n .unset)) =
      some (S n nm (mixed k ((List.range n).map .int) (List.replicate n .unset)))
  | 0, _ => by rw [forIter, mixed_zero]
  | k + 1, h => by
    have hl : ((List.range n).map Val.int).length = (List.replicate n Val.unset).length := by simp
    rw [forIter, names_loop n nm k (by omega), Option.bind_some,
      namesBody_S n nm _ k (by rw [length_mixed hl (by simp; omega)]; simp; omega), ← set_mixed hl (by simp; omega)]
    simp

theorem names_stmt (n : Nat) (nm : String) :
    execStmt supers (.forRange "i" "self.dimension" [.assign "self.floatVariableNames[i]" "i"])
      (S n nm (List.replicate n .unset)) = some (S n nm ((List.range n).map .int)) := by
  have h : evalCount (S n nm (List.replicate n .unset)) "self.dimension" = some n := by kernel_rfl
  have := names_loop n nm n (Nat.le_refl n)
  -- `mixed_full` is stated for `0 + n` rounds
  rw [← Nat.zero_add n, mixed_full (by simp) (by simp), Nat.zero_add] at this
  rw [execStmt, h, Option.bind_some]
  exact this

/-- the store during the second half of the constructor: bounds `lo`, `hi`, known optimum `ko`, locals `loc` -/
def G (n : Nat) (nm : String) (names : List Val) (lo hi ko : Val) (loc : Store) : Store :=
  [("dimension", .int n), ("self.numberOfFloatVariables", .int n), ("self.numberOfDisreteVariables", .lit "0"),
   ("self.numberOfObjectives", .lit "1"), ("self.numberOfConstraints", .lit "0"), ("self.floatVariableNames", .arr names),
   ("self.discreteVariableNames", .arr []), ("self.lowerBoundOfFloatVariables", lo),
   ("self.upperBoundOfFloatVariables", hi), ("self.discreteVariableValues", .arr []), ("self.knownOptimum", ko),
   ("self.name", .cls nm), ("self.dimension", .int n)] ++ loc

theorem S_eq_G (n : Nat) (nm : String) (names : List Val) : S n nm names = G n nm names (.arr []) (.arr []) (.arr []) [] := rfl

/-- the final store -/
def F (n : Nat) (nm : String) (names : List Val) (l h : String) : Store :=
  G n nm names (.arr (List.replicate n (.lit l))) (.arr (List.replicate n (.lit h)))
    (.arr [.obj "Trial" [.obj "Point" [.arr (List.replicate n (.lit "0")), .arr []], .arr [.obj "FunctionValue" [.lit "0"]]]])
    [("pointfv", .arr (List.replicate n (.lit "0"))),
     ("KOpoint", .obj "Point" [.arr (List.replicate n (.lit "0")), .arr []]),
     ("KOfunV", .arr [.obj "FunctionValue" [.lit "0"]])]

/-- what `a.fill(s)` leaves in an array that `np.ndarray(shape=n)` allocated -/
theorem replicate_lit (n : Nat) (s : String) :
    List.replicate n (Val.lit s) = (List.replicate n Val.unset).map fun _ => .lit s := by
  rw [List.map_replicate]

/-- The statements after the names loop, from any content of the names array.  They do not branch on `n` either; `fill` maps over the
cells, so the final store is first put in that form (`replicate_lit`). -/
theorem rastrigin_post (n : Nat) (names : List Val) :
    execList supers (rastrigin_init.drop 9) (S n "Rastrigin" names) = some (F n "Rastrigin" names "-2.2" "1.8") := by
  rw [F, replicate_lit, replicate_lit, replicate_lit]
  kernel_rfl

theorem xsquared_post (n : Nat) (names : List Val) :
    execList supers (xSquared_init.drop 9) (S n "XSquared" names) = some (F n "XSquared" names "-1" "1") := by
  rw [F, replicate_lit, replicate_lit, replicate_lit]
  kernel_rfl

theorem run_parts {n : Nat} {nm l h : String} {pre post : List Stmt}
    (hpre : execList supers pre [("dimension", .int n)] = some (S n nm (List.replicate n .unset)))
    (hpost : ∀ names, execList supers post (S n nm names) = some (F n nm names l h)) :
    run (pre ++ .forRange "i" "self.dimension" [.assign "self.floatVariableNames[i]" "i"] :: post) [("dimension", .int n)] =
      some (F n nm ((List.range n).map .int) l h) := by
  rw [run, execList_append, hpre, Option.bind_some, execList, names_stmt, Option.bind_some, hpost]

/-- **The final store of `Rastrigin(n)`**, for every `n`: names `0 … n-1`, bounds `n` copies of the literals `-2.2` / `1.8`,
one known optimum: the point of `n` copies of `0` with value `0`. -/
theorem rastrigin_run (n : Nat) :
    run rastrigin_init [("dimension", .int n)] = some (F n "Rastrigin" ((List.range n).map .int) "-2.2" "1.8") :=
  run_parts (pre := rastrigin_init.take 8) (post := rastrigin_init.drop 9) (rastrigin_pre n) (rastrigin_post n)

theorem xsquared_run (n : Nat) :
    run xSquared_init [("dimension", .int n)] = some (F n "XSquared" ((List.range n).map .int) "-1" "1") :=
  run_parts (pre := xSquared_init.take 8) (post := xSquared_init.drop 9) (xsquared_pre n) (xsquared_post n)

theorem toDyList_replicate (s : String) (d : Dy) (h : lookup dyTable s = some d) :
    ∀ n, toDyList (List.replicate n (.lit s)) = some (List.replicate n d)
  | 0 => rfl
  | n + 1 => by simp [List.replicate_succ, toDyList, Val.toDy?, h, toDyList_replicate s d h n]

theorem dyTable_model : lookup dyTable "-2.2" = some dyM2_2 ∧ lookup dyTable "1.8" = some dy1_8 ∧
    lookup dyTable "-1" = some dyM1 ∧ lookup dyTable "1" = some dy1 ∧ lookup dyTable "0" = some dyZero := by
  refine ⟨?_, ?_, ?_, ?_, ?_⟩ <;> kernel_rfl

theorem familyTable_model : lookup familyTable "Rastrigin" = some 5 ∧ lookup familyTable "XSquared" = some 6 :=
  ⟨by kernel_rfl, by kernel_rfl⟩

theorem metaOf_G (a0 a1 n : Nat) (nm : String) (names lo hi pt : List Val) (dv v : Val) (loc : Store) :
    metaOf a0 a1 (G n nm names (.arr lo) (.arr hi)
        (.arr [.obj "Trial" [.obj "Point" [.arr pt, dv], .arr [.obj "FunctionValue" [v]]]]) loc) =
      (lookup familyTable nm).bind fun fam => (toDyList lo).bind fun lower => (toDyList hi).bind fun upper =>
        (toDyList pt).bind fun optPoint => v.toDy?.map fun optValue =>
          { family := fam, arg0 := a0, arg1 := a1, dimension := n, nFloat := n, nNames := names.length,
            nObjectives := 1, nConstraints := 0, nOptima := 1, lower := lower, upper := upper,
            optPoint := optPoint, optValue := optValue } := by
  kernel_rfl

theorem metaOf_F {a0 a1 n : Nat} {nm l h : String} {names : List Val} {fam : Nat} {dl dh : Dy}
    (hf : lookup familyTable nm = some fam) (hl : lookup dyTable l = some dl) (hh : lookup dyTable h = some dh) :
    metaOf a0 a1 (F n nm names l h) =
      some { family := fam, arg0 := a0, arg1 := a1, dimension := n, nFloat := n, nNames := names.length,
             nObjectives := 1, nConstraints := 0, nOptima := 1, lower := List.replicate n dl, upper := List.replicate n dh,
             optPoint := List.replicate n dyZero, optValue := dyZero } := by
  rw [F, metaOf_G, hf, toDyList_replicate l dl hl, toDyList_replicate h dh hh, toDyList_replicate "0" dyZero dyTable_model.2.2.2.2]
  simp only [Option.bind_some, Val.toDy?, dyTable_model.2.2.2.2, Option.map_some]

/-- **`Rastrigin.__init__` (source tree) declares `rastriginMeta n`, for every `n`.**  Family code 5 is READ from
`self.name = Rastrigin` (`familyTable`); `arg0 = n` (the constructor argument, as the table records it) and `arg1 = 0` are
supplied from outside. -/
theorem rastrigin_init_src (n : Nat) :
    declares rastrigin_init [("dimension", .int n)] n 0 = some (rastriginMeta n) := by
  rw [declares, rastrigin_run, Option.bind_some, metaOf_F familyTable_model.1 dyTable_model.1 dyTable_model.2.1,
    List.length_map, List.length_range]
  rfl

/-- **`XSquared.__init__` (source tree) declares `xsquaredMeta n`, for every `n`** (family code 6 read from `self.name`). -/
theorem xsquared_init_src (n : Nat) :
    declares xSquared_init [("dimension", .int n)] n 0 = some (xsquaredMeta n) := by
  rw [declares, xsquared_run, Option.bind_some, metaOf_F familyTable_model.2 dyTable_model.2.2.1 dyTable_model.2.2.2.1,
    List.length_map, List.length_range]
  rfl

end PCInterp

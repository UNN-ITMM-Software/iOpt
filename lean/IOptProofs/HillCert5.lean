import IOptProofs.HillRows
/-! Kernel-evaluated certificates (V), (G), (P), (L) of the Hill functions 500..599, twenty rows per evaluation. -/
namespace Hill
theorem hill_block_25 : ∀ i ∈ List.range' 500 20, hillOK i = true := hill_block _ _ (by decide +kernel)
theorem hill_block_26 : ∀ i ∈ List.range' 520 20, hillOK i = true := hill_block _ _ (by decide +kernel)
theorem hill_block_27 : ∀ i ∈ List.range' 540 20, hillOK i = true := hill_block _ _ (by decide +kernel)
theorem hill_block_28 : ∀ i ∈ List.range' 560 20, hillOK i = true := hill_block _ _ (by decide +kernel)
theorem hill_block_29 : ∀ i ∈ List.range' 580 20, hillOK i = true := hill_block _ _ (by decide +kernel)
end Hill

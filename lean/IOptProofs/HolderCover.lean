import IOptProofs.HolderRoot
import IOptProps.C09
/-!
# Lipschitz objectives along the evolvent: the curve comes close to every cube point

Every cube point `q` is within half a cell diagonal `√n·2^-(m+1)` of a point `y(x)` of the curve,
namely `x = __GetXonY q` (`C09_image_of_inverse`); a function that is `L`-Lipschitz on the cube is
Hölder along the curve up to the resolution term `L·√(n+3)·2^-m`.
-/

namespace Ev
attribute [local instance] Ev.Num.floorTrunc

def InCube (n : Nat) (q : List ℝ) : Prop := q.length = n ∧ ∀ v ∈ q, |v| ≤ 1 / 2

def LipCube (n : Nat) (f : List ℝ → ℝ) (L : ℝ) : Prop :=
  ∀ a b, InCube n a → InCube n b → |f a - f b| ≤ L * dist2 a b

theorem imageCube_inCube {n : Nat} (hn : Ev.DimOK n) (m : Nat) (x : ℝ) :
    InCube n (imageCube n m x) := by
  obtain ⟨h1, h2⟩ := Num.imageCube_bound hn m x
  exact ⟨h1, fun v hv => (h2 v hv).le⟩

theorem getR_replicate {n i : Nat} (hi : i < n) (c : ℝ) : getR (List.replicate n c) i = c := by
  rw [getR_eq_getElem (by simpa using hi)]; simp

theorem abs_getR_sub_le_dist2 {n : Nat} {a b : List ℝ} (ha : a.length = n) (hb : b.length = n)
    {i : Nat} (hi : i < n) : |getR a i - getR b i| ≤ dist2 a b := by
  unfold dist2
  apply Real.abs_le_sqrt
  rw [sqDist_eq_sum ha hb]
  exact Finset.single_le_sum (f := fun j => (getR a j - getR b j)^2)
    (fun j _ => sq_nonneg _) (Finset.mem_range.2 hi)

/-- the Lipschitz objective of the non-vacuity examples -/
theorem lipCube_coord {n i : Nat} (hi : i < n) : LipCube n (fun q => getR q i) 1 := by
  intro a b ha hb
  rw [one_mul]
  exact abs_getR_sub_le_dist2 ha.1 hb.1 hi

/-- the cube has two points at positive distance -/
theorem LipCube.nonneg {n : Nat} (hn : 0 < n) {f : List ℝ → ℝ} {L : ℝ} (h : LipCube n f L) :
    0 ≤ L := by
  have ha : InCube n (List.replicate n 0) :=
    ⟨by simp, fun v hv => by rw [List.eq_of_mem_replicate hv]; norm_num⟩
  have hb : InCube n (List.replicate n (1/2)) :=
    ⟨by simp, fun v hv => by
      rw [List.eq_of_mem_replicate hv, abs_of_nonneg (by norm_num : (0:ℝ) ≤ 1/2)]⟩
  have hd : 0 < dist2 (List.replicate n (0:ℝ)) (List.replicate n (1/2)) :=
    lt_of_lt_of_le (by rw [getR_replicate hn, getR_replicate hn]; norm_num)
      (abs_getR_sub_le_dist2 ha.1 hb.1 hn)
  exact le_of_mul_le_mul_right (by rw [zero_mul]; exact (abs_nonneg _).trans (h _ _ ha hb)) hd

theorem exists_curve_point_near {n : Nat} (hn : Ev.DimOK n) (m : Nat) {q : List ℝ}
    (hq : InCube n q) :
    ∃ x : ℝ, 0 ≤ x ∧ x < 1 ∧ dist2 q (imageCube n m x) ≤ Real.sqrt n / 2^(m+1) := by
  obtain ⟨ds, hv, hlen, hx, _, hil, hclose⟩ := C09_image_of_inverse hn m q hq.1 hq.2
  have hB : (0:ℝ) < ((2:ℝ)^n)^m := by positivity
  refine ⟨inverseCube n m q, ?_, ?_, ?_⟩
  · rw [hx]; positivity
  · rw [hx, div_lt_one hB]
    have := indexOf_lt hv
    rw [hlen] at this
    exact_mod_cast this
  · apply dist2_le_of_sq (by positivity)
    rw [div_pow, Real.sq_sqrt (Nat.cast_nonneg n), ← mul_one_div, ← one_div_pow]
    apply sqDist_le_of_all hq.1 hil
    intro i hi
    have h1 : i < q.length := by rw [hq.1]; exact hi
    have h2 : i < (imageCube n m (inverseCube n m q)).length := by rw [hil]; exact hi
    rw [getR_eq_getElem h1, getR_eq_getElem h2]
    exact hclose i h1 h2

theorem lip_along_curve {n : Nat} (hn : Ev.DimOK n) (m : Nat) {f : List ℝ → ℝ} {L : ℝ}
    (hf : LipCube n f L) {x' x'' : ℝ} (h0' : 0 ≤ x') (h1' : x' ≤ 1) (h0'' : 0 ≤ x'')
    (h1'' : x'' ≤ 1) {t : ℝ} (ht : 0 ≤ t) (hd : |x' - x''| ≤ t^n) :
    |f (imageCube n m x') - f (imageCube n m x'')| ≤
      2 * L * Real.sqrt (n + 3) * t + L * Real.sqrt (n + 3) / 2^m := by
  have hL := hf.nonneg hn.pos
  have h1 := hf _ _ (imageCube_inCube hn m x') (imageCube_inCube hn m x'')
  have h2 := dist2_imageCube_le_add hn m h0' h1' h0'' h1'' ht hd
  calc _ ≤ L * dist2 (imageCube n m x') (imageCube n m x'') := h1
    _ ≤ L * (2 * Real.sqrt (n + 3) * t + Real.sqrt (n + 3) / 2^m) :=
        mul_le_mul_of_nonneg_left h2 hL
    _ = _ := by ring

end Ev

import IOptProofs.GklsCheck
import Mathlib.Tactic.IntervalCases
/-!
# Kernel-decided certificates of the regenerated GKLS data sets of dimension 4, function numbers 51..100

`Gkls.Cert 4 k` = well-formedness `WF` + class clauses `ClassOK` + identity (`dim = 4`, `number = k`), exact integer
arithmetic in the kernel.  Every function number is evaluated by a call of its own: the cost of one evaluation grows with the
square of the number of data sets in it.
-/

namespace Gkls

theorem cert4b : ∀ k ∈ List.range' 51 50, Cert 4 k = true := by
  intro k hk
  obtain ⟨h1, h2⟩ := List.mem_range'_1.1 hk
  interval_cases k <;> decide +kernel

end Gkls

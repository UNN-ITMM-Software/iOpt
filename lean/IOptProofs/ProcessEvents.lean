import IOptProofs.ProcessOps
/-!
# The event log (listener notifications)
-/

set_option linter.unusedSectionVars false

namespace Proc

def idsOf : List Event → List Nat
  | [] => []
  | e :: t => (match e with | .endIteration ids => ids | _ => []) ++ idsOf t

theorem idsOf_append (l1 l2 : List Event) : idsOf (l1 ++ l2) = idsOf l1 ++ idsOf l2 := by
  induction l1 with
  | nil => rfl
  | cons e t ih => simp [idsOf, ih]

theorem idsOf_endEach (ids : List Nat) : idsOf (endEach ids) = ids := by
  induction ids with
  | nil => rfl
  | cons i t ih =>
    have : endEach (i :: t) = Event.endIteration [i] :: endEach t := rfl
    rw [this]; simp only [idsOf]; rw [ih]; rfl

def Event.isEnd : Event → Bool
  | .endIteration _ => true
  | _ => false

theorem idsOf_of_no_end {l : List Event} (h : ∀ e ∈ l, e.isEnd = false) : idsOf l = [] := by
  induction l with
  | nil => rfl
  | cons e t ih =>
    have he := h e List.mem_cons_self
    have ht := ih (fun e' he' => h e' (List.mem_cons_of_mem _ he'))
    cases e with
    | endIteration ids => cases he
    | _ => exact ht

def Ordered (log : List Event) : Prop :=
  ∀ n ids, log[n]? = some (Event.endIteration ids) → Event.beforeStart ∈ log.take n

theorem Ordered.nil : Ordered [] := by intro n ids h; simp at h

theorem Ordered.append {l l2 : List Event} (h : Ordered l)
    (h2 : (∃ e ∈ l2, e.isEnd = true) → Event.beforeStart ∈ l) : Ordered (l ++ l2) := by
  intro n ids hn
  rcases Nat.lt_or_ge n l.length with hlt | hge
  · rw [List.getElem?_append_left hlt] at hn
    have := h n ids hn
    rw [List.take_append_of_le_length (Nat.le_of_lt hlt)]
    exact this
  · rw [List.getElem?_append_right hge] at hn
    have hmem : Event.endIteration ids ∈ l2 := List.mem_of_getElem? hn
    have hb := h2 ⟨_, hmem, rfl⟩
    rw [List.take_append, List.take_of_length_le hge]
    exact List.mem_append_left _ hb

end Proc

section
variable {α : Type} [Add α] [Sub α] [Mul α] [Div α] [Neg α] [LT α] [LE α]
  [DecidableLT α] [DecidableLE α] [OfNat α 0] [OfNat α 1] [OfNat α 2] [OfNat α 4] [Fns α]

namespace Proc
open AGP AGP.Ctl

theorem idsOf_firstMark (ps : PState α) (a : Nat) : idsOf (firstMark ps a) = [] := by
  rcases firstMark_cases ps a with h | h <;> rw [h] <;> rfl

/-- The invariant of the EVENT log ("Ev" = event; nothing to do with the evolvent, `Ev.Inv` in `IOptProofs/EvInv.lean`) -/
structure EvInv (ps : PState α) : Prop where
  cons : Consistent ps
  started : ps.m ≠ none → Event.beforeStart ∈ ps.log
  ordered : Ordered ps.log
  ids : (idsOf ps.log).Sublist (List.range' 2 ps.nTrials)
  /-- `BeforeMethodStart` is repeated only after a failed first evaluation -/
  count : ps.log.count Event.beforeStart + ps.evals.length ≤ ps.calls + (if ps.m.isNone then 0 else 1)
  called : ps.calls = 0 ∨ Event.beforeStart ∈ ps.log
  pos : ps.m ≠ none → 1 ≤ ps.nTrials

theorem EvInv.fresh : EvInv ({} : PState α) where
  cons := Consistent.fresh
  started := by intro h; exact absurd rfl h
  ordered := Ordered.nil
  ids := by show ([] : List Nat).Sublist _; exact List.nil_sublist _
  count := by show 0 + 0 ≤ 0 + 0; omega
  called := .inl rfl
  pos := by intro h; exact absurd rfl h

/-- the passes of an operation keep the invariant: they write `BeforeMethodStart` exactly when they start the first iteration
ever, and then the objective is called before anything else can raise -/
theorem EvInv.passes {p : Params α} {f : Nat → List α → Option α} {ps Y : PState α} {j : Nat} {ids : List Nat} {r : Option Raise}
    (h : EvInv ps) (P : Passes p f ps j ids r Y) : EvInv Y := by
  have e := P.eff
  have hev := e.evals_length
  have hcount := h.count
  have hcalls := e.calls
  have hobj := isObjective_le_one r
  cases hm : ps.m with
  | some s =>
    -- the first iteration was done before: nothing is written
    have hs : ps.m ≠ none := by rw [hm]; exact Option.some_ne_none s
    have hY : Y.m ≠ none := fun h0 => hs (e.m.1 h0).1
    have hlog : Y.log = ps.log := by rw [e.log, firstMark_of_some hs, List.append_nil]
    have hnone : Y.m.isNone = false := by cases hY' : Y.m with | none => exact absurd hY' hY | some _ => rfl
    exact {
      cons := h.cons.eff e
      started := fun _ => hlog ▸ h.started hs
      ordered := hlog ▸ h.ordered
      ids := by rw [hlog, e.nTrials, ← List.range'_append_1]; exact h.ids.trans (List.sublist_append_left _ _)
      count := by rw [hm] at hcount; rw [hlog, hev, hnone]; simp at hcount ⊢; omega
      called := .inr (hlog ▸ h.started hs)
      pos := fun _ => by rw [e.nTrials]; exact Nat.le_trans (h.pos hs) (Nat.le_add_right _ _) }
  | none =>
    rw [hm] at hcount
    rcases Nat.eq_zero_or_pos (j + r.toList.length) with h0 | hpos
    · -- no pass was started
      have hj : j = 0 := by omega
      have hr : r = none := by cases r with | none => rfl | some e => simp at h0
      subst hj; subst hr
      cases P with
      | ok hrun => cases hrun; exact h
    · have hlog : Y.log = ps.log ++ [Event.beforeStart] := by rw [e.log, firstMark_of_none hm hpos]
      have hmem : Event.beforeStart ∈ Y.log := by rw [hlog]; exact List.mem_append_right _ (List.mem_singleton_self _)
      exact {
        cons := h.cons.eff e
        started := fun _ => hmem
        ordered := by
          rw [hlog]
          exact h.ordered.append fun ⟨ev, hev', hend⟩ => by cases List.mem_singleton.1 hev'; cases hend
        ids := by
          rw [hlog, idsOf_append, e.nTrials, ← List.range'_append_1]
          exact (show idsOf [Event.beforeStart] = [] from rfl) ▸ (List.append_nil _).symm ▸ h.ids.trans (List.sublist_append_left _ _)
        count := by
          rw [hlog, List.count_append, hev]
          rcases Nat.eq_zero_or_pos j with rfl | hj
          · -- the one pass raised: it was the objective
            obtain ⟨e', rfl⟩ : ∃ e', r = some e' := by cases r with | none => simp at hpos | some e' => exact ⟨e', rfl⟩
            cases e.first hm rfl e' rfl
            simp [isObjective] at hcalls hcount ⊢; omega
          · have hY : Y.m.isNone = false := by
              cases hY' : Y.m with | none => exact absurd (e.m.1 hY').2 (by omega) | some _ => rfl
            rw [hY]; simp at hcount ⊢; omega
        called := .inr hmem
        pos := fun hY => by
          rw [e.nTrials]
          have : j ≠ 0 := fun h0 => hY (e.m.2 ⟨hm, h0⟩)
          omega }

theorem PState.appendLog_nil (ps : PState α) : ps.appendLog [] = ps := by simp [PState.appendLog]

theorem EvInv.of_appendLog {ps : PState α} (h : EvInv ps) {l : List Event} (hb : Event.beforeStart ∉ l)
    (hend : (∃ e ∈ l, e.isEnd = true) → ps.m ≠ none)
    (hids : (idsOf ps.log ++ idsOf l).Sublist (List.range' 2 ps.nTrials)) : EvInv (ps.appendLog l) where
  cons := h.cons.of_core (PState.appendLog_core _ _)
  started := fun hm => List.mem_append_left _ (h.started hm)
  ordered := h.ordered.append fun he => h.started (hend he)
  ids := by rw [PState.appendLog_log, idsOf_append]; exact hids
  count := by
    rw [PState.appendLog_log, List.count_append, List.count_eq_zero_of_not_mem hb, Nat.add_zero]; exact h.count
  called := h.called.imp id (List.mem_append_left _)
  pos := h.pos

theorem EvInv.of_refineStep {ps : PState α} (refine : PState α → Option (LocalResult α)) (h : EvInv ps) :
    EvInv (refineStep refine ps) := by
  have hlog := refineStep_log refine (ps := ps)
  have hnt := refineStep_nTrials refine (ps := ps)
  have hm0 := refineStep_m_eq_none refine (ps := ps)
  have hnone : (refineStep refine ps).m.isNone = ps.m.isNone := by
    cases hm : ps.m with
    | none => rw [hm0.2 hm]
    | some s =>
      cases hm' : (refineStep refine ps).m with
      | none => rw [hm0.1 hm'] at hm; cases hm
      | some s' => rfl
  exact {
    cons := h.cons.refine
    started := fun hm => hlog ▸ h.started (fun h0 => hm (hm0.2 h0))
    ordered := hlog ▸ h.ordered
    ids := by rw [hlog, hnt]; exact h.ids
    count := by rw [hlog, refineStep_evals, refineStep_calls, hnone]; exact h.count
    called := by rw [hlog, refineStep_calls]; exact h.called
    pos := fun hm => hnt ▸ h.pos (fun h0 => hm (hm0.2 h0)) }

/-- every trial made so far has been reported by an `OnEndIteration` -/
def AllReported (ps : PState α) : Prop := idsOf ps.log = List.range' 2 ps.nTrials

theorem EvInv.ids_extend {ps : PState α} (h : EvInv ps) (j : Nat) :
    (idsOf ps.log ++ List.range' ps.nextId j).Sublist (List.range' 2 (ps.nTrials + j)) := by
  rw [h.cons.nextId, Nat.add_comm ps.nTrials 2, ← List.range'_append_1]
  exact h.ids.append (List.Sublist.refl _)

/-- an operation that does not lose its trials: its passes, then notifications `l` that report them -/
theorem EvInv.of_op {p : Params α} {f : Nat → List α → Option α} {ps Y : PState α} {j : Nat} {ids : List Nat} {r : Option Raise}
    {l : List Event} (hi : EvInv ps) (h : Passes p f ps j ids r Y)
    (hb : Event.beforeStart ∉ l) (hl : idsOf l = List.range' ps.nextId j) (hend : (∃ e ∈ l, e.isEnd = true) → 0 < j) :
    EvInv (Y.appendLog l) ∧ (AllReported ps → AllReported (Y.appendLog l)) := by
  have e := h.eff
  have hlog : idsOf Y.log = idsOf ps.log := by rw [e.log, idsOf_append, idsOf_firstMark, List.append_nil]
  refine ⟨(hi.passes h).of_appendLog hb (fun he h0 => ?_) ?_, fun hfull => ?_⟩
  · have := hend he
    have := (e.m.1 h0).2
    omega
  · rw [hlog, hl, e.nTrials]
    exact hi.ids_extend _
  · unfold AllReported at hfull ⊢
    rw [PState.appendLog_log, idsOf_append, hlog, hl, hfull, PState.appendLog_nTrials, e.nTrials, hi.cons.nextId,
      Nat.add_comm ps.nTrials 2, List.range'_append_1]

theorem EvInv.of_dgi {p : Params α} {f : Nat → List α → Option α} {k : Nat} {ps : PState α} (h : EvInv ps) (hk : 1 ≤ k) :
    EvInv (doGlobalIteration p f k ps []).s ∧
    ((doGlobalIteration p f k ps []).raised = none → AllReported ps → AllReported (doGlobalIteration p f k ps []).s) := by
  obtain ⟨j, ids, r, Y, D⟩ := dgi_passes p f k ps []
  have hp := D.passes
  rw [D.eq]
  cases r with
  | none =>
    cases D.full rfl
    have := h.of_op hp (l := [Event.endIteration ([] ++ ids)]) (by simp) (by rw [hp.eff.ids]; simp [idsOf]) (fun _ => hk)
    exact ⟨this.1, fun _ => this.2⟩
  | some e =>
    -- a raising call notifies no one: its trials are never reported
    refine ⟨?_, nofun⟩
    show EvInv (Y.appendLog [])
    rw [PState.appendLog_nil]
    exact h.passes hp

theorem EvInv.of_solve {p : Params α} {f : Nat → List α → Option α} {refine : PState α → Option (LocalResult α)}
    {ps : PState α} (h : EvInv ps) : EvInv (solve p f refine ps) ∧ (AllReported ps → AllReported (solve p f refine ps)) := by
  obtain ⟨j, psj, ids, r, Y, L⟩ := solve_passes p f ps
  have hids := L.passes.eff.ids
  obtain ⟨hX, hr⟩ := h.of_op L.passes (l := endEach ids ++ excOf r) (by cases r <;> simp [endEach, excOf])
    (by rw [idsOf_append, idsOf_endEach, hids]; cases r <;> simp [excOf, idsOf])
    (fun he => by
      rcases Nat.eq_zero_or_pos j with rfl | hj
      · rw [hids] at he; cases r <;> simp [excOf, endEach, Event.isEnd] at he
      · exact hj)
  have hstop : ∀ st, idsOf [Event.methodStop st] = [] := fun _ => rfl
  rw [L.solve_eq]
  refine ⟨(hX.of_refineStep refine).of_appendLog (by simp)
    (fun ⟨e, he, hend⟩ => by cases List.mem_singleton.1 he; cases hend)
    (by rw [hstop, List.append_nil]; exact (hX.of_refineStep refine).ids), fun hfull => ?_⟩
  -- the refinement and `OnMethodStop` report nothing and make no trial
  have := hr hfull
  unfold AllReported at this ⊢
  rw [PState.appendLog_log, idsOf_append, hstop, List.append_nil, refineStep_log, PState.appendLog_nTrials, refineStep_nTrials]
  exact this

/-- `DoGlobalIteration(0)` on a fresh solver would notify `OnEndIteration([])` without any `BeforeMethodStart` -/
def OpsOK (ops : List Op) : Prop := ∀ k, Op.iter k ∈ ops → 1 ≤ k

def iterRaises (p : Params α) (f : Nat → List α → Option α) (op : Op) (ps : PState α) : Prop :=
  ∃ k, op = Op.iter k ∧ (doGlobalIteration p f k ps []).raised ≠ none

/-- no `DoGlobalIteration` of the sequence raises (a raising `Solve` is allowed) -/
def NoIterRaise (p : Params α) (f : Nat → List α → Option α) (refine : PState α → Option (LocalResult α)) : List Op → PState α → Prop
  | [], _ => True
  | op :: ops, ps => ¬ iterRaises p f op ps ∧ NoIterRaise p f refine ops (runOp p f refine op ps)

theorem EvInv.of_runOp {p : Params α} {f : Nat → List α → Option α} {refine : PState α → Option (LocalResult α)}
    {ps : PState α} (h : EvInv ps) (op : Op) (hk : ∀ k, op = Op.iter k → 1 ≤ k) :
    EvInv (runOp p f refine op ps) ∧ (¬ iterRaises p f op ps → AllReported ps → AllReported (runOp p f refine op ps)) := by
  cases op with
  | iter k =>
    obtain ⟨h1, h2⟩ := h.of_dgi (p := p) (f := f) (hk k rfl)
    exact ⟨h1, fun hnr => h2 (Classical.byContradiction fun hne => hnr ⟨k, rfl, hne⟩)⟩
  | solve => exact ⟨h.of_solve.1, fun _ => h.of_solve.2⟩

/-- the log after any sequence of operations: the invariant, and every trial reported unless a `DoGlobalIteration` raised -/
theorem EvInv.runOps_pres {p : Params α} {f : Nat → List α → Option α} {refine : PState α → Option (LocalResult α)}
    {ps : PState α} (h : EvInv ps) (ops : List Op) (hops : OpsOK ops) :
    EvInv (runOps p f refine ops ps) ∧
    (NoIterRaise p f refine ops ps → AllReported ps → AllReported (runOps p f refine ops ps)) := by
  induction ops generalizing ps with
  | nil => exact ⟨h, fun _ hfull => hfull⟩
  | cons op ops ih =>
    obtain ⟨h1, h2⟩ := h.of_runOp (p := p) (f := f) (refine := refine) op (fun k hk => hops k (hk ▸ List.mem_cons_self))
    obtain ⟨i1, i2⟩ := ih h1 (fun k hk => hops k (List.mem_cons_of_mem _ hk))
    exact ⟨i1, fun hnr hfull => i2 hnr.2 (h2 hnr.1 hfull)⟩

end Proc
end

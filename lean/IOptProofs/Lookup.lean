/-! Look-ups in association lists whose keys are pairwise distinct: the key of the `i`-th entry is looked up to that entry.
With `Nodup` of the keys established once per table (by evaluation), every single look-up is a matter of indexing,
and no string is compared. -/

theorem List.lookup_at {κ β : Type} [BEq κ] [LawfulBEq κ] {l : List (κ × β)} (hl : (l.map Prod.fst).Nodup) (i : Nat)
    {k : κ} {v : β} (h : l[i]? = some (k, v)) : l.lookup k = some v := by
  induction l generalizing i with
  | nil => cases h
  | cons p l ih =>
    obtain ⟨hp, hl⟩ := List.nodup_cons.1 hl
    cases i with
    | zero => cases h; exact List.lookup_cons_self
    | succ i =>
      have hk : (k == p.1) = false :=
        beq_false_of_ne fun e => hp (e ▸ List.mem_map.2 ⟨(k, v), List.mem_of_getElem? h, rfl⟩)
      rw [List.lookup_cons, hk]
      exact ih hl i h

theorem List.lookup_none {κ β : Type} [BEq κ] [LawfulBEq κ] {l : List (κ × β)} {k : κ} (h : k ∉ l.map Prod.fst) :
    l.lookup k = none :=
  List.lookup_eq_none_iff.2 fun p hp => bne_iff_ne.2 fun e => h (e ▸ List.mem_map.2 ⟨p, hp, rfl⟩)

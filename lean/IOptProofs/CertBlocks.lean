/-!
# A Boolean test on consecutive cells of a table, by one walk

`t[i]!` costs the kernel a walk of `i` cells for every `i` (about 570 heartbeats per cell, and `t.size` once more per
evaluation), so a block `∀ i ∈ List.range' a n, f t[i]! = true` evaluated row by row walks the table `n` times.
`firstAll f n (skip a t.toList)` walks it once.  Both functions are written with the recursors, which the kernel unfolds
at about 110 heartbeats per cell (`List.drop`, compiled structural recursion: 285); they are evaluated by the kernel only.
The test is handed, with each cell, the number of cells still to come: a test on rows that share their low machine word
(all that the kernel's cache hashes of a `Nat` literal) puts it into its terms to keep them apart (`BenchMeta.tag`);
the others ignore it.
-/
namespace CertBlocks
variable {α : Type}

/-- one cell of `skip`.  A definition of its own, so that the kernel returns to unfold it at every cell: with its body
written into `skip` the walk is one nested reduction, and runs out of stack near 1,350 cells -/
noncomputable def skipStep (ih : List α → List α) (l : List α) : List α :=
  @List.rec α (fun _ => List α) [] (fun _ t _ => ih t) l

/-- `l.drop a` -/
noncomputable def skip (a : Nat) (l : List α) : List α :=
  @Nat.rec (fun _ => List α → List α) (fun l => l) (fun _ ih l => skipStep ih l) a l

/-- the first `n` cells exist and pass `f k`, `k = n-1, …, 0` the number of cells after them -/
noncomputable def firstAll (f : Nat → α → Bool) (n : Nat) (l : List α) : Bool :=
  @Nat.rec (fun _ => List α → Bool) (fun _ => true)
    (fun k ih l => @List.rec α (fun _ => Bool) false (fun x t _ => f k x && ih t) l) n l

theorem skip_eq_drop (a : Nat) (l : List α) : skip a l = l.drop a := by
  induction a generalizing l with
  | zero => rfl
  | succ a ih => cases l with
    | nil => rfl
    | cons x t => exact ih t

theorem firstAll_get {f : Nat → α → Bool} {n : Nat} {l : List α} (h : firstAll f n l = true) (j : Nat) (hj : j < n) :
    ∃ hl : j < l.length, f (n - 1 - j) l[j] = true := by
  induction n generalizing l j with
  | zero => omega
  | succ n ih => cases l with
    | nil => cases h
    | cons x t =>
      obtain ⟨hx, ht⟩ := Bool.and_eq_true_iff.1 (show (f n x && firstAll f n t) = true from h)
      cases j with
      | zero => exact ⟨Nat.succ_pos _, hx⟩
      | succ j =>
        obtain ⟨hl, hf⟩ := ih ht j (by omega)
        exact ⟨Nat.succ_lt_succ hl, (by omega : n - 1 - j = n + 1 - 1 - (j + 1)) ▸ hf⟩

/-- cells `a, …, a+n-1` of the table exist and pass `f` -/
theorem forall_range' [Inhabited α] (f : Nat → α → Bool) (t : Array α) (a n : Nat)
    (h : firstAll f n (skip a t.toList) = true) : ∀ i ∈ List.range' a n, f (a + n - 1 - i) t[i]! = true := by
  intro i hi
  obtain ⟨h1, h2⟩ := List.mem_range'_1.1 hi
  rw [skip_eq_drop] at h
  obtain ⟨hl, hf⟩ := firstAll_get h (i - a) (by omega)
  rw [List.length_drop, Array.length_toList] at hl
  rw [getElem!_pos t i (by omega), (by omega : a + n - 1 - i = n - 1 - (i - a))]
  rw [List.getElem_drop] at hf
  simpa [Nat.add_sub_cancel' h1] using hf

end CertBlocks

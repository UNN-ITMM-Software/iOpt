import IOptProofs.MethodRun
/-!
# Readable consequences of the invariant used by the property files
-/
set_option linter.unusedSectionVars false

namespace AGP
variable {α : Type} [Field α] [LinearOrder α] [IsStrictOrderedRing α] [Fns α]
variable {p : Params α} {s : State α}

theorem InvItems.cover (h : InvItems p s) {x : α} (h0 : 0 ≤ x) (h1 : x ≤ 1) :
    ∃ a b, Neighbours s.items a b ∧ a.x ≤ x ∧ x ≤ b.x := by
  obtain ⟨f, mid, l, e, hf, hl, -⟩ := h.shape
  rw [e]
  -- walk from the left end to the first item at or beyond `x`
  have key : ∀ (mid : List (Item α)) (f : Item α), f.x ≤ x →
      ∃ a b, Neighbours (f :: mid ++ [l]) a b ∧ a.x ≤ x ∧ x ≤ b.x := by
    intro mid
    induction mid with
    | nil => exact fun f hfx => ⟨f, l, ⟨[], [], rfl⟩, hfx, hl ▸ h1⟩
    | cons g mid ih =>
      intro f hfx
      by_cases hg : x ≤ g.x
      · exact ⟨f, g, ⟨[], mid ++ [l], rfl⟩, hfx, hg⟩
      · obtain ⟨a, b, ⟨l₁, l₂, e'⟩, hab⟩ := ih g (not_le.1 hg).le
        exact ⟨a, b, ⟨f :: l₁, l₂, congrArg (f :: ·) e'⟩, hab⟩
  exact key mid f (hf ▸ h0)

theorem InvItems.nb_delta_le_one (hL : FnsLaws α) (hn : 0 < p.n) (h : InvItems p s) {a b : Item α}
    (hab : Neighbours s.items a b) : b.delta ≤ 1 := by
  refine (pow_le_one_iff_of_nonneg (h.nb_delta_pos hL hn hab).le hn.ne').1 ?_
  rw [h.nb_delta_pow hL hn hab]
  exact (sub_le_self _ (h.x_range _ hab.mem_left).1).trans (h.x_range _ hab.mem_right).2

/-- Runs of every length exist, for every sequence of objective values (the iteration never gets
stuck): non-vacuity of `Reach`. -/
theorem exists_reach (hL : FnsLaws α) (hr : 1 < p.r) (hn : 0 < p.n) (zs : Nat → α) (k : Nat) :
    ∃ s log, Reach p s log ∧ log.map (·.2) = (List.range (k + 1)).map zs := by
  induction k with
  | zero => exact ⟨_, _, Reach.first p (zs 0), by simp⟩
  | succ k ih =>
    obtain ⟨s, log, hre, hlog⟩ := ih
    obtain ⟨pr, hp, _⟩ := prepare_spec hL hr hn (hre.inv hL hr hn)
    refine ⟨_, _, hre.step (zs (k + 1)) hp, ?_⟩
    rw [List.map_append, hlog, List.range_succ (n := k + 1), List.map_append]
    simp

theorem exists_reach_obj (hL : FnsLaws α) (hr : 1 < p.r) (hn : 0 < p.n) (f : List α → α) (k : Nat) :
    ∃ s log, Reach p s log ∧ log.length = k + 1 ∧ ∀ e ∈ log, e.2 = f e.1 := by
  induction k with
  | zero => exact ⟨_, _, Reach.first p (f (firstPoint p)), by simp, by simp⟩
  | succ k ih =>
    obtain ⟨s, log, hre, hlen, hlog⟩ := ih
    obtain ⟨pr, hp, _⟩ := prepare_spec hL hr hn (hre.inv hL hr hn)
    refine ⟨_, _, hre.step (f pr.point) hp, by simp [hlen], ?_⟩
    intro e he
    rcases List.mem_append.1 he with he | he
    · exact hlog e he
    · simp at he; subst he; rfl

/-- The queue holds one entry `(R, id)` per item and ids are distinct, so the entry with the id of
`pr.old` is its own. -/
theorem prepare_popped_key (h : Inv p s) {pr : Prep α}
    (hp : prepare p s = .ok pr) {k : Option α} {q : List (Option α × Nat)}
    (hq : (Ctl.selState p s).queue = (k, pr.old.id) :: q) : k = pr.old.R := by
  obtain ⟨I1, hrc⟩ := selState_inv h
  obtain ⟨b, hb, hbk⟩ := List.mem_map.1 ((I1.queue hrc).perm.mem_iff.1 (by rw [hq]; exact List.mem_cons_self))
  obtain ⟨_, _, _, S⟩ := Ctl.prepare_ok hp
  rw [← List.inj_on_of_nodup_map I1.ids_nodup hb (findItem_some S.old).1 (congrArg Prod.snd hbk)]
  exact (congrArg Prod.fst hbk).symm

/-- The invariant, clause by clause, in readable form:
1. shape, order and ids of the item list; 2. stored lengths; 3. `M`; 4. `Z` and `best`;
5. characteristics and queue when no recalculation is pending; 6. counters and value holders. -/
theorem Inv.readable (hL : FnsLaws α) (hn : 0 < p.n) (h : Inv p s) :
    -- 1
    ((∃ left mid right, s.items = left :: mid ++ [right] ∧ left.x = 0 ∧ right.x = 1 ∧
        left.ev = false ∧ right.ev = false ∧ mid ≠ [] ∧ (∀ m ∈ mid, m.ev = true)) ∧
      s.items.Pairwise (fun a b => a.x < b.x) ∧ (s.items.map (·.id)).Nodup ∧
      (∀ it ∈ s.items, it.id < s.nextId) ∧ s.nextId = s.items.length) ∧
    -- 2
    (∀ a b, Neighbours s.items a b →
      b.delta = Fns.root (b.x - a.x) p.n ∧ 0 < b.delta ∧ b.delta ^ p.n = b.x - a.x) ∧
    -- 3
    (1 ≤ s.M ∧ ∀ a b, Neighbours s.items a b → a.ev = true → b.ev = true →
      |b.z - a.z| ≤ s.M * b.delta) ∧
    -- 4
    ((∀ it ∈ s.items, it.ev = true → s.Z ≤ it.z) ∧
      ∃ it, findItem s.items s.best = some it ∧ it.ev = true ∧ it.z = s.Z) ∧
    -- 5
    (s.recalc = false →
      (∀ f ∈ s.items.head?, f.R = none) ∧
      (∀ a b, Neighbours s.items a b → b.R = some (calcR p.r s.M s.Z a b)) ∧
      s.queue.Pairwise (fun e e' => keyLe e'.1 e.1 = true) ∧
      s.queue.Perm (s.items.map (fun it => (it.R, it.id)))) ∧
    -- 6
    (s.iters = s.nTrials ∧ s.nTrials = (s.items.filter (·.ev)).length ∧
      ∀ it ∈ s.items, it.ev = true → it.hv = it.z) := by
  have hI := h.toInvItems
  refine ⟨⟨hI.shape, hI.pairwise, hI.ids_nodup, hI.ids_lt, hI.nextId_eq⟩, ?_, ⟨hI.M_ge, ?_⟩,
    ⟨hI.Z_le, ?_⟩, ?_, ⟨hI.iters_eq, ?_, hI.hv_eq⟩⟩
  · intro a b hab
    exact ⟨hI.nb_delta hab, hI.nb_delta_pos hL hn hab, hI.nb_delta_pow hL hn hab⟩
  · intro a b hab ha hb
    have := hI.nb_slope hab ha hb
    rwa [div_le_iff₀ (hI.nb_delta_pos hL hn hab)] at this
  · obtain ⟨bi, hbi, hid, hbe, hz⟩ := hI.best
    have := findItem_of_mem hI.ids_nodup hbi
    rw [hid] at this
    exact ⟨bi, this, hbe, hz⟩
  · intro hrc
    have F := hI.fresh hrc
    have Q := h.queue hrc
    exact ⟨F.headR, isChain_iff_neighbours.1 F.chainR, Q.sorted, Q.perm⟩
  · rw [hI.nTrials_eq, List.countP_eq_length_filter]

end AGP

import IOptProofs.GklsEval
/-!
# Structure of the GKLS function on well-formed data (`Gkls.Good D`)

The generic forms of the headline theorems of `IOptProps/C14.lean`: paraboloid outside the balls, value at
the minimisers, continuity across the spheres, lower bound inside a ball, global minimum.
-/

namespace Gkls
open Prob

/-- the cubic of `CalculateDFunction` as a function of the radius `ρ`, the constant `a`, the scalar product `s`,
the distance `t` to the centre and the value `f` at the centre -/
noncomputable def cubic (ρ a s t f : ℝ) : ℝ :=
  (2 / ρ / ρ * s / t - 2 * a / ρ / ρ / ρ) * t * t * t + (1 - 4 * s / t / ρ + 3 * a / ρ / ρ) * t * t + f

theorem cubicVal_eq (D : GklsData ℝ) (i : Nat) (x : List ℝ) : cubicVal D i x =
    cubic (rhoi D i) (cubA D i) (dotFrom (Mi D i) x (Mi D 0)) (dist x (Mi D i)) (fi D i) := rfl

/-- the cubic minus `f`, factored: with `u = t/ρ` and `x = (s/t)ρ` it is
`u² · ((1 - u)·P + u·Q)`, `P = ρ² + 3a - 4x`, `Q = ρ² + a - 2x` -/
theorem cubic_sub (ρ a s t f : ℝ) (hρ : 0 < ρ) (ht : 0 < t) :
    cubic ρ a s t f - f = t * t / (ρ * ρ) *
      ((1 - t / ρ) * (ρ ^ 2 + 3 * a - 4 * (s / t * ρ)) + t / ρ * (ρ ^ 2 + a - 2 * (s / t * ρ))) := by
  unfold cubic
  field_simp
  ring

/-- the division by `t` is only apparent: the cubic is a polynomial in `s` and `t` (at `t = 0` both sides are `f`) -/
theorem cubic_eq_poly (ρ a s t f : ℝ) : cubic ρ a s t f =
    2 * s * t ^ 2 / ρ ^ 2 - 2 * a * t ^ 3 / ρ ^ 3 + t ^ 2 - 4 * s * t / ρ + 3 * a * t ^ 2 / ρ ^ 2 + f := by
  rcases eq_or_ne t 0 with rfl | ht
  · simp [cubic]
  · have e : s / t * t = s := div_mul_cancel₀ s ht
    unfold cubic
    simp only [div_eq_mul_inv] at e ⊢
    linear_combination (2 * ρ⁻¹ * ρ⁻¹ * t * t - 4 * ρ⁻¹ * t) * e

theorem cubic_at_rho (ρ a s f : ℝ) (hρ : 0 < ρ) : cubic ρ a s ρ f = ρ ^ 2 - 2 * s + a + f := by
  unfold cubic
  field_simp
  ring

theorem abs_quot_mul_le {ρ s t d : ℝ} (hρ : 0 < ρ) (ht : 0 < t) (hs : |s| ≤ t * d) : |s / t * ρ| ≤ d * ρ := by
  rw [abs_mul, abs_div, abs_of_pos ht, abs_of_pos hρ]
  exact mul_le_mul_of_nonneg_right ((div_le_iff₀' ht).mpr hs) hρ.le

/-- for `0 < t ≤ ρ` the cubic is strictly above `f`: `P ≥ 0` and `Q > 0` because `x ≤ dρ` -/
theorem cubic_gt (ρ a s t d f : ℝ) (hρ : 0 < ρ) (ht : 0 < t) (htρ : t ≤ ρ)
    (hs : |s| ≤ t * d) (hQ0 : 2 * (d * ρ) < ρ ^ 2 + a) (hP0 : 4 * (d * ρ) ≤ ρ ^ 2 + 3 * a) :
    f < cubic ρ a s t f := by
  have hx := (abs_le.mp (abs_quot_mul_le hρ ht hs)).2
  have hP : 0 ≤ ρ ^ 2 + 3 * a - 4 * (s / t * ρ) :=
    sub_nonneg.mpr ((mul_le_mul_of_nonneg_left hx zero_le_four).trans hP0)
  have hQ : 0 < ρ ^ 2 + a - 2 * (s / t * ρ) :=
    sub_pos.mpr ((mul_le_mul_of_nonneg_left hx zero_le_two).trans_lt hQ0)
  have hu1 : 0 ≤ 1 - t / ρ := sub_nonneg.mpr ((div_le_one hρ).mpr htρ)
  rw [← sub_pos, cubic_sub ρ a s t f hρ ht]
  exact mul_pos (div_pos (mul_pos ht ht) (mul_pos hρ hρ))
    (add_pos_of_nonneg_of_pos (mul_nonneg hu1 hP) (mul_pos (div_pos ht hρ) hQ))

theorem prec_pos : (0 : ℝ) < 1e-10 := by norm_num

theorem in_ball_or_outside (D : GklsData ℝ) (x : List ℝ) :
    (∃ i, 1 ≤ i ∧ i < 10 ∧ dist x (Mi D i) ≤ rhoi D i) ∨
      ∀ i, 1 ≤ i → i < 10 → rhoi D i < dist x (Mi D i) := by
  by_cases h : ∃ i, 1 ≤ i ∧ i < 10 ∧ dist x (Mi D i) ≤ rhoi D i
  · exact Or.inl h
  · exact Or.inr fun i h1i hi => not_le.mp fun hc => h ⟨i, h1i, hi, hc⟩

section good
variable {D : GklsData ℝ} (hD : Good D)
include hD

theorem Mi_inBox (i : Nat) (hi : i < 10) : InBox (Mi D i) := hD.in_box i hi

theorem paraboloid_outsideP (p : ℝ) (x : List ℝ) (hdom : InDomainP p x)
    (hout : ∀ i, 1 ≤ i → i < 10 → rhoi D i < dist x (Mi D i)) :
    gkls (constsP p) D x = dist x (Mi D 0) ^ 2 + fi D 0 :=
  gkls_of_noneP p D x hdom (findBall_outside hD x hout)

theorem value_insideP (p : ℝ) (x : List ℝ) (hx : x.length = D.dim) (hdom : InDomainP p x) (i : Nat)
    (h1i : 1 ≤ i) (hi : i < 10) (hin : dist x (Mi D i) ≤ rhoi D i) :
    gkls (constsP p) D x = if dist x (Mi D i) < p then fi D i else cubicVal D i x :=
  gkls_of_someP p D x hdom i (findBall_inside hD x hx i h1i hi hin)

theorem paraboloid_outside (x : List ℝ) (hdom : InDomain x)
    (hout : ∀ i, 1 ≤ i → i < 10 → rhoi D i < dist x (Mi D i)) :
    gkls consts D x = dist x (Mi D 0) ^ 2 + fi D 0 :=
  paraboloid_outsideP hD 1e-10 x hdom hout

theorem value_inside (x : List ℝ) (hx : x.length = D.dim) (hdom : InDomain x) (i : Nat) (h1i : 1 ≤ i)
    (hi : i < 10) (hin : dist x (Mi D i) ≤ rhoi D i) :
    gkls consts D x = if dist x (Mi D i) < 1e-10 then fi D i else cubicVal D i x :=
  value_insideP hD 1e-10 x hx hdom i h1i hi hin

theorem vertex_outside (i : Nat) (h1i : 1 ≤ i) (hi : i < 10) : rhoi D i < dist (Mi D 0) (Mi D i) :=
  lt_dist_of_sq_lt (hD.vertex_out i hi h1i)

theorem value_at_minimiser (i : Nat) (hi : i < 10) : gkls consts D (Mi D i) = fi D i := by
  have hdom : InDomain (Mi D i) := (Mi_inBox hD i hi).inDomain
  rcases Nat.eq_zero_or_pos i with h0 | h0
  · subst h0
    rw [paraboloid_outside hD (Mi D 0) hdom (fun j h1j hj => vertex_outside hD j h1j hj)]
    simp
  · rw [value_inside hD (Mi D i) (hD.len_M i hi) hdom i h0 hi (by simpa using (hD.rho_pos i hi).le)]
    rw [if_pos (by rw [dist_self]; exact prec_pos)]

/-- the two cubic conditions of `Good` with the root taken (`d = ‖T - M_i‖`):
`2dρ < ρ² + a` and `4dρ ≤ ρ² + 3a` -/
theorem cubic_conds (i : Nat) (h1i : 1 ≤ i) (hi : i < 10) :
    2 * (dist (Mi D 0) (Mi D i) * rhoi D i) < rhoi D i ^ 2 + cubA D i ∧
      4 * (dist (Mi D 0) (Mi D i) * rhoi D i) ≤ rhoi D i ^ 2 + 3 * cubA D i := by
  obtain ⟨h1a, h1b⟩ := hD.cubic1 i hi h1i
  obtain ⟨h2a, h2b⟩ := hD.cubic2 i hi h1i
  rw [← dist_sq (Mi D 0) (Mi D i)] at h1b h2b
  exact ⟨lt_of_pow_lt_pow_left₀ 2 h1a (lt_of_eq_of_lt (by ring) h1b),
    le_of_abs_le (abs_le_of_sq_le_sq (le_of_eq_of_le (by ring) h2b) h2a)⟩

theorem abs_scal_le (x : List ℝ) (hx : x.length = D.dim) (i : Nat) (hi : i < 10) :
    |dotFrom (Mi D i) x (Mi D 0)| ≤ dist x (Mi D i) * dist (Mi D 0) (Mi D i) :=
  abs_dotFrom_le hx (hD.len_M 0 (by omega)) (hD.len_M i hi)

theorem cubicVal_gt (x : List ℝ) (hx : x.length = D.dim) (i : Nat) (h1i : 1 ≤ i) (hi : i < 10)
    (hpos : 0 < dist x (Mi D i)) (hin : dist x (Mi D i) ≤ rhoi D i) : fi D i < cubicVal D i x := by
  obtain ⟨hQ0, hP0⟩ := cubic_conds hD i h1i hi
  rw [cubicVal_eq]
  exact cubic_gt (rhoi D i) (cubA D i) (dotFrom (Mi D i) x (Mi D 0)) (dist x (Mi D i))
    (dist (Mi D 0) (Mi D i)) (fi D i) (hD.rho_pos i hi) hpos hin (abs_scal_le hD x hx i hi) hQ0 hP0

theorem cubicVal_on_sphere (x : List ℝ) (hx : x.length = D.dim) (i : Nat) (hi : i < 10)
    (hb : dist x (Mi D i) = rhoi D i) : cubicVal D i x = dist x (Mi D 0) ^ 2 + fi D 0 := by
  rw [cubicVal_eq, hb, cubic_at_rho _ _ _ _ (hD.rho_pos i hi), ← hb, dist_sq, dist_sq,
    sqDist_expand hx (hD.len_M 0 (by omega)) (hD.len_M i hi)]
  unfold cubA
  ring

/-- the function is continuous across the sphere of ball `i`: on the sphere it equals the paraboloid -/
theorem splice (x : List ℝ) (hx : x.length = D.dim) (hdom : InDomain x) (i : Nat) (h1i : 1 ≤ i) (hi : i < 10)
    (hb : dist x (Mi D i) = rhoi D i) : gkls consts D x = dist x (Mi D 0) ^ 2 + fi D 0 := by
  rw [value_inside hD x hx hdom i h1i hi hb.le, if_neg (by rw [hb]; exact not_lt.mpr (hD.rho_ge_prec i hi))]
  exact cubicVal_on_sphere hD x hx i hi hb

theorem ball_lower_bound (x : List ℝ) (hx : x.length = D.dim) (hdom : InDomain x) (i : Nat) (h1i : 1 ≤ i)
    (hi : i < 10) (hin : dist x (Mi D i) ≤ rhoi D i) :
    fi D i ≤ gkls consts D x ∧ (gkls consts D x = fi D i → dist x (Mi D i) < 1e-10) := by
  rw [value_inside hD x hx hdom i h1i hi hin]
  by_cases hg : dist x (Mi D i) < 1e-10
  · rw [if_pos hg]
    exact ⟨le_refl _, fun _ => hg⟩
  · rw [if_neg hg]
    have hpos : 0 < dist x (Mi D i) := lt_of_lt_of_le prec_pos (not_lt.mp hg)
    have hgt := cubicVal_gt hD x hx i h1i hi hpos hin
    exact ⟨hgt.le, fun h => absurd h (ne_of_gt hgt)⟩

theorem fi_ge (i : Nat) (h1i : 1 ≤ i) (hi : i < 10) : -1 ≤ fi D i ∧ (fi D i = -1 → i = 1) := by
  rcases Nat.lt_or_ge i 2 with h | h
  · obtain rfl : i = 1 := by omega
    exact ⟨hD.f_one.ge, fun _ => rfl⟩
  · have hgt := hD.f_gt i hi h
    exact ⟨hgt.le, fun he => absurd he hgt.ne'⟩

theorem global_min :
    (∀ x : List ℝ, x.length = D.dim → InDomain x → -1 ≤ gkls consts D x) ∧
    gkls consts D (Mi D 1) = -1 ∧
    (∀ x : List ℝ, x.length = D.dim → InDomain x → gkls consts D x = -1 → dist x (Mi D 1) < 1e-10) := by
  have key : ∀ x : List ℝ, x.length = D.dim → InDomain x →
      -1 ≤ gkls consts D x ∧ (gkls consts D x = -1 → dist x (Mi D 1) < 1e-10) := by
    intro x hx hdom
    rcases in_ball_or_outside D x with ⟨i, h1i, hi, hin⟩ | hout
    · -- in ball `i`: `-1 ≤ f_i ≤ F x`; if `F x = -1` then `f_i = -1`, so `i = 1` and `x` is in its guard region
      obtain ⟨hlb, heq⟩ := ball_lower_bound hD x hx hdom i h1i hi hin
      obtain ⟨hfi, hi1⟩ := fi_ge hD i h1i hi
      refine ⟨hfi.trans hlb, fun hm1 => ?_⟩
      have hfi1 : fi D i = -1 := le_antisymm (hm1 ▸ hlb) hfi
      obtain rfl := hi1 hfi1
      exact heq (hm1.trans hfi1.symm)
    · -- outside the balls `F x = ‖x - T‖² + 0 > -1`
      rw [paraboloid_outside hD x hdom hout, hD.f_zero, add_zero]
      have hgt : (-1 : ℝ) < dist x (Mi D 0) ^ 2 := neg_one_lt_zero.trans_le (sq_nonneg _)
      exact ⟨hgt.le, fun hm1 => absurd hm1 hgt.ne'⟩
  refine ⟨fun x hx hdom => (key x hx hdom).1, ?_, fun x hx hdom => (key x hx hdom).2⟩
  rw [value_at_minimiser hD 1 (by omega), hD.f_one]

end good
end Gkls

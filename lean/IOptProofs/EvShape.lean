import IOptProofs.EvBasic
/-!
# Shape of one level of the evolvent, for EVERY digit argument and every `n ≥ 1`

`node`, `numbr`, `step`, `invStep` return indices below `n` and sign vectors of length `n` whatever digit they are
given: this needs no closed form of the loops, only that each round appends a sign (`nodeLoop_shape`).  The
transposition `0 ↔ it` (`swap0` on vectors, `relabel` on indices) is dealt with here as well; at the end, the lengths of what the
numeric functions (`p2d`, `d2p`, `imageCube`) return, for every carrier.
-/

namespace Ev

theorem relabel_invol (i it : Nat) : relabel (relabel i it) it = i := by
  unfold relabel
  by_cases h0 : i = 0
  · subst h0; by_cases h1 : it = 0 <;> simp [h1]
  · by_cases h1 : i = it
    · subst h1; simp [h0]
    · simp [h0, h1]

theorem relabel_lt {n i it : Nat} (hi : i < n) (hit : it < n) : relabel i it < n := by
  unfold relabel; split
  · exact hit
  · split
    · omega
    · exact hi

theorem getI_swap0 {a : List Int} {it i : Nat} (hit : it < a.length) :
    getI (swap0 a it) i = getI a (relabel i it) := by
  unfold swap0 relabel
  by_cases h1 : i = it
  · subst h1
    rw [getI_set_eq _ (by simpa using hit)]
    by_cases h0 : i = 0 <;> simp [h0]
  · rw [getI_set_ne _ h1]
    by_cases h0 : i = 0
    · subst h0; rw [getI_set_eq _ (by omega)]; simp
    · rw [getI_set_ne _ h0]; simp [h0, h1]

theorem swap0_swap0 {n : Nat} {a : List Int} {it : Nat} (ha : a.length = n) (hit : it < n) :
    swap0 (swap0 a it) it = a := by
  apply ext_getI (n := n) (by rw [length_swap0, length_swap0, ha]) ha
  intro i _
  rw [getI_swap0 (by rw [length_swap0, ha]; exact hit), getI_swap0 (by rw [ha]; exact hit),
    relabel_invol]

theorem signVec_swap0 {n : Nat} {a : List Int} {it : Nat} (ha : signVec n a) (hit : it < n) :
    signVec n (swap0 a it) := by
  apply signVec_of_getI (by rw [length_swap0, ha.1])
  intro i hi
  rw [getI_swap0 (by rw [ha.1]; exact hit)]
  exact signVec_getI ha (relabel_lt hi hit)

theorem signVec_replicate (n : Nat) {x : Int} (hx : x = 1 ∨ x = -1) : signVec n (List.replicate n x) :=
  ⟨List.length_replicate, fun _ hw => List.eq_of_mem_replicate hw ▸ hx⟩

/-- one round of the bit loop of `__CalculateNode`: a sign `k1'` is chosen, `-k1 * k1'` is appended, and `(l, iq)` is kept or
replaced by `(i, ±1)` -/
theorem nodeLoop_succ (i fuel iis iff : Nat) (k1 : Int) (l : Nat) (iq : Int) (acc : List Int) :
    ∃ (iis' : Nat) (k1' : Int) (l' : Nat) (iq' : Int),
      nodeLoop i (fuel+1) iis iff k1 l iq acc = nodeLoop (i+1) fuel iis' (iff / 2) k1' l' iq' ((-k1 * k1') :: acc) ∧
      (k1' = 1 ∨ k1' = -1) ∧ ((l' = l ∧ iq' = iq) ∨ (l' = i ∧ (iq' = 1 ∨ iq' = -1))) := by
  rw [nodeLoop]
  simp only
  split <;> split
  · exact ⟨_, 1, i, -1, rfl, Or.inl rfl, Or.inr ⟨rfl, Or.inr rfl⟩⟩
  · exact ⟨_, 1, l, iq, rfl, Or.inl rfl, Or.inl ⟨rfl, rfl⟩⟩
  · exact ⟨_, -1, i, 1, rfl, Or.inr rfl, Or.inr ⟨rfl, Or.inl rfl⟩⟩
  · exact ⟨_, -1, l, iq, rfl, Or.inr rfl, Or.inl ⟨rfl, rfl⟩⟩

theorem nodeLoop_shape : ∀ (fuel i iis iff : Nat) (k1 : Int) (l : Nat) (iq : Int) (acc : List Int),
    (k1 = 1 ∨ k1 = -1) → (iq = 1 ∨ iq = -1) → signVec acc.length acc →
    ((nodeLoop i fuel iis iff k1 l iq acc).1 = l ∨
      (i ≤ (nodeLoop i fuel iis iff k1 l iq acc).1 ∧ (nodeLoop i fuel iis iff k1 l iq acc).1 < i + fuel)) ∧
    ((nodeLoop i fuel iis iff k1 l iq acc).2.1 = 1 ∨ (nodeLoop i fuel iis iff k1 l iq acc).2.1 = -1) ∧
    signVec (acc.length + fuel) (nodeLoop i fuel iis iff k1 l iq acc).2.2
  | 0, i, iis, iff, k1, l, iq, acc, _, hq, hacc =>
    ⟨Or.inl rfl, hq, by simpa [nodeLoop, signVec] using hacc.2⟩
  | fuel+1, i, iis, iff, k1, l, iq, acc, hk, hq, hacc => by
    obtain ⟨iis', k1', l', iq', e, hk', hl'⟩ := nodeLoop_succ i fuel iis iff k1 l iq acc
    have hq' : iq' = 1 ∨ iq' = -1 := by
      rcases hl' with ⟨_, rfl⟩ | ⟨_, h⟩
      · exact hq
      · exact h
    have hk1 : -k1 = 1 ∨ -k1 = -1 := by omega
    obtain ⟨h1, h2, h3⟩ := nodeLoop_shape fuel (i+1) iis' (iff / 2) k1' l' iq' ((-k1 * k1') :: acc) hk' hq'
      ⟨rfl, List.forall_mem_cons.2 ⟨sign_mul hk1 hk', hacc.2⟩⟩
    rw [e]
    rw [List.length_cons, Nat.add_right_comm] at h3
    refine ⟨?_, h2, h3⟩
    rcases hl' with ⟨rfl, _⟩ | ⟨rfl, _⟩ <;> omega

/-- `__CalculateNode` for ANY digit argument and `n ≥ 1` -/
theorem node_shape {n : Nat} (hn : 1 ≤ n) (d : Nat) :
    (node n d).1 < n ∧ signVec n (node n d).2.1 ∧ signVec n (node n d).2.2 := by
  unfold node
  split
  · exact ⟨by simp only; omega, signVec_replicate n (Or.inr rfl), signVec_replicate n (Or.inr rfl)⟩
  · split
    · have hu : signVec n ((1 : Int) :: List.replicate (n - 1) (-1)) :=
        ⟨by simp; omega, List.forall_mem_cons.2 ⟨Or.inl rfl, (signVec_replicate _ (Or.inr rfl)).2⟩⟩
      exact ⟨by simp only; omega, hu, signVec_set hu _ (Or.inl rfl)⟩
    · obtain ⟨h1, h2, h3⟩ := nodeLoop_shape n 0 d (2^n) (-1) 0 1 [] (Or.inr rfl) (Or.inl rfl)
        ⟨rfl, fun _ h => absurd h List.not_mem_nil⟩
      rw [List.length_nil, Nat.zero_add] at h3
      generalize nodeLoop 0 n d (2^n) (-1) 0 1 [] = r at h1 h2 h3
      obtain ⟨l, iq, u⟩ := r
      simp only at h1 h2 h3 ⊢
      have hl : l < n := by omega
      have hv := signVec_set h3 l (sign_mul (signVec_getI h3 hl) h2)
      refine ⟨hl, h3, signVec_set hv _ ?_⟩
      rcases signVec_getI hv (i := n - 1) (by omega) with h | h <;> rw [h] <;> simp

theorem step_def (n : Nat) (s : St) (d : Nat) :
    step n s d = (⟨relabel (node n d).1 s.it, List.zipWith (fun w v => w * (-v)) s.iw (swap0 (node n d).2.2 s.it)⟩,
      List.zipWith (· * ·) (swap0 (node n d).2.1 s.it) s.iw) := rfl

/-- `EvFacts.closed` for ANY digit (`n ≥ 1` follows from `s.it < n`) -/
theorem step_shape {n : Nat} {s : St} (hs : validState n s) (d : Nat) :
    validState n (step n s d).1 ∧ signVec n (step n s d).2 := by
  obtain ⟨h1, h2, h3⟩ := node_shape (Nat.zero_lt_of_lt hs.1) d
  exact ⟨⟨relabel_lt h1 hs.1,
      signVec_zipWith (fun _ _ hx hy => sign_mul_neg hx hy) hs.2 (signVec_swap0 h3 hs.1)⟩,
    signVec_zipWith (fun _ _ hx hy => sign_mul hx hy) (signVec_swap0 h2 hs.1) hs.2⟩

theorem numbrLoop_shape : ∀ (us : List Int) (i iff : Nat) (k1 : Int) (iis l l1 : Nat),
    ((numbrLoop i us iff k1 iis l l1).2.1 = l ∨
      (i ≤ (numbrLoop i us iff k1 iis l l1).2.1 ∧ (numbrLoop i us iff k1 iis l l1).2.1 < i + us.length)) ∧
    ((numbrLoop i us iff k1 iis l l1).2.2 = l1 ∨
      (i ≤ (numbrLoop i us iff k1 iis l l1).2.2 ∧ (numbrLoop i us iff k1 iis l l1).2.2 < i + us.length))
  | [], i, iff, k1, iis, l, l1 => ⟨Or.inl rfl, Or.inl rfl⟩
  | u :: us, i, iff, k1, iis, l, l1 => by
    rw [numbrLoop, List.length_cons]
    split
    · obtain ⟨h1, h2⟩ := numbrLoop_shape us (i+1) (iff / 2) (-k1 * u) iis l i
      exact ⟨h1.imp_right (by omega), Or.inr (by omega)⟩
    · obtain ⟨h1, h2⟩ := numbrLoop_shape us (i+1) (iff / 2) (-k1 * u) (iis + iff / 2) i l1
      exact ⟨Or.inr (by omega), h2.imp_right (by omega)⟩

/-- `__CalculateNumbr` for ANY sign vector and `n ≥ 1`: `l < n`, and `v` is `u` with one or two signs flipped -/
theorem numbr_shape {n : Nat} (hn : 1 ≤ n) {u : List Int} (hu : signVec n u) :
    (numbr n u).2.1 < n ∧ signVec n (numbr n u).2.2 := by
  have neg : ∀ {v : List Int} (i : Nat), signVec n v → signVec n (v.set i (- getI v i)) := fun {v} i hv => by
    rcases Nat.lt_or_ge i n with hi | hi
    · exact signVec_set hv i (by rcases signVec_getI hv hi with h | h <;> rw [h] <;> simp)
    · rwa [List.set_eq_of_length_le (by rw [hv.1]; exact hi)]
  unfold numbr
  obtain ⟨h1, h2⟩ := numbrLoop_shape u 0 (2^n) (-1) 0 0 0
  rw [hu.1] at h1 h2
  generalize numbrLoop 0 u (2^n) (-1) 0 0 0 = r at h1 h2
  obtain ⟨iis, l, l1⟩ := r
  simp only at h1 h2 ⊢
  split
  · exact ⟨by simp only; omega, hu⟩
  · split
    · exact ⟨by simp only; omega, neg _ hu⟩
    · split
      · exact ⟨by simp only; omega, neg _ (neg _ hu)⟩
      · exact ⟨by simp only; omega, neg _ hu⟩

theorem invStep_shape {n : Nat} {s : St} (hs : validState n s) {u0 : List Int} (hu : signVec n u0) :
    validState n (invStep n s u0).1 := by
  obtain ⟨h1, h2⟩ := numbr_shape (Nat.zero_lt_of_lt hs.1)
    (signVec_swap0 (signVec_zipWith (fun _ _ => sign_mul) hu hs.2) hs.1)
  exact ⟨relabel_lt h1 hs.1,
    signVec_zipWith (fun _ _ hx hy => sign_mul_neg hx hy) hs.2 (signVec_swap0 h2 hs.1)⟩

/-! ### Lengths of what the numeric functions return, for EVERY carrier and every `n`

No field law is needed, so none is assumed: each statement takes the operator classes its function takes (the `variable` line grows with
them), and applies wherever the function does — over `Float`, over the heap model's abstract carrier, over an ordered field. -/

theorem node_length (n d : Nat) : (node n d).2.1.length = n ∧ (node n d).2.2.length = n := by
  rcases Nat.eq_zero_or_pos n with rfl | hn
  · -- `node_shape` wants `n ≥ 1`; for `n = 0` every branch of `node` returns empty vectors
    unfold node
    split
    · simp
    · simp [nodeLoop]
  · exact ⟨(node_shape hn d).2.1.1, (node_shape hn d).2.2.1⟩

theorem step_length (n : Nat) (s : St) (d : Nat) (hs : s.iw.length = n) :
    (step n s d).1.iw.length = n ∧ (step n s d).2.length = n := by
  have h := node_length n d
  simp only [step, List.length_zipWith, length_swap0, h.1, h.2, hs, Nat.min_self, and_self]

section
variable {α : Type} [Add α] [Sub α] [Div α] [OfNat α 2]

theorem length_d2p (lower upper y : List α) :
    (d2p lower upper y).length = min y.length (min lower.length upper.length) := by
  rw [d2p, List.length_zipWith, List.length_zip]

variable [Mul α]

theorem length_p2d (lower upper y : List α) :
    (p2d lower upper y).length = min y.length (min lower.length upper.length) := by
  rw [p2d, List.length_zipWith, List.length_zip]

variable [OfNat α 0] [OfNat α 1] [NatCast α] [TruncNat α]

theorem yLoop_length (n : Nat) (x1 : Bool) : ∀ (fuel : Nat) (d r : α) (s : St) (y : List α),
    s.iw.length = n → y.length = n → (yLoop n x1 fuel d r s y).length = n := by
  intro fuel
  induction fuel with
  | zero => intro d r s y _ hy; simpa [yLoop] using hy
  | succ fuel ih =>
    intro d r s y hs hy
    rw [yLoop]
    simp only
    apply ih
    · exact (step_length n s _ hs).1
    · rw [List.length_zipWith, hy, (step_length n s _ hs).2, Nat.min_self]

variable [LE α] [DecidableLE α]

theorem imageCube_one (m : Nat) (x : α) : imageCube 1 m x = [x - half] := by
  simp [imageCube]

/-- `__GetYonX` yields `N` coordinates -/
theorem length_imageCube (n m : Nat) (x : α) : (imageCube n m x).length = n := by
  unfold imageCube
  split
  · rename_i h; simp at h; simp [h]
  · apply yLoop_length <;> simp [St.init]

end

end Ev

import IOptProofs.S3SoundBox
import IOptProofs.S3Cert
/-!
# StronginC3: the three clauses of C10 from the kernel-evaluated certificates
-/

namespace S3

/-- the declared optimum coordinate (both coordinates are the double `0.941176`) -/
noncomputable def pR : ℝ := dyR pD
/-- the declared optimum value (the double `-1.489444`) -/
noncomputable def vR : ℝ := dyR vD

theorem pR_eq : pR = 8477359765780108 / 2 ^ 53 := by
  unfold pR; simpa using dyR_of_toRat (by decide +kernel : pD.toRat = 8477359765780108 / 2 ^ 53)

theorem vR_eq : vR = -6707859443389221 / 2 ^ 52 := by
  unfold vR; simpa using dyR_of_toRat (by decide +kernel : vD.toRat = -6707859443389221 / 2 ^ 52)

noncomputable def w1 : ℝ := 63246749 / 2 ^ 26
noncomputable def w2 : ℝ := 130536807 / 2 ^ 26 - 1

theorem f_gt_of_lt {x1 x2 T : ℝ} (h : (A x1 x2 + B x1 x2) * 2 ^ 64 < T) : -(T / 2 ^ 64) < f x1 x2 := by
  rw [f_eq, neg_lt_neg_iff, lt_div_iff₀ (by positivity)]; exact h

theorem f_lower {a1 b1 a2 b2 : Nat} {x1 x2 T : ℝ} (h : InBox a1 b1 a2 b2 x1 x2) (hT : (ub a1 b1 a2 b2 : ℝ) ≤ T) :
    -(T / 2 ^ 64) ≤ f x1 x2 := by
  rw [f_eq, neg_le_neg_iff, le_div_iff₀ (by positivity)]
  exact (ub_sound a1 b1 a2 b2 x1 x2 h).trans hT

theorem f_upper {a1 b1 a2 b2 : Nat} {x1 x2 T : ℝ} (h : InBox a1 b1 a2 b2 x1 x2) (hT : T ≤ (lbA a1 b1 a2 b2 : ℝ)) :
    f x1 x2 ≤ -(T / 2 ^ 64) := by
  rw [f_eq, neg_le_neg_iff, div_le_iff₀ (by positivity)]
  exact (hT.trans (A_within h).1).trans
    (mul_le_mul_of_nonneg_right (le_add_of_nonneg_right (B_nonneg x1 x2)) (by positivity))

theorem p_inBox : InBox PX (Nat.add PX 1) PY (Nat.add PY 1) pR pR := by
  unfold InBox
  rw [pR_eq]
  simp only [Nat.add_eq]
  norm_num [PX, PY]

theorem clauseV : |f pR pR - vR| ≤ 1e-4 := by
  have hc := certV_true
  unfold certV at hc
  simp only [Bool.and_eq_true, Nat.ble_eq] at hc
  have h1 := f_lower p_inBox (Nat.cast_le.2 hc.1)
  have h2 := f_upper p_inBox (Nat.cast_le.2 hc.2)
  have hV1 : (VUP : ℝ) / 2 ^ 64 ≤ -vR + 1 / 10000 := by
    rw [vR_eq, div_le_iff₀ (by positivity)]; norm_num [VUP]
  have hV2 : -vR - 1 / 10000 ≤ (VLO : ℝ) / 2 ^ 64 := by
    rw [vR_eq, le_div_iff₀ (by positivity)]; norm_num [VLO]
  rw [abs_le]
  constructor <;> linarith

theorem mul4U_cast : ((Nat.mul 4 U : Nat) : ℝ) = 4 * 2 ^ 26 := by
  rw [Nat.mul_eq, Nat.cast_mul, U_cast]; norm_num

theorem box_inBox (x1 x2 : ℝ) (h1 : 0 ≤ x1) (h2 : x1 ≤ 4) (h3 : -1 ≤ x2) (h4 : x2 ≤ 3) :
    InBox 0 (Nat.mul 4 U) 0 (Nat.mul 4 U) x1 x2 := by
  rw [InBox, mul4U_cast, Nat.cast_zero]
  exact ⟨mul_nonneg h1 (by positivity), mul_le_mul_of_nonneg_right h2 (by positivity),
    mul_nonneg (by linarith) (by positivity), mul_le_mul_of_nonneg_right (by linarith) (by positivity)⟩

theorem not_inR0 (x1 x2 : ℝ) : ¬ InRect R0 x1 x2 := by
  rintro ⟨h1, h2, _, _⟩
  simp only [R0, Nat.cast_one, Nat.cast_zero] at h1 h2
  linarith

theorem vR_lt : vR < -1 := by rw [vR_eq]; norm_num

/-- what a certificate over the whole box `[0,4] × [-1,3]` gives: outside the exempt rectangle, `f > -T/2^64` -/
theorem cert_sound {T : Nat} {R : Rect} (hc : bnb T R 60 0 (Nat.mul 4 U) 0 (Nat.mul 4 U) = true) (x1 x2 : ℝ)
    (h1 : 0 ≤ x1) (h2 : x1 ≤ 4) (h3 : -1 ≤ x2) (h4 : x2 ≤ 3) (hg : g1 x1 x2 ≤ 0) (hout : ¬ InRect R x1 x2) :
    -((T : ℝ) / 2 ^ 64) < f x1 x2 :=
  (bnb_sound T R 60 _ _ _ _ hc x1 x2 (box_inBox x1 x2 h1 h2 h3 h4) hg).elim (fun h => absurd h hout) f_gt_of_lt

theorem clauseG (x1 x2 : ℝ) (h1 : 0 ≤ x1) (h2 : x1 ≤ 4) (h3 : -1 ≤ x2) (h4 : x2 ≤ 3) (hg : g1 x1 x2 ≤ 0) :
    vR - 2e-3 * max 1 |vR| ≤ f x1 x2 := by
  have := cert_sound certG_true x1 x2 h1 h2 h3 h4 hg (not_inR0 x1 x2)
  have hv := vR_lt
  rw [abs_of_neg (by linarith), max_eq_right (by linarith)]
  have hT : (TG : ℝ) / 2 ^ 64 ≤ -(vR - 2 / 1000 * -vR) := by
    rw [vR_eq, div_le_iff₀ (by positivity)]; norm_num [TG]
  linarith

theorem w_inBox : InBox WX WX WY WY w1 w2 := by
  unfold InBox w1 w2
  norm_num [WX, WY]

theorem f_w_le : f w1 w2 ≤ -((lbA WX WX WY WY : ℝ) / 2 ^ 64) := f_upper w_inBox le_rfl

theorem clauseP (x1 x2 : ℝ) (h1 : 0 ≤ x1) (h2 : x1 ≤ 4) (h3 : -1 ≤ x2) (h4 : x2 ≤ 3) (hg : g1 x1 x2 ≤ 0)
    (hout : ¬ InRect RP x1 x2) : f w1 w2 < f x1 x2 :=
  lt_of_le_of_lt f_w_le (cert_sound certP_true x1 x2 h1 h2 h3 h4 hg hout)

theorem inRP_close (x1 x2 : ℝ) (h : InRect RP x1 x2) :
    |x1 - pR| ≤ 0.008 ∧ |x2 - pR| ≤ 0.018 := by
  obtain ⟨h1, h2, h3, h4⟩ := h
  simp only [RP, Nat.cast_ofNat] at h1 h2 h3 h4
  rw [pR_eq, abs_le, abs_le]
  exact ⟨⟨by linarith, by linarith⟩, ⟨by linarith, by linarith⟩⟩

theorem tag_eq (i row : Nat) : tag i row = row := by
  show row + (i - i) = row
  omega

theorem famRows_eq (fam : Nat) : ∀ (l : List Nat) (n : Nat),
    famRows fam l n = (l.take n).filter fun x => Nat.beq (Dy.word x 0) fam
  | [], _ => by rw [List.take_nil]; rfl
  | _ :: _, 0 => rfl
  | x :: t, n + 1 => by
    rw [famRows, tag_eq, famRows_eq fam t n, List.take_succ_cons, List.filter_cons]
    cases Nat.beq (Dy.word x 0) fam <;> rfl

theorem family7_unique (row : Nat) (h : row ∈ Gen.metaRowsPacked.toList) (hf : (Gen.metaDecode row).family = 7) :
    row = Gen.metaRowsPacked.back! := by
  have := (List.mem_filter (p := fun x => Nat.beq (Dy.word x 0) 7)).2 ⟨h, (congrArg (Nat.beq · 7) hf).trans rfl⟩
  rw [← List.take_of_length_le metaRows_length_le, ← famRows_eq, family7_rows] at this
  simpa using this

theorem dy0_val : dyR dy0 = 0 := dyR_eq_zero (by decide +kernel)
theorem dyM1_val : dyR dyM1 = -1 := by simpa using dyR_of_toRat (by decide +kernel : dyM1.toRat = -1)
theorem dy4_val : dyR dy4 = 4 := by simpa using dyR_of_toRat (by decide +kernel : dy4.toRat = 4)
theorem dy3_val : dyR dy3 = 3 := by simpa using dyR_of_toRat (by decide +kernel : dy3.toRat = 3)

/-- the declared point is not itself a global minimiser: the feasible witness `w` has a smaller value -/
theorem f_w_lt_f_p : f w1 w2 < f pR pR := by
  have hc := certW_true
  rw [Nat.blt_eq] at hc
  have h1 := f_lower p_inBox le_rfl
  have h2 := f_w_le
  have : ((ub PX (Nat.add PX 1) PY (Nat.add PY 1) : Nat) : ℝ) / 2 ^ 64 < ((lbA WX WX WY WY : Nat) : ℝ) / 2 ^ 64 :=
    div_lt_div_of_pos_right (Nat.cast_lt.2 hc) (by positivity)
  linarith

end S3

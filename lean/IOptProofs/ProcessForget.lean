import IOptProofs.ProcessOps
/-!
# The global search never reads what `DoLocalRefinement` overwrites

`forget` erases what a refinement overwrites (the point and the value holder of the stored trials, the counter of local trials, which
trial was refined); every operation commutes with it, from `recalcItems` up to `solve_forget_congr`: two solvers that agree up to
`forget` still do after a `Solve` with the same parameters and objective, whatever the two refinements return.  `fields_of_forget` lists
what can be read off such an agreement.  Over the bare operations: no law is used.
-/
set_option linter.unusedSectionVars false

section
variable {α : Type} [Add α] [Sub α] [Mul α] [Div α] [Neg α] [LT α] [LE α]
  [DecidableLT α] [DecidableLE α] [OfNat α 0] [OfNat α 1] [OfNat α 2] [OfNat α 4] [Fns α]

namespace AGP
open AGP.Ctl

/-- forget what `DoLocalRefinement` may have overwritten: the point and the value holder of an item -/
def Item.forget (it : Item α) : Item α := { it with point := [], hv := it.z }

def State.forget (s : State α) : State α := { s with items := s.items.map Item.forget }

def Prep.forget (pr : Prep α) : Prep α :=
  { pr with s := pr.s.forget, old := pr.old.forget, left := pr.left.forget }

theorem Item.forget_forget (it : Item α) : it.forget.forget = it.forget := rfl

theorem State.forget_forget (s : State α) : s.forget.forget = s.forget := by
  simp [State.forget, Function.comp_def, Item.forget]

theorem recalcItems_forget (r M Z : α) (o : Option (Item α)) (l : List (Item α)) :
    recalcItems r M Z (o.map Item.forget) (l.map Item.forget) = (recalcItems r M Z o l).map Item.forget := by
  induction l generalizing o with
  | nil => cases o <;> rfl
  | cons it t ih =>
    cases o with
    | none =>
      have := ih (some { it with R := none })
      simp only [List.map_cons, Option.map_none, recalcItems]
      exact congrArg (_ :: ·) this
    | some l0 =>
      have := ih (some { it with R := some (calcR r M Z l0 it) })
      simp only [List.map_cons, Option.map_some, recalcItems]
      exact congrArg (_ :: ·) this

theorem refillQueue_forget (l : List (Item α)) : refillQueue (l.map Item.forget) = refillQueue l := by
  unfold refillQueue
  rw [List.foldl_map]
  rfl

theorem findItem_forget (l : List (Item α)) (id : Nat) :
    findItem (l.map Item.forget) id = (findItem l id).map Item.forget := findItem_map Item.forget (fun _ => rfl) l id

theorem leftOf_forget (l : List (Item α)) (id : Nat) :
    leftOf (l.map Item.forget) id = (leftOf l id).map Item.forget := by
  induction l with
  | nil => rfl
  | cons a t ih =>
    cases t with
    | nil => rfl
    | cons b t' =>
      simp only [List.map_cons, leftOf] at ih ⊢
      have hb : b.forget.id = b.id := rfl
      rw [hb]
      cases (b.id == id)
      · simpa using ih
      · rfl

theorem insertBefore_forget (n o : Item α) (l : List (Item α)) :
    insertBefore n.forget o.forget (l.map Item.forget) = (insertBefore n o l).map Item.forget := by
  induction l with
  | nil => rfl
  | cons it t ih =>
    simp only [List.map_cons, insertBefore]
    have h1 : it.forget.id = it.id := rfl
    have h2 : o.forget.id = o.id := rfl
    rw [h1, h2]
    cases (it.id == o.id)
    · simp only [Bool.false_eq_true, if_false, List.map_cons]; rw [ih]
    · rfl

theorem recalcAll_forget (p : Params α) (s : State α) : recalcAll p s.forget = (recalcAll p s).forget := by
  unfold recalcAll
  have hr : s.forget.recalc = s.recalc := rfl
  rw [hr]
  cases s.recalc
  · rfl
  · simp only [if_true]
    have hi : recalcItems p.r s.forget.M s.forget.Z none s.forget.items =
        (recalcItems p.r s.M s.Z none s.items).map Item.forget := recalcItems_forget p.r s.M s.Z none s.items
    rw [hi, refillQueue_forget]
    rfl

theorem selState_forget (p : Params α) (s : State α) : selState p s.forget = (selState p s).forget := by
  unfold selState
  simp only []
  rw [recalcAll_forget]
  have hq : (recalcAll p s).forget.queue = (recalcAll p s).queue := rfl
  rw [hq]
  cases (recalcAll p s).queue.isEmpty
  · rfl
  · simp only [if_true]
    have hi : (recalcAll p s).forget.items = (recalcAll p s).items.map Item.forget := rfl
    rw [hi, refillQueue_forget]
    rfl

def forgetPrep : Except (State α × Raise) (Prep α) → Except (State α × Raise) (Prep α)
  | .ok pr => .ok pr.forget
  | .error (s, e) => .error (s.forget, e)

/-- **`CalculateIterationPoint` does not read the points or the value holders of the stored trials** -/
theorem prepare_forget (p : Params α) (s : State α) : prepare p s.forget = forgetPrep (prepare p s) := by
  rw [prepare_eq, prepare_eq, selState_forget]
  have hq : (selState p s).forget.queue = (selState p s).queue := rfl
  have hi : (selState p s).forget.items = (selState p s).items.map Item.forget := rfl
  have hM : (selState p s).forget.M = (selState p s).M := rfl
  have hmd : (selState p s).forget.minDelta = (selState p s).minDelta := rfl
  rw [hq]
  cases hqq : (selState p s).queue with
  | nil => rfl
  | cons hd q =>
    obtain ⟨k, oid⟩ := hd
    simp only []
    rw [hi, findItem_forget, leftOf_forget]
    cases findItem (selState p s).items oid with
    | none => rfl
    | some old =>
      simp only [Option.map_some]
      cases leftOf (selState p s).items oid with
      | none => rfl
      | some left =>
        simp only [Option.map_some]
        have hx : nextX p (selState p s).forget.M left.forget old.forget = nextX p (selState p s).M left old := rfl
        have h1 : left.forget.x = left.x := rfl
        have h2 : old.forget.x = old.x := rfl
        have h3 : old.forget.delta = old.delta := rfl
        rw [hx, h1, h2, h3, hmd]
        split
        · rfl
        · rfl

theorem better_forget (pr : Prep α) (z : α) : better pr.forget z = better pr z := by
  unfold better
  have hi : pr.forget.s.items = pr.s.items.map Item.forget := rfl
  have hb : pr.forget.s.best = pr.s.best := rfl
  rw [hi, hb, findItem_forget]
  cases findItem pr.s.items pr.s.best <;> rfl

theorem commit_forget (p : Params α) (pr : Prep α) (z : α) : (commit p pr.forget z).forget = (commit p pr z).forget := by
  have hi : pr.forget.s.items = pr.s.items.map Item.forget := rfl
  rw [commit_eq, commit_eq]
  -- what `commit_eq` names is computed from what `forget` keeps once the two tests of `UpdateOptimum` agree; the items are not
  simp only [State.forget, cZ, cBest, cM2, cM1, cRc0, cNew2, cOld2, better_forget]
  rw [hi, ← insertBefore_forget, ← insertBefore_forget, List.map_map]
  rfl

end AGP

namespace Proc
open AGP AGP.Ctl

/-- the solver state up to what `DoLocalRefinement` may have overwritten: the point and the value holder of the
stored trials, `numberOfLocalTrials`, and which trial was refined (`__refinedTrial`) -/
def PState.forget (ps : PState α) : PState α := { ps with m := ps.m.map State.forget, nLocal := 0, refined := none }

def forgetRes {β : Type} : Except (PState α × Raise) (PState α × β) → Except (PState α × Raise) (PState α × β)
  | .ok (ps, b) => .ok (ps.forget, b)
  | .error (ps, e) => .error (ps.forget, e)

theorem PState.forget_forget (ps : PState α) : ps.forget.forget = ps.forget := by
  unfold PState.forget
  cases ps.m with
  | none => rfl
  | some s => simp [State.forget_forget]

theorem PState.forget_fresh : ({} : PState α).forget = {} := rfl

theorem PState.forget_appendLog (ps : PState α) (l : List Event) : (ps.appendLog l).forget = ps.forget.appendLog l := rfl

theorem oneIteration_forget (p : Params α) (f : Nat → List α → Option α) (ps : PState α) :
    forgetRes (oneIteration p f ps.forget) = forgetRes (oneIteration p f ps) := by
  rw [oneIteration_eq, oneIteration_eq]
  have hm : ps.forget.m = ps.m.map State.forget := rfl
  have hc : ps.forget.calls = ps.calls := rfl
  rw [hm, hc]
  cases ps.m with
  | none =>
    simp only [Option.map_none]
    cases f ps.calls (firstPoint p) <;> rfl
  | some s =>
    simp only [Option.map_some]
    rw [prepare_forget]
    cases prepare p s with
    | error x =>
      obtain ⟨s', e⟩ := x
      simp only [forgetPrep, forgetRes, PState.forget, Option.map_some, State.forget_forget]
    | ok pr =>
      simp only [forgetPrep]
      have hp : pr.forget.point = pr.point := rfl
      rw [hp]
      cases f ps.calls pr.point with
      | none =>
        have : pr.forget.s = pr.s.forget := rfl
        simp only [forgetRes, PState.forget, Option.map_some, this, State.forget_forget]
      | some z =>
        have : pr.forget.s.nextId = pr.s.nextId := rfl
        simp only [forgetRes, PState.forget, Option.map_some, commit_forget, this]

theorem oneIteration_forget_congr {p : Params α} {f : Nat → List α → Option α} {ps ps' : PState α}
    (h : ps.forget = ps'.forget) : forgetRes (oneIteration p f ps) = forgetRes (oneIteration p f ps') := by
  rw [← oneIteration_forget, h, oneIteration_forget]

theorem forgetRes_ok {β : Type} {a b : Except (PState α × Raise) (PState α × β)} {x : PState α} {i : β}
    (h : forgetRes a = forgetRes b) (ha : a = .ok (x, i)) : ∃ y, b = .ok (y, i) ∧ x.forget = y.forget := by
  subst ha
  match b, h with
  | .ok (y, j), h =>
    simp only [forgetRes, Except.ok.injEq, Prod.mk.injEq] at h
    exact ⟨y, by rw [h.2], h.1⟩

theorem forgetRes_error {β : Type} {a b : Except (PState α × Raise) (PState α × β)} {x : PState α} {e : Raise}
    (h : forgetRes a = forgetRes b) (ha : a = .error (x, e)) : ∃ y, b = .error (y, e) ∧ x.forget = y.forget := by
  subst ha
  match b, h with
  | .error (y, j), h =>
    simp only [forgetRes, Except.error.injEq, Prod.mk.injEq] at h
    exact ⟨y, by rw [h.2], h.1⟩

theorem oneIteration_forget_ok {p : Params α} {f : Nat → List α → Option α} {ps ps0 ps' : PState α} {id : Nat}
    (hf : ps.forget = ps0.forget) (h : oneIteration p f ps = .ok (ps', id)) :
    ∃ ps0', oneIteration p f ps0 = .ok (ps0', id) ∧ ps'.forget = ps0'.forget :=
  forgetRes_ok (oneIteration_forget_congr hf) h

theorem oneIteration_forget_error {p : Params α} {f : Nat → List α → Option α} {ps ps0 ps' : PState α} {e : Raise}
    (hf : ps.forget = ps0.forget) (h : oneIteration p f ps = .error (ps', e)) :
    ∃ ps0', oneIteration p f ps0 = .error (ps0', e) ∧ ps'.forget = ps0'.forget :=
  forgetRes_error (oneIteration_forget_congr hf) h

theorem stopNow_forget (p : Params α) (ps : PState α) : stopNow p ps.forget = stopNow p ps := by
  unfold stopNow PState.forget
  cases ps.m <;> rfl

theorem stopNow_forget_congr {ps ps' : PState α} (h : ps.forget = ps'.forget) (p : Params α) :
    stopNow p ps = stopNow p ps' := by
  rw [← stopNow_forget, h, stopNow_forget]

theorem solveLoop_forget_congr (p : Params α) (f : Nat → List α → Option α) (fuel : Nat) {ps ps' : PState α}
    (h : ps.forget = ps'.forget) :
    (solveLoop p f fuel ps).1.forget = (solveLoop p f fuel ps').1.forget ∧
    (solveLoop p f fuel ps).2 = (solveLoop p f fuel ps').2 := by
  induction fuel generalizing ps ps' with
  | zero => exact ⟨h, rfl⟩
  | succ fuel ih =>
    rw [solveLoop_succ, solveLoop_succ, stopNow_forget_congr h p]
    cases stopNow p ps' with
    | true => exact ⟨h, rfl⟩
    | false =>
      simp only [Bool.false_eq_true, if_false]
      match ho : oneIteration p f ps with
      | .error (pe, e) =>
        obtain ⟨y, hy, hfy⟩ := oneIteration_forget_error h ho
        rw [hy]
        exact ⟨by rw [PState.forget_appendLog, PState.forget_appendLog, hfy], rfl⟩
      | .ok (ps1, id) =>
        obtain ⟨y, hy, hfy⟩ := oneIteration_forget_ok h ho
        rw [hy]
        exact ih (by rw [PState.forget_appendLog, PState.forget_appendLog, hfy])

theorem doLocalRefinement_forget (ps : PState α) (lr : LocalResult α) : (doLocalRefinement ps lr).forget = ps.forget := by
  unfold doLocalRefinement
  cases hm : ps.m with
  | none => simp only []
  | some s =>
    simp only [PState.forget, hm, Option.map_some, State.forget, List.map_map]
    congr 3
    apply List.map_congr_left
    intro it _
    simp only [Function.comp]
    split <;> rfl

theorem refineStep_forget (refine : PState α → Option (LocalResult α)) (ps : PState α) :
    (refineStep refine ps).forget = ps.forget := by
  unfold refineStep
  split
  · exact doLocalRefinement_forget ps _
  · rfl

theorem solve_forget_congr (p : Params α) (f : Nat → List α → Option α)
    (refine refine' : PState α → Option (LocalResult α)) {ps ps' : PState α} (h : ps.forget = ps'.forget) :
    (solve p f refine ps).forget = (solve p f refine' ps').forget := by
  obtain ⟨h1, -⟩ := solveLoop_forget_congr p f (p.itersLimit + 1) h
  rw [solve_eq, solve_eq, stopNow_refineStep, stopNow_refineStep, PState.forget_appendLog, PState.forget_appendLog,
    refineStep_forget, refineStep_forget, h1, stopNow_forget_congr h1 p]

theorem PState.forget_fields (ps : PState α) :
    ps.forget.nTrials = ps.nTrials ∧ ps.forget.iters = ps.iters ∧ ps.forget.minDelta = ps.minDelta := by
  simp only [PState.nTrials, PState.iters, PState.minDelta, PState.forget]
  cases ps.m <;> exact ⟨rfl, rfl, rfl⟩

theorem fields_of_forget {a b : PState α} (h : a.forget = b.forget) :
    a.evals = b.evals ∧ a.calls = b.calls ∧ a.log = b.log ∧ a.nTrials = b.nTrials ∧ a.iters = b.iters ∧
    a.minDelta = b.minDelta ∧ ∀ q : Params α, stopNow q a = stopNow q b := by
  have he : a.forget.evals = b.forget.evals := by rw [h]
  have hc : a.forget.calls = b.forget.calls := by rw [h]
  have hl : a.forget.log = b.forget.log := by rw [h]
  obtain ⟨a1, a2, a3⟩ := a.forget_fields
  obtain ⟨b1, b2, b3⟩ := b.forget_fields
  refine ⟨he, hc, hl, ?_, ?_, ?_, fun q => stopNow_forget_congr h q⟩
  · rw [← a1, ← b1, h]
  · rw [← a2, ← b2, h]
  · rw [← a3, ← b3, h]

theorem solve_fresh_forget (p : Params α) (f : Nat → List α → Option α)
    (refine refine' : PState α → Option (LocalResult α)) :
    (solve p f refine {}).forget = (solve p f refine' {}).forget :=
  solve_forget_congr p f refine refine' (ps := {}) (ps' := {}) rfl

theorem solve_nTrials_any_refine (p : Params α) (f : Nat → List α → Option α)
    (refine refine' : PState α → Option (LocalResult α)) :
    (solve p f refine {}).nTrials = (solve p f refine' {}).nTrials :=
  (fields_of_forget (solve_fresh_forget p f refine refine')).2.2.2.1

end Proc
end

import IOptProofs.ProcessOps
/-!
# A tiny concrete instance of the model, used for the non-vacuity examples

`α := Rat` (core Lean rationals), dimension 1, `image x = [x]`, `root x _ = x`; objective `(x - 1/3)^2`.
The instance is scoped: `open ProcToy` to use it.
-/

namespace ProcToy
open AGP AGP.Ctl Proc

scoped instance instFnsRat : Fns Rat where
  abs x := if x < 0 then -x else x
  root x _ := x
  powN x n := x ^ n
  big := 1000000000

def P (lim : Nat) (eps : Rat) : Params Rat :=
  { n := 1, r := 2, eps := eps, itersLimit := lim, image := fun x => [x] }

def F : Nat → List Rat → Option Rat := fun _ pt => some ((pt.headD 0 - 1/3) * (pt.headD 0 - 1/3))

def failAt (k : Nat) : Nat → List Rat → Option Rat := fun j pt => if j = k then none else F j pt

theorem F_total : ∀ j pt, F j pt ≠ none := by intro j pt; simp [F]

theorem failAt_iff (k j : Nat) (pt : List Rat) : failAt k j pt = none ↔ j = k := by
  unfold failAt; split <;> simp_all [F]

theorem failAt_agree (k j : Nat) (pt : List Rat) (h : j ≠ k) : failAt k j pt = F j pt := by
  simp [failAt, h]

def noRefine : PState Rat → Option (LocalResult Rat) := fun _ => none

theorem ok_of_isOk {ε β : Type} {r : Except ε β} (h : r.isOk = true) : ∃ x, r = .ok x := by
  cases r with
  | ok x => exact ⟨x, rfl⟩
  | error e => cases h

end ProcToy

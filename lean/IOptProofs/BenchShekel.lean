import IOptProofs.BenchShekelDefs
import IOptProofs.ShekelRows
import IOptProofs.BenchReal
import IOptProofs.BenchDy
import IOptProofs.BenchBox
import IOptProofs.BenchExtrema
import Mathlib.Tactic.Ring
import Mathlib.Tactic.Linarith
import Mathlib.Tactic.Positivity
import Mathlib.Tactic.FieldSimp
import Mathlib.Tactic.Push
import Mathlib.Tactic.NormNum
import Mathlib.Algebra.Order.Field.Basic
import Mathlib.Algebra.Order.Field.Rat
import Mathlib.Data.Rat.Cast.Order
import Mathlib.Algebra.Order.Ring.Abs
/-!
# Shekel: soundness over ℝ of the fixed-point branch-and-bound of `BenchShekelDefs`

A point `x` of `[0,10]` is followed through its scaled coordinate `y = x·2^E`; an integer box `[lo, hi]` stands
for `lo ≤ y ≤ hi`.  The term bounds rest on the two roundings `div_le_divUp`, `natDiv_le_div`; every search that
covers a box (`gbnb`, `bnbUp`, and in the later files `bnb4`, `lipT`) on the bisection principle
`Bench.bisect_sound` (`BenchBox.lean`), the one-dimensional ones through `bisect1_sound`.  `gbnb` (`ShekelTabDefs`) is
the bisection with any leaf test, which the checker of the tables runs with several; `bnb` is `gbnb` with the leaf
test `vLo` (`gbnb_vLo`), so `bnb_sound` is a case of `gbnb_sound`.
-/

namespace Shk

@[simp] theorem forceTerms_eq : ∀ (ts : List NTerm) (k : List NTerm → Bool), forceTerms ts k = k ts
  | [], k => rfl
  | (a, b, c) :: ts, k => by simp [forceTerms, forceTerms_eq ts]

/-- the real term `1/(k (x-a)² + c)` denoted by a scaled term -/
noncomputable def termR (E : Nat) (t : NTerm) (x : ℝ) : ℝ :=
  1 / ((t.1 : ℝ) / 2 ^ E * (x - (t.2.1 : ℝ) / 2 ^ E) ^ 2 + (t.2.2 : ℝ) / 2 ^ (3 * E))

noncomputable def fR (E : Nat) (ts : List NTerm) (x : ℝ) : ℝ := -(ts.map fun t => termR E t x).sum

theorem two_pow_pos' (n : Nat) : (0 : ℝ) < 2 ^ n := by positivity

theorem lt_of_blt {a b : Nat} (h : Nat.blt a b = true) : a < b := Nat.blt_eq.mp h

theorem sq_near_le (lo hi a : Nat) (y : ℝ) (h1 : (lo : ℝ) ≤ y) (h2 : y ≤ (hi : ℝ)) :
    ((near lo hi a : Nat) : ℝ) ^ 2 ≤ (y - a) ^ 2 :=
  le_even_pow even_two (Nat.cast_nonneg _) (tsub_add_tsub_le_abs h1 h2 le_rfl le_rfl)

theorem le_sq_far (lo hi a : Nat) (y : ℝ) (h1 : (lo : ℝ) ≤ y) (h2 : y ≤ (hi : ℝ)) :
    (y - a) ^ 2 ≤ ((far lo hi a : Nat) : ℝ) ^ 2 :=
  even_pow_le even_two (abs_le_tsub_add_tsub h1 h2 le_rfl le_rfl)

theorem termR_eq (E : Nat) (t : NTerm) (x : ℝ) :
    termR E t x = 2 ^ (3 * E) / ((t.1 : ℝ) * (x * 2 ^ E - t.2.1) ^ 2 + t.2.2) := by
  unfold termR
  have h2 : (2 : ℝ) ^ E ≠ 0 := (two_pow_pos' E).ne'
  have h3 : (2 : ℝ) ^ (3 * E) = 2 ^ E * (2 ^ E * 2 ^ E) := by
    rw [show 3 * E = E + E + E by ring, pow_add, pow_add]; ring
  rw [h3]
  have e : (t.1 : ℝ) / 2 ^ E * (x - (t.2.1 : ℝ) / 2 ^ E) ^ 2 + (t.2.2 : ℝ) / (2 ^ E * (2 ^ E * 2 ^ E))
      = ((t.1 : ℝ) * (x * 2 ^ E - t.2.1) ^ 2 + t.2.2) / (2 ^ E * (2 ^ E * 2 ^ E)) := by
    field_simp
  rw [e, one_div, inv_div]

theorem den_cast (t : NTerm) (d : Nat) : ((den t d : Nat) : ℝ) = (t.1 : ℝ) * (d : ℝ) ^ 2 + t.2.2 := by
  show ((t.1 * (d * d) + t.2.2 : Nat) : ℝ) = _
  push_cast; ring

/-! ### the two roundings: a quotient `a/D` against `⌈A/n⌉` and `⌊A/n⌋` in units of `2^-P`, `A = a·2^P` -/

theorem pow_add_cast (k : Nat) : ((2 ^ (k + P) : Nat) : ℝ) = 2 ^ k * 2 ^ P := by
  push_cast; rw [pow_add]

theorem div_le_divUp (A n : Nat) (hn : 0 < n) {a D : ℝ} (hA : (A : ℝ) = a * 2 ^ P) (hD : (n : ℝ) ≤ D) :
    a / D ≤ (divUp A n : ℝ) / 2 ^ P := by
  have hup : A ≤ divUp A n * n := by
    show A ≤ (A + n - 1) / n * n
    have h := Nat.div_add_mod (A + n - 1) n
    have hm := Nat.mod_lt (A + n - 1) hn
    rw [Nat.mul_comm] at h
    omega
  have hupR : a * 2 ^ P ≤ (divUp A n : ℝ) * n := by rw [← hA]; exact_mod_cast hup
  rw [div_le_div_iff₀ (lt_of_lt_of_le (Nat.cast_pos.2 hn) hD) (two_pow_pos' P)]
  exact hupR.trans (mul_le_mul_of_nonneg_left hD (Nat.cast_nonneg _))

theorem natDiv_le_div (A n : Nat) {a D : ℝ} (hA : (A : ℝ) = a * 2 ^ P) (hD0 : 0 < D) (hD : D ≤ (n : ℝ)) :
    ((A / n : Nat) : ℝ) / 2 ^ P ≤ a / D := by
  have hdn : ((A / n : Nat) : ℝ) * n ≤ a * 2 ^ P := by
    rw [← hA]; exact_mod_cast Nat.div_mul_le_self A n
  rw [div_le_div_iff₀ (two_pow_pos' P) hD0]
  exact (mul_le_mul_of_nonneg_left hD (Nat.cast_nonneg _)).trans hdn

theorem tUp_sound (E : Nat) (t : NTerm) (lo hi : Nat) (x : ℝ) (hc : 0 < t.2.2)
    (h1 : (lo : ℝ) ≤ x * 2 ^ E) (h2 : x * 2 ^ E ≤ (hi : ℝ)) :
    termR E t x ≤ (tUp (2 ^ (3 * E + P)) t lo hi : ℝ) / 2 ^ P := by
  rw [termR_eq]
  refine div_le_divUp _ (den t (near lo hi t.2.1)) ?_ (pow_add_cast _) ?_
  · show 0 < t.1 * _ + t.2.2
    omega
  · rw [den_cast]
    exact add_le_add (mul_le_mul_of_nonneg_left (sq_near_le lo hi _ _ h1 h2) (Nat.cast_nonneg _)) le_rfl

theorem tDn_sound (E : Nat) (t : NTerm) (lo hi : Nat) (x : ℝ) (hc : 0 < t.2.2)
    (h1 : (lo : ℝ) ≤ x * 2 ^ E) (h2 : x * 2 ^ E ≤ (hi : ℝ)) :
    (tDn (2 ^ (3 * E + P)) t lo hi : ℝ) / 2 ^ P ≤ termR E t x := by
  rw [termR_eq]
  have hcR : (0 : ℝ) < t.2.2 := Nat.cast_pos.2 hc
  have hk : (0 : ℝ) ≤ t.1 := Nat.cast_nonneg _
  refine natDiv_le_div _ (den t (far lo hi t.2.1)) (pow_add_cast _) (by positivity) ?_
  rw [den_cast]
  exact add_le_add (mul_le_mul_of_nonneg_left (le_sq_far lo hi _ _ h1 h2) hk) le_rfl

theorem natSum_cast {α : Type} (g : α → Nat) (l : List α) :
    (((l.map g).sum : Nat) : ℝ) = (l.map fun t => (g t : ℝ)).sum := by
  rw [Nat.cast_list_sum, List.map_map]; rfl

theorem natSum_div {α : Type} (g : α → Nat) (c : ℝ) (l : List α) :
    (((l.map g).sum : Nat) : ℝ) / c = (l.map fun t => (g t : ℝ) / c).sum := by
  simp only [natSum_cast, div_eq_mul_inv, List.sum_map_mul_right]

theorem eq_map_sum {α : Type} (S : List α → Nat) (g : α → Nat) (h0 : S [] = 0)
    (hc : ∀ t ts, S (t :: ts) = g t + S ts) : ∀ ts, S ts = (ts.map g).sum
  | [] => h0
  | t :: ts => (hc t ts).trans (congrArg (g t + ·) (eq_map_sum S g h0 hc ts))

theorem sUp_eq_sum (A lo hi : Nat) (ts : List NTerm) : sUp A ts lo hi = (ts.map fun t => tUp A t lo hi).sum :=
  eq_map_sum (sUp A · lo hi) _ rfl (fun _ _ => rfl) ts

theorem sDn_eq_sum (A lo hi : Nat) (ts : List NTerm) : sDn A ts lo hi = (ts.map fun t => tDn A t lo hi).sum :=
  eq_map_sum (sDn A · lo hi) _ rfl (fun _ _ => rfl) ts

theorem neg_le_neg_sum {α : Type} (term : α → ℝ) (up : α → Nat) (ts : List α)
    (h : ∀ t ∈ ts, term t ≤ (up t : ℝ) / 2 ^ P) {T : Nat} (hT : (ts.map up).sum ≤ T) :
    -(T : ℝ) / 2 ^ P ≤ -(ts.map term).sum := by
  rw [neg_div]
  refine neg_le_neg (((List.sum_le_sum h).trans_eq (natSum_div up _ ts).symm).trans ?_)
  exact div_le_div_of_nonneg_right (Nat.cast_le.2 hT) (two_pow_pos' P).le

theorem neg_sum_le_neg {α : Type} (term : α → ℝ) (dn : α → Nat) (ts : List α)
    (h : ∀ t ∈ ts, (dn t : ℝ) / 2 ^ P ≤ term t) {T : Nat} (hT : T ≤ (ts.map dn).sum) :
    -(ts.map term).sum ≤ -(T : ℝ) / 2 ^ P := by
  rw [neg_div]
  refine neg_le_neg (le_trans ?_ ((natSum_div dn _ ts).trans_le (List.sum_le_sum h)))
  exact div_le_div_of_nonneg_right (Nat.cast_le.2 hT) (two_pow_pos' P).le

section leaves
variable (E : Nat) (ts : List NTerm) (hts : ∀ t ∈ ts, 0 < t.2.2) {T lo hi : Nat} (x : ℝ)
  (h1 : (lo : ℝ) ≤ x * 2 ^ E) (h2 : x * 2 ^ E ≤ (hi : ℝ))
include hts h1 h2

theorem fR_ge_of_sUp_le (h : sUp (2 ^ (3 * E + P)) ts lo hi ≤ T) : -(T : ℝ) / 2 ^ P ≤ fR E ts x :=
  neg_le_neg_sum _ _ ts (fun t ht => tUp_sound E t lo hi x (hts t ht) h1 h2) (sUp_eq_sum _ lo hi ts ▸ h)

theorem fR_le_of_le_sDn (h : T ≤ sDn (2 ^ (3 * E + P)) ts lo hi) : fR E ts x ≤ -(T : ℝ) / 2 ^ P :=
  neg_sum_le_neg _ _ ts (fun t ht => tDn_sound E t lo hi x (hts t ht) h1 h2) (sDn_eq_sum _ lo hi ts ▸ h)

end leaves

/-- the test `t` on integer intervals `[lo, hi]` (of the scaled coordinate `x·2^E`) is sound for `Q` -/
def Sound1 (E : Nat) (t : Nat → Nat → Bool) (Q : ℝ → Prop) : Prop :=
  ∀ lo hi, t lo hi = true → ∀ x : ℝ, (lo : ℝ) ≤ x * 2 ^ E → x * 2 ^ E ≤ (hi : ℝ) → Q x

theorem Sound1.mono {E : Nat} {t : Nat → Nat → Bool} {Q Q' : ℝ → Prop} (h : Sound1 E t Q) (hQ : ∀ x, Q x → Q' x) :
    Sound1 E t Q' :=
  fun lo hi ht x h1 h2 => hQ x (h lo hi ht x h1 h2)

/-- bisection of integer intervals at the midpoint: sound if the leaf test is -/
theorem bisect1_sound (E : Nat) (Q : ℝ → Prop) (leaf : Nat → Nat → Bool) (b : Nat → Nat → Nat → Bool)
    (h0 : ∀ lo hi, b 0 lo hi = true → leaf lo hi = true)
    (hs : ∀ fuel lo hi, b (fuel + 1) lo hi = true → leaf lo hi = true ∨
      (b fuel lo (Nat.div (Nat.add lo hi) 2) = true ∧ b fuel (Nat.div (Nat.add lo hi) 2) hi = true))
    (hleaf : Sound1 E leaf Q) (fuel : Nat) : Sound1 E (b fuel) Q :=
  fun lo hi h x h1 h2 =>
  Bench.bisect_sound (fun (B : Nat × Nat) (x : ℝ) => (B.1 : ℝ) ≤ x * 2 ^ E ∧ x * 2 ^ E ≤ (B.2 : ℝ)) Q
    (fun fuel B => b fuel B.1 B.2 = true) (fun _ hB x hx => hleaf _ _ (h0 _ _ hB) x hx.1 hx.2)
    (fun fuel (lo, hi) hB x hx => (hs fuel lo hi hB).imp (hleaf _ _ · x hx.1 hx.2) fun hh =>
      (Bench.cut_cover hx.1 hx.2 _).elim (fun c => ⟨(lo, Nat.div (Nat.add lo hi) 2), hh.1, c⟩)
        fun c => ⟨(Nat.div (Nat.add lo hi) 2, hi), hh.2, c⟩)
    fuel (lo, hi) h x ⟨h1, h2⟩

theorem gbnb_zero (leaf : Nat → Nat → Bool) (lo hi : Nat) : gbnb leaf 0 lo hi = leaf lo hi := rfl
theorem gbnb_succ (leaf : Nat → Nat → Bool) (fuel lo hi : Nat) :
    gbnb leaf (fuel + 1) lo hi = gbnbStep leaf (gbnb leaf fuel) lo hi := rfl

theorem gbnb_sound {E : Nat} {Q : ℝ → Prop} {leaf : Nat → Nat → Bool} (hleaf : Sound1 E leaf Q) (fuel : Nat) :
    Sound1 E (gbnb leaf fuel) Q :=
  bisect1_sound E Q leaf (gbnb leaf) (fun _ _ h => h)
    (fun fuel lo hi h => by
      rw [gbnb_succ] at h
      simp only [gbnbStep, Bool.or_eq_true, Bool.and_eq_true, force_eq] at h
      exact h.imp id And.right)
    hleaf fuel

section leaves
variable (E : Nat) (ts : List NTerm) (hts : ∀ t ∈ ts, 0 < t.2.2)
include hts

theorem vLo_sound (T : Nat) : Sound1 E (vLo (2 ^ (3 * E + P)) ts T) fun x => -(T : ℝ) / 2 ^ P ≤ fR E ts x :=
  fun lo hi h x h1 h2 => fR_ge_of_sUp_le E ts hts x h1 h2 (sUpR_eq _ lo hi ts ▸ Nat.le_of_ble_eq_true h)

theorem vHi_sound (T : Nat) : Sound1 E (vHi (2 ^ (3 * E + P)) ts T) fun x => fR E ts x ≤ -(T : ℝ) / 2 ^ P :=
  fun lo hi h x h1 h2 => fR_le_of_le_sDn E ts hts x h1 h2 (sDnR_eq _ lo hi ts ▸ Nat.le_of_ble_eq_true h)

end leaves

theorem bnb_sound (E : Nat) (ts : List NTerm) (T : Nat) (hts : ∀ t ∈ ts, 0 < t.2.2) (fuel : Nat) :
    Sound1 E (bnb (2 ^ (3 * E + P)) ts T fuel) fun x => -(T : ℝ) / 2 ^ P ≤ fR E ts x :=
  fun lo hi h => gbnb_sound (vLo_sound E ts hts T) fuel lo hi ((gbnb_vLo _ ts T fuel lo hi).trans h)

theorem bnbUp_sound (E : Nat) (ts : List NTerm) (T : Nat) (hts : ∀ t ∈ ts, 0 < t.2.2) :
    ∀ (fuel lo hi : Nat), bnbUp (2 ^ (3 * E + P)) ts T fuel lo hi = true →
      ∀ x : ℝ, (lo : ℝ) ≤ x * 2 ^ E → x * 2 ^ E ≤ (hi : ℝ) → fR E ts x ≤ -(T : ℝ) / 2 ^ P :=
  bisect1_sound E _ (fun lo hi => Nat.ble T (sDn (2 ^ (3 * E + P)) ts lo hi)) _ (fun _ _ h => h)
    (fun fuel lo hi h => by
      simp only [bnbUp, Bool.or_eq_true, Bool.and_eq_true, forceNat_eq] at h
      exact h.imp id And.right)
    (fun _ _ h x h1 h2 => fR_le_of_le_sDn E ts hts x h1 h2 (Nat.le_of_ble_eq_true h))

theorem shekel_eq_sum (K A C : List ℝ) (x : ℝ) :
    Prob.shekel K A C x
      = -((List.zip K (List.zip A C)).map fun t => 1 / (t.1 * (x - t.2.1) ^ 2 + t.2.2)).sum := by
  unfold Prob.shekel
  simp only [BenchReal.pow_two]
  exact (BenchReal.foldl_sub_eq (fun t : ℝ × ℝ × ℝ => 1 / (t.1 * (x - t.2.1) ^ 2 + t.2.2)) _ 0).trans (zero_sub _)

theorem mul_pow_cast_div (n a b : Nat) : ((n * 2 ^ a : Nat) : ℝ) / 2 ^ (a + b) = (n : ℝ) / 2 ^ b := by
  push_cast
  rw [pow_add, mul_comm ((2 : ℝ) ^ a), mul_div_mul_right _ _ (two_pow_pos' a).ne']

theorem dyR_eq_scale (E : Nat) (d : Dy) (h : scaleOK E d = true) :
    dyR d = (scale E d : ℝ) / 2 ^ E := by
  obtain ⟨n, k⟩ := d
  simp only [scaleOK, expOf, Bool.and_eq_true, decide_eq_true_eq] at h
  obtain ⟨h0, hk⟩ := h
  rw [dyR_eq]
  unfold scale
  simp only
  by_cases hn : n = 0
  · simp [hn]
  · rw [if_neg hn] at hk
    have hnat : ((n.toNat : Nat) : ℝ) = (n : ℝ) := by rw [← Int.cast_natCast, Int.toNat_of_nonneg h0]
    rw [if_neg hn, ← hnat, ← mul_pow_cast_div n.toNat (E - k) k, Nat.sub_add_cancel hk]

theorem scale_pos (E : Nat) (d : Dy) (hp : 0 < d.1) : 0 < scale E d := by
  unfold scale
  rw [if_neg (by omega)]
  have : 0 < d.1.toNat := by omega
  positivity

theorem mem_zip3 {α : Type} {k a c : List α} {t : α × α × α} (h : t ∈ List.zip k (List.zip a c)) :
    t.1 ∈ k ∧ t.2.1 ∈ a ∧ t.2.2 ∈ c := by
  obtain ⟨x, y, z⟩ := t
  have h1 := List.of_mem_zip h
  have h2 := List.of_mem_zip h1.2
  exact ⟨h1.1, h2.1, h2.2⟩

theorem nterms_eq (E : Nat) (k a c : List Dy) :
    nterms E k a c = (List.zip k (List.zip a c)).map
      fun t => (scale E t.1, scale E t.2.1, scale E t.2.2 * 2 ^ (2 * E)) := by
  unfold nterms
  rw [List.zip_map, List.zip_map]
  rfl

theorem tabOK_mem {E : Nat} {k a c : List Dy} (h : tabOK E k a c = true) {t : Dy × Dy × Dy}
    (ht : t ∈ List.zip k (List.zip a c)) :
    scaleOK E t.1 = true ∧ 0 < t.1.1 ∧ scaleOK E t.2.1 = true ∧ scaleOK E t.2.2 = true ∧ 0 < t.2.2.1 := by
  simp only [tabOK, Bool.and_eq_true, List.all_eq_true, decide_eq_true_eq] at h
  obtain ⟨⟨hk, ha⟩, hc⟩ := h
  obtain ⟨m1, m2, m3⟩ := mem_zip3 ht
  exact ⟨(hk _ m1).1, (hk _ m1).2, ha _ m2, (hc _ m3).1, (hc _ m3).2⟩

theorem nterms_pos (E : Nat) (k a c : List Dy) (h : tabOK E k a c = true) :
    ∀ t ∈ nterms E k a c, 0 < t.2.2 := by
  intro t ht
  rw [nterms_eq] at ht
  obtain ⟨s, hs, rfl⟩ := List.mem_map.1 ht
  obtain ⟨_, _, _, _, h5⟩ := tabOK_mem h hs
  have := scale_pos E s.2.2 h5
  show 0 < scale E s.2.2 * 2 ^ (2 * E)
  positivity

/-- **the scaled terms denote the table entries**: a function of the three real coefficients, mapped over
`nterms`, is the same function mapped over the cast tables -/
theorem map_nterms (E : Nat) (k a c : List Dy) (h : tabOK E k a c = true) (G : ℝ → ℝ → ℝ → ℝ) :
    (nterms E k a c).map (fun t => G ((t.1 : ℝ) / 2 ^ E) ((t.2.1 : ℝ) / 2 ^ E) ((t.2.2 : ℝ) / 2 ^ (3 * E)))
      = (List.zip (k.map dyR) (List.zip (a.map dyR) (c.map dyR))).map fun t => G t.1 t.2.1 t.2.2 := by
  rw [nterms_eq, List.zip_map, List.zip_map, List.map_map, List.map_map]
  refine List.map_congr_left fun t ht => ?_
  obtain ⟨h1, _, h3, h4, _⟩ := tabOK_mem h ht
  simp only [Function.comp, Prod.map]
  rw [dyR_eq_scale E _ h1, dyR_eq_scale E _ h3, dyR_eq_scale E _ h4, show 3 * E = 2 * E + E by ring,
    mul_pow_cast_div]

theorem fR_eq_shekel (E : Nat) (k a c : List Dy) (h : tabOK E k a c = true) (x : ℝ) :
    Prob.shekel (k.map dyR) (a.map dyR) (c.map dyR) x = fR E (nterms E k a c) x := by
  rw [shekel_eq_sum]
  exact congrArg (fun l => -List.sum l) (map_nterms E k a c h fun k a c => 1 / (k * (x - a) ^ 2 + c)).symm

theorem termR_continuous (E : Nat) (t : NTerm) (hc : 0 < t.2.2) : Continuous (termR E t) := by
  unfold termR
  have hcR : (0 : ℝ) < t.2.2 := by exact_mod_cast hc
  have hk : (0 : ℝ) ≤ t.1 := Nat.cast_nonneg _
  refine Continuous.div continuous_const (by fun_prop) (fun x => ne_of_gt ?_)
  positivity

theorem fR_continuous (E : Nat) (ts : List NTerm) (h : ∀ t ∈ ts, 0 < t.2.2) : Continuous (fR E ts) :=
  (continuous_list_sum ts fun t ht => termR_continuous E t (h t ht)).neg

theorem dyR_mul_pow (E : Nat) (d : Dy) (h : scaleOK E d = true) : dyR d * 2 ^ E = (scale E d : ℝ) := by
  rw [dyR_eq_scale E d h, div_mul_cancel₀ _ (two_pow_pos' E).ne']

theorem qabs_eq (q : ℚ) : qabs q = |q| := by
  unfold qabs
  split
  · rename_i h; rw [abs_of_neg h]
  · rename_i h; rw [abs_of_nonneg (not_lt.1 h)]

theorem qmax1_eq (q : ℚ) : qmax1 q = max 1 q := by
  unfold qmax1
  split
  · rename_i h; rw [max_eq_left h.le]
  · rename_i h; rw [max_eq_right (not_lt.1 h)]

theorem floorNat_le (q : ℚ) (h : 0 ≤ q.floor) : ((q.floor.toNat : Nat) : ℝ) ≤ (q : ℝ) := by
  have : ((⌊q⌋₊ : Nat) : ℚ) ≤ q := Nat.floor_le (Int.floor_nonneg.1 h)
  rw [← Int.floor_toNat] at this
  exact_mod_cast (Rat.cast_le (K := ℝ)).2 this

theorem le_ceilNat (q : ℚ) : (q : ℝ) ≤ ((q.ceil.toNat : Nat) : ℝ) := by
  have h1 : q.ceil ≤ ((q.ceil.toNat : Nat) : ℤ) := Int.self_le_toNat _
  have h2 : q ≤ ((q.ceil : ℤ) : ℚ) := Rat.le_ceil
  have h3 : (q : ℝ) ≤ ((q.ceil : ℤ) : ℝ) := by exact_mod_cast (Rat.cast_le (K := ℝ)).2 h2
  have h4 : ((q.ceil : ℤ) : ℝ) ≤ ((q.ceil.toNat : Nat) : ℝ) := by exact_mod_cast h1
  exact h3.trans h4

theorem floorNat_div_le (q : ℚ) (h : 0 ≤ (q * 2 ^ P).floor) :
    (((q * 2 ^ P).floor.toNat : Nat) : ℝ) / 2 ^ P ≤ (q : ℝ) := by
  have := floorNat_le _ h
  rw [div_le_iff₀ (two_pow_pos' P)]
  push_cast at this
  exact this

theorem le_ceilNat_div (q : ℚ) : (q : ℝ) ≤ (((q * 2 ^ P).ceil.toNat : Nat) : ℝ) / 2 ^ P := by
  have := le_ceilNat (q * 2 ^ P)
  rw [le_div_iff₀ (two_pow_pos' P)]
  push_cast at this
  exact this

theorem le_neg_floorNat_div (q : ℚ) (h : 0 ≤ (-q * 2 ^ P).floor) :
    (q : ℝ) ≤ -(((-q * 2 ^ P).floor.toNat : Nat) : ℝ) / 2 ^ P := by
  have := floorNat_div_le (-q) h
  push_cast at this
  rw [neg_div]
  linarith

theorem neg_ceilNat_div_le (q : ℚ) : -(((-q * 2 ^ P).ceil.toNat : Nat) : ℝ) / 2 ^ P ≤ (q : ℝ) := by
  have := le_ceilNat_div (-q)
  push_cast at this
  rw [neg_div]
  linarith

/-- the threshold of the global clause -/
theorem thresh_le (v : ℚ) (hT0 : 0 ≤ (-(v - 2 / 1000 * qmax1 (qabs v)) * 2 ^ P).floor) :
    (v : ℝ) - 2e-3 * max 1 |(v : ℝ)|
      ≤ -(((-(v - 2 / 1000 * qmax1 (qabs v)) * 2 ^ P).floor.toNat : Nat) : ℝ) / 2 ^ P := by
  refine le_trans (le_of_eq ?_) (le_neg_floorNat_div _ hT0)
  rw [qabs_eq, qmax1_eq]
  push_cast
  norm_num

/-- the value clause from the enclosure of `f p` and the comparison of its ends with `v` -/
theorem value_abs (fp : ℝ) (v : ℚ) (up dn : Nat)
    (hup : -(up : ℝ) / 2 ^ P ≤ fp) (hdn : fp ≤ -(dn : ℝ) / 2 ^ P)
    (hv1 : v - 1 / 10000 ≤ -(up : ℚ) / 2 ^ P) (hv2 : -(dn : ℚ) / 2 ^ P ≤ v + 1 / 10000) :
    |fp - (v : ℝ)| ≤ 1e-4 := by
  have c1 : (v : ℝ) - 1 / 10000 ≤ -(up : ℝ) / 2 ^ P := by
    have := (Rat.cast_le (K := ℝ)).2 hv1
    push_cast at this; exact this
  have c2 : -(dn : ℝ) / 2 ^ P ≤ (v : ℝ) + 1 / 10000 := by
    have := (Rat.cast_le (K := ℝ)).2 hv2
    push_cast at this; exact this
  have e : (1e-4 : ℝ) = 1 / 10000 := by norm_num
  rw [e, abs_le]; constructor <;> linarith

/-- lowering the threshold by one unit makes the bound strict -/
theorem pred_strict {dn : Nat} (h : 0 < dn) : -(dn : ℝ) / 2 ^ P < -((dn - 1 : Nat) : ℝ) / 2 ^ P := by
  rw [div_lt_div_iff_of_pos_right (two_pow_pos' P), Nat.cast_sub h]; simp

theorem scaled_in_box {E X : Nat} {p : ℝ} (hp : p * 2 ^ E = (X : ℝ)) (hX : X ≤ 10 * 2 ^ E) :
    0 ≤ p ∧ p ≤ 10 := by
  have hs := two_pow_pos' E
  have h1 : (0 : ℝ) ≤ p * 2 ^ E := by rw [hp]; exact Nat.cast_nonneg _
  have h2 : p * 2 ^ E ≤ 10 * 2 ^ E := by rw [hp]; exact_mod_cast hX
  exact ⟨nonneg_of_mul_nonneg_left h1 hs, le_of_mul_le_mul_right h2 hs⟩

theorem box_scaled (E : Nat) {x : ℝ} (h0 : 0 ≤ x) (h10 : x ≤ 10) :
    ((0 : Nat) : ℝ) ≤ x * 2 ^ E ∧ x * 2 ^ E ≤ ((10 * 2 ^ E : Nat) : ℝ) := by
  have hs := (two_pow_pos' E).le
  constructor
  · rw [Nat.cast_zero]; exact mul_nonneg h0 hs
  · push_cast; exact mul_le_mul_of_nonneg_right h10 hs

theorem abs_scaled {s p X : ℝ} (hs : 0 < s) (hp : p * s = X) (x : ℝ) : |x * s - X| = |x - p| * s := by
  rw [← hp, ← sub_mul, abs_mul, abs_of_pos hs]

theorem natSub_le {m n : Nat} {y : ℝ} (h : (m : ℝ) - n ≤ y) (h0 : 0 ≤ y) : ((m - n : Nat) : ℝ) ≤ y :=
  (cast_tsub m n).trans_le (max_le h h0)

theorem le_natSub (m n : Nat) : (m : ℝ) - n ≤ ((m - n : Nat) : ℝ) :=
  (le_max_left _ 0).trans_eq (cast_tsub m n).symm

/-- **the outer clause**, which the location clause of `shekelCertE` and the ring tests of the tables (`minRing`, `maxRing`)
have in common: a point of `[0, X10]` at distance at least `R` from `X` lies in `[0, X - R]` or in `[X + R, X10]`, and each of
the two is accepted by `t` unless it is empty -/
theorem outer_sound {E : Nat} {t : Nat → Nat → Bool} {Q : ℝ → Prop} (ht : Sound1 E t Q) {X X10 R : Nat}
    (hL : Nat.blt X R = true ∨ t 0 (Nat.sub X R) = true)
    (hR : Nat.blt X10 (Nat.add X R) = true ∨ t (Nat.add X R) X10 = true) {x : ℝ}
    (h0 : 0 ≤ x * 2 ^ E) (h10 : x * 2 ^ E ≤ (X10 : ℝ)) (hfar : (R : ℝ) ≤ |x * 2 ^ E - X|) : Q x := by
  rcases le_abs'.1 hfar with hl | hr
  · rcases hL with hc | hb
    · have : (X : ℝ) < R := Nat.cast_lt.2 (lt_of_blt hc)
      exfalso; linarith only [this, hl, h0]
    · exact ht _ _ hb x (Nat.cast_zero.trans_le h0) (le_trans (by linarith only [hl]) (le_natSub X R))
  · have hr' : ((X + R : Nat) : ℝ) ≤ x * 2 ^ E := by push_cast; linarith only [hr]
    rcases hR with hc | hb
    · exact absurd (Nat.cast_le.1 (hr'.trans h10)) (not_le.2 (lt_of_blt hc))
    · exact ht _ _ hb x hr' h10

/-- the three clauses of C10 for a one-dimensional function on `[0,10]` with declared minimum value `v`
at the declared point `p` (location radius `51/1024 < 0.05` = 0.5 % of the side) -/
structure ShekelC10 (f : ℝ → ℝ) (v p : ℝ) : Prop where
  point_in_box : 0 ≤ p ∧ p ≤ 10
  value : |f p - v| ≤ 1e-4
  global : ∀ x, 0 ≤ x → x ≤ 10 → v - 2e-3 * max 1 |v| ≤ f x
  location : ∀ x, 0 ≤ x → x ≤ 10 → 51 / 1024 ≤ |x - p| → f p < f x

/-- the radii `m·2^(E-10)` are `m/1024` in the scaled coordinates -/
theorem mul_pow_sub_ten_cast (m : Nat) {E : Nat} (hE : 10 ≤ E) :
    ((m * 2 ^ (E - 10) : Nat) : ℝ) = m / 1024 * 2 ^ E := by
  push_cast
  have : (2 : ℝ) ^ E = 2 ^ (E - 10) * 2 ^ 10 := by rw [← pow_add]; congr 1; omega
  rw [this]; norm_num; ring

theorem shekelCertE_sound (E : Nat) (hE10 : 10 ≤ E) (k a c : List Dy) (v p : Dy)
    (h : shekelCertE E k a c v p = true) :
    ShekelC10 (Prob.shekel (k.map dyR) (a.map dyR) (c.map dyR)) (dyR v) (dyR p) ∧
    Continuous (Prob.shekel (k.map dyR) (a.map dyR) (c.map dyR)) := by
  simp only [shekelCertE, forceNat_eq, forceTerms_eq, Bool.and_eq_true, Bool.or_eq_true,
    decide_eq_true_eq] at h
  obtain ⟨⟨⟨htab, hp⟩, hX10⟩, ⟨⟨⟨⟨⟨⟨hv1, hv2⟩, hT0⟩, hglob⟩, hdn⟩, hlocL⟩, hlocR⟩⟩ := h
  have hpos := nterms_pos E k a c htab
  have hf : Prob.shekel (k.map dyR) (a.map dyR) (c.map dyR) = fR E (nterms E k a c) :=
    funext fun x => fR_eq_shekel E k a c htab x
  rw [hf]
  have hs := two_pow_pos' E
  have hpX := dyR_mul_pow E p hp
  have hfpl := fR_ge_of_sUp_le E _ hpos _ hpX.ge hpX.le le_rfl
  have hfpu := fR_le_of_le_sDn E _ hpos _ hpX.ge hpX.le le_rfl
  refine ⟨⟨scaled_in_box hpX (Nat.le_of_ble_eq_true hX10), value_abs _ v.toRat _ _ hfpl hfpu hv1 hv2,
    fun x h0 h10 => ?_, fun x h0 h10 hfar => ?_⟩, fR_continuous E _ hpos⟩
  · exact (thresh_le v.toRat hT0).trans
      (bnb_sound E _ _ hpos 64 0 _ hglob x (box_scaled E h0 h10).1 (box_scaled E h0 h10).2)
  · -- `f p ≤ -dn/2^P < -(dn-1)/2^P ≤ f x`, the last by the outer clause: in scaled coordinates `x·2^E` is at least
    -- `radius E` away from `X`
    refine lt_of_le_of_lt hfpu (lt_of_lt_of_le (pred_strict (lt_of_blt hdn)) ?_)
    refine outer_sound (bnb_sound E _ _ hpos 64) hlocL hlocR (mul_nonneg h0 hs.le) (box_scaled E h0 h10).2 ?_
    rw [abs_scaled hs hpX, radius, mul_pow_sub_ten_cast 51 hE10]
    exact mul_le_mul_of_nonneg_right hfar hs.le

theorem shekelCert_sound (k a c : List Dy) (v p : Dy) (h : shekelCert k a c v p = true) :
    ShekelC10 (Prob.shekel (k.map dyR) (a.map dyR) (c.map dyR)) (dyR v) (dyR p) ∧
    Continuous (Prob.shekel (k.map dyR) (a.map dyR) (c.map dyR)) := by
  unfold shekelCert at h
  rw [forceNat_eq] at h
  exact shekelCertE_sound _ (by unfold expFor; omega) k a c v p h

/-- the location clause in the words of C10: there IS a global minimiser on `[0,10]`, and every global
minimiser lies within `51/1024 < 0.05` of the declared point -/
theorem ShekelC10.minimiser {f : ℝ → ℝ} {v p : ℝ} (h : ShekelC10 f v p) (hf : Continuous f) :
    (∃ xs, 0 ≤ xs ∧ xs ≤ 10 ∧ ∀ x, 0 ≤ x → x ≤ 10 → f xs ≤ f x) ∧
    (∀ xs, 0 ≤ xs → xs ≤ 10 → (∀ x, 0 ≤ x → x ≤ 10 → f xs ≤ f x) → |xs - p| < 0.05) := by
  refine Bench.minimiser_Icc hf h.point_in_box fun x h0 h10 hn => h.location x h0 h10 ?_
  have := not_lt.1 hn
  norm_num at this ⊢; linarith

/-- function `i` of the Shekel family over ℝ, with the generated tables -/
noncomputable def shekelFn (i : Nat) : ℝ → ℝ :=
  Prob.shekel ((Gen.shekelK i).map dyR) ((Gen.shekelA i).map dyR) ((Gen.shekelC i).map dyR)

/-- **generic C10 theorem for Shekel**: if the Boolean certificate of function `i` evaluates to `true`
then the three clauses hold over ℝ for `Prob.shekel` with row `i` of the tables -/
theorem shekelOK_sound (i : Nat) (h : shekelOK i = true) :
    ShekelC10 (shekelFn i) (dyR (Gen.shekelMinValue i)) (dyR (Gen.shekelMinPoint i)) ∧
    Continuous (shekelFn i) := by
  unfold shekelOK at h
  rw [forceNat_eq] at h
  exact shekelCert_sound _ _ _ _ _ h

end Shk

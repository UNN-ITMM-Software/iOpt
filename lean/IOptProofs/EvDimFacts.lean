import IOptProofs.EvDims
import IOptProofs.EvGenCert
/-!
# The finite facts for every dimension covered by `Ev.DimOK` (= every `n ≥ 2`)

`evFacts_of_dimOK` hands `EvFacts n` to the theorems that need the level bijection, self-similarity or gluing (`C07.lean`,
`C08.lean`; which theorem needs what: header of `EvDims.lean`), from the general proof `Ev.evFacts_all` (`EvGen*.lean`, no
enumeration).

For `n = 2, …, 7` the same facts are also established by evaluation, independently of the general proof and beside it:
`Ev.evFacts_of_mem` (`EvFinCertAll.lean`, from the kernel-evaluated certificates) and `nodeOK2..7`, `numbrOK2..7`
(decided in `EvInvFin*.lean`); nothing depends on them.  (`EvGenNode.lean` imports `EvInvFin.lean` for the DEFINITIONS
`nodeOK`, `numbrOK`, `pm1` that stand beside the decided cases there, and proves them for every `n ≥ 2`.)
-/

namespace Ev

theorem evFacts_of_dimOK {n : Nat} (hn : DimOK n) : EvFacts n := evFacts_all n hn.two_le

end Ev

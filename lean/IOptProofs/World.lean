import IOptModel.World
/-!
# Helper lemmas for C12: the step of a solver whose pointers stay in its own region is LOCAL

`lstep i c op` is the step of `IOptModel/World.lean` written on one component alone (reads, writes and allocations
address `c.heap` directly).  If the component of solver `i` is `Closed` (every pointer stored in its fields or in its
objects is owned by `i`), then the global step in ANY surrounding world `X` is the local step, embedded, and closedness
is preserved by the local step (`step_local`, `lstep_spec` in `WorldLocal.lean`).

Here: the local mirror, closedness, and the heap frame of a write and of an allocation.
-/

namespace World
variable {V : Type}

@[simp] theorem upd_same {β : Type} (f : Nat → β) (k : Nat) (v : β) : upd f k v k = v := by simp [upd]

theorem upd_other {β : Type} (f : Nat → β) {j k : Nat} (v : β) (h : j ≠ k) : upd f k v j = f j := by simp [upd, h]

@[simp] theorem upd_upd {β : Type} (f : Nat → β) (k : Nat) (v v' : β) : upd (upd f k v) k v' = upd f k v' := by
  funext j; simp only [upd]; split <;> rfl

@[simp] theorem upd_eta {β : Type} (f : Nat → β) (k : Nat) : upd f k (f k) = f := by
  funext j; simp only [upd]; split
  · next h => rw [h]
  · rfl

namespace State

@[simp] theorem setComp_solver_same (w : State V) (k : Nat) (c : Comp V) : (w.setComp k c).solver k = c := by
  simp [setComp]

theorem setComp_solver_other (w : State V) {j k : Nat} (c : Comp V) (h : j ≠ k) :
    (w.setComp k c).solver j = w.solver j := by simp [setComp, upd_other _ _ h]

@[simp] theorem setComp_modHeap (w : State V) (k : Nat) (c : Comp V) : (w.setComp k c).modHeap = w.modHeap := rfl

@[simp] theorem setComp_setComp (w : State V) (k : Nat) (c c' : Comp V) :
    (w.setComp k c).setComp k c' = w.setComp k c' := by simp [setComp]

@[simp] theorem setComp_self (w : State V) (k : Nat) : w.setComp k (w.solver k) = w := by
  cases w; simp [setComp]

end State

def lread (c : Comp V) (r : Ref) : Option (Cell V) := c.heap[r.idx]?
def lwrite (c : Comp V) (r : Ref) (x : Cell V) : Comp V := { c with heap := c.heap.set r.idx x }
def lalloc (i : Nat) (c : Comp V) (x : Cell V) : Comp V × Ref :=
  ({ c with heap := c.heap ++ [x] }, ⟨some i, c.heap.length⟩)

theorem read_own (w : State V) {i : Nat} {r : Ref} (h : r.owner = some i) : w.read r = lread (w.solver i) r := by
  simp [State.read, h, lread]

theorem read_local (X : State V) (i : Nat) (c : Comp V) {r : Ref} (h : r.owner = some i) :
    (X.setComp i c).read r = lread c r := by
  rw [read_own _ h, State.setComp_solver_same]

theorem write_local (X : State V) (i : Nat) (c : Comp V) {r : Ref} (h : r.owner = some i) (x : Cell V) :
    (X.setComp i c).write r x = X.setComp i (lwrite c r x) := by
  simp [State.write, h, lwrite]

theorem alloc_local (X : State V) (i : Nat) (c : Comp V) (x : Cell V) :
    (X.setComp i c).alloc i x = (X.setComp i (lalloc i c x).1, (lalloc i c x).2) := by
  simp [State.alloc, lalloc]

theorem lread_congr (c : Comp V) {a b : Ref} (h : a.idx = b.idx) : lread c a = lread c b := by
  simp [lread, h]

theorem idx_ne {c : Comp V} {a b : Ref} {x y : Option (Cell V)} (ha : lread c a = x) (hb : lread c b = y)
    (hxy : x ≠ y) : a.idx ≠ b.idx :=
  fun e => hxy (ha.symm.trans ((lread_congr c e).trans hb))

theorem lread_lt {c : Comp V} {r : Ref} {x : Cell V} (h : lread c r = some x) : r.idx < c.heap.length := by
  unfold lread at h
  rcases Nat.lt_or_ge r.idx c.heap.length with hk | hk
  · exact hk
  · rw [List.getElem?_eq_none hk] at h; cases h

theorem lread_lwrite_same {c : Comp V} {r : Ref} (x : Cell V) (h : r.idx < c.heap.length) :
    lread (lwrite c r x) r = some x := by
  simp [lread, lwrite, h]

theorem lread_lwrite_ne (c : Comp V) {r r' : Ref} (x : Cell V) (h : r'.idx ≠ r.idx) :
    lread (lwrite c r x) r' = lread c r' := by
  simp [lread, lwrite, List.getElem?_set_ne h.symm]

theorem lread_lalloc_old (i : Nat) (c : Comp V) (x : Cell V) {r : Ref} (h : r.idx < c.heap.length) :
    lread (lalloc i c x).1 r = lread c r := by
  simp [lread, lalloc, List.getElem?_append_left h]

theorem lread_lalloc_new (i : Nat) (c : Comp V) (x : Cell V) : lread (lalloc i c x).1 (lalloc i c x).2 = some x := by
  simp [lread, lalloc]

theorem fv_some {x : Option (Cell V)} {r : Ref} (h : Cell.fv? x = some r) : x = some (.item r) :=
  match x, h with
  | some (.item _), rfl => rfl

theorem head_some {x : Option (Cell V)} {r : Ref} (h : Cell.head? x = some r) : x = some (.list (some r)) :=
  match x, h with
  | some (.list (some _)), rfl => rfl

theorem value_some {x : Option (Cell V)} {v : V} (h : Cell.value? x = some v) : x = some (.holder v) :=
  match x, h with
  | some (.holder _), rfl => rfl

theorem sol_some {x : Option (Cell V)} {p : Ref × Nat} (h : Cell.sol? x = some p) : x = some (.solution p.1 p.2) :=
  match x, h with
  | some (.solution _ _), rfl => rfl

/-- the common tail of `first` and `iter`: `calculate` for the new trial `n`, `storeBest` of `b`, the new fields
(`storeBest` reads the Solution again; it finds the `l` that `calculate` has just written back) -/
def lTrial (c : Comp V) (sol n b : Ref) (z : V) (st' : SolverSt) : Option (Comp V × List Ref) := do
  let fl ← Cell.fv? (lread c n)
  let h ← Cell.head? (lread c fl)
  let _ ← Cell.value? (lread c h)
  let c := lwrite c h (.holder z)
  let c := lwrite c fl (.list (some h))
  let (l, k) ← Cell.sol? (lread c sol)
  let c := lwrite c sol (.solution l (k + 1))
  let _ ← Cell.head? (lread c l)
  some ({ lwrite c l (.list (some b)) with st := some st' }, [h, fl, sol, l])

section
variable [OfNat V 0]

def lNewItem (i : Nat) (c : Comp V) : Comp V × Ref × List Ref :=
  let (c, h) := lalloc i c (.holder 0)
  let (c, fl) := lalloc i c (.list (some h))
  let (c, n) := lalloc i c (.item fl)
  (c, n, [h, fl, n])

def lstep (i : Nat) (c : Comp V) : Op V → Option (Comp V × Out)
  | .construct =>
    match c.st with
    | some _ => none
    | none =>
      let (c, e) := lalloc i c (.list none)
      let (c, t) := lalloc i c (.item e)
      let (c, l) := lalloc i c (.list (some t))
      let (c, s) := lalloc i c (.solution l 0)
      some ({ c with st := some { solution := s } }, { allocated := [e, t, l, s] })
  | .first z => do
    let s ← c.st
    if s.started then none else
    let (c, middle, a1) := lNewItem i c
    let (c, left, a2) := lNewItem i c
    let (c, right, a3) := lNewItem i c
    let (c, w) ← lTrial c s.solution middle middle z
      { s with items := [left, right, middle], best := some middle, started := true }
    some (c, { wrote := w, allocated := a1 ++ a2 ++ a3 })
  | .iter z better => do
    let s ← c.st
    if !s.started then none else
    let b ← s.best
    let (c, n, a) := lNewItem i c
    let b' := if better then n else b
    let (c, w) ← lTrial c s.solution n b' z { s with items := s.items ++ [n], best := some b' }
    some (c, { wrote := w, allocated := a })
  | .results => do
    let s ← c.st
    some ({ c with handed := c.handed ++ [s.solution] }, { returned := some s.solution })

def lstepW (i : Nat) (c : Comp V) (op : Op V) : Comp V :=
  match lstep i c op with
  | some (c', _) => c'
  | none => c

end

structure Closed (i : Nat) (c : Comp V) : Prop where
  heap : ∀ x ∈ c.heap, ∀ r ∈ x.refs, r.owner = some i
  sol : ∀ s, c.st = some s → s.solution.owner = some i
  items : ∀ s, c.st = some s → ∀ r ∈ s.items, r.owner = some i
  best : ∀ s, c.st = some s → ∀ b, s.best = some b → b.owner = some i
  handed : ∀ r ∈ c.handed, r.owner = some i

theorem closed_default (i : Nat) : Closed i ({} : Comp V) := by
  constructor <;> simp

theorem Closed.read {i : Nat} {c : Comp V} (hc : Closed i c) {r : Ref} {x : Cell V} (h : lread c r = some x) :
    ∀ r' ∈ x.refs, r'.owner = some i :=
  hc.heap x (List.mem_of_getElem? h)

theorem Closed.fv {i : Nat} {c : Comp V} (hc : Closed i c) {r fl : Ref} (h : Cell.fv? (lread c r) = some fl) :
    fl.owner = some i :=
  hc.read (fv_some h) fl (by simp [Cell.refs])

theorem Closed.head {i : Nat} {c : Comp V} (hc : Closed i c) {r h' : Ref} (h : Cell.head? (lread c r) = some h') :
    h'.owner = some i :=
  hc.read (head_some h) h' (by simp [Cell.refs])

theorem Closed.solRef {i : Nat} {c : Comp V} (hc : Closed i c) {r : Ref} {p : Ref × Nat}
    (h : Cell.sol? (lread c r) = some p) : p.1.owner = some i :=
  hc.read (sol_some h) p.1 (by simp [Cell.refs])

theorem Closed.lwrite {i : Nat} {c : Comp V} (hc : Closed i c) (r : Ref) {x : Cell V}
    (hx : ∀ r' ∈ x.refs, r'.owner = some i) : Closed i (lwrite c r x) := by
  refine ⟨?_, hc.sol, hc.items, hc.best, hc.handed⟩
  intro y hy
  rcases List.mem_or_eq_of_mem_set hy with h | h
  · exact hc.heap y h
  · subst h; exact hx

theorem Closed.lalloc {i : Nat} {c : Comp V} (hc : Closed i c) {x : Cell V}
    (hx : ∀ r' ∈ x.refs, r'.owner = some i) : Closed i (lalloc i c x).1 := by
  refine ⟨?_, hc.sol, hc.items, hc.best, hc.handed⟩
  intro y hy
  simp only [World.lalloc, List.mem_append, List.mem_singleton] at hy
  rcases hy with h | h
  · exact hc.heap y h
  · subst h; exact hx

@[simp] theorem lalloc_owner (i : Nat) (c : Comp V) (x : Cell V) : (lalloc i c x).2.owner = some i := rfl
@[simp] theorem lalloc_st (i : Nat) (c : Comp V) (x : Cell V) : (lalloc i c x).1.st = c.st := rfl
@[simp] theorem lalloc_handed (i : Nat) (c : Comp V) (x : Cell V) : (lalloc i c x).1.handed = c.handed := rfl
@[simp] theorem lwrite_st (c : Comp V) (r : Ref) (x : Cell V) : (lwrite c r x).st = c.st := rfl
@[simp] theorem lwrite_handed (c : Comp V) (r : Ref) (x : Cell V) : (lwrite c r x).handed = c.handed := rfl

def HeapFrame (c c' : Comp V) (ws : List Ref) : Prop :=
  c.heap.length ≤ c'.heap.length ∧
  ∀ k, k < c.heap.length → (∀ r ∈ ws, r.idx ≠ k) → c'.heap[k]? = c.heap[k]?

theorem HeapFrame.of_heap_eq {c c' : Comp V} (h : c'.heap = c.heap) : HeapFrame c c' [] :=
  ⟨by rw [h]; exact Nat.le_refl _, fun k _ _ => by rw [h]⟩

theorem HeapFrame.trans {c c1 c2 : Comp V} {ws1 ws2 : List Ref} (h1 : HeapFrame c c1 ws1) (h2 : HeapFrame c1 c2 ws2) :
    HeapFrame c c2 (ws1 ++ ws2) := by
  refine ⟨Nat.le_trans h1.1 h2.1, fun k hk hws => ?_⟩
  rw [h2.2 k (Nat.lt_of_lt_of_le hk h1.1) (fun r hr => hws r (List.mem_append_right _ hr)),
      h1.2 k hk (fun r hr => hws r (List.mem_append_left _ hr))]

theorem heapFrame_lalloc (i : Nat) (c : Comp V) (x : Cell V) : HeapFrame c (lalloc i c x).1 [] := by
  refine ⟨by simp [lalloc], fun k hk _ => ?_⟩
  simp [lalloc, List.getElem?_append_left hk]

theorem heapFrame_lwrite (c : Comp V) (r : Ref) (x : Cell V) : HeapFrame c (lwrite c r x) [r] := by
  refine ⟨by simp [lwrite], fun k _ hws => ?_⟩
  have : r.idx ≠ k := hws r (by simp)
  simp [lwrite, List.getElem?_set_ne this]

@[simp] theorem lalloc_length (i : Nat) (c : Comp V) (x : Cell V) : (lalloc i c x).1.heap.length = c.heap.length + 1 := by
  simp [lalloc]
@[simp] theorem lalloc_idx (i : Nat) (c : Comp V) (x : Cell V) : (lalloc i c x).2.idx = c.heap.length := rfl
@[simp] theorem lwrite_length (c : Comp V) (r : Ref) (x : Cell V) : (lwrite c r x).heap.length = c.heap.length := by
  simp [lwrite]

end World

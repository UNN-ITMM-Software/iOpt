import IOptProofs.ProcInterpDefs
import IOptProofs.ProcessToy
import IOptProofs.KernelRfl
/-!
# The control skeleton of `process.py`, taken from the SOURCE TEXT, is the model's `doGlobalIteration` / `solve`

`IOptGen/ProcessSrc.lean` (regenerated from `iOpt/method/process.py` on every run) holds the bodies of `Process.DoGlobalIteration`
and `Process.Solve` as statement trees.  `IOptProofs/ProcInterpDefs.lean` interprets such trees, generically, over the model's
primitive steps.  Here:

* `commit_eq_parts`: `AGP.commit` = `FinalizeIteration ∘ RenewSearchData ∘ UpdateOptimum ∘` (the end of `CalculateFunctionals`),
  in the order of the source;
* `dgi_nf`, `solve_nf`: the two generated trees with every string looked up, as compositions of the interpreter's primitives
  (checked by the kernel); everything below is proved about these;
* `doGlobalIteration_src`: interpretation of the generated tree of `DoGlobalIteration` = `Proc.doGlobalIteration p f number ps []`;
* `whileLoop_spec`: `try: while …: self.DoGlobalIteration() except BaseException: print(…)` = `Proc.solveLoop` at the same fuel;
* `solve_src_fuel`, `solve_src`: interpretation of the generated tree of `Solve` = `Proc.solve p f refine ps`.

Correspondence of result types: `POut.done g` ~ `Proc.Res` with `s = g.ps`, `raised = none`; `POut.raised g e` ~ `s = g.ps`,
`raised = some e` (`POut.ofRes`, `POut.toRes`); `g.first` is the field `__first_iteration`, which the model encodes as
`ps.m = none` (`Glob.ofP`); the theorems start from an object in which the two agree (true after `Process.__init__`) and say that
they agree again at the end.
-/

set_option linter.unusedSectionVars false

section
variable {α : Type} [Add α] [Sub α] [Mul α] [Div α] [Neg α] [LT α] [LE α]
  [DecidableLT α] [DecidableLE α] [OfNat α 0] [OfNat α 1] [OfNat α 2] [OfNat α 4] [Fns α]

namespace ProcInterp
open AGP Proc Gen.ProcSrc

theorem commit_eq_parts (p : Params α) (pr : Prep α) (z : α) :
    commit p pr z = finalizeIteration (renewSearchData p pr z (updateOptimum pr z (recordTrial pr.s))) := by
  unfold commit finalizeIteration renewSearchData updateOptimum recordTrial
  simp only []
  cases hfi : findItem pr.s.items pr.s.best with
  | none => rfl
  | some it =>
    simp only [Option.map_some]
    by_cases hz : z < it.z
    · simp only [hz, decide_true, ↓reduceIte]
    · simp only [hz, decide_false, Bool.false_eq_true, ↓reduceIte]

/-- state transformers run in order, stopping at the first outcome that is not `normal`: `execList` without the tree.  The body of a
`for`, `if` or `try` is a list of its own and stays a nested `seq […]` below: `seq [f] st` is a `match` on `f st`, which does not
reduce to `f st` while `st` is a variable, so the kernel accepts only the nesting the interpreter has. -/
def seq : List (IState α → Out α) → IState α → Out α
  | [], st => .normal st
  | f :: fs, st =>
    match f st with
    | .normal st' => seq fs st'
    | o => o

/-- the end of `runBody` -/
def finish : Out α → POut α
  | .normal st => .done st.g
  | .returned st => .done st.g
  | .raised st e => .raised st.g e
  | .stuck => .stuck

/-- one pass of the loop of `DoGlobalIteration`: the primitives its statements stand for, in the order of the source -/
def dgiBody (c : Ctx α) (st : IState α) : Out α :=
  seq [fun st =>
    if st.g.first = true then
      seq [
        seq [execPrim c .beforeMethodStart],
        execPrim c .firstIteration,
        execPrim c .appendLast,
        execAssign .firstFalse] st
    else
      seq [
        execPrim c .calcIterationPoint,
        execPrim c .appendNew,
        execPrim c .calcFunctionals,
        execPrim c .updateOptimum,
        execPrim c .renewSearchData,
        execPrim c .finalizeIteration] st] st

/-- **The generated tree of `DoGlobalIteration`, every string looked up.**  The two sides are definitionally equal and the kernel
checks it (`kernel_rfl`): unfolding the interpreter on the generated tree, it looks every string of the tree up in the tables
(`primTable`, `condTable`, `assignTable`, `intLits`, the literals `"_"`, `"listener"`, `"self.__listeners"`), decides `Prim.allowed`, and
finds `number` among the integer locals; context, environment, fuel, object and `number` stay variables.  What is left is the program
on the right: one primitive per statement of the tree, in the order of the source, started in the state of `runBody`.  The ties
below are proved about this program and mention no string; an edited tree does not pass this check.  The examples that run a
generated tree rewrite with this equation first, so that the kernel evaluates the primitives on the concrete data and not the
string comparisons again. -/
theorem dgi_nf (c : Ctx α) (depth fuel number : Nat) (g : Glob α) :
    run c depth fuel Gen.ProcSrc.doGlobalIteration [("number", number)] g =
      finish (seq [
        execAssign .savedEmpty,
        loopN number (dgiBody c),
        seq [execPrim c .onEndIteration]]
        ⟨g, { ints := [("number", number)] }⟩) := by
  kernel_rfl

/-- one pass of the loop body is `Proc.oneIteration`; of the locals only `savedNewPoints` matters afterwards -/
theorem body_spec (c : Ctx α) (ps : PState α) (l : Locals α) (sv : List Nat) (hl : l.saved = some sv) :
    ∃ l', dgiBody c ⟨Glob.ofP ps, l⟩ =
      match oneIteration c.p c.f ps with
      | .error (ps', e) => .raised ⟨Glob.ofP ps', l'⟩ e
      | .ok (ps', id) => .normal ⟨Glob.ofP ps', { l' with saved := some (sv ++ [id]) }⟩ := by
  unfold oneIteration
  cases hm : ps.m with
  | none =>
    cases hf : c.f (ps.calls + 1 - 1) (firstPoint c.p) <;>
      simp only [dgiBody, seq, Glob.ofP, hm, Option.isNone_none, ↓reduceIte, execPrim, IState.setPs, hf, hl, execAssign] <;>
      exact ⟨l, rfl⟩
  | some s =>
    cases hp : prepare c.p s with
    | error e =>
      simp only [dgiBody, seq, Glob.ofP, hm, Option.isNone_some, Bool.false_eq_true, ↓reduceIte, execPrim, IState.setPs, hp]
      exact ⟨l, rfl⟩
    | ok pr =>
      cases hf : c.f (ps.calls + 1 - 1) pr.point <;>
        simp only [dgiBody, seq, Glob.ofP, hm, Option.isNone_some, Bool.false_eq_true, ↓reduceIte, execPrim, IState.setPs, hp, hl,
          hf, commit_eq_parts]
      · exact ⟨_, rfl⟩
      · exact ⟨{ l with pend := some pr, zval := some _ }, rfl⟩

/-- `for _ in range(k)` over the body, followed by the notification, is `Proc.doGlobalIteration k` -/
theorem loopN_spec (c : Ctx α) : ∀ (k : Nat) (ps : PState α) (l : Locals α) (sv : List Nat), l.saved = some sv →
    finish (seq [loopN k (dgiBody c), seq [execPrim c .onEndIteration]] ⟨Glob.ofP ps, l⟩) =
      POut.ofRes (Proc.doGlobalIteration c.p c.f k ps sv)
  | 0, ps, l, sv, hl => by
    simp only [loopN, seq, execPrim, hl, IState.setPs, finish, Proc.doGlobalIteration, POut.ofRes, Glob.ofP]
  | k+1, ps, l, sv, hl => by
    obtain ⟨l', h⟩ := body_spec c ps l sv hl
    rw [Proc.doGlobalIteration, seq, loopN, h]
    rcases oneIteration c.p c.f ps with ⟨ps', e⟩ | ⟨ps', id⟩
    · rfl
    · exact loopN_spec c k ps' _ _ rfl

/-- **`DoGlobalIteration`, source tree = model.**  The interpretation of the statement tree generated from the source text of
`Process.DoGlobalIteration`, run with `number` bound to any value on an object whose `__first_iteration` flag agrees with the
model state, is `Proc.doGlobalIteration p f number ps []`: same final state (and flag), same exception (or none), for every call
depth and every `while`-fuel (the tree has no `while`, and no call in it is interpreted through another tree: `self.GetResults()`,
among the arguments of `OnEndIteration`, is part of that primitive's key). -/
theorem doGlobalIteration_src (c : Ctx α) (depth fuel number : Nat) (ps : PState α) :
    run c depth fuel Gen.ProcSrc.doGlobalIteration [("number", number)] (Glob.ofP ps) =
      POut.ofRes (Proc.doGlobalIteration c.p c.f number ps []) := by
  rw [dgi_nf]
  exact loopN_spec c number ps _ [] rfl

/-- the statement `self.DoGlobalIteration()` at call depth `d+1`: the generated tree of `DoGlobalIteration` with `number` bound to
its default `1`, whatever the caller's locals, which survive -/
def callDgi (c : Ctx α) (d fuel : Nat) (st : IState α) : Out α :=
  match run c d fuel Gen.ProcSrc.doGlobalIteration [("number", 1)] st.g with
  | .done g => .normal { st with g := g }
  | .raised g e => .raised { st with g := g } e
  | .stuck => .stuck

/-- **The generated tree of `Solve`, every string looked up** (as `dgi_nf`; here the kernel also resolves the call
`self.DoGlobalIteration()` through `procTable` and binds its default argument).  One string is left, in `return result`: the `if`
decides a conjunction whose second half is stuck, so its closed first half is not evaluated away. -/
theorem solve_nf (c : Ctx α) (d fuel : Nat) (g : Glob α) :
    run c (d+1) fuel Gen.ProcSrc.solve [] g =
      finish (seq [
        execPrim c .now,
        fun st =>
          match seq [whileLoop fuel (fun st => !stopNow c.p st.g.ps) (seq [callDgi c d fuel])] st with
          | .raised st' _ => seq [execPrim c .printExc] st'
          | o => o,
        fun st => if (c.refine st.g.ps).isSome = true then seq [execPrim c .doLocalRefinement] st else seq [] st,
        execPrim c .getResults,
        execPrim c .totalSeconds,
        seq [
          execPrim c .checkStop,
          execPrim c .onMethodStop],
        fun st => if retTable.contains "result" ∧ st.l.result = true then .returned st else .stuck]
        ⟨g, {}⟩) := by
  kernel_rfl

/-- `try: while not stop: self.DoGlobalIteration()  except BaseException: print(…)` is `Proc.solveLoop` at the same fuel -/
theorem whileLoop_spec (c : Ctx α) (d : Nat) : ∀ (fuel' fuel : Nat) (ps : PState α) (l : Locals α),
    (match seq [whileLoop fuel' (fun st => !stopNow c.p st.g.ps) (seq [callDgi c d fuel])] ⟨Glob.ofP ps, l⟩ with
      | .raised st' _ => seq [execPrim c .printExc] st'
      | o => o) = .normal ⟨Glob.ofP (solveLoop c.p c.f fuel' ps).1, l⟩ := by
  intro fuel'
  induction fuel' with
  | zero => intro fuel ps l; rfl
  | succ fuel' ih =>
    intro fuel ps l
    rw [seq, whileLoop, solveLoop]
    cases hs : stopNow c.p ps with
    | true => simp [Glob.ofP, hs, seq]
    | false =>
      simp only [Glob.ofP, hs, Bool.not_false, ↓reduceIte, Bool.false_eq_true]
      have h := doGlobalIteration_src c d fuel 1 ps
      simp only [Glob.ofP, POut.ofRes] at h
      rw [seq, callDgi, h]
      cases hr : (Proc.doGlobalIteration c.p c.f 1 ps []).raised with
      | none =>
        have := ih fuel (Proc.doGlobalIteration c.p c.f 1 ps []).s l
        rw [seq, Glob.ofP] at this
        simp only [seq]
        exact this
      | some e => simp only [seq, execPrim, IState.setPs]

theorem doLocalRefinement_isNone (ps : PState α) (lr : LocalResult α) : (Proc.doLocalRefinement ps lr).m.isNone = ps.m.isNone := by
  unfold Proc.doLocalRefinement; split <;> simp_all

/-- the while-body and the handler of a `Solve`-shaped function -/
def tryPartsOf : List Stmt → List Stmt × List Stmt
  | _ :: .tryExcept [.while _ wb] _ hd :: _ => (wb, hd)
  | _ => ([], [])

/-- the skeleton of `Solve`: seven statements, one `while` inside the `try`.  The loop body and the handler on the right are taken from
the tree itself, so nothing is said about them here (`solve_nf` says it). -/
theorem solve_shape : Gen.ProcSrc.solve =
    [.call ["startTime"] "datetime.now" [],
     .tryExcept [.while "not self.method.CheckStopCondition()" (tryPartsOf Gen.ProcSrc.solve).1] "BaseException"
       (tryPartsOf Gen.ProcSrc.solve).2,
     .ite "self.parameters.refineSolution" [.call [] "self.DoLocalRefinement" ["-1"]] [],
     .call ["result"] "self.GetResults" [],
     .call ["result.solvingTime"] "(datetime.now() - startTime).total_seconds" [],
     .forEach "listener" "self.__listeners" [
       .call ["status"] "self.method.CheckStopCondition" [],
       .call [] "listener.OnMethodStop" ["self.searchData", "self.GetResults()", "status"]],
     .ret "result"] := rfl

/-- **`Solve`, source tree = model, at every fuel.**  The interpretation of the statement tree generated from the source text of
`Process.Solve` (which calls `self.DoGlobalIteration()` through ITS generated tree, call depth `d+1 ≥ 1`), with `while`-fuel
`fuel`, returns normally, and its final state is what `Proc.solve` computes from `Proc.solveLoop` at the same fuel:
refinement when the oracle answers, then the `OnMethodStop` round. -/
theorem solve_src_fuel (c : Ctx α) (d fuel : Nat) (ps : PState α) :
    run c (d+1) fuel Gen.ProcSrc.solve [] (Glob.ofP ps) =
      .done (Glob.ofP ((refineStep c.refine (solveLoop c.p c.f fuel ps).1).appendLog
        [Event.methodStop (stopNow c.p (refineStep c.refine (solveLoop c.p c.f fuel ps).1))])) := by
  have hret : retTable.contains "result" = true := by decide
  rw [solve_nf, seq]
  simp only [execPrim]
  rw [seq, whileLoop_spec c d fuel fuel ps]
  cases hr : c.refine (solveLoop c.p c.f fuel ps).1 <;>
    simp only [seq, Glob.ofP, hr, Option.isSome_none, Option.isSome_some, Bool.false_eq_true, ↓reduceIte, execPrim, IState.setPs,
      Bool.and_self, and_self, hret, refineStep, PState.appendLog, doLocalRefinement_isNone, finish]

/-- **`Solve`, source tree = model.**  With the fuel of the model (`itersLimit + 1`, which always suffices:
`IOptProps/C03.lean`), the interpretation of the generated tree of `Process.Solve` is `Proc.solve p f refine ps`. -/
theorem solve_src (c : Ctx α) (d : Nat) (ps : PState α) :
    run c (d+1) (c.p.itersLimit + 1) Gen.ProcSrc.solve [] (Glob.ofP ps) =
      .done (Glob.ofP (Proc.solve c.p c.f c.refine ps)) := by
  rw [solve_src_fuel, solve_eq]

theorem toRes_ofRes (r : Res α) : (POut.ofRes r).toRes = some r := by
  obtain ⟨s, raised⟩ := r
  cases raised <;> rfl

/-- `doGlobalIteration_src` read through `POut.toRes`: the tree is not stuck and yields exactly the model's `Res` -/
theorem doGlobalIteration_src_res (c : Ctx α) (depth fuel number : Nat) (ps : PState α) :
    (run c depth fuel Gen.ProcSrc.doGlobalIteration [("number", number)] (Glob.ofP ps)).toRes =
      some (Proc.doGlobalIteration c.p c.f number ps []) := by
  rw [doGlobalIteration_src, toRes_ofRes]

/-- How `self.parameters.refineSolution` is connected to the model's oracle `refine : PState α → Option (LocalResult α)`:
the condition is interpreted as `(refine ps).isSome` at the state in which it is tested, and `self.DoLocalRefinement(-1)` (only
reached when the condition holds, on the same state) as `Proc.doLocalRefinement ps lr` for `refine ps = some lr`.  For a solver
with the Boolean parameter `refineSolution` and a total description `oracle` of what scipy's Nelder–Mead returns, the oracle
is `fun ps => if refineSolution then some (oracle ps) else none`; then the condition is the parameter itself … -/
theorem refine_cond_flag (p : Params α) (f : Nat → List α → Option α) (refineSolution : Bool) (oracle : PState α → LocalResult α)
    (st : IState α) :
    evalCond { p := p, f := f, refine := fun ps => if refineSolution then some (oracle ps) else none } .refineRequested st =
      refineSolution := by
  cases refineSolution <;> rfl

/-- … and `solve_src` specialises to it. -/
theorem solve_src_flag (p : Params α) (f : Nat → List α → Option α) (refineSolution : Bool) (oracle : PState α → LocalResult α)
    (d : Nat) (ps : PState α) :
    run { p := p, f := f, refine := fun ps => if refineSolution then some (oracle ps) else none } (d+1) (p.itersLimit + 1)
        Gen.ProcSrc.solve [] (Glob.ofP ps) =
      .done (Glob.ofP (Proc.solve p f (fun ps => if refineSolution then some (oracle ps) else none) ps)) :=
  solve_src { p := p, f := f, refine := fun ps => if refineSolution then some (oracle ps) else none } d ps

end ProcInterp
end

/-! ## Non-vacuity, and what the ties exclude: concrete runs over `ℚ` (`ProcToy`) -/

namespace ProcInterp.Examples
open AGP Proc ProcToy
open Gen.ProcSrc (Stmt)

/-- toy context: one dimension, `r = 2`, `eps = 1/100`, budget `lim` -/
def C (lim : Nat) (f : Nat → List Rat → Option Rat) (refine : PState Rat → Option (LocalResult Rat) := noRefine) : Ctx Rat :=
  { p := P lim (1/100), f := f, refine := refine }

/-- a decidable view of an outcome: log, calls, `numberOfLocalTrials`, flag, exception, (id, characteristic) of every item -/
structure View where
  log : List Event
  calls : Nat
  nLocal : Nat
  first : Bool
  exc : Option Raise
  items : Option (List (Nat × Option Rat))
deriving DecidableEq

def viewG (g : Glob Rat) (e : Option Raise) : View :=
  { log := g.ps.log, calls := g.ps.calls, nLocal := g.ps.nLocal, first := g.first, exc := e,
    items := g.ps.m.map fun s => s.items.map fun it => (it.id, it.R) }

/-- `none`: stuck -/
def view (o : POut Rat) : Option View :=
  match o with
  | .done g => some (viewG g none)
  | .raised g e => some (viewG g (some e))
  | .stuck => none

def someRefine : PState Rat → Option (LocalResult Rat) := fun _ => some { x := [1/3], fx := 0, nfev := 7 }

/-- the interpreter RUN on the generated tree of `DoGlobalIteration` (3 iterations from a fresh solver) gives the model's result -/
example : view (run (C 5 F) 0 0 Gen.ProcSrc.doGlobalIteration [("number", 3)] (Glob.ofP {})) =
    view (POut.ofRes (Proc.doGlobalIteration (P 5 (1/100)) F 3 {} [])) ∧
    (view (run (C 5 F) 0 0 Gen.ProcSrc.doGlobalIteration [("number", 3)] (Glob.ofP {}))).map (·.log) =
      some [Event.beforeStart, Event.endIteration [2, 3, 4]] := by
  rw [dgi_nf]
  decide +kernel

/-- … with an objective that raises at its third call: the exception leaves `DoGlobalIteration`, no `OnEndIteration` -/
example : view (run (C 5 (failAt 2)) 0 0 Gen.ProcSrc.doGlobalIteration [("number", 3)] (Glob.ofP {})) =
    view (POut.ofRes (Proc.doGlobalIteration (P 5 (1/100)) (failAt 2) 3 {} [])) ∧
    (view (run (C 5 (failAt 2)) 0 0 Gen.ProcSrc.doGlobalIteration [("number", 3)] (Glob.ofP {}))).map (fun v => (v.log, v.exc)) =
      some ([Event.beforeStart], some Raise.objective) := by
  rw [dgi_nf]
  decide +kernel

/-- the interpreter RUN on the generated tree of `Solve`: total objective; objective raising at its 4th call; with refinement -/
example : view (run (C 5 F) 1 6 Gen.ProcSrc.solve [] (Glob.ofP {})) = view (.done (Glob.ofP (Proc.solve (P 5 (1/100)) F noRefine {}))) ∧
    view (run (C 5 (failAt 3)) 1 6 Gen.ProcSrc.solve [] (Glob.ofP {})) =
      view (.done (Glob.ofP (Proc.solve (P 5 (1/100)) (failAt 3) noRefine {}))) ∧
    view (run (C 5 (failAt 3) someRefine) 1 6 Gen.ProcSrc.solve [] (Glob.ofP {})) =
      view (.done (Glob.ofP (Proc.solve (P 5 (1/100)) (failAt 3) someRefine {}))) ∧
    (view (run (C 5 (failAt 3) someRefine) 1 6 Gen.ProcSrc.solve [] (Glob.ofP {}))).map (fun v => (v.log, v.calls, v.nLocal)) =
      some ([Event.beforeStart, Event.endIteration [2], Event.endIteration [3], Event.endIteration [4],
             Event.exceptionPrinted, Event.methodStop false], 4, 7) := by
  simp only [solve_nf]
  decide +kernel

example := doGlobalIteration_src (C 5 (failAt 2)) 0 0 3 {}
example := solve_src (C 5 (failAt 3) someRefine) 0 {}

/-- a `Solve` tree at call depth 0 cannot call `self.DoGlobalIteration`: stuck (the hypothesis `d+1` of `solve_src` is needed) -/
example : view (run (C 5 F) 0 6 Gen.ProcSrc.solve [] (Glob.ofP {})) = none := by decide +kernel

/-- a statement outside the fragment is not silently accepted -/
example : view (run (C 5 F) 0 0 [.other "self.method.recalc = False"] [] (Glob.ofP {})) = none ∧
    view (run (C 5 F) 0 0 [.call [] "self.method.RenewSearchData" ["oldpoint", "newpoint"]] [] (Glob.ofP {})) = none ∧
    view (run (C 5 F) 0 0 Gen.ProcSrc.doLocalRefinement [("number", 1)] (Glob.ofP {})) = none := by decide +kernel

/-! ### seeded edits of the source are NOT equal to the model -/

/-- `DoGlobalIteration` with `UpdateOptimum` and `RenewSearchData` swapped -/
def dgiSwapped : List Stmt :=
  [
    .assign "savedNewPoints" "[]",
    .forRange "_" "number" [
      .ite "self.__first_iteration is True" [
        .forEach "listener" "self.__listeners" [
          .call [] "listener.BeforeMethodStart" ["self.method"]],
        .call [] "self.method.FirstIteration" [],
        .call [] "savedNewPoints.append" ["self.searchData.GetLastItem()"],
        .assign "self.__first_iteration" "False"] [
        .call ["newpoint", "oldpoint"] "self.method.CalculateIterationPoint" [],
        .call [] "savedNewPoints.append" ["newpoint"],
        .call [] "self.method.CalculateFunctionals" ["newpoint"],
        .call [] "self.method.RenewSearchData" ["newpoint", "oldpoint"],
        .call [] "self.method.UpdateOptimum" ["newpoint"],
        .call [] "self.method.FinalizeIteration" []]],
    .forEach "listener" "self.__listeners" [
      .call [] "listener.OnEndIteration" ["savedNewPoints", "self.GetResults()"]]]

/-- **the tie is sensitive to the order `UpdateOptimum`; `RenewSearchData`**: on the swapped tree the interpreter is not stuck,
and its result differs from the model (the second trial improves the optimum, and the characteristics of the two new intervals
are computed with the stale `Z`: `13/24`, `625/2304` instead of `1/2`, `529/2304`) -/
theorem swapped_not_model :
    run (C 5 F) 0 0 dgiSwapped [("number", 2)] (Glob.ofP {}) ≠ POut.ofRes (Proc.doGlobalIteration (P 5 (1/100)) F 2 {} []) := by
  intro h
  have h' := congrArg (fun o => (view o).map (·.items)) h
  revert h'
  decide +kernel

example : (view (run (C 5 F) 0 0 dgiSwapped [("number", 2)] (Glob.ofP {}))).map (·.items) =
    some (some [(0, none), (3, some (13/24)), (2, some (625/2304)), (1, some 1)]) := by decide +kernel

/-- `DoGlobalIteration` without the reset of `__first_iteration` (a stale flag) -/
def dgiStaleFlag : List Stmt :=
  [
    .assign "savedNewPoints" "[]",
    .forRange "_" "number" [
      .ite "self.__first_iteration is True" [
        .forEach "listener" "self.__listeners" [
          .call [] "listener.BeforeMethodStart" ["self.method"]],
        .call [] "self.method.FirstIteration" [],
        .call [] "savedNewPoints.append" ["self.searchData.GetLastItem()"]] [
        .call ["newpoint", "oldpoint"] "self.method.CalculateIterationPoint" [],
        .call [] "savedNewPoints.append" ["newpoint"],
        .call [] "self.method.CalculateFunctionals" ["newpoint"],
        .call [] "self.method.UpdateOptimum" ["newpoint"],
        .call [] "self.method.RenewSearchData" ["newpoint", "oldpoint"],
        .call [] "self.method.FinalizeIteration" []]],
    .forEach "listener" "self.__listeners" [
      .call [] "listener.OnEndIteration" ["savedNewPoints", "self.GetResults()"]]]

/-- **the flag is a field of its own**: without `self.__first_iteration = False` the second pass takes the first-iteration
branch again (a second `BeforeMethodStart` round, then `FirstIteration` on a started method, which the model does not describe) -/
theorem staleFlag_not_model :
    run (C 5 F) 0 0 dgiStaleFlag [("number", 2)] (Glob.ofP {}) ≠ POut.ofRes (Proc.doGlobalIteration (P 5 (1/100)) F 2 {} []) := by
  intro h
  have h' := congrArg (fun o => (view o).isSome) h
  revert h'
  decide +kernel

/-- `Solve` with the `while` loop OUTSIDE the `try` (the `try` inside the loop body) -/
def solveWhileOutside : List Stmt :=
  [
    .call ["startTime"] "datetime.now" [],
    .while "not self.method.CheckStopCondition()" [
      .tryExcept [
        .call [] "self.DoGlobalIteration" []] "BaseException" [
        .call [] "print" ["'Exception was thrown'"]]],
    .ite "self.parameters.refineSolution" [
      .call [] "self.DoLocalRefinement" ["-1"]] [],
    .call ["result"] "self.GetResults" [],
    .call ["result.solvingTime"] "(datetime.now() - startTime).total_seconds" [],
    .forEach "listener" "self.__listeners" [
      .call ["status"] "self.method.CheckStopCondition" [],
      .call [] "listener.OnMethodStop" ["self.searchData", "self.GetResults()", "status"]],
    .ret "result"]

/-- **the tie is sensitive to the nesting of `while` and `try`**: with the loop outside, the search goes on after the
exception (objective raising at its 4th call only): two more trials, status `true` -/
theorem whileOutside_not_model :
    run (C 5 (failAt 3)) 1 6 solveWhileOutside [] (Glob.ofP {}) ≠ .done (Glob.ofP (Proc.solve (P 5 (1/100)) (failAt 3) noRefine {})) := by
  intro h
  have h' := congrArg (fun o => (view o).map (·.log)) h
  revert h'
  decide +kernel

example : (view (run (C 5 (failAt 3)) 1 6 solveWhileOutside [] (Glob.ofP {}))).map (·.log) =
    some [Event.beforeStart, Event.endIteration [2], Event.endIteration [3], Event.endIteration [4], Event.exceptionPrinted,
          Event.endIteration [5], Event.endIteration [6], Event.methodStop true] := by decide +kernel

/-- `Solve` with the first `DoGlobalIteration` moved out of the `try` -/
def solveFirstOutside : List Stmt :=
  [
    .call ["startTime"] "datetime.now" [],
    .call [] "self.DoGlobalIteration" [],
    .tryExcept [
      .while "not self.method.CheckStopCondition()" [
        .call [] "self.DoGlobalIteration" []]] "BaseException" [
      .call [] "print" ["'Exception was thrown'"]],
    .ite "self.parameters.refineSolution" [
      .call [] "self.DoLocalRefinement" ["-1"]] [],
    .call ["result"] "self.GetResults" [],
    .call ["result.solvingTime"] "(datetime.now() - startTime).total_seconds" [],
    .forEach "listener" "self.__listeners" [
      .call ["status"] "self.method.CheckStopCondition" [],
      .call [] "listener.OnMethodStop" ["self.searchData", "self.GetResults()", "status"]],
    .ret "result"]

/-- **the tie is sensitive to what is inside the `try`**: an objective raising at its first call makes this `Solve` raise
(no printed line, no `OnMethodStop`), whereas the model (and the real `Solve`) returns -/
theorem firstOutside_not_model :
    run (C 5 (failAt 0)) 1 6 solveFirstOutside [] (Glob.ofP {}) ≠ .done (Glob.ofP (Proc.solve (P 5 (1/100)) (failAt 0) noRefine {})) := by
  intro h
  have h' := congrArg (fun o => (view o).map (·.exc)) h
  revert h'
  decide +kernel

example : (view (run (C 5 (failAt 0)) 1 6 solveFirstOutside [] (Glob.ofP {}))).map (fun v => (v.log, v.exc)) =
    some ([Event.beforeStart], some Raise.objective) := by decide +kernel

end ProcInterp.Examples

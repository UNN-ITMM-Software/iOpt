import IOptProofs.ProcessRefine
import IOptProofs.MethodRun
/-!
# Invariants that survive EVERY sequence of user operations

A predicate on process states preserved by one pass of `DoGlobalIteration` (whether it succeeds or raises), by writing
to the event log and by `DoLocalRefinement` holds after any sequence of `DoGlobalIteration(k)` / `Solve` calls on a
fresh solver (`Proc.runOps`), also when the objective raises in between.

`Proc.PointsInv p B`: every recorded evaluation was made at the image of a curve coordinate `0 < x < 1`, all stored
curve coordinates lie in `[0, 1]`, and all stored points satisfy `B`.  No law of the library functions, no assumption
on `r`, `eps` is needed: the range test of `CalculateNextPointCoordinate` itself guarantees it.  `AGP.Reach.curve` says the same of
the reachable states of the method; both rest on `AGP.OnCurve` (a predicate of coordinate and point that holds along the curve
survives the first iteration, the selection and the commit).  The process-level proof is not read off `Reach.curve` because the
state a raising pass leaves is not reachable.
-/
set_option linter.unusedSectionVars false

namespace AGP
variable {α : Type} [Field α] [LinearOrder α] [IsStrictOrderedRing α] [Fns α]

/-- every stored trial has its curve coordinate in `[0, 1]`, and `Q` holds of the coordinate and the stored point -/
def OnCurve (Q : α → List α → Prop) (s : State α) : Prop := ∀ it ∈ s.items, (0 ≤ it.x ∧ it.x ≤ 1) ∧ Q it.x it.point

section
variable {p : Params α} {s : State α} {pr : Prep α} {Q : α → List α → Prop}

theorem prepare_ok_weak (h : prepare p s = .ok pr) :
    pr.old ∈ pr.s.items ∧ pr.left ∈ pr.s.items ∧ pr.left.x < pr.x ∧ pr.x < pr.old.x ∧ pr.point = p.image pr.x := by
  obtain ⟨k, oid, q, S⟩ := Ctl.prepare_ok h
  obtain ⟨hold, hleft⟩ := Ctl.prepare_ok_refs h
  have hx := S.inside
  rw [not_or, not_le, not_le] at hx
  exact ⟨(findItem_some hold).1, leftOf_mem _ _ _ hleft, hx.1, hx.2, S.point⟩

theorem onCurve_first (hQ : ∀ x : α, 0 ≤ x → x ≤ 1 → Q x (p.image x)) (z : α) : OnCurve Q (firstIteration p z) := by
  intro it hit
  have h := half_bounds (α := α)
  simp only [firstIteration, List.mem_cons, List.not_mem_nil, or_false] at hit
  rcases hit with rfl | rfl | rfl
  · exact ⟨⟨le_refl _, zero_le_one⟩, hQ 0 (le_refl _) zero_le_one⟩
  · exact ⟨⟨h.1.le, h.2.le⟩, hQ half h.1.le h.2.le⟩
  · exact ⟨⟨zero_le_one, le_refl _⟩, hQ 1 zero_le_one (le_refl _)⟩

/-- the selection keeps the trials (it rewrites characteristics only); the new coordinate passed the range test between two stored ones -/
theorem onCurve_prepare_ok (h : prepare p s = .ok pr) (hs : OnCurve Q s) :
    OnCurve Q pr.s ∧ 0 < pr.x ∧ pr.x < 1 ∧ pr.point = p.image pr.x := by
  have hx : OnCurve Q pr.s := (forall_transfer (prepare_ok_items_erase h) fun _ => Iff.rfl).2 hs
  obtain ⟨ho, hl, h1, h2, hpp⟩ := prepare_ok_weak h
  exact ⟨hx, lt_of_le_of_lt (hx _ hl).1.1 h1, lt_of_lt_of_le h2 (hx _ ho).1.2, hpp⟩

theorem onCurve_prepare_error {s' : State α} {e : Raise} (h : prepare p s = .error (s', e)) (hs : OnCurve Q s) : OnCurve Q s' :=
  (forall_transfer (prepare_error_items_erase h) fun _ => Iff.rfl).2 hs

theorem onCurve_commit (hQ : ∀ x : α, 0 ≤ x → x ≤ 1 → Q x (p.image x)) (h : prepare p s = .ok pr) (hs : OnCurve Q s) (z : α) :
    OnCurve Q (commit p pr z) := by
  obtain ⟨hx, h0, h1, hpp⟩ := onCurve_prepare_ok h hs
  obtain ⟨as, bs, e, e'⟩ := commit_items_split (p := p) (Ctl.prepare_ok_refs h).1 z
  rw [OnCurve, e']
  rw [OnCurve, e] at hx
  simp only [List.forall_mem_append, List.forall_mem_cons] at hx ⊢
  -- the new trial between those that were there; the old right end keeps coordinate and point
  exact ⟨hx.1, ⟨⟨h0.le, h1.le⟩, by show Q pr.x pr.point; rw [hpp]; exact hQ _ h0.le h1.le⟩, hx.2⟩

end

theorem Reach.curve {p : Params α} {s : State α} {log : List (List α × α)} (h : Reach p s log) :
    OnCurve (fun x pt => pt = p.image x) s ∧ ∀ e ∈ log, ∃ x : α, 0 < x ∧ x < 1 ∧ e.1 = p.image x := by
  refine Reach.induction (P := fun s log => OnCurve (fun x pt => pt = p.image x) s ∧
    ∀ e ∈ log, ∃ x : α, 0 < x ∧ x < 1 ∧ e.1 = p.image x) ?_ ?_ h
  · exact fun z => ⟨onCurve_first (Q := fun x pt => pt = p.image x) (fun _ _ _ => rfl) z,
      List.forall_mem_singleton.2 ⟨half, half_bounds.1, half_bounds.2, rfl⟩⟩
  · intro s log pr z _ ⟨hs, hlog⟩ hp
    obtain ⟨-, h0, h1, hpp⟩ := onCurve_prepare_ok hp hs
    exact ⟨onCurve_commit (Q := fun x pt => pt = p.image x) (fun _ _ _ => rfl) hp hs z,
      List.forall_mem_append.2 ⟨hlog, List.forall_mem_singleton.2 ⟨pr.x, h0, h1, hpp⟩⟩⟩

end AGP

namespace Proc
open AGP AGP.Ctl
variable {α : Type} [Field α] [LinearOrder α] [IsStrictOrderedRing α] [Fns α]
variable {p : Params α} {f : Nat → List α → Option α}

/-- `I` survives one pass, whether it returns or raises, and does not read the event log. This is all one proves to get `I` after ANY
succession of `DoGlobalIteration(k)` and `Solve` calls (`StepInv.runOps`, with `RefInv` for the refinements). -/
structure StepInv (p : Params α) (f : Nat → List α → Option α) (I : PState α → Prop) : Prop where
  log : ∀ (ps : PState α) (l : List Event), I ps → I { ps with log := l }
  ok : ∀ (ps ps' : PState α) (id : Nat), I ps → oneIteration p f ps = .ok (ps', id) → I ps'
  err : ∀ (ps ps' : PState α) (e : Raise), I ps → oneIteration p f ps = .error (ps', e) → I ps'

/-- `I` survives every local refinement that `refine` can return: the second hypothesis of `StepInv.runOps` -/
def RefInv (I : PState α → Prop) (refine : PState α → Option (LocalResult α)) : Prop :=
  ∀ (ps : PState α) (lr : LocalResult α), refine ps = some lr → I ps → I (doLocalRefinement ps lr)

namespace StepInv
variable {I : PState α → Prop}

/-- a pass invariant holds after the passes of any operation, whether the last one raised or not -/
theorem passes (h : StepInv p f I) {ps Y : PState α} {j : Nat} {ids : List Nat} {r : Option Raise} (hI : I ps)
    (hp : Passes p f ps j ids r Y) : I Y := by
  have hj : ∀ {psj}, iterN p f j ps = .ok (psj, ids) → I psj := fun hj => by
    revert hI
    exact iterN_ok_induction hj (fun _ h => h) (fun h1 _ ih hI => ih (h.ok _ _ _ hI h1))
  cases hp with
  | ok h1 => exact hj h1
  | raise h1 he => exact h.err _ _ _ (hj h1) he

theorem dgi (h : StepInv p f I) (k : Nat) {ps : PState α} {saved : List Nat} (hI : I ps) :
    I (doGlobalIteration p f k ps saved).s := by
  obtain ⟨j, ids, r, Y, D⟩ := dgi_passes p f k ps saved
  rw [D.eq]
  exact h.log _ _ (h.passes hI D.passes)

theorem solveLoop (h : StepInv p f I) {ps : PState α} (hI : I ps) : I (solveLoop p f (p.itersLimit + 1) ps).1 := by
  obtain ⟨j, psj, ids, r, Y, L⟩ := solve_passes p f ps
  rw [L.loop]
  exact h.log _ _ (h.passes hI L.passes)

theorem solve (h : StepInv p f I) {refine : PState α → Option (LocalResult α)} (hr : RefInv I refine)
    {ps : PState α} (hI : I ps) : I (solve p f refine ps) := by
  rw [solve_eq]
  apply h.log
  unfold refineStep
  split
  · next lr hlr => exact hr _ lr hlr (h.solveLoop hI)
  · exact h.solveLoop hI

theorem runOp (h : StepInv p f I) {refine : PState α → Option (LocalResult α)} (hr : RefInv I refine) (op : Op)
    {ps : PState α} (hI : I ps) : I (runOp p f refine op ps) := by
  cases op with
  | iter k => exact h.dgi k hI
  | solve => exact h.solve hr hI

theorem runOps (h : StepInv p f I) {refine : PState α → Option (LocalResult α)} (hr : RefInv I refine)
    (ops : List Op) {ps : PState α} (hI : I ps) : I (runOps p f refine ops ps) := by
  induction ops generalizing ps with
  | nil => exact hI
  | cons op ops ih => exact ih (h.runOp hr op hI)

end StepInv

def PointsInv (p : Params α) (B : List α → Prop) (ps : PState α) : Prop :=
  (∀ e ∈ ps.evals, ∃ x : α, 0 < x ∧ x < 1 ∧ e.1 = p.image x) ∧ ∀ s, ps.m = some s → OnCurve (fun _ => B) s

theorem pointsInv_fresh (p : Params α) (B : List α → Prop) : PointsInv p B ({} : PState α) :=
  ⟨fun e he => absurd he (by simp), fun s hs => absurd hs (by simp)⟩

theorem pointsInv_step (p : Params α) (f : Nat → List α → Option α) (B : List α → Prop)
    (hB : ∀ x : α, 0 ≤ x → x ≤ 1 → B (p.image x)) : StepInv p f (PointsInv p B) where
  log := fun _ _ h => h
  ok := by
    intro ps ps' id ⟨he, hx⟩ hok
    obtain ⟨pt, z, P⟩ := oneIteration_ok hok
    unfold PointsInv
    rw [P.evals, List.forall_mem_append, List.forall_mem_singleton]
    rcases P.step with F | ⟨s, pr, N⟩
    · refine ⟨⟨he, half, half_bounds.1, half_bounds.2, F.pt⟩, fun s' hs' => ?_⟩
      rw [F.m'] at hs'; cases hs'
      exact onCurve_first hB z
    · obtain ⟨-, h0, h1, hpp⟩ := onCurve_prepare_ok N.prep (hx s N.m)
      refine ⟨⟨he, pr.x, h0, h1, N.pt.trans hpp⟩, fun s' hs' => ?_⟩
      rw [N.m'] at hs'; cases hs'
      exact onCurve_commit hB N.prep (hx s N.m) z
  err := by
    intro ps ps' e ⟨he, hx⟩ herr
    have E := oneIteration_error herr
    refine ⟨by rw [E.evals]; exact he, fun s' hs' => ?_⟩
    rcases E.cause with ⟨-, pt, O⟩ | ⟨s, s'', S⟩
    · rcases O.step with F | ⟨s, pr, N⟩
      · rw [F.m'] at hs'; cases hs'
      · rw [N.m'] at hs'; cases hs'
        exact (onCurve_prepare_ok N.prep (hx s N.m)).1
    · rw [S.m'] at hs'; cases hs'
      exact onCurve_prepare_error S.prep (hx s S.m)

theorem pointsInv_refine (p : Params α) (B : List α → Prop) {ps : PState α} (lr : LocalResult α)
    (hlr : B lr.x) (h : PointsInv p B ps) : PointsInv p B (doLocalRefinement ps lr) := by
  obtain ⟨he, hx⟩ := h
  cases hm : ps.m with
  | none => rw [doLocalRefinement_none lr hm]; exact ⟨he, hx⟩
  | some s =>
    rw [doLocalRefinement_some lr hm]
    refine ⟨he, fun s' hs' it hit => ?_⟩
    simp only [Option.some.injEq] at hs'
    subst hs'
    obtain ⟨a, ha, rfl⟩ := List.mem_map.1 hit
    refine ⟨by rw [(refineItem_fields (reportedId ps s) lr a).x]; exact (hx s hm a ha).1, ?_⟩
    unfold refineItem
    split
    · exact hlr
    · exact (hx s hm a ha).2

theorem pointsInv_runOps (p : Params α) (f : Nat → List α → Option α) (B : List α → Prop)
    (hB : ∀ x : α, 0 ≤ x → x ≤ 1 → B (p.image x))
    (refine : PState α → Option (LocalResult α)) (href : ∀ ps lr, refine ps = some lr → B lr.x)
    (ops : List Op) : PointsInv p B (runOps p f refine ops {}) :=
  (pointsInv_step p f B hB).runOps (fun ps lr hlr h => pointsInv_refine p B lr (href ps lr hlr) h) ops
    (pointsInv_fresh p B)

theorem evals_on_curve (p : Params α) (f : Nat → List α → Option α)
    (refine : PState α → Option (LocalResult α)) (ops : List Op) :
    ∀ e ∈ (runOps p f refine ops {}).evals, ∃ x : α, 0 < x ∧ x < 1 ∧ e.1 = p.image x :=
  (pointsInv_runOps p f (fun _ => True) (fun _ _ _ => trivial) refine (fun _ _ _ => trivial) ops).1

end Proc

import IOptProofs.HillSoundC
import Mathlib.Tactic.NormNum
/-!
# Hill certificate, soundness part D: the leaf tests, the bisection and the value test, for any represented context

Ends with `ctx_claims`: what the three checks of `rowOK` that run on the context certify, for every `ctx` in `CtxRep`.
-/

namespace Hill
open Encl

theorem TOL4_spec : (TOL4 : ℝ) ≤ 1e-4 * U ∧ 1e-4 * U < (TOL4 : ℝ) + 1 := by
  unfold TOL4; constructor <;> norm_num
theorem TOL6_spec : (TOL6 : ℝ) ≤ 1e-6 * U ∧ 1e-6 * U < (TOL6 : ℝ) + 1 := by
  unfold TOL6; constructor <;> norm_num
theorem TOL4P_spec : 1e-4 * U + 1 < (TOL4P : ℝ) := by unfold TOL4P; norm_num
theorem TOL6P_spec : 1e-6 * U + 1 < (TOL6P : ℝ) := by unfold TOL6P; norm_num

theorem inside_sound {pN pK R k n : ℕ} (hR : 0 < R) (h : inside pN pK R k n = true) {x : ℝ}
    (hx : Leaf k n x) : |x - (pN : ℝ) / 2 ^ pK| ≤ 1 / R := by
  simp only [inside, Bool.and_eq_true] at h
  exact inside_arith hR h.1 h.2 hx

/-- all clauses the leaf tests establish at one point `x` -/
structure PointOK (f f1 : ℝ → ℝ) (vmin pmin vmax pmax lip x : ℝ) : Prop where
  minLoc10 : f x ≤ vmin + 1e-4 → |x - pmin| ≤ 1 / 200
  maxLoc10 : vmax - 1e-4 ≤ f x → |x - pmax| ≤ 1 / 200
  minLoc18 : f x ≤ vmin + 1e-6 → |x - pmin| ≤ 1e-4
  maxLoc18 : vmax - 1e-6 ≤ f x → |x - pmax| ≤ 1e-4
  lower : vmin - 1e-4 ≤ f x
  upper : f x ≤ vmax + 1e-4
  deriv : |f1 x| ≤ 1.001 * lip

/-- a (P) test at the minimum: the leaf lies above `v + tol` or within `1/R` of the tabulated point -/
theorem locMin_sound {pN pK R k n F sl vLo T : ℕ} {x y v tol : ℝ} (hR : 0 < R)
    (h : (Nat.ble (Nat.add (Nat.add T vLo) sl) F || inside pN pK R k n) = true)
    (hT : tol * U + 1 < T) (hv : v * U < (vLo : ℝ) - BF + 1) (hlo : (F : ℝ) - BF - sl ≤ y * U)
    (hx : Leaf k n x) (hy : y ≤ v + tol) : |x - (pN : ℝ) / 2 ^ pK| ≤ 1 / R := by
  rcases (Bool.or_eq_true _ _).mp h with hb | hi
  · exfalso
    have hb := ble_cast hb
    simp only [cast_nat_add] at hb
    have := mul_le_mul_of_nonneg_right hy U_pos.le
    linarith only [hb, this, hT, hv, hlo]
  · exact inside_sound hR hi hx

/-- a (P) test at the maximum: the leaf lies below `v - tol` or within `1/R` of the tabulated point -/
theorem locMax_sound {pN pK R k n F sh vLo T : ℕ} {x y v tol : ℝ} (hR : 0 < R)
    (h : (Nat.ble (Nat.add T (Nat.add F sh)) vLo || inside pN pK R k n) = true)
    (hT : tol * U + 1 < T) (hv : (vLo : ℝ) - BF ≤ v * U) (hhi : y * U ≤ (F : ℝ) - BF + sh)
    (hx : Leaf k n x) (hy : v - tol ≤ y) : |x - (pN : ℝ) / 2 ^ pK| ≤ 1 / R := by
  rcases (Bool.or_eq_true _ _).mp h with hb | hi
  · exfalso
    have hb := ble_cast hb
    simp only [cast_nat_add] at hb
    have := mul_le_mul_of_nonneg_right hy U_pos.le
    linarith only [hb, this, hT, hv, hhi]
  · exact inside_sound hR hi hx

variable {ctx : Ctx} {L : List (ℝ × ℝ)} {vmin pmin vmax pmax lip : ℝ}

/-- the six value clauses from the Boolean tests and the enclosure `F - BF - sl ≤ y·U ≤ F - BF + sh` -/
theorem leafTests_sound (hc : CtxRep ctx L vmin pmin vmax pmax lip)
    {k n F sl sh : ℕ} (h : leafTests ctx k n F sl sh = true) {x y : ℝ}
    (hx : Leaf k n x) (hlo : (F : ℝ) - BF - sl ≤ y * U) (hhi : y * U ≤ (F : ℝ) - BF + sh) :
    (y ≤ vmin + 1e-4 → |x - pmin| ≤ 1 / 200) ∧
    (vmax - 1e-4 ≤ y → |x - pmax| ≤ 1 / 200) ∧
    (y ≤ vmin + 1e-6 → |x - pmin| ≤ 1e-4) ∧
    (vmax - 1e-6 ≤ y → |x - pmax| ≤ 1e-4) ∧
    vmin - 1e-4 ≤ y ∧ y ≤ vmax + 1e-4 := by
  have vl2 := hc.vmin.2
  have vh1 := hc.vmax.1
  simp only [leafTests, Bool.and_eq_true] at h
  obtain ⟨⟨⟨⟨⟨h1, h2⟩, h3⟩, h4⟩, h5⟩, h6⟩ := h
  rw [hc.pmin.2, hc.pmax.2]
  have c10 : (1 : ℝ) / (200 : ℕ) = 1 / 200 := by norm_num
  have c18 : (1 : ℝ) / (10000 : ℕ) = 1e-4 := by norm_num
  refine ⟨fun hy => ?_, fun hy => ?_, fun hy => ?_, fun hy => ?_, ?_, ?_⟩
  · rw [← c10]; exact locMin_sound (by norm_num) h1 TOL4P_spec vl2 hlo hx hy
  · rw [← c10]; exact locMax_sound (by norm_num) h2 TOL4P_spec vh1 hhi hx hy
  · rw [← c18]; exact locMin_sound (by norm_num) h3 TOL6P_spec vl2 hlo hx hy
  · rw [← c18]; exact locMax_sound (by norm_num) h4 TOL6P_spec vh1 hhi hx hy
  · have hb := ble_cast h5
    simp only [cast_nat_add, Nat.cast_one] at hb
    have : (vmin - 1e-4) * U ≤ y * U := by linarith only [hb, vl2, TOL4_spec.1, hlo]
    exact le_of_mul_le_mul_right this U_pos
  · have hb := ble_cast h6
    simp only [cast_nat_add] at hb
    have : y * U ≤ (vmax + 1e-4) * U := by linarith only [hb, vh1, TOL4_spec.1, hhi]
    exact le_of_mul_le_mul_right this U_pos

theorem cond_some {b : Bool} {w' w : ℕ} (h : cond b (some w') none = some w) : b = true ∧ w' = w := by
  cases b
  · simp at h
  · simpa using h

theorem both_some {x y : Option ℕ} {w : ℕ} (h : both x y = some w) :
    ∃ wx wy, x = some wx ∧ y = some wy ∧ (w = wx ∨ w = wy) := by
  cases x with
  | none => simp [both] at h
  | some wx =>
    cases y with
    | none => simp [both] at h
    | some wy =>
      refine ⟨wx, wy, rfl, rfl, ?_⟩
      simp only [both, Option.some.injEq] at h
      cases hc : Nat.ble wx wy <;> rw [hc] at h <;> simp at h <;> omega

/-- what a successful (sub)tree of the bisection establishes on its dyadic interval -/
def TreeOK (L : List (ℝ × ℝ)) (vmin pmin vmax pmax lip : ℝ) (k n w : ℕ) : Prop :=
  (∀ x, Leaf k n x → PointOK (hf L) (hf1 L) vmin pmin vmax pmax lip x) ∧
  ∃ c, Leaf k n c ∧ (w : ℝ) ≤ |hf1 L c| / (2 * Real.pi) * U

theorem leaf_sound (hc : CtxRep ctx L vmin pmin vmax pmax lip) {k n w : ℕ} (hn : n + 1 ≤ 2 ^ k)
    (h : leaf ctx k n = some w) : TreeOK L vmin pmin vmax pmax lip k n w := by
  obtain ⟨F, P1, N1, P2, N2, he, E⟩ := hc.ev (idx_half hn).2.le
  unfold leaf at h
  rw [he] at h
  obtain ⟨hb, hw⟩ := cond_some h
  rw [Bool.and_eq_true] at hb
  obtain ⟨ht, hd⟩ := hb
  refine ⟨fun x hx => ?_, _, leaf_centre_mem k n, ?_⟩
  · obtain ⟨e1, e2, e3⟩ := leaf_enclosure hc E (leaf_centre_dist hx)
    obtain ⟨min10, max10, min18, max18, lo, up⟩ := leafTests_sound hc ht hx e1 e2
    exact
      { minLoc10 := min10, maxLoc10 := max10, minLoc18 := min18, maxLoc18 := max18, lower := lo, upper := up
        deriv := hc.tL _ (e3.trans (ble_cast hd)) }
  · rw [← hw]
    exact E.witness

theorem treeOK_both {k n wx wy w : ℕ}
    (hl : TreeOK L vmin pmin vmax pmax lip (Nat.add k 1) (Nat.mul 2 n) wx)
    (hr : TreeOK L vmin pmin vmax pmax lip (Nat.add k 1) (Nat.add (Nat.mul 2 n) 1) wy)
    (hw : w = wx ∨ w = wy) : TreeOK L vmin pmin vmax pmax lip k n w := by
  constructor
  · intro x hx
    rcases leaf_split hx with h | h
    · exact hl.1 x h
    · exact hr.1 x h
  · rcases hw with rfl | rfl
    · obtain ⟨c, hc, hcw⟩ := hl.2
      exact ⟨c, leaf_left hc, hcw⟩
    · obtain ⟨c, hc, hcw⟩ := hr.2
      exact ⟨c, leaf_right hc, hcw⟩

theorem bnb_sound (hc : CtxRep ctx L vmin pmin vmax pmax lip) (fuel : ℕ) : ∀ (k n w : ℕ), n + 1 ≤ 2 ^ k →
    bnb ctx fuel k n = some w → TreeOK L vmin pmin vmax pmax lip k n w := by
  induction fuel with
  | zero => intro k n w _ h; simp [bnb] at h
  | succ fuel ih =>
    intro k n w hn h
    obtain ⟨hl, hr⟩ := idx_half hn
    have kids : both (bnb ctx fuel (Nat.add k 1) (Nat.mul 2 n))
          (bnb ctx fuel (Nat.add k 1) (Nat.add (Nat.mul 2 n) 1)) = some w →
        TreeOK L vmin pmin vmax pmax lip k n w := by
      intro hb
      obtain ⟨wx, wy, hx, hy, hw⟩ := both_some hb
      exact treeOK_both (ih _ _ wx hl hx) (ih _ _ wy hr hy) hw
    unfold bnb at h
    generalize bnb ctx fuel (Nat.add k 1) (Nat.mul 2 n) = A at h kids
    generalize bnb ctx fuel (Nat.add k 1) (Nat.add (Nat.mul 2 n) 1) = B at h kids
    generalize hlf : leaf ctx k n = o at h
    cases hk : Nat.ble 6 k
    · rw [hk] at h; exact kids h
    · rw [hk] at h
      cases o with
      | none => exact kids h
      | some w' =>
        have : w' = w := by simpa using h
        subst this
        exact leaf_sound hc hn hlf

/-- `valueOK` at a dyadic point of `[0,1]`: the value agrees within `1e-6` with the `v` that `vLo` stands for -/
theorem valueOK_sound (hc : EvRep ctx L) {pN pK vLo : ℕ} {v : ℝ}
    (hp : pN ≤ 2 ^ pK) (hv : (vLo : ℝ) - BF ≤ v * U ∧ v * U < (vLo : ℝ) - BF + 1)
    (h : valueOK ctx pN pK vLo = true) : |hf L ((pN : ℝ) / 2 ^ pK) - v| ≤ 1e-6 := by
  obtain ⟨F, _, _, _, _, he, E⟩ := hc hp
  unfold valueOK at h
  rw [he, Bool.and_eq_true] at h
  obtain ⟨h1, h2⟩ := h
  have h1 := ble_cast h1
  have h2 := ble_cast h2
  simp only [cast_nat_add, Nat.cast_one] at h1 h2
  have E1 := abs_le.mp E.val
  obtain ⟨v1, v2⟩ := hv
  obtain ⟨t1, _⟩ := TOL6_spec
  -- both sides times `U`: the computed value is within `e0` of `f·U`, the table value within a unit of `v·U`
  rw [abs_le]
  constructor
  · have : (-1e-6) * U ≤ (hf L ((pN : ℝ) / 2 ^ pK) - v) * U := by
      linarith only [E1.1, h2, v2, t1]
    exact le_of_mul_le_mul_right this U_pos
  · have : (hf L ((pN : ℝ) / 2 ^ pK) - v) * U ≤ 1e-6 * U := by
      linarith only [E1.2, h1, v1, t1]
    exact le_of_mul_le_mul_right this U_pos

/-- **what the three checks of `rowOK` that involve the context certify**, for ANY context that represents `L` and
`vmin … lip`, and any fuel: the two values, all pointwise clauses on `[0,1]`, and a point where `|f'|/2π` reaches the
witness `w` -/
theorem ctx_claims (hc : CtxRep ctx L vmin pmin vmax pmax lip) {fuel w : ℕ}
    (hv1 : valueOK ctx ctx.pminN ctx.pminK ctx.vminLo = true) (hv2 : valueOK ctx ctx.pmaxN ctx.pmaxK ctx.vmaxLo = true)
    (hb : bnb ctx fuel 0 0 = some w) :
    |hf L pmin - vmin| ≤ 1e-6 ∧ |hf L pmax - vmax| ≤ 1e-6 ∧
    (∀ x, 0 ≤ x → x ≤ 1 → PointOK (hf L) (hf1 L) vmin pmin vmax pmax lip x) ∧
    ∃ c, 0 ≤ c ∧ c ≤ 1 ∧ (w : ℝ) ≤ |hf1 L c| / (2 * Real.pi) * U := by
  obtain ⟨tree, c, hcl, hcw⟩ := bnb_sound hc fuel 0 0 w (by norm_num) hb
  refine ⟨?_, ?_, fun x h0 h1 => tree x (leaf_root.mpr ⟨h0, h1⟩), c, (leaf_root.mp hcl).1, (leaf_root.mp hcl).2, hcw⟩
  · rw [hc.pmin.2]; exact valueOK_sound hc.ev hc.pmin.1 hc.vmin hv1
  · rw [hc.pmax.2]; exact valueOK_sound hc.ev hc.pmax.1 hc.vmax hv2

end Hill

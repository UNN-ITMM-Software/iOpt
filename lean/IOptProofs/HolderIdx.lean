import IOptProofs.EvNumFwd
import IOptProps.C08
import Mathlib.Algebra.Order.Archimedean.Real.Basic
import Mathlib.Algebra.Order.Floor.Semifield
import Mathlib.Tactic.Linarith
import Mathlib.Tactic.Positivity
/-!
# Hölder property of the evolvent: subinterval indices of real arguments

`Ev.Num.cellIdx n m x` (`EvNumFwd.lean`) is the index of the density-`m` subinterval containing `x`; the image of `x` is
the centre of that cell (`Num.imageCube_cellIdx`) and its density-`p` ancestor is the density-`p` cell of `x`
(`Num.take_digitsOf_cellIdx`).  Here: two arguments at distance `≤ (2^n)^-p` lie in equal or consecutive density-`p`
subintervals (`cellIdx_close`) — the hypothesis of `C08_coord_bound` at the cells of two real arguments (`HolderSq.lean`).
-/

namespace Ev
open Num (cellIdx cellIdx_lt)

theorem cellIdx_le_succ (n p : Nat) {x' x'' : ℝ} (h0 : 0 ≤ x') (h : x' ≤ x'')
    (hd : x'' - x' ≤ 1 / ((2:ℝ)^n)^p) :
    cellIdx n p x' ≤ cellIdx n p x'' ∧ cellIdx n p x'' ≤ cellIdx n p x' + 1 := by
  have hB : (0:ℝ) < ((2:ℝ)^n)^p := by positivity
  rw [le_div_iff₀ hB, sub_mul] at hd
  have h1 := Nat.floor_le_floor (mul_le_mul_of_nonneg_right h hB.le)
  have h2 : ⌊x'' * ((2:ℝ)^n)^p⌋₊ ≤ ⌊x' * ((2:ℝ)^n)^p⌋₊ + 1 :=
    (Nat.floor_le_floor (by linarith)).trans_eq (Nat.floor_add_one (by positivity))
  unfold cellIdx
  omega

theorem cellIdx_close (n p : Nat) {x' x'' : ℝ} (h0' : 0 ≤ x') (h0'' : 0 ≤ x'')
    (hd : |x' - x''| ≤ 1 / ((2:ℝ)^n)^p) :
    |(cellIdx n p x' : Int) - (cellIdx n p x'' : Int)| ≤ 1 := by
  rw [abs_le]
  rcases le_total x' x'' with h | h
  · rw [abs_sub_comm] at hd
    have := cellIdx_le_succ n p h0' h ((le_abs_self _).trans hd)
    omega
  · have := cellIdx_le_succ n p h0'' h ((le_abs_self _).trans hd)
    omega

end Ev

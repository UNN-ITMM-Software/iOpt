import IOptModel.Problems
import Mathlib.Analysis.SpecialFunctions.Pow.Real
import Mathlib.Analysis.SpecialFunctions.Trigonometric.Basic
import Mathlib.Analysis.SpecialFunctions.Sqrt
/-!
# The real-number instance of the benchmark library functions (`MathFns ℝ`)

The benchmark models of `IOptModel/Problems.lean` are generic over a numeric type with `[MathFns α]`;
they are executed at `Float` and reasoned about at `ℝ` through this instance
(`pow x y` is `Real.rpow`, as libm `pow` with a float exponent).
-/

noncomputable instance instMathFnsReal : MathFns ℝ where
  sin := Real.sin
  cos := Real.cos
  exp := Real.exp
  sqrt := Real.sqrt
  pi := Real.pi
  pow x y := x ^ y

namespace BenchReal

@[simp] theorem sin_eq (x : ℝ) : MathFns.sin x = Real.sin x := rfl
@[simp] theorem cos_eq (x : ℝ) : MathFns.cos x = Real.cos x := rfl
@[simp] theorem exp_eq (x : ℝ) : MathFns.exp x = Real.exp x := rfl
@[simp] theorem sqrt_eq (x : ℝ) : MathFns.sqrt x = Real.sqrt x := rfl
@[simp] theorem pi_eq : (MathFns.pi : ℝ) = Real.pi := rfl
theorem pow_eq (x y : ℝ) : MathFns.pow x y = x ^ y := rfl
/-- `pow(x, 2)` with the float exponent `2.0` is the square -/
@[simp] theorem pow_two (x : ℝ) : MathFns.pow x (2 : ℝ) = x ^ 2 := by
  show x ^ (2 : ℝ) = x ^ 2
  exact Real.rpow_two x
@[simp] theorem nat_eq (n : Nat) : (Prob.nat n : ℝ) = (n : ℝ) := rfl

/-- the accumulation loops of the models as sums -/
theorem foldl_add_eq {α : Type} (g : α → ℝ) (x : List α) (a : ℝ) :
    x.foldl (fun s xi => s + g xi) a = a + (x.map g).sum := by
  induction x generalizing a with
  | nil => simp
  | cons h t ih => simp only [List.foldl_cons, List.map_cons, List.sum_cons, ih]; ring

theorem foldl_sub_eq {α : Type} (g : α → ℝ) (x : List α) (a : ℝ) :
    x.foldl (fun s xi => s - g xi) a = a - (x.map g).sum := by
  induction x generalizing a with
  | nil => simp
  | cons h t ih => simp only [List.foldl_cons, List.map_cons, List.sum_cons, ih]; ring

end BenchReal

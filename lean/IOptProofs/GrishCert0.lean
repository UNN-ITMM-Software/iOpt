import IOptProofs.GrishRows
/-! Kernel-evaluated certificates (V), (G), (P) of the Grishagin functions 1..10; one theorem per function,
so that the kernel's reduction cache is released between functions. -/
namespace Grish
theorem grish_ok_1 : grishOK 1 = true := grish_ok _ (by decide +kernel)
theorem grish_ok_2 : grishOK 2 = true := grish_ok _ (by decide +kernel)
theorem grish_ok_3 : grishOK 3 = true := grish_ok _ (by decide +kernel)
theorem grish_ok_4 : grishOK 4 = true := grish_ok _ (by decide +kernel)
theorem grish_ok_5 : grishOK 5 = true := grish_ok _ (by decide +kernel)
theorem grish_ok_6 : grishOK 6 = true := grish_ok _ (by decide +kernel)
theorem grish_ok_7 : grishOK 7 = true := grish_ok _ (by decide +kernel)
theorem grish_ok_8 : grishOK 8 = true := grish_ok _ (by decide +kernel)
theorem grish_ok_9 : grishOK 9 = true := grish_ok _ (by decide +kernel)
theorem grish_ok_10 : grishOK 10 = true := grish_ok _ (by decide +kernel)
end Grish

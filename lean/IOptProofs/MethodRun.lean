import IOptProofs.MethodCommit
/-!
# Runs of the AGP iteration, the evaluation log, and the invariants that relate them
-/
set_option linter.unusedSectionVars false

namespace AGP
variable {α : Type} [Field α] [LinearOrder α] [IsStrictOrderedRing α] [Fns α]

/-- `Run p hist log`: `hist` lists the states of a run of the method, newest first
(`s₁ = firstIteration p z₁`, `s_{k+1} = commit p pr_k z_{k+1}` with `prepare p s_k = .ok pr_k`; the values
`z_k` returned by the objective are arbitrary); `log` is the evaluation log, oldest first: the points
handed to the objective with the values returned (as `Proc.PState.evals`). -/
inductive Run (p : Params α) : List (State α) → List (List α × α) → Prop
  | first (z : α) : Run p [firstIteration p z] [(firstPoint p, z)]
  | step {s : State α} {hist : List (State α)} {log : List (List α × α)} {pr : Prep α} (z : α) :
      Run p (s :: hist) log → prepare p s = .ok pr →
      Run p (commit p pr z :: s :: hist) (log ++ [(pr.point, z)])

def Reach (p : Params α) (s : State α) (log : List (List α × α)) : Prop := ∃ hist, Run p (s :: hist) log

theorem Reach.first (p : Params α) (z : α) : Reach p (firstIteration p z) [(firstPoint p, z)] :=
  ⟨[], Run.first z⟩

theorem Reach.step {p : Params α} {s : State α} {log : List (List α × α)} {pr : Prep α} (z : α)
    (h : Reach p s log) (hp : prepare p s = .ok pr) : Reach p (commit p pr z) (log ++ [(pr.point, z)]) := by
  obtain ⟨hist, hr⟩ := h
  exact ⟨s :: hist, Run.step z hr hp⟩

theorem Run.induction {p : Params α} {P : State α → List (State α) → List (List α × α) → Prop}
    (h1 : ∀ z, P (firstIteration p z) [] [(firstPoint p, z)])
    (h2 : ∀ s hist log pr z, Run p (s :: hist) log → P s hist log → prepare p s = .ok pr →
      P (commit p pr z) (s :: hist) (log ++ [(pr.point, z)]))
    {s : State α} {hist : List (State α)} {log : List (List α × α)} (h : Run p (s :: hist) log) :
    P s hist log := by
  generalize hl : s :: hist = l at h
  induction h generalizing s hist with
  | first z => cases hl; exact h1 z
  | step z hr hp ih => cases hl; exact h2 _ _ _ _ z hr (ih rfl) hp

theorem Reach.induction {p : Params α} {P : State α → List (List α × α) → Prop}
    (h1 : ∀ z, P (firstIteration p z) [(firstPoint p, z)])
    (h2 : ∀ s log pr z, Reach p s log → P s log → prepare p s = .ok pr →
      P (commit p pr z) (log ++ [(pr.point, z)]))
    {s : State α} {log : List (List α × α)} (h : Reach p s log) : P s log := by
  obtain ⟨hist, hr⟩ := h
  exact Run.induction (P := fun s _ log => P s log) h1 (fun s hist log pr z hr => h2 s log pr z ⟨hist, hr⟩) hr

section
variable {p : Params α}

theorem Reach.inv (hL : FnsLaws α) (hr : 1 < p.r) (hn : 0 < p.n) {s : State α} {log : List (List α × α)}
    (h : Reach p s log) : Inv p s := by
  refine Reach.induction (P := fun s _ => Inv p s) ?_ ?_ h
  · intro z; exact firstIteration_inv p z
  · intro s log pr z _ ih hp; exact commit_inv hL (prepare_spec' hL hr hn ih hp) z

def evalsOf (l : List (Item α)) : List (List α × α) :=
  l.filterMap (fun it => if it.ev then some (it.point, it.z) else none)

theorem evalsOf_eq (l : List (Item α)) :
    evalsOf l = (l.filter (·.ev)).map (fun it => (it.point, it.z)) := by
  rw [← List.filterMap_eq_map', List.filterMap_filter]
  rfl

theorem mem_evalsOf {l : List (Item α)} {e : List α × α} :
    e ∈ evalsOf l ↔ ∃ it ∈ l, it.ev = true ∧ e = (it.point, it.z) := by
  simp only [evalsOf_eq, List.mem_map, List.mem_filter, and_assoc, eq_comm]

theorem evalsOf_transfer {l l' : List (Item α)} (h : l'.map eraseR = l.map eraseR) :
    evalsOf l' = evalsOf l := by
  have : ∀ l : List (Item α), evalsOf l = evalsOf (l.map eraseR) := by
    intro l; unfold evalsOf; rw [List.filterMap_map]; rfl
  rw [this l', h, ← this l]

structure LogInv (s : State α) (log : List (List α × α)) : Prop where
  nextId : s.nextId = log.length + 2
  /-- the trial with id `j + 2` is the `j`-th evaluation -/
  idx : ∀ it ∈ s.items, it.ev = true → 2 ≤ it.id ∧ log[it.id - 2]? = some (it.point, it.z)
  surj : ∀ j < log.length, ∃ it ∈ s.items, it.ev = true ∧ it.id = j + 2
  perm : (evalsOf s.items).Perm log

/-- the log is the set of evaluated items -/
theorem LogInv.mem_log {s : State α} {log : List (List α × α)} (hl : LogInv s log) {e : List α × α} :
    e ∈ log ↔ ∃ it ∈ s.items, it.ev = true ∧ e = (it.point, it.z) :=
  hl.perm.mem_iff.symm.trans mem_evalsOf

theorem firstIteration_logInv (p : Params α) (z : α) :
    LogInv (firstIteration p z) [(firstPoint p, z)] := by
  refine ⟨rfl, ?_, ?_, ?_⟩
  · simp [firstIteration, firstPoint]
  · simp [firstIteration]
  · simp [firstIteration, firstPoint, evalsOf]

theorem LogInv.transfer {s s' : State α} {log : List (List α × α)} (hl : LogInv s log)
    (hE : s'.items.map eraseR = s.items.map eraseR) (hn : s'.nextId = s.nextId) : LogInv s' log :=
  ⟨hn.trans hl.nextId,
    (forall_transfer (P := fun it => it.ev = true → 2 ≤ it.id ∧ log[it.id - 2]? = some (it.point, it.z))
      hE (fun _ => Iff.rfl)).2 hl.idx,
    fun j hj => (exists_transfer (P := fun it => it.ev = true ∧ it.id = j + 2) hE (fun _ => Iff.rfl)).2
      (hl.surj j hj),
    by rw [evalsOf_transfer hE]; exact hl.perm⟩

theorem evalsOf_append (l₁ l₂ : List (Item α)) : evalsOf (l₁ ++ l₂) = evalsOf l₁ ++ evalsOf l₂ :=
  List.filterMap_append

theorem evalsOf_cons_ev {it : Item α} (h : it.ev = true) (l : List (Item α)) :
    evalsOf (it :: l) = (it.point, it.z) :: evalsOf l := by
  rw [evalsOf, List.filterMap_cons, if_pos h]; rfl

theorem commit_logInv {s : State α} {pr : Prep α} {log : List (List α × α)} (h : PrepSpec p s pr)
    (hl : LogInv s log) (z : α) : LogInv (commit p pr z) (log ++ [(pr.point, z)]) := by
  obtain ⟨pre, post, e, -⟩ := h.decomp
  have e' := commit_items (p := p) h.inv.ids_nodup z e
  have hl' : LogInv pr.s log := hl.transfer h.items_eq h.nextId_eq
  have hnx := hl'.nextId
  have hperm := hl'.perm
  refine ⟨?_, ?_, ?_, ?_⟩
  · rw [commit_nextId, hnx, List.length_append, List.length_singleton]
  · refine forall_ins e e' (fun it hi hev => ?_) (fun _ => ?_) (fun hb => hb)
    · obtain ⟨h2, hg⟩ := hl'.idx it hi hev
      have : it.id - 2 < log.length := by have := h.inv.ids_lt it hi; omega
      exact ⟨h2, by rw [List.getElem?_append_left this]; exact hg⟩
    · show 2 ≤ pr.s.nextId ∧ (log ++ [(pr.point, z)])[pr.s.nextId - 2]? = some (pr.point, z)
      rw [hnx]; simp
  · intro j hj
    rw [List.length_append, List.length_singleton] at hj
    by_cases hj' : j < log.length
    · exact exists_ins e e' (hl'.surj j hj') (fun hb => hb)
    · exact ⟨cNew2 p pr z, by rw [e']; simp, rfl, show pr.s.nextId = j + 2 by omega⟩
  · rw [e', List.append_cons, evalsOf_append, evalsOf_cons_ev rfl]
    rw [e, List.append_cons, evalsOf_append] at hperm
    exact List.perm_middle.trans ((hperm.cons _).trans (List.perm_append_singleton _ _).symm)

theorem Reach.logInv (hL : FnsLaws α) (hr : 1 < p.r) (hn : 0 < p.n) {s : State α} {log : List (List α × α)}
    (h : Reach p s log) : LogInv s log := by
  refine Reach.induction (P := fun s log => LogInv s log) ?_ ?_ h
  · intro z; exact firstIteration_logInv p z
  · intro s log pr z hre ih hp
    exact commit_logInv (prepare_spec' hL hr hn (hre.inv hL hr hn) hp) ih z

end
end AGP

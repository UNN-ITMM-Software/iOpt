import IOptProofs.EvNumPt
/-!
# The loop of `__GetYonX` over a linearly ordered field

* `loopDigits`: the digits extracted by `yLoop` (`d *= 2^N; iis = int(d); d -= iis`, or the end
  rule `x >= 1.0`); `yLoop_eq`: `yLoop` adds the cube point of these digits to `y`.
* `cellIdx n m x`: the index of the subinterval of `x`, total in `x`; `loopDigits_eq`: the extracted digits are
  `digitsOf n m (cellIdx n m x)` — the only place that splits into `x ≥ 1`, `0 ≤ x < 1`, `x < 0`.  The loop is stable
  under stopping early (`loopDigits_take`), so the first `p` of these digits are those of `cellIdx n p x`
  (`take_digitsOf_cellIdx`).
* `imageCube_eq`: the image is the cube point of the extracted digits (hence `imageCube_bound`: `n` coordinates, each
  `< 1/2` in absolute value); `imageCube_cellIdx`: EVERY argument is mapped to the centre of the cell of its subinterval.

All of it needs only the shape of a level (`step_shape`), not `EvFacts`.
-/

set_option linter.unusedSectionVars false
namespace Ev.Num
variable {α : Type} [Field α] [LinearOrder α] [IsStrictOrderedRing α] [FloorSemiring α]
attribute [local instance] floorTrunc

/-- digits extracted by the loop of `__GetYonX` (same recursion as `yLoop`) -/
def loopDigits (n : Nat) (x1 : Bool) : Nat → α → List Nat
  | 0, _ => []
  | k+1, d =>
    (if x1 then 2^n - 1 else ⌊d * 2^n⌋₊) ::
      loopDigits n x1 k (if x1 then 0 else d * 2^n - (⌊d * 2^n⌋₊ : α))

theorem length_loopDigits (n : Nat) (x1 : Bool) : ∀ (k : Nat) (d : α),
    (loopDigits n x1 k d).length = k
  | 0, _ => rfl
  | k+1, d => by simp [loopDigits, length_loopDigits n x1 k]

theorem zipWith_add_assoc {f : α → Int → α} {g : Int → α → α}
    (h : ∀ a s b, f a s + b = a + g s b) : ∀ (y : List α) (o : List Int) (b : List α),
    List.zipWith (· + ·) (List.zipWith f y o) b = List.zipWith (· + ·) y (List.zipWith g o b)
  | [], _, _ => by simp
  | _ :: _, [], _ => by simp
  | _ :: _, _ :: _, [] => by simp
  | a :: y, s :: o, c :: b => by
    simp only [List.zipWith_cons_cons, List.cons.injEq]
    exact ⟨h a s c, zipWith_add_assoc h y o b⟩

theorem zipWith_addSigned (r : α) : ∀ (y : List α) (o : List Int), (∀ s ∈ o, s = 1 ∨ s = -1) →
    List.zipWith (fun yi ui => addSigned yi r ui) y o =
      List.zipWith (fun yi (ui : Int) => yi + (ui : α) * r) y o
  | [], _, _ => by simp
  | _ :: _, [], _ => by simp
  | a :: y, s :: o, ho => by
    rw [List.forall_mem_cons] at ho
    simp only [List.zipWith_cons_cons, List.cons.injEq]
    exact ⟨addSigned_pm a r s ho.1, zipWith_addSigned r y o ho.2⟩

theorem yLoop_eq {n : Nat} (x1 : Bool) : ∀ (k : Nat) (d r : α) (s : St)
    (y : List α), validState n s → y.length = n →
    yLoop n x1 k d r s y =
      List.zipWith (· + ·) y (ptOf n (signs n s (loopDigits n x1 k d)) r)
  | 0, d, r, s, y, _, hy => by
    simp only [yLoop, loopDigits, signs_nil, ptOf]
    apply List.ext_getElem <;> simp [hy]
  | k+1, d, r, s, y, hs, hy => by
    obtain ⟨hs', hlen, hpm⟩ := step_shape hs (if x1 then 2^n - 1 else ⌊d * 2^n⌋₊)
    have e : yLoop n x1 (k+1) d r s y =
        yLoop n x1 k (if x1 then 0 else d * 2^n - (⌊d * 2^n⌋₊ : α)) (r / 2)
          (step n s (if x1 then 2^n - 1 else ⌊d * 2^n⌋₊)).1
          (List.zipWith (fun yi ui => addSigned yi (r / 2) ui) y
            (step n s (if x1 then 2^n - 1 else ⌊d * 2^n⌋₊)).2) := by
      simp only [yLoop, nexp_eq, mul_half]
      cases x1 <;> rfl
    rw [e, yLoop_eq x1 k _ _ _ _ hs' (by simp [hy, hlen]), zipWith_addSigned _ _ _ hpm]
    simp only [loopDigits, signs_cons, ptOf]
    exact zipWith_add_assoc (fun a s b => by ring) _ _ _

theorem loopDigits_true (n : Nat) : ∀ (k : Nat) (d : α),
    loopDigits n true k d = List.replicate k (2^n - 1)
  | 0, _ => rfl
  | k+1, d => by simp [loopDigits, loopDigits_true n k, List.replicate_succ]

theorem floor_mul_pow_lt (n m : Nat) (x : α) (h0 : 0 ≤ x) (h1 : x < 1) :
    ⌊x * (2^n)^m⌋₊ < (2^n)^m := by
  rw [Nat.floor_lt (by positivity)]
  push_cast
  exact mul_lt_of_lt_one_left (by positivity) h1

/-- the first digit is `⌊d·2^n⌋₊` and the loop goes on with the fractional part of `d·2^n` -/
theorem loopDigits_false_aux (n : Nat) : ∀ (k : Nat) (d : α), 0 ≤ d → d < 1 →
    validDigits n (loopDigits n false k d) ∧
      indexOf n (loopDigits n false k d) = ⌊d * (2^n)^k⌋₊
  | 0, d, h0, h1 => by
    refine ⟨validDigits_nil n, ?_⟩
    simp only [loopDigits, indexOf_nil, pow_zero, mul_one]
    exact ((Nat.floor_eq_zero).2 h1).symm
  | k+1, d, h0, h1 => by
    have hr0 : 0 ≤ d * 2^n - (⌊d * 2^n⌋₊ : α) := sub_nonneg.2 (Nat.floor_le (by positivity))
    have hr1 : d * 2^n - (⌊d * 2^n⌋₊ : α) < 1 := sub_lt_iff_lt_add'.2 (Nat.lt_floor_add_one _)
    obtain ⟨ihv, ihi⟩ := loopDigits_false_aux n k _ hr0 hr1
    have hdig : ⌊d * 2^n⌋₊ < 2^n := by simpa using floor_mul_pow_lt n 1 d h0 h1
    simp only [loopDigits, Bool.false_eq_true, if_false, validDigits_cons]
    refine ⟨⟨hdig, ihv⟩, ?_⟩
    rw [indexOf_cons, ihi, length_loopDigits]
    have : d * (2^n)^(k+1) =
        (d * 2^n - (⌊d * 2^n⌋₊ : α)) * (2^n)^k + ((⌊d * 2^n⌋₊ * (2^n)^k : ℕ) : α) := by
      push_cast; ring
    rw [this, Nat.floor_add_natCast (by positivity), Nat.add_comm]

theorem loopDigits_false (n k : Nat) (d : α) (h0 : 0 ≤ d) (h1 : d < 1) :
    loopDigits n false k d = digitsOf n k ⌊d * (2^n)^k⌋₊ := by
  obtain ⟨hv, hi⟩ := loopDigits_false_aux n k d h0 h1
  have := digitsOf_indexOf hv
  rw [length_loopDigits, hi] at this
  exact this.symm

/-- for a negative argument every extracted digit is `0` (`int(d)` of a negative number is `0` at
the model's `TruncNat`; the Python code is never called with `x < 0`) -/
theorem loopDigits_neg (n : Nat) : ∀ (k : Nat) (d : α), d < 0 →
    loopDigits n false k d = List.replicate k 0
  | 0, _, _ => rfl
  | k+1, d, hd => by
    have hneg : d * 2^n < 0 := mul_neg_of_neg_of_pos hd (by positivity)
    simp only [loopDigits, Bool.false_eq_true, if_false, Nat.floor_of_nonpos hneg.le,
      Nat.cast_zero, sub_zero, List.replicate_succ]
    rw [loopDigits_neg n k _ hneg]

/-- index of the density-`m` subinterval (of `(2^n)^m`) that holds `x`, for EVERY `x`: `x ≥ 1` is put into the last
subinterval (the code's `x >= 1.0` rule), `x < 0` into the first (`int(d)` of a negative number is `0` at `floorTrunc`) -/
def cellIdx (n m : Nat) (x : α) : Nat := min ⌊x * (2^n)^m⌋₊ ((2^n)^m - 1)

theorem cellIdx_lt (n m : Nat) (x : α) : cellIdx n m x < (2^n)^m := by
  have : 0 < (2^n)^m := Nat.pow_pos (Nat.two_pow_pos n)
  unfold cellIdx
  omega

theorem cellIdx_of_lt_one (n m : Nat) {x : α} (h0 : 0 ≤ x) (h1 : x < 1) :
    cellIdx n m x = ⌊x * (2^n)^m⌋₊ :=
  Nat.min_eq_left (Nat.le_sub_one_of_lt (floor_mul_pow_lt n m x h0 h1))

theorem cellIdx_of_one_le (n m : Nat) {x : α} (h1 : 1 ≤ x) : cellIdx n m x = (2^n)^m - 1 := by
  have : (2^n)^m ≤ ⌊x * (2^n)^m⌋₊ := by
    rw [Nat.le_floor_iff (by positivity)]
    push_cast
    exact le_mul_of_one_le_left (by positivity) h1
  unfold cellIdx
  omega

theorem cellIdx_of_neg (n m : Nat) {x : α} (h0 : x < 0) : cellIdx n m x = 0 := by
  rw [cellIdx, Nat.floor_of_nonpos (mul_nonpos_of_nonpos_of_nonneg h0.le (by positivity)), Nat.zero_min]

/-- the digits the loop of `__GetYonX` extracts from ANY argument are the digits of its subinterval index -/
theorem loopDigits_eq (n m : Nat) (x : α) :
    loopDigits n (decide ((1 : α) ≤ x)) m x = digitsOf n m (cellIdx n m x) := by
  rcases le_or_gt 1 x with h1 | h1
  · rw [decide_eq_true h1, loopDigits_true, cellIdx_of_one_le n m h1, digitsOf_last]
  · rw [decide_eq_false (not_le.2 h1)]
    rcases le_or_gt 0 x with h0 | h0
    · rw [loopDigits_false n m x h0 h1, cellIdx_of_lt_one n m h0 h1]
    · rw [loopDigits_neg n m x h0, cellIdx_of_neg n m h0, digitsOf_zero]

theorem loopDigits_take (n : Nat) (x1 : Bool) : ∀ (p k : Nat) (d : α),
    (loopDigits n x1 (p + k) d).take p = loopDigits n x1 p d
  | 0, _, _ => rfl
  | p+1, k, d => by
    rw [Nat.add_right_comm, loopDigits, List.take_succ_cons, loopDigits_take n x1 p k, loopDigits]

/-- the loop extracts the most significant digit first: the density-`p` ancestor of the subinterval of `x` is read off
by stopping after `p` rounds -/
theorem take_digitsOf_cellIdx (n : Nat) {m p : Nat} (hp : p ≤ m) (x : α) :
    (digitsOf n m (cellIdx n m x)).take p = digitsOf n p (cellIdx n p x) := by
  obtain ⟨k, rfl⟩ := Nat.exists_eq_add_of_le hp
  rw [← loopDigits_eq, ← loopDigits_eq, loopDigits_take]

theorem imageCube_eq {n : Nat} (hn : Ev.DimOK n) (m : Nat) (x : α) :
    imageCube n m x =
      ptOf n (signs n (St.init n) (loopDigits n (decide ((1 : α) ≤ x)) m x)) (1 / 2) := by
  have hv := validState_init hn.pos
  rw [imageCube, if_neg (by simpa using hn.ne_one), yLoop_eq _ m x half _ _ hv (by simp),
    half_eq]
  have hl := length_ptOf (α := α) _ (1 / 2)
    (signList_signs (loopDigits n (decide ((1 : α) ≤ x)) m x) _ hv)
  apply List.ext_getElem
  · rw [List.length_zipWith, hl]; simp
  · intro i h1 h2
    simp

theorem imageCube_bound {n : Nat} (hn : Ev.DimOK n) (m : Nat) (x : α) :
    (imageCube n m x).length = n ∧ ∀ c ∈ imageCube n m x, |c| < 1 / 2 := by
  have hsl := signList_signs (loopDigits n (decide ((1 : α) ≤ x)) m x) _ (validState_init hn.pos)
  rw [imageCube_eq hn m x]
  exact ⟨length_ptOf _ _ hsl, abs_ptOf_lt _ _ (by positivity) hsl⟩

theorem getInverseImage_getImage (n m : Nat) (lower upper : List α)
    (hl : lower.length = n) (hu : upper.length = n)
    (hne : ∀ i (h1 : i < lower.length) (h2 : i < upper.length), lower[i] ≠ upper[i]) (x : α) :
    getInverseImage n m lower upper (getImage n m lower upper x) =
      inverseCube n m (imageCube n m x) := by
  have hlen := length_imageCube n m x
  unfold getInverseImage getImage
  rw [d2p_p2d lower upper _ (by rw [hl, hlen]) (by rw [hu, hlen]) hne]

/-- **every** argument is mapped to the centre of the cell of its subinterval -/
theorem imageCube_cellIdx {n : Nat} (hn : Ev.DimOK n) (m : Nat) (x : α) :
    imageCube n m x = (cubeY n (digitsOf n m (cellIdx n m x))).map
      (fun (Y : Int) => (Y : α) / 2^(m+1)) := by
  have h := cubeY_map_eq_ptOf (α := α) hn (digitsOf n m (cellIdx n m x))
  rw [digitsOf_length] at h
  rw [imageCube_eq hn, loopDigits_eq, h]

/-- `imageCube` at the left end of the subinterval of a valid digit list is the centre of its cell -/
theorem imageCube_frac {n : Nat} (hn : Ev.DimOK n) (ds : List Nat) (hd : validDigits n ds) :
    imageCube n ds.length ((indexOf n ds : α) / (2^n)^ds.length) =
      (cubeY n ds).map (fun (Y : Int) => (Y : α) / 2^(ds.length + 1)) := by
  have hB : (0 : α) < (2^n)^ds.length := by positivity
  have hc : cellIdx n ds.length ((indexOf n ds : α) / (2^n)^ds.length) = indexOf n ds := by
    rw [cellIdx, div_mul_cancel₀ _ hB.ne', Nat.floor_natCast]
    exact Nat.min_eq_left (Nat.le_sub_one_of_lt (indexOf_lt hd))
  rw [imageCube_cellIdx hn, hc, digitsOf_indexOf hd]

end Ev.Num

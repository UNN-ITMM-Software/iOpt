import IOptProofs.BenchShekel4Defs
import IOptProofs.BenchShekel
/-!
# Shekel4: soundness over ℝ of the fixed-point branch-and-bound of `BenchShekel4Defs`

Boxes, points and centres are lists.  A point lies in a box coordinate by coordinate (`List.Forall₂`, so the two have one
length); the centres `aᵢ` are met over the common prefix, as in `Prob.shekel4` and in the checker.  Nothing is specific to
dimension 4: the number of coordinates of the centres and of the declared point is nowhere assumed or checked.
-/

namespace Shk4
open Shk

@[simp] theorem forceBox_eq : ∀ (b : Box) (k : Box → Bool), forceBox b k = k b
  | [], k => rfl
  | (lo, hi) :: b, k => by simp [forceBox, forceBox_eq b]

@[simp] theorem forceList_eq : ∀ (l : List Nat) (k : List Nat → Bool), forceList l k = k l
  | [], k => rfl
  | a :: l, k => by simp [forceList, forceList_eq l]

@[simp] theorem forceTerms4_eq : ∀ (ts : List Term4) (k : List Term4 → Bool), forceTerms4 ts k = k ts
  | [], k => rfl
  | (a, c) :: ts, k => by simp [forceTerms4, forceTerms4_eq ts]

/-- `x` (real coordinates) lies in the integer box `b` scaled by `2^-E` -/
def InBox (E : Nat) (b : Box) (x : List ℝ) : Prop :=
  List.Forall₂ (fun (q : Nat × Nat) (xj : ℝ) => (q.1 : ℝ) ≤ xj * 2 ^ E ∧ xj * 2 ^ E ≤ (q.2 : ℝ)) b x

/-- `Σⱼ (xⱼ·2^E - aⱼ)²` over the common prefix -/
noncomputable def dist2 (E : Nat) : List ℝ → List Nat → ℝ
  | xj :: x, a :: as => (xj * 2 ^ E - a) ^ 2 + dist2 E x as
  | _, _ => 0

theorem dist2_nonneg (E : Nat) : ∀ (x : List ℝ) (a : List Nat), 0 ≤ dist2 E x a
  | [], _ => by simp [dist2]
  | _ :: _, [] => by simp [dist2]
  | xj :: x, a :: as => by
    have := dist2_nonneg E x as
    simp only [dist2]; positivity

theorem nearSq_le (E : Nat) : ∀ (b : Box) (x : List ℝ) (a : List Nat), InBox E b x →
    ((nearSq b a : Nat) : ℝ) ≤ dist2 E x a
  | [], _, _, h => by cases h; simp [nearSq, dist2]
  | (lo, hi) :: b, x, [], h => by cases h; simp [nearSq, dist2]
  | (lo, hi) :: b, _, a :: as, h => by
    cases h with
    | cons hq hrest =>
      rename_i xj x
      show ((near lo hi a * near lo hi a + nearSq b as : Nat) : ℝ) ≤ _
      rw [Nat.cast_add, Nat.cast_mul, ← pow_two]
      exact add_le_add (sq_near_le lo hi a _ hq.1 hq.2) (nearSq_le E b x as hrest)

theorem le_farSq (E : Nat) : ∀ (b : Box) (x : List ℝ) (a : List Nat), InBox E b x →
    dist2 E x a ≤ ((farSq b a : Nat) : ℝ)
  | [], _, _, h => by cases h; simp [farSq, dist2]
  | (lo, hi) :: b, x, [], h => by cases h; simp [farSq, dist2]
  | (lo, hi) :: b, _, a :: as, h => by
    cases h with
    | cons hq hrest =>
      rename_i xj x
      show _ ≤ ((far lo hi a * far lo hi a + farSq b as : Nat) : ℝ)
      rw [Nat.cast_add, Nat.cast_mul, ← pow_two]
      exact add_le_add (le_sq_far lo hi a _ hq.1 hq.2) (le_farSq E b x as hrest)

/-- the real term `1/(Σⱼ (xⱼ - aⱼ)² + c)` denoted by a scaled term -/
noncomputable def term4R (E : Nat) (t : Term4) (x : List ℝ) : ℝ :=
  1 / (dist2 E x t.1 / 2 ^ (2 * E) + (t.2 : ℝ) / 2 ^ (2 * E))

noncomputable def f4R (E : Nat) (ts : List Term4) (x : List ℝ) : ℝ := -(ts.map fun t => term4R E t x).sum

theorem term4R_eq (E : Nat) (t : Term4) (x : List ℝ) :
    term4R E t x = 2 ^ (2 * E) / (dist2 E x t.1 + t.2) := by
  unfold term4R
  rw [← add_div, one_div, inv_div]

theorem t4Up_sound (E : Nat) (t : Term4) (b : Box) (x : List ℝ) (hc : 0 < t.2) (hx : InBox E b x) :
    term4R E t x ≤ (t4Up (2 ^ (2 * E + P)) t b : ℝ) / 2 ^ P := by
  rw [term4R_eq]
  refine div_le_divUp _ (nearSq b t.1 + t.2) (by omega) (pow_add_cast _) ?_
  rw [Nat.cast_add]
  exact add_le_add (nearSq_le E b x t.1 hx) le_rfl

theorem t4Dn_sound (E : Nat) (t : Term4) (b : Box) (x : List ℝ) (hc : 0 < t.2) (hx : InBox E b x) :
    (t4Dn (2 ^ (2 * E + P)) t b : ℝ) / 2 ^ P ≤ term4R E t x := by
  rw [term4R_eq]
  have hcR : (0 : ℝ) < t.2 := Nat.cast_pos.2 hc
  refine natDiv_le_div _ (farSq b t.1 + t.2) (pow_add_cast _) (by linarith [dist2_nonneg E x t.1]) ?_
  rw [Nat.cast_add]
  exact add_le_add (le_farSq E b x t.1 hx) le_rfl

theorem s4Up_eq_sum (A : Nat) (b : Box) (ts : List Term4) : s4Up A ts b = (ts.map fun t => t4Up A t b).sum :=
  eq_map_sum (s4Up A · b) _ rfl (fun _ _ => rfl) ts

theorem s4Dn_eq_sum (A : Nat) (b : Box) (ts : List Term4) : s4Dn A ts b = (ts.map fun t => t4Dn A t b).sum :=
  eq_map_sum (s4Dn A · b) _ rfl (fun _ _ => rfl) ts

section leaves
variable (E : Nat) (ts : List Term4) (hts : ∀ t ∈ ts, 0 < t.2) {T : Nat} {b : Box} (x : List ℝ)
  (hx : InBox E b x)
include hts hx

theorem f4R_ge_of_s4Up_le (h : s4Up (2 ^ (2 * E + P)) ts b ≤ T) : -(T : ℝ) / 2 ^ P ≤ f4R E ts x :=
  neg_le_neg_sum _ _ ts (fun t ht => t4Up_sound E t b x (hts t ht) hx) (s4Up_eq_sum _ b ts ▸ h)

theorem f4R_le_of_le_s4Dn (h : T ≤ s4Dn (2 ^ (2 * E + P)) ts b) : f4R E ts x ≤ -(T : ℝ) / 2 ^ P :=
  neg_sum_le_neg _ _ ts (fun t ht => t4Dn_sound E t b x (hts t ht) hx) (s4Dn_eq_sum _ b ts ▸ h)

end leaves

theorem splitW_sound (E : Nat) (w : Nat) : ∀ (b : Box) (x : List ℝ), InBox E b x →
    InBox E (splitW w b).1 x ∨ InBox E (splitW w b).2 x
  | [], _, h => by cases h; left; exact List.Forall₂.nil
  | (lo, hi) :: b, _, h => by
    cases h with
    | cons hq hrest =>
      rename_i xj x
      unfold splitW
      split
      · exact (Bench.cut_cover hq.1 hq.2 _).imp (List.Forall₂.cons · hrest) (List.Forall₂.cons · hrest)
      · exact (splitW_sound E w b x hrest).imp (List.Forall₂.cons hq) (List.Forall₂.cons hq)

theorem bnb4_sound (E : Nat) (ts : List Term4) (T : Nat) (acc : Box → Bool) (Q : List ℝ → Prop)
    (hts : ∀ t ∈ ts, 0 < t.2) (hacc : Bench.Sound (InBox E) (acc · = true) Q) (fuel : Nat) :
    Bench.Sound (InBox E) (bnb4 (2 ^ (2 * E + P)) ts T acc fuel · = true)
      fun x => Q x ∨ -(T : ℝ) / 2 ^ P ≤ f4R E ts x := by
  have leaf : ∀ b, (acc b = true ∨ Nat.ble (s4Up (2 ^ (2 * E + P)) ts b) T = true) → ∀ x, InBox E b x →
      Q x ∨ -(T : ℝ) / 2 ^ P ≤ f4R E ts x :=
    fun b h x hx => h.imp (hacc b · x hx) fun h => f4R_ge_of_s4Up_le E ts hts x hx (Nat.le_of_ble_eq_true h)
  refine Bench.bisect_sound (InBox E) _ (bnb4 (2 ^ (2 * E + P)) ts T acc · · = true)
    (fun b h => leaf b (by simpa only [bnb4, Bool.or_eq_true] using h)) (fun fuel b h x hx => ?_) fuel
  simp only [bnb4, Bool.or_eq_true, Bool.and_eq_true, forceBox_eq] at h
  exact h.imp (leaf b · x hx) fun hh => (splitW_sound E (width b) b x hx).elim (⟨_, hh.2.1, ·⟩) (⟨_, hh.2.2, ·⟩)

def InZone (E : Nat) (z : Box) (x : List ℝ) : Prop :=
  List.Forall₂ (fun (q : Nat × Nat) (xj : ℝ) => (q.1 : ℝ) < xj * 2 ^ E ∧ xj * 2 ^ E < (q.2 : ℝ)) z x

theorem inZone_sound (E : Nat) : ∀ (z b : Box) (x : List ℝ), inZone z b = true → InBox E b x → InZone E z x
  | [], [], _, _, h => by cases h; exact List.Forall₂.nil
  | [], _ :: _, _, hz, _ => by simp [inZone] at hz
  | _ :: _, [], _, hz, _ => by simp [inZone] at hz
  | (zl, zh) :: z, (lo, hi) :: b, _, hz, h => by
    cases h with
    | cons hq hrest =>
      rename_i xj x
      simp only [inZone, Bool.and_eq_true] at hz
      have h1 : (zl : ℝ) < lo := by exact_mod_cast lt_of_blt hz.1.1
      have h2 : (hi : ℝ) < zh := by exact_mod_cast lt_of_blt hz.1.2
      exact List.Forall₂.cons ⟨lt_of_lt_of_le h1 hq.1, lt_of_le_of_lt hq.2 h2⟩
        (inZone_sound E z b x hz.2 hrest)

/-- `Σⱼ (xⱼ - aⱼ)²` over the common prefix -/
noncomputable def sqd : List ℝ → List ℝ → ℝ
  | xj :: x, a :: as => (xj - a) ^ 2 + sqd x as
  | _, _ => 0

theorem sqd_eq_sum : ∀ (x ai : List ℝ), sqd x ai = ((List.zip x ai).map fun q => (q.1 - q.2) ^ 2).sum
  | [], _ => by simp [sqd]
  | _ :: _, [] => by simp [sqd]
  | xj :: x, a :: as => by simp only [sqd, List.zip_cons_cons, List.map_cons, List.sum_cons, sqd_eq_sum x as]

theorem shekel4_eq_sum (a : List (List ℝ)) (c : List ℝ) (x : List ℝ) :
    Prob.shekel4 a c x = -((List.zip a c).map fun q => 1 / (sqd x q.1 + q.2)).sum := by
  unfold Prob.shekel4
  simp only [BenchReal.pow_two]
  have inner : ∀ ai : List ℝ, (List.zip x ai).foldl (fun den (q : ℝ × ℝ) => match q with
      | (xj, aij) => den + (xj - aij) ^ 2) 0 = sqd x ai :=
    fun ai => (BenchReal.foldl_add_eq (fun q : ℝ × ℝ => (q.1 - q.2) ^ 2) _ 0).trans
      (by rw [zero_add, sqd_eq_sum])
  simp only [inner]
  exact (BenchReal.foldl_sub_eq (fun q : List ℝ × ℝ => 1 / (sqd x q.1 + q.2)) _ 0).trans (zero_sub _)

theorem sqd_scaled (E : Nat) : ∀ (x : List ℝ) (a : List Dy), (a.all (scaleOK E) = true) →
    sqd x (a.map dyR) = dist2 E x (a.map (scale E)) / 2 ^ (2 * E)
  | [], _, _ => by simp [sqd, dist2]
  | _ :: _, [], _ => by simp [sqd, dist2]
  | xj :: x, a :: as, h => by
    simp only [List.all_cons, Bool.and_eq_true] at h
    simp only [List.map_cons, sqd, dist2]
    rw [sqd_scaled E x as h.2, dyR_eq_scale E a h.1, add_div]
    congr 1
    have h2 : (2 : ℝ) ^ E ≠ 0 := by positivity
    rw [show 2 * E = E + E by ring, pow_add]
    field_simp

theorem terms4_eq (E : Nat) (a : List (List Dy)) (c : List Dy) :
    terms4 E a c = (List.zip a c).map fun q => (q.1.map (scale E), scale E q.2 * 2 ^ E) := by
  unfold terms4
  rw [List.zip_map]
  rfl

theorem tab4OK_mem {E : Nat} {a : List (List Dy)} {c : List Dy} (h : tab4OK E a c = true)
    {q : List Dy × Dy} (hq : q ∈ List.zip a c) :
    q.1.all (scaleOK E) = true ∧ scaleOK E q.2 = true ∧ 0 < q.2.1 := by
  simp only [tab4OK, Bool.and_eq_true, List.all_eq_true, decide_eq_true_eq] at h
  obtain ⟨ha, hc⟩ := h
  have hm := List.of_mem_zip hq
  refine ⟨?_, (hc _ hm.2).1, (hc _ hm.2).2⟩
  rw [List.all_eq_true]
  exact ha _ hm.1

theorem terms4_pos (E : Nat) (a : List (List Dy)) (c : List Dy) (h : tab4OK E a c = true) :
    ∀ t ∈ terms4 E a c, 0 < t.2 := by
  intro t ht
  rw [terms4_eq] at ht
  obtain ⟨q, hq, rfl⟩ := List.mem_map.1 ht
  obtain ⟨_, _, h3⟩ := tab4OK_mem h hq
  have := scale_pos E q.2 h3
  show 0 < scale E q.2 * 2 ^ E
  positivity

theorem f4R_eq_shekel4 (E : Nat) (a : List (List Dy)) (c : List Dy) (h : tab4OK E a c = true)
    (x : List ℝ) :
    Prob.shekel4 (a.map fun ai => ai.map dyR) (c.map dyR) x = f4R E (terms4 E a c) x := by
  rw [shekel4_eq_sum]
  unfold f4R
  rw [terms4_eq, List.zip_map, List.map_map, List.map_map]
  congr 2
  apply List.map_congr_left
  intro q hq
  obtain ⟨h1, h2, _⟩ := tab4OK_mem h hq
  simp only [Function.comp, Prod.map]
  unfold term4R
  rw [sqd_scaled E x q.1 h1, dyR_eq_scale E q.2 h2, show 2 * E = E + E by ring, mul_pow_cast_div]

theorem dist2_continuous_ofFn (E : Nat) : ∀ (d : Nat) (a : List Nat),
    Continuous fun y : Fin d → ℝ => dist2 E (List.ofFn y) a
  | 0, _ => by simp only [List.ofFn_zero, dist2]; exact continuous_const
  | _ + 1, [] => by simp only [List.ofFn_succ, dist2]; exact continuous_const
  | d + 1, a :: as => by
    simp only [List.ofFn_succ, dist2]
    exact ((((continuous_apply 0).mul continuous_const).sub continuous_const).pow 2).add
      ((dist2_continuous_ofFn E d as).comp (continuous_pi fun i => continuous_apply i.succ))

theorem f4R_continuous_ofFn (E : Nat) (d : Nat) (ts : List Term4) (h : ∀ t ∈ ts, 0 < t.2) :
    Continuous fun y : Fin d → ℝ => f4R E ts (List.ofFn y) := by
  refine (continuous_list_sum ts fun t ht => ?_).neg
  have hc : (0 : ℝ) < t.2 := Nat.cast_pos.2 (h t ht)
  have hd := dist2_continuous_ofFn E d t.1
  unfold term4R
  refine Continuous.div continuous_const (by fun_prop) (fun y => ne_of_gt ?_)
  have := dist2_nonneg E (List.ofFn y) t.1
  positivity

theorem inBox_root (E : Nat) : ∀ (X : List Nat) (x : List ℝ), x.length = X.length →
    (∀ xj ∈ x, 0 ≤ xj ∧ xj ≤ 10) → InBox E (X.map fun _ => (0, 10 * 2 ^ E)) x
  | [], [], _, _ => List.Forall₂.nil
  | [], _ :: _, h, _ => by simp at h
  | _ :: _, [], h, _ => by simp at h
  | _ :: X, xj :: x, h, hx =>
    List.Forall₂.cons (box_scaled E (hx xj List.mem_cons_self).1 (hx xj List.mem_cons_self).2)
      (inBox_root E X x (by simpa using h) (fun y hy => hx y (List.mem_cons_of_mem _ hy)))

theorem inBox_point (E : Nat) : ∀ (p : List Dy), p.all (scaleOK E) = true →
    InBox E ((p.map (scale E)).map fun Xj => (Xj, Xj)) (p.map dyR)
  | [], _ => List.Forall₂.nil
  | d :: p, h => by
    simp only [List.all_cons, Bool.and_eq_true] at h
    have := dyR_mul_pow E d h.1
    exact List.Forall₂.cons ⟨this.ge, this.le⟩ (inBox_point E p h.2)

theorem inZone_close (E : Nat) (hE : 10 ≤ E) : ∀ (p : List Dy) (x : List ℝ), p.all (scaleOK E) = true →
    InZone E ((p.map (scale E)).map fun Xj => (Nat.sub Xj (radius4 E), Nat.add Xj (radius4 E))) x →
    List.Forall₂ (fun pj xj => |xj - pj| < 25 / 1024) (p.map dyR) x
  | [], _, _, h => by cases h; exact List.Forall₂.nil
  | d :: p, _, hp, h => by
    simp only [List.all_cons, Bool.and_eq_true] at hp
    cases h with
    | cons hq hrest =>
      rename_i xj x
      refine List.Forall₂.cons ?_ (inZone_close E hE p x hp.2 hrest)
      have hs := two_pow_pos' E
      obtain ⟨h1, h2⟩ := hq
      -- in scaled coordinates `xj·2^E` is less than `radius4 E` away from `scale E d`
      have hy : |xj * 2 ^ E - (scale E d : ℝ)| < radius4 E := by
        rw [abs_lt]
        constructor
        · linarith [(le_natSub (scale E d) (radius4 E)).trans_lt h1]
        · have : xj * 2 ^ E < ((scale E d + radius4 E : Nat) : ℝ) := h2
          rw [Nat.cast_add] at this
          linarith
      rw [abs_scaled hs (dyR_mul_pow E d hp.1), radius4, mul_pow_sub_ten_cast 25 hE] at hy
      exact lt_of_mul_lt_mul_right hy hs.le

/-- the three clauses of C10 for a function on `[0,10]^n` with declared value `v` at the declared point `p`;
the location clause: every point of the box that is at least as good as `p` is within `25/1024` of `p` in
every coordinate -/
structure Shekel4C10 (f : List ℝ → ℝ) (v : ℝ) (p : List ℝ) : Prop where
  point_in_box : ∀ pj ∈ p, 0 ≤ pj ∧ pj ≤ 10
  value : |f p - v| ≤ 1e-4
  global : ∀ x : List ℝ, x.length = p.length → (∀ xj ∈ x, 0 ≤ xj ∧ xj ≤ 10) → v - 2e-3 * max 1 |v| ≤ f x
  location : ∀ x : List ℝ, x.length = p.length → (∀ xj ∈ x, 0 ≤ xj ∧ xj ≤ 10) → f x ≤ f p →
    List.Forall₂ (fun pj xj => |xj - pj| < 25 / 1024) p x

theorem shekel4CertE_sound (E : Nat) (hE10 : 10 ≤ E) (a : List (List Dy)) (c : List Dy) (v : Dy)
    (p : List Dy) (h : shekel4CertE E a c v p = true) :
    Shekel4C10 (Prob.shekel4 (a.map fun ai => ai.map dyR) (c.map dyR)) (dyR v) (p.map dyR) ∧
    ∀ d, Continuous fun y : Fin d → ℝ =>
      Prob.shekel4 (a.map fun ai => ai.map dyR) (c.map dyR) (List.ofFn y) := by
  simp only [shekel4CertE, forceNat_eq, forceList_eq, forceTerms4_eq, Bool.and_eq_true,
    decide_eq_true_eq] at h
  obtain ⟨⟨htab, hp⟩, hX10, ⟨⟨⟨⟨⟨hv1, hv2⟩, hT0⟩, hglob⟩, hdn⟩, hloc⟩⟩ := h
  have hpos := terms4_pos E a c htab
  have hf : Prob.shekel4 (a.map fun ai => ai.map dyR) (c.map dyR) = f4R E (terms4 E a c) :=
    funext fun x => f4R_eq_shekel4 E a c htab x
  rw [hf]
  have hpt := inBox_point E p hp
  have hfpl := f4R_ge_of_s4Up_le E _ hpos _ hpt le_rfl
  have hfpu := f4R_le_of_le_s4Dn E _ hpos _ hpt le_rfl
  refine ⟨⟨?_, value_abs _ v.toRat _ _ hfpl hfpu hv1 hv2, fun x hlen hx => ?_, fun x hlen hx hle => ?_⟩,
    fun d => f4R_continuous_ofFn E d _ hpos⟩
  · intro pj hpj
    obtain ⟨d, hd, rfl⟩ := List.mem_map.1 hpj
    exact scaled_in_box (dyR_mul_pow E d (List.all_eq_true.1 hp d hd))
      (Nat.le_of_ble_eq_true (List.all_eq_true.1 hX10 _ (List.mem_map.2 ⟨d, hd, rfl⟩)))
  · have hroot := inBox_root E (p.map (scale E)) x (by simpa using hlen) hx
    rcases bnb4_sound E _ _ _ (fun _ => False) hpos (fun _ h => by cases h) 300 _ hglob x hroot
      with hF | hb
    · exact hF.elim
    · exact le_trans (thresh_le v.toRat hT0) hb
  · have hroot := inBox_root E (p.map (scale E)) x (by simpa using hlen) hx
    rcases bnb4_sound E _ _ _ _ hpos (fun b hz x hb => inZone_sound E _ b x hz hb) 300 _ hloc x hroot
      with hZ | hb
    · exact inZone_close E hE10 p x hp hZ
    · -- `f x ≤ f p ≤ -dn/2^P < -(dn-1)/2^P ≤ f x`
      exact absurd (hle.trans hfpu) (not_le.2 ((pred_strict (lt_of_blt hdn)).trans_le hb))

theorem shekel4Cert_sound (a : List (List Dy)) (c : List Dy) (v : Dy) (p : List Dy)
    (h : shekel4Cert a c v p = true) :
    Shekel4C10 (Prob.shekel4 (a.map fun ai => ai.map dyR) (c.map dyR)) (dyR v) (p.map dyR) ∧
    ∀ d, Continuous fun y : Fin d → ℝ =>
      Prob.shekel4 (a.map fun ai => ai.map dyR) (c.map dyR) (List.ofFn y) := by
  unfold shekel4Cert at h
  rw [forceNat_eq] at h
  exact shekel4CertE_sound _ (by unfold exp4For; omega) a c v p h

/-- the location clause in the words of C10: a global minimiser on the cube exists, and every global
minimiser is within `25/1024` of the declared point in every coordinate -/
theorem Shekel4C10.minimiser {f : List ℝ → ℝ} {v : ℝ} {p : List ℝ} (h : Shekel4C10 f v p)
    (hf : Continuous fun y : Fin p.length → ℝ => f (List.ofFn y)) :
    (∃ xs : List ℝ, xs.length = p.length ∧ (∀ xj ∈ xs, 0 ≤ xj ∧ xj ≤ 10) ∧
      ∀ x : List ℝ, x.length = p.length → (∀ xj ∈ x, 0 ≤ xj ∧ xj ≤ 10) → f xs ≤ f x) ∧
    (∀ xs : List ℝ, xs.length = p.length → (∀ xj ∈ xs, 0 ≤ xj ∧ xj ≤ 10) →
      (∀ x : List ℝ, x.length = p.length → (∀ xj ∈ x, 0 ≤ xj ∧ xj ≤ 10) → f xs ≤ f x) →
      List.Forall₂ (fun pj xj => |xj - pj| < 25 / 1024) p xs) :=
  ⟨Bench.exists_min_cube (by norm_num) f p.length hf,
    fun xs hlen hx hmin => h.location xs hlen hx (hmin p rfl h.point_in_box)⟩

theorem sqd_le_of_close (r : ℝ) : ∀ (p x : List ℝ), List.Forall₂ (fun pj xj => |xj - pj| < r) p x →
    sqd x p ≤ p.length * r ^ 2
  | _, _, .nil => by simp [sqd]
  | _, _, .cons (a := pj) (b := xj) (l₁ := p) (l₂ := x) hq hrest => by
    have ih := sqd_le_of_close r p x hrest
    have : (xj - pj) ^ 2 ≤ r ^ 2 := by
      rw [← sq_abs (xj - pj)]
      exact pow_le_pow_left₀ (abs_nonneg _) hq.le 2
    simp only [sqd, List.length_cons]
    push_cast
    linarith

theorem findRow_sound (fam arg : Nat) : ∀ (l : List Nat) (n : Nat) (row : Nat),
    findRow fam arg l n = some row → row ∈ l ∧ Dy.word row 0 = fam ∧ Dy.word row 1 = arg
  | [], _, _, h => by simp [findRow] at h
  | _ :: _, 0, _, h => by simp [findRow] at h
  | x :: t, n + 1, row, h => by
    simp only [findRow, Nat.sub_self, Nat.add_zero] at h
    split at h
    · rename_i hc
      simp only [Bool.and_eq_true, beq_iff_eq] at hc
      cases h
      exact ⟨List.mem_cons_self, hc.1, hc.2⟩
    · obtain ⟨h1, h2⟩ := findRow_sound fam arg t n row h
      exact ⟨List.mem_cons_of_mem _ h1, h2⟩

/-- `Shekel4(n)` over ℝ with the generated tables (first `maxI[n-1]` rows) -/
noncomputable def shekel4Fn (n : Nat) : List ℝ → ℝ :=
  Prob.shekel4 ((s4A (Gen.shekel4MaxI[n - 1]!)).map fun ai => ai.map dyR) ((s4C (Gen.shekel4MaxI[n - 1]!)).map dyR)

/-- **generic C10 theorem for Shekel4**: if the certificate of `Shekel4(n)` evaluates to `true`, the metadata
table has a row of family 2 with argument `n`, and the three clauses hold for the optimum it declares -/
theorem shekel4OK_sound (n : Nat) (h : shekel4OK n = true) :
    ∃ row ∈ Gen.metaRowsPacked.toList, (Gen.metaDecode row).family = 2 ∧ (Gen.metaDecode row).arg0 = n ∧
      Shekel4C10 (shekel4Fn n) (dyR (Gen.metaDecode row).optValue) ((Gen.metaDecode row).optPoint.map dyR) ∧
      ∀ d, Continuous fun y : Fin d → ℝ => shekel4Fn n (List.ofFn y) := by
  -- `shekel4OK` is unfolded as a function.  Unfolded at `n` (`unfold shekel4OK at h`), the kernel has to compare
  -- `shekel4OK n` with its body; it unfolds the matcher first (an abbreviation) and evaluates `findRow 2 n …` over the
  -- 2000 rows of other families, up to the first row of family 2, where the test against the free `n` is stuck:
  -- 17 M heartbeats.  Between the constant and a `fun` it can only unfold the constant, and finds the bodies equal as they stand.
  have e : shekel4OK = delta% shekel4OK := by
    delta shekel4OK
    rfl
  rw [e] at h
  beta_reduce at h
  cases hrow : findRow 2 n Gen.metaRowsPacked.toList 1000000 with
  | none => rw [hrow] at h; cases h
  | some row =>
    rw [hrow] at h
    obtain ⟨hm, hf, ha⟩ := findRow_sound 2 n _ _ row hrow
    exact ⟨row, hm, hf, ha, shekel4Cert_sound _ _ _ _ h⟩

end Shk4

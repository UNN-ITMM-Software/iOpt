import IOptProofs.GrishDefs
import IOptProofs.GrishReal
import IOptProofs.EnclSoundMul
import Mathlib.Tactic.IntervalCases
/-!
# Grishagin checker, soundness part 1: the trigonometric data `trigs`

For `t = num/2^k ∈ [0,1]` the components of `trigs num k` denote `sin (i+1)πt`, `cos (i+1)πt`
(`i = 0..6`) within `2^-42`.
-/

namespace Grish
open Encl Complex

/-- component `i` (0-based) of a `V7` -/
def V7.get (p : V7) : ℕ → ℕ
  | 0 => p.a1
  | 1 => p.a2
  | 2 => p.a3
  | 3 => p.a4
  | 4 => p.a5
  | 5 => p.a6
  | 6 => p.a7
  | _ => 0

/-- the powers `z^(m+1)` of the biased complex number `(X1, U1)` by repeated multiplication -/
def zpow (X1 U1 : ℕ) : ℕ → ℕ × ℕ
  | 0 => (X1, U1)
  | m + 1 => (cmulRe (zpow X1 U1 m).1 X1 (zpow X1 U1 m).2 U1, cmulIm (zpow X1 U1 m).1 X1 (zpow X1 U1 m).2 U1)

def tdOf (z : ℕ → ℕ × ℕ) : TD :=
  TD.mk ⟨(z 0).2, (z 1).2, (z 2).2, (z 3).2, (z 4).2, (z 5).2, (z 6).2⟩
        ⟨(z 0).1, (z 1).1, (z 2).1, (z 3).1, (z 4).1, (z 5).1, (z 6).1⟩

theorem trigs_eq (num k : ℕ) :
    trigs num k = tdOf (zpow (trigC num (Nat.add k 1)) (trigS num (Nat.add k 1))) := by
  unfold trigs
  rw [trig_eq]
  simp only [tdOf, zpow]

theorem tdOf_get (z : ℕ → ℕ × ℕ) (i : ℕ) (hi : i < 7) :
    (tdOf z).s.get i = (z i).2 ∧ (tdOf z).c.get i = (z i).1 := by
  interval_cases i <;> exact ⟨rfl, rfl⟩

theorem trigs_get (num k i : ℕ) (hi : i < 7) :
    (trigs num k).s.get i = (zpow (trigC num (Nat.add k 1)) (trigS num (Nat.add k 1)) i).2 ∧
    (trigs num k).c.get i = (zpow (trigC num (Nat.add k 1)) (trigS num (Nat.add k 1)) i).1 := by
  rw [trigs_eq]
  exact tdOf_get _ i hi

theorem zpow_spec {X1 U1 : ℕ} {θ : ℝ} (hw : ‖exp ((θ : ℂ) * I) - dZ X1 U1‖ ≤ 330973 / 2 ^ 64) :
    ∀ m : ℕ, m ≤ 15 →
      ‖exp ((((m + 1 : ℕ) * θ : ℝ) : ℂ) * I) - dZ (zpow X1 U1 m).1 (zpow X1 U1 m).2‖
        ≤ ((m + 1 : ℕ) : ℝ) * 330976 / 2 ^ 64 := by
  intro m
  induction m with
  | zero =>
    intro _
    simp only [zpow, Nat.zero_add, Nat.cast_one, one_mul]
    refine hw.trans ?_
    norm_num
  | succ m ih =>
    intro hm
    have := (rec_step (i := m + 1) (by omega) hw (ih (by omega))).2
    exact this

/-- the error radius of every component: `7·330976/2^64 ≤ 2^-42` -/
theorem trigs_spec {num k : ℕ} (h : num ≤ 2 ^ k) (i : ℕ) (hi : i < 7) :
    |sn i (num / 2 ^ k) - dT ((trigs num k).s.get i)| ≤ 1 / 2 ^ 42 ∧
    |cs i (num / 2 ^ k) - dT ((trigs num k).c.get i)| ≤ 1 / 2 ^ 42 := by
  have h' : num ≤ 2 ^ (Nat.add k 1) := by
    show num ≤ 2 ^ (k + 1)
    rw [pow_succ]; omega
  have hw := trig_spec h'
  have hθ : 2 * Real.pi * ((num : ℝ) / 2 ^ (Nat.add k 1)) = Real.pi * ((num : ℝ) / 2 ^ k) := by
    show 2 * Real.pi * ((num : ℝ) / 2 ^ (k + 1)) = _
    rw [pow_succ]; ring
  rw [hθ] at hw
  have hz := zpow_spec hw i (by omega)
  obtain ⟨e1, e2⟩ := trigs_get num k i hi
  rw [e1, e2]
  have rad : ((i + 1 : ℕ) : ℝ) * 330976 / 2 ^ 64 ≤ 1 / 2 ^ 42 := by
    have : ((i + 1 : ℕ) : ℝ) ≤ 7 := by exact_mod_cast (by omega : i + 1 ≤ 7)
    exact (div_le_div_of_nonneg_right (mul_le_mul_of_nonneg_right this (by norm_num)) (by positivity)).trans
      (by norm_num)
  constructor
  · have := (abs_im_le_norm _).trans (hz.trans rad)
    rwa [sub_im, exp_ofReal_mul_I_im, dZ_im] at this
  · have := (abs_re_le_norm _).trans (hz.trans rad)
    rwa [sub_re, exp_ofReal_mul_I_re, dZ_re] at this

end Grish

import IOptProofs.EvDims
import IOptProofs.EvGenNode
/-!
# Integer layer: the backward step and the forward step of one level invert each other

`invStep_step` from `numbr ∘ node = id` (`Ev.All.numbr_node_all`), `step_invStep` from `node ∘ numbr = id`
(`Ev.All.node_numbr_all`); of the Gray-code development only these two are used (`EvGenNode.lean`), not `EvFacts`.
`Ev.Inv.Valid` is `Ev.validState` with the Boolean sign test `pm1` of the certificates (`Ev.Num.valid_iff`); the theorems are
stated with `validState`/`signVec`.
("Ev" is the evolvent here and in every `Ev*` module; `Proc.EvInv` in `ProcessEvents.lean` is about the EVENT log of a
`Process` and has nothing to do with this file.)
-/

namespace Ev.Inv
def Valid (n : Nat) (s : St) : Prop := s.it < n ∧ s.iw.length = n ∧ pm1 s.iw = true

theorem zipWith_mul_cancel {n : Nat} {a w : List Int} (ha : a.length = n) (hw : signVec n w) :
    List.zipWith (· * ·) (List.zipWith (· * ·) a w) w = a := by
  apply ext_getI (by simp [ha, hw.1]) ha
  intro i hi
  rw [getI_zipWith (by simp [ha, hw.1]; exact hi) (by rw [hw.1]; exact hi),
    getI_zipWith (by rw [ha]; exact hi) (by rw [hw.1]; exact hi), Int.mul_assoc]
  rcases signVec_getI hw hi with h | h <;> rw [h] <;> simp

/-- `__CalculateNumbr` inverts `__CalculateNode` -/
theorem numbr_node {n d : Nat} (hn : Ev.DimOK n) (hd : d < 2^n) :
    numbr n (node n d).2.1 = (d, (node n d).1, (node n d).2.2) :=
  All.numbr_node_all hn.two_le hd

theorem invStep_step {n : Nat} (hn : Ev.DimOK n) {s : St} (hs : validState n s) {d : Nat}
    (hd : d < 2^n) : invStep n s (step n s d).2 = ((step n s d).1, d) := by
  have hu := (node_shape hn.one_le d).2.1.1
  have h1 : List.zipWith (· * ·) (step n s d).2 s.iw = swap0 (node n d).2.1 s.it := by
    rw [step_def]
    exact zipWith_mul_cancel (by rw [length_swap0, hu]) hs.2
  unfold invStep
  simp only [h1, swap0_swap0 hu hs.1, numbr_node hn hd]
  rfl

theorem length_zipWith_mul (a w : List Int) (h : a.length = w.length) :
    (List.zipWith (· * ·) a w).length = a.length := by
  simp [h]

/-- `__CalculateNode` inverts `__CalculateNumbr` -/
theorem node_numbr {n : Nat} (hn : Ev.DimOK n) {u : List Int} (hl : u.length = n)
    (hu : pm1 u = true) : node n (numbr n u).1 = ((numbr n u).2.1, u, (numbr n u).2.2) :=
  (All.node_numbr_all hn.two_le ⟨hl, pm1_iff.1 hu⟩).2

theorem step_invStep {n : Nat} (hn : Ev.DimOK n) {s : St} (hs : validState n s) {u0 : List Int}
    (hu : signVec n u0) :
    (invStep n s u0).2 < 2^n ∧ step n s (invStep n s u0).2 = ((invStep n s u0).1, u0) := by
  have hz : signVec n (List.zipWith (· * ·) u0 s.iw) :=
    signVec_zipWith (fun _ _ => sign_mul) hu hs.2
  obtain ⟨hlt, hnode⟩ := All.node_numbr_all hn.two_le (signVec_swap0 hz hs.1)
  refine ⟨hlt, Prod.ext ?_ ?_⟩
  · show (step n s (numbr n _).1).1 = _
    rw [step_def, hnode]
    rfl
  · show (step n s (numbr n _).1).2 = u0
    rw [step_def, hnode]
    simp only
    rw [swap0_swap0 hz.1 hs.1]
    exact zipWith_mul_cancel hu.1 hs.2

end Ev.Inv

import IOptProofs.RefineDefs
import IOptProofs.SDLinks
import IOptProofs.MethodRun
/-!
# The simulation relation between the concrete run and the list-level run

`RepSD sd items`: the container `sd` holds the item list `items`.  One square per container call of the
method (`RepSD.insertFirst`, `insertNew`, `setItem`, `refill`, and `recalcFrom` for the recalculation loop,
a sequence of `setItem` steps).  `Sim c s` adds the scalar fields; the squares of the method's own steps
(`cFirst_sim`, `cRecalcAll_sim`, `cPrepare_sim`, `cCommit_sim`) are composed of the container squares, and
`reach_sim` is the induction over a run.
-/
set_option linter.unusedSectionVars false

namespace AGP
variable {α : Type} [Field α] [LinearOrder α] [IsStrictOrderedRing α] [Fns α]

theorem xrOf_insTrials (tr : Array (SD.Item α (Option α))) (new : SD.Item α (Option α)) (l r i : Nat) :
    xrOf (SD.insTrials tr new l r) i =
      if i = tr.size then some (new.x, new.globalR) else xrOf tr i := by
  rw [xrOf, SD.getElem?_insTrials_map (fun it => (it.x, it.globalR)) (fun _ _ _ => rfl), Array.getElem?_push]
  split <;> rfl

theorem xrOf_setGlobalR (sd : SD.State α (Option α)) (j : Nat) (k : Option α) (i : Nat) :
    xrOf (SD.setGlobalR sd j k).trials i =
      if i = j then (xrOf sd.trials i).map (fun xr => (xr.1, k)) else xrOf sd.trials i := by
  unfold xrOf SD.setGlobalR
  simp only [Array.getElem?_modify]
  by_cases h : j = i
  · subst h
    cases sd.trials[j]? <;> simp
  · have h' : ¬ i = j := fun e => h e.symm
    simp [h, h']

theorem get_of_xrOf {tr : Array (SD.Item α (Option α))} {i : Nat} {x : α} {R : Option α}
    (h : xrOf tr i = some (x, R)) : ∃ cit, tr[i]? = some cit ∧ cit.x = x ∧ cit.globalR = R := by
  simpa only [xrOf, Option.map_eq_some_iff, Prod.mk.injEq] using h

theorem xOf_of_xrOf {tr : Array (SD.Item α (Option α))} {i : Nat} {x : α} {R : Option α}
    (h : xrOf tr i = some (x, R)) : SD.xOf tr i = some x := by
  obtain ⟨cit, h1, h2, -⟩ := get_of_xrOf h
  unfold SD.xOf
  rw [h1, ← h2]
  rfl

/-- the container `sd` holds the item list `items`: the linked list of `sd` is the id list of
`items` (`SD.Rep`: mutual links, every id once, sorted), and every item's coordinate and
characteristic are the ones stored under its id -/
structure RepSD (sd : SD.State α (Option α)) (items : List (Item α)) : Prop where
  rep : SD.Rep sd.trials sd.first (items.map (·.id))
  xr : ∀ it ∈ items, xrOf sd.trials it.id = some (it.x, it.R)

section RepSD
variable {sd : SD.State α (Option α)} {items : List (Item α)}

theorem RepSD.traversal (h : RepSD sd items) : SD.traversal sd = items.map (·.id) :=
  h.rep.traversal_eq

theorem RepSD.wf (h : RepSD sd items) : SD.WF sd := h.rep.wf

theorem RepSD.nodup (h : RepSD sd items) : (items.map (·.id)).Nodup := h.rep.nodup

theorem RepSD.id_lt (h : RepSD sd items) {it : Item α} (hit : it ∈ items) : it.id < sd.trials.size :=
  h.rep.mem_iff.1 (List.mem_map_of_mem hit)

theorem RepSD.length (h : RepSD sd items) : items.length = sd.trials.size := by
  have := h.rep.length_eq
  simpa using this

theorem RepSD.xOf (h : RepSD sd items) {it : Item α} (hit : it ∈ items) :
    SD.xOf sd.trials it.id = some it.x := xOf_of_xrOf (h.xr it hit)

theorem RepSD.sorted (h : RepSD sd items) : items.Pairwise (fun a b => a.x ≤ b.x) := by
  have hs := h.rep.sorted
  rw [List.pairwise_map] at hs
  exact hs.imp_of_mem fun ha hb hab => hab _ _ (h.xOf ha) (h.xOf hb)

theorem RepSD.congr {sd' : SD.State α (Option α)} (h : RepSD sd items) (h1 : sd'.trials = sd.trials)
    (h2 : sd'.first = sd.first) : RepSD sd' items :=
  ⟨by rw [h1, h2]; exact h.rep, by rw [h1]; exact h.xr⟩

/-- the `left` pointer of a represented item is the id of the item before it (`none` for the first) -/
theorem RepSD.left_ptr_lastOr {done todo : List (Item α)} {b : Item α} (h : RepSD sd (done ++ b :: todo)) :
    sd.trials[b.id]?.bind (·.left) = SD.lastOr (done.map (·.id)) none := by
  have hs := h.rep.seg
  rw [List.map_append, List.map_cons, SD.Seg_append, SD.Seg_cons] at hs
  exact SD.left_of_linkOf hs.2.1

theorem RepSD.left_ptr {pre post : List (Item α)} {a b : Item α}
    (h : RepSD sd (pre ++ a :: b :: post)) : sd.trials[b.id]?.bind (·.left) = some a.id := by
  rw [List.append_cons] at h
  rw [h.left_ptr_lastOr, List.map_append]
  exact SD.lastOr_append_singleton _ _ _

theorem RepSD.item (h : RepSD sd items) {attr : Nat → Attr α} (ha : ∀ it ∈ items, attr it.id = it.attr)
    {it : Item α} (hit : it ∈ items) : itemOf sd attr it.id = it := by
  unfold itemOf
  rw [h.xr it hit, ha it hit]
  rfl

theorem RepSD.map_item (h : RepSD sd items) {attr : Nat → Attr α}
    (ha : ∀ it ∈ items, attr it.id = it.attr) :
    (items.map (·.id)).map (itemOf sd attr) = items := by
  rw [List.map_map]
  conv_rhs => rw [← List.map_id items]
  apply List.map_congr_left
  intro it hit
  exact h.item ha hit

end RepSD

/-- The simulation relation of `C06_links_refine`: the concrete state `c` (container, side table, scalars)
and the list-level state `s` describe the same `Method`.  `maxlen`/`dual` say that the container is the
single unbounded queue the method creates; `size` ties the next free slot of `_allTrials` to `nextId`. -/
structure Sim (c : CState α) (s : State α) : Prop where
  rs : RepSD c.sd s.items
  attr : ∀ it ∈ s.items, c.attr it.id = it.attr
  gq : c.sd.gq = s.queue
  maxlen : c.sd.maxlen = none
  dual : c.sd.dual = false
  size : c.sd.trials.size = s.nextId
  M : c.M = s.M
  Z : c.Z = s.Z
  best : c.best = s.best
  recalc : c.recalc = s.recalc
  iters : c.iters = s.iters
  minDelta : c.minDelta = s.minDelta
  nTrials : c.nTrials = s.nTrials
  best_mem : ∃ bi ∈ s.items, bi.id = s.best

theorem Sim.item {c : CState α} {s : State α} (h : Sim c s) {it : Item α} (hit : it ∈ s.items) :
    c.item it.id = it := h.rs.item h.attr hit

theorem Sim.left_ptr {c : CState α} {s : State α} (h : Sim c s) {a b : Item α}
    (hab : Neighbours s.items a b) : c.sd.trials[b.id]?.bind (·.left) = some a.id := by
  obtain ⟨pre, post, e⟩ := hab
  have := h.rs
  rw [e] at this
  exact this.left_ptr

theorem Sim.abs {c : CState α} {s : State α} (h : Sim c s) : absState c = s := by
  obtain ⟨items, queue, M, Z, best, recalc, iters, minDelta, nTrials, nextId⟩ := s
  unfold absState
  have h1 : (SD.traversal c.sd).map c.item = items := by
    rw [h.rs.traversal]; exact h.rs.map_item h.attr
  rw [h1, h.gq, h.M, h.Z, h.best, h.recalc, h.iters, h.minDelta, h.nTrials, h.size]

theorem RepSD.setItem {sd : SD.State α (Option α)} {l1 l2 : List (Item α)} {b : Item α}
    (h : RepSD sd (l1 ++ b :: l2)) (b' : Item α) (hid : b'.id = b.id) (hx : b'.x = b.x) :
    RepSD (SD.setGlobalR sd b.id b'.R) (l1 ++ b' :: l2) := by
  have hids : (l1 ++ b' :: l2).map (·.id) = (l1 ++ b :: l2).map (·.id) := by simp [hid]
  refine ⟨?_, ?_⟩
  · rw [hids]; exact SD.Rep_setGlobalR _ _ h.rep
  · intro it hit
    rw [xrOf_setGlobalR]
    by_cases hne : it.id = b.id
    · -- ids are distinct, so this is the rewritten item
      have : it = b' :=
        List.inj_on_of_nodup_map (hids ▸ h.nodup) hit (by simp) (hne.trans hid.symm)
      subst this
      rw [if_pos hne, hid, h.xr b (by simp)]
      simp [hx]
    · rw [if_neg hne]
      refine h.xr it ?_
      simp only [List.mem_append, List.mem_cons] at hit ⊢
      rcases hit with h1 | rfl | h1
      · exact Or.inl h1
      · exact absurd hid hne
      · exact Or.inr (Or.inr h1)

/-- `InsertDataItem(new, b)` with the hint `b`. -/
theorem RepSD.insertNew {sd : SD.State α (Option α)} {pre post : List (Item α)} {a b : Item α}
    (h : RepSD sd (pre ++ a :: b :: post)) (new : Item α) (hid : new.id = sd.trials.size)
    (hax : a.x ≤ new.x) (hbx : new.x ≤ b.x) (hd : sd.dual = false) (hm : sd.maxlen = none) :
    ∃ sd', SD.insert ltF keyLe sd (sdItem new.x new.R) (some b.id) = .ok sd' ∧
      RepSD sd' (pre ++ a :: new :: b :: post) ∧
      sd'.gq = qinsert (qinsert sd.gq new.R new.id) b.R b.id ∧
      sd'.maxlen = none ∧ sd'.dual = false ∧ sd'.trials.size = sd.trials.size + 1 := by
  have hbm : b ∈ pre ++ a :: b :: post := by simp
  have ham : a ∈ pre ++ a :: b :: post := by simp
  obtain ⟨rit, hrit, -, hritR⟩ := get_of_xrOf (h.xr b hbm)
  have hleft : rit.left = some a.id := by
    have := h.left_ptr
    rw [hrit] at this
    exact this
  have hrep0 : SD.Rep sd.trials sd.first (pre.map (·.id) ++ a.id :: b.id :: post.map (·.id)) := by
    have := h.rep
    rwa [List.map_append, List.map_cons, List.map_cons] at this
  have hrep1 := SD.Rep_insTrials (sdItem new.x new.R) hrep0 (h.xOf ham) (h.xOf hbm) hax hbx
  simp only [SD.insert_def, Option.some_or, hrit, hleft]
  refine ⟨_, rfl, ⟨?_, ?_⟩, ?_, hm, hd, ?_⟩
  · show SD.Rep (SD.insTrials sd.trials (sdItem new.x new.R) a.id b.id) sd.first _
    have : (pre ++ a :: new :: b :: post).map (·.id) =
        pre.map (·.id) ++ a.id :: sd.trials.size :: b.id :: post.map (·.id) := by simp [hid]
    rw [this]
    exact hrep1
  · -- the new item is stored under the new id, the entries of the others are untouched
    refine forall_ins rfl rfl (fun it hit => ?_) ?_ (fun hb => hb)
    · show xrOf (SD.insTrials sd.trials (sdItem new.x new.R) a.id b.id) it.id = _
      rw [xrOf_insTrials, if_neg (h.id_lt hit).ne]
      exact h.xr it hit
    · show xrOf (SD.insTrials sd.trials (sdItem new.x new.R) a.id b.id) new.id = _
      rw [xrOf_insTrials, if_pos hid]
      rfl
  · show SD.qinsert keyLe sd.maxlen rit.globalR b.id
        (SD.qinsert keyLe sd.maxlen (sdItem new.x new.R).globalR sd.trials.size sd.gq) = _
    rw [hm, hritR, hid]
    rfl
  · show (SD.insTrials sd.trials (sdItem new.x new.R) a.id b.id).size = _
    rw [SD.insTrials_size]

theorem RepSD.insertFirst (l r : Item α) (hl : l.id = 0) (hr : r.id = 1) (hx : l.x ≤ r.x) :
    RepSD (SD.insertFirst ({} : SD.State α (Option α)) (sdItem l.x l.R) (sdItem r.x r.R))
      ([] ++ l :: r :: []) := by
  refine ⟨?_, ?_⟩
  · rw [List.nil_append, List.map_cons, List.map_cons, hl, hr]
    exact SD.Rep_insertFirst none false (sdItem l.x l.R) (sdItem r.x r.R) rfl rfl hx
  · intro it hit
    simp only [List.nil_append, List.mem_cons, List.not_mem_nil, or_false] at hit
    rcases hit with rfl | rfl
    · rw [hl]; rfl
    · rw [hr]; rfl

theorem cFirst_sim (p : Params α) (z : α) :
    ∃ c, cFirst p z = some c ∧ Sim c (firstIteration p z) := by
  let left : Item α := { id := 0, x := 0, point := p.image 0, z := Fns.big, hv := 0, ev := false, delta := 0, R := none }
  let middle0 : Item α := { id := 2, x := half, point := p.image half, z := z, hv := z, ev := true,
                            delta := calcDelta p.n 0 half, R := none }
  let right0 : Item α := { id := 1, x := 1, point := p.image 1, z := Fns.big, hv := 0, ev := false,
                           delta := calcDelta p.n half 1, R := none }
  let middle : Item α := { middle0 with R := some (calcR p.r 1 z left middle0) }
  let right : Item α := { right0 with R := some (calcR p.r 1 z middle right0) }
  let sd0 := SD.insertFirst ({} : SD.State α (Option α)) (sdItem left.x left.R) (sdItem right.x right.R)
  have hrep0 : RepSD sd0 ([] ++ left :: right :: []) := RepSD.insertFirst left right rfl rfl zero_le_one
  obtain ⟨sd, hins, hrs, hgq, hm, hd, hsz⟩ :=
    hrep0.insertNew middle rfl half_bounds.1.le half_bounds.2.le rfl rfl
  refine ⟨{ sd := sd
            attr := fun i => if i = 0 then left.attr else if i = 1 then right.attr else middle.attr
            M := 1, Z := z, best := 2, recalc := true, iters := 1, minDelta := none, nTrials := 1 }, ?_, ?_⟩
  · unfold cFirst
    simp only []
    rw [show SD.insert ltF keyLe _ _ (some 1) = .ok sd from hins]
  · refine
      { rs := hrs, attr := ?attr, gq := ?gq, maxlen := hm, dual := hd, size := ?size
        M := rfl, Z := rfl, best := rfl, recalc := rfl, iters := rfl, minDelta := rfl, nTrials := rfl
        best_mem := ⟨middle, List.mem_cons_of_mem _ List.mem_cons_self, rfl⟩ }
    case attr =>
      intro it hit
      simp only [firstIteration, List.mem_cons, List.not_mem_nil, or_false] at hit
      rcases hit with rfl | rfl | rfl <;> rfl
    case gq =>
      rw [hgq]; rfl
    case size =>
      rw [hsz]; rfl

theorem calcR_congr (r M Z : α) {a a' b b' : Item α} (h1 : a.z = a'.z) (h2 : a.ev = a'.ev)
    (h3 : b.z = b'.z) (h4 : b.ev = b'.ev) (h5 : b.delta = b'.delta) :
    calcR r M Z a b = calcR r M Z a' b' := by
  simp only [calcR, h1, h2, h3, h4, h5]

theorem entriesOf_items {tr : Array (SD.Item α (Option α))} {items : List (Item α)}
    (h : ∀ it ∈ items, xrOf tr it.id = some (it.x, it.R)) :
    SD.entriesOf SD.Item.globalR tr (items.map (·.id)) = items.map qkey := by
  induction items with
  | nil => rfl
  | cons it t ih =>
    obtain ⟨cit, hcit, -, hR⟩ := get_of_xrOf (h it List.mem_cons_self)
    have := ih (fun it' hit' => h it' (List.mem_cons_of_mem _ hit'))
    unfold SD.entriesOf at this ⊢
    rw [List.map_cons, List.filterMap_cons, hcit]
    simp only [Option.map_some, List.map_cons]
    rw [this, hR]
    rfl

theorem RepSD.refill {sd : SD.State α (Option α)} {items : List (Item α)} (h : RepSD sd items)
    (hd : sd.dual = false) (hm : sd.maxlen = none) :
    RepSD (SD.refill keyLe sd) items ∧ (SD.refill keyLe sd).gq = refillQueue items ∧
      (SD.refill keyLe sd).maxlen = none ∧ (SD.refill keyLe sd).dual = false ∧
      (SD.refill keyLe sd).trials = sd.trials := by
  rw [SD.refill_any keyLe sd hd hm]
  refine ⟨h.congr rfl rfl, ?_, hm, hd, rfl⟩
  show List.foldl _ [] (SD.entriesOf SD.Item.globalR sd.trials (SD.traversal sd)) = _
  rw [h.traversal, entriesOf_items h.xr, List.foldl_map]
  rfl

/-- The loop `for item in searchData: CalculateGlobalR(item, item.GetLeft())` is a sequence of
`RepSD.setItem` steps: after the items `done` the container represents `done ++ todo` with the
characteristics of `done` recalculated; `o` is the last of `done`.  `c` supplies the attributes the
formula reads. -/
theorem RepSD.recalcFrom {p : Params α} {c : CState α} (todo : List (Item α)) :
    ∀ {sd : SD.State α (Option α)} {done : List (Item α)} {o : Option (Item α)},
    RepSD sd (done ++ todo) → SD.lastOr (done.map (·.id)) none = o.map (·.id) →
    (∀ l, o = some l → (c.attr l.id).z = l.z ∧ (c.attr l.id).ev = l.ev) →
    (∀ it ∈ todo, c.attr it.id = it.attr) →
    RepSD ((todo.map (·.id)).foldl (cCalcR p c) sd) (done ++ recalcItems p.r c.M c.Z o todo) := by
  induction todo with
  | nil => intro sd done o h _ _ _; cases o <;> exact h
  | cons b t ih =>
    intro sd done o h ho hoa ha
    have hab := ha b List.mem_cons_self
    -- one step of the loop writes the characteristic `recalcItems` computes
    have hstep : cCalcR p c sd b.id = SD.setGlobalR sd b.id (o.map fun l => calcR p.r c.M c.Z l b) := by
      unfold cCalcR
      rw [h.left_ptr_lastOr, ho]
      cases o with
      | none => rfl
      | some l =>
        obtain ⟨hlz, hlev⟩ := hoa l rfl
        show SD.setGlobalR sd b.id (some (calcR p.r c.M c.Z (c.item l.id) (c.item b.id))) = _
        rw [calcR_congr p.r c.M c.Z (a' := l) (b' := b) hlz hlev (by show (c.attr b.id).z = _; rw [hab]; rfl)
          (by show (c.attr b.id).ev = _; rw [hab]; rfl) (by show (c.attr b.id).delta = _; rw [hab]; rfl)]
        rfl
    rw [List.map_cons, List.foldl_cons, hstep, recalcItems_cons, List.append_cons]
    refine ih ?_ (by rw [List.map_append]; exact SD.lastOr_append_singleton _ _ _)
      (by intro l hl; cases hl; exact ⟨by rw [hab]; rfl, by rw [hab]; rfl⟩)
      (fun it hit => ha it (List.mem_cons_of_mem _ hit))
    rw [← List.append_cons]
    exact h.setItem { b with R := o.map fun l => calcR p.r c.M c.Z l b } rfl rfl

theorem foldl_cCalcR_frame (p : Params α) (c : CState α) (t : List Nat) (sd : SD.State α (Option α)) :
    (t.foldl (cCalcR p c) sd).maxlen = sd.maxlen ∧ (t.foldl (cCalcR p c) sd).dual = sd.dual ∧
      (t.foldl (cCalcR p c) sd).trials.size = sd.trials.size := by
  induction t generalizing sd with
  | nil => exact ⟨rfl, rfl, rfl⟩
  | cons i t ih =>
    obtain ⟨h1, h2, h3⟩ := ih (cCalcR p c sd i)
    have : (cCalcR p c sd i).maxlen = sd.maxlen ∧ (cCalcR p c sd i).dual = sd.dual ∧
        (cCalcR p c sd i).trials.size = sd.trials.size := by
      unfold cCalcR; split <;> exact ⟨rfl, rfl, Array.size_modify⟩
    exact ⟨h1.trans this.1, h2.trans this.2.1, h3.trans this.2.2⟩

theorem cRecalcAll_sim {p : Params α} {c : CState α} {s : State α} (h : Sim c s) :
    Sim (cRecalcAll p c) (recalcAll p s) := by
  unfold cRecalcAll recalcAll
  rw [h.recalc]
  split
  · have h0 : RepSD (SD.clearQueue c.sd) s.items := h.rs.congr rfl rfl
    have hE := Ctl.recalcItems_map_R_none p.r s.M s.Z none s.items
    simp only []
    rw [h0.traversal]
    have h1 := RepSD.recalcFrom (p := p) (c := c) (done := []) (o := none) s.items h0 rfl nofun h.attr
    obtain ⟨hm1, hd1, hsz1⟩ := foldl_cCalcR_frame p c (s.items.map (·.id)) (SD.clearQueue c.sd)
    rw [h.M, h.Z] at h1
    obtain ⟨h2, hgq2, hm2, hd2, htr2⟩ := h1.refill (hd1.trans h.dual) (hm1.trans h.maxlen)
    exact
      { h with
        rs := h2
        attr := (forall_transfer (P := fun it => c.attr it.id = it.attr) hE (fun _ => Iff.rfl)).2 h.attr
        gq := hgq2, maxlen := hm2, dual := hd2
        size := by rw [htr2, hsz1]; exact h.size
        recalc := rfl
        best_mem := (exists_transfer (P := fun it => it.id = s.best) hE (fun _ => Iff.rfl)).2 h.best_mem }
  · exact h

def cPrepState (c1 : CState α) (sd' : SD.State α (Option α)) (oid : Nat) : CState α :=
  { c1 with sd := sd', minDelta := some (minOpt (c1.attr oid).delta c1.minDelta) }

theorem cPrepare_eq_ok (p : Params α) (c : CState α) {sd' : SD.State α (Option α)} {oid l : Nat}
    {k : Option α} {left old : Item α}
    (hpop : SD.popMaxGlobal keyLe (cRecalcAll p c).sd = .ok (sd', oid, k))
    (hl : sd'.trials[oid]?.bind (·.left) = some l)
    (hleft : (cPrepState (cRecalcAll p c) sd' oid).item l = left)
    (hold : (cPrepState (cRecalcAll p c) sd' oid).item oid = old)
    (hin : left.x < nextX p (cRecalcAll p c).M left old ∧ nextX p (cRecalcAll p c).M left old < old.x) :
    cPrepare p c = .ok
      { c := cPrepState (cRecalcAll p c) sd' oid, old := oid, left := l
        x := nextX p (cRecalcAll p c).M left old
        point := p.image (nextX p (cRecalcAll p c).M left old) } := by
  subst hleft hold
  unfold cPrepare
  simp only [hpop, hl]
  rw [if_neg (by rw [not_or, not_le, not_le]; exact hin)]
  rfl

/-- the container after the refill of an empty queue (`GetDataItemWithMaxGlobalR`, first half) -/
def cPrepSD (p : Params α) (c : CState α) : SD.State α (Option α) :=
  if (cRecalcAll p c).sd.gq.isEmpty then SD.refill keyLe (cRecalcAll p c).sd else (cRecalcAll p c).sd

theorem selState_sim {p : Params α} {c : CState α} {s : State α} (h : Sim c s) :
    Sim { cRecalcAll p c with sd := cPrepSD p c } (Ctl.selState p s) ∧
      (cPrepSD p c).trials = (cRecalcAll p c).sd.trials := by
  have h1 := cRecalcAll_sim (p := p) h
  unfold Ctl.selState cPrepSD
  simp only []
  rw [h1.gq]
  by_cases he : (recalcAll p s).queue.isEmpty = true
  · rw [if_pos he, if_pos he]
    obtain ⟨hrs, hgq, hm, hd, htr⟩ := h1.rs.refill h1.dual h1.maxlen
    exact ⟨{ h1 with rs := hrs, gq := hgq, maxlen := hm, dual := hd, size := by rw [htr]; exact h1.size }, htr⟩
  · rw [if_neg he, if_neg he]
    exact ⟨h1, rfl⟩

structure PrepSim (cpr : CPrep α) (pr : Prep α) : Prop where
  sim : Sim cpr.c pr.s
  old : cpr.old = pr.old.id
  left : cpr.left = pr.left.id
  x : cpr.x = pr.x
  point : cpr.point = pr.point
  nb : Neighbours pr.s.items pr.left pr.old
  inside : pr.left.x < pr.x ∧ pr.x < pr.old.x

theorem PrepSim.left_ptr {cpr : CPrep α} {pr : Prep α} (h : PrepSim cpr pr) :
    cpr.c.sd.trials[pr.old.id]?.bind (·.left) = some pr.left.id := h.sim.left_ptr h.nb

theorem cPrepare_sim {p : Params α} {c : CState α} {s : State α} {pr : Prep α} (h : Sim c s)
    (hp : prepare p s = .ok pr) :
    ∃ cpr k q, (Ctl.selState p s).queue = (k, pr.old.id) :: q ∧
      SD.popMaxGlobal keyLe (cRecalcAll p c).sd = .ok (cpr.c.sd, pr.old.id, k) ∧
      cpr.c.sd.trials = (cRecalcAll p c).sd.trials ∧
      cPrepare p c = .ok cpr ∧ PrepSim cpr pr := by
  obtain ⟨k, oid, q, hq, hf, hl, hs, hx, hpt, hno⟩ := Ctl.prepare_ok hp
  rw [not_or, not_le, not_le] at hno
  obtain ⟨hlt1, hlt2⟩ := hno
  obtain ⟨ps, old, left, x, point⟩ := pr
  simp only at hf hl hs hx hlt1 hlt2 hpt ⊢
  subst hs hpt hx
  have hMs := (Ctl.selState_fields p s).M
  have hmds := Ctl.selState_minDelta p s
  obtain ⟨h2s, htr⟩ := selState_sim (p := p) h
  obtain ⟨pre, post, e, rfl⟩ := nb_of_findItem_leftOf h2s.rs.nodup hf hl
  have hnb : Neighbours (Ctl.selState p s).items left old := ⟨pre, post, e⟩
  -- the state after the pop and the `min_delta` update represents `pr.s`; the rest is read off it
  have hsim : Sim (cPrepState (cRecalcAll p c) { cPrepSD p c with gq := q } old.id)
      { Ctl.selState p s with queue := q, minDelta := some (minOpt old.delta s.minDelta) } := by
    refine { h2s with rs := h2s.rs.congr rfl rfl, gq := rfl, minDelta := ?_ }
    show some (minOpt ((cRecalcAll p c).attr old.id).delta (cRecalcAll p c).minDelta) = _
    rw [h2s.attr old hnb.mem_right, show (cRecalcAll p c).minDelta = _ from h2s.minDelta, hmds]
    rfl
  have hM : (cRecalcAll p c).M = s.M := h2s.M.trans hMs
  have hpop := SD.popMaxGlobal_eq keyLe (cRecalcAll p c).sd
    (show (cPrepSD p c).gq = (k, old.id) :: q from h2s.gq.trans hq)
  have hcp := cPrepare_eq_ok p c hpop (hsim.left_ptr hnb) (hsim.item hnb.mem_left)
    (hsim.item hnb.mem_right) (by rw [hM]; exact ⟨hlt1, hlt2⟩)
  rw [hM] at hcp
  exact ⟨_, k, q, hq, hpop, htr, hcp,
    { sim := hsim, old := rfl, left := rfl, x := rfl, point := rfl, nb := hnb, inside := ⟨hlt1, hlt2⟩ }⟩

/-- `cCommit` in the terms (`cNew2`, `cOld2`, `cM2`, `cZ`, `cBest`) of the equational form
`commit_eq` of `commit`. -/
theorem cCommit_eq (p : Params α) (cpr : CPrep α) (pr : Prep α) (z : α)
    (hl : cpr.c.item cpr.left = pr.left) (ho : cpr.c.item cpr.old = pr.old)
    (hn : cpr.c.sd.trials.size = pr.s.nextId) (hx : cpr.x = pr.x) (hpt : cpr.point = pr.point)
    (hM : cpr.c.M = pr.s.M) (hZ : cpr.c.Z = pr.s.Z) (hbest : cpr.c.best = pr.s.best)
    (hrc : cpr.c.recalc = pr.s.recalc)
    (hb : decide (z < (cpr.c.attr cpr.c.best).z) = better pr z) :
    cCommit p cpr z =
      match SD.insert ltF keyLe (SD.setGlobalR cpr.c.sd cpr.old (cOld2 p pr z).R)
          (sdItem (cNew2 p pr z).x (cNew2 p pr z).R) (some cpr.old) with
      | .error _ => none
      | .ok sd2 =>
        some { cpr.c with
          sd := sd2
          attr := setAttr (setAttr cpr.c.attr cpr.old (cOld2 p pr z).attr) pr.s.nextId (cNew2 p pr z).attr
          M := (cM2 p pr z).1, Z := cZ pr z, best := cBest pr z, recalc := (cM2 p pr z).2
          iters := cpr.c.iters + 1, nTrials := cpr.c.nTrials + 1 } := by
  unfold cCommit
  simp only [hb]
  simp only [hl, ho, hn, hx, hpt, hM, hZ, hbest, hrc]
  rfl

theorem setGlobalR_size (sd : SD.State α (Option α)) (i : Nat) (k : Option α) :
    (SD.setGlobalR sd i k).trials.size = sd.trials.size := by
  simp [SD.setGlobalR]

theorem setAttr_ins {t : Nat → Attr α} {l l' pre post : List (Item α)} {a b n b' : Item α}
    (e : l = pre ++ a :: b :: post) (e' : l' = pre ++ a :: n :: b' :: post)
    (hnd : (l'.map (·.id)).Nodup) (hid : b'.id = b.id) (ht : ∀ it ∈ l, t it.id = it.attr) :
    ∀ it ∈ l', setAttr (setAttr t b.id b'.attr) n.id n.attr it.id = it.attr := by
  intro it hit
  have hn : n ∈ l' := by rw [e']; simp
  have hb' : b' ∈ l' := by rw [e']; simp
  unfold setAttr
  by_cases h1 : it.id = n.id
  · rw [if_pos h1, List.inj_on_of_nodup_map hnd hit hn h1]
  · rw [if_neg h1]
    by_cases h2 : it.id = b.id
    · rw [if_pos h2, List.inj_on_of_nodup_map hnd hit hb' (h2.trans hid.symm)]
    · rw [if_neg h2]
      refine ht it ?_
      subst e e'
      simp only [List.mem_append, List.mem_cons] at hit ⊢
      rcases hit with h | rfl | rfl | rfl | h
      · exact Or.inl h
      · exact Or.inr (Or.inl rfl)
      · exact absurd rfl h1
      · exact absurd hid h2
      · exact Or.inr (Or.inr (Or.inr h))

/-- `UpdateOptimum` compares with the same value on both sides: `self.best.GetZ()` is the `z` of the
list item with id `best` -/
theorem Sim.better_eq {cpr : CPrep α} {pr : Prep α} (h : Sim cpr.c pr.s) (z : α) :
    decide (z < (cpr.c.attr cpr.c.best).z) = better pr z := by
  obtain ⟨bi, hbi, hbid⟩ := h.best_mem
  have hfi : findItem pr.s.items pr.s.best = some bi := hbid ▸ findItem_of_mem h.rs.nodup hbi
  have hz : (cpr.c.attr cpr.c.best).z = bi.z := by
    rw [h.best, ← hbid, h.attr bi hbi]; rfl
  rw [hz]; unfold better; rw [hfi]; rfl

/-- `old.globalR = …; InsertDataItem(new, old)` on the container does what `commit` does on the list. -/
theorem cCommit_sim {p : Params α} {cpr : CPrep α} {pr : Prep α} (hps : PrepSim cpr pr) (z : α) :
    ∃ c', cCommit p cpr z = some c' ∧ Sim c' (commit p pr z) := by
  have h := hps.sim
  obtain ⟨pre, post, e⟩ := hps.nb
  have hlm : pr.left ∈ pr.s.items := by rw [e]; simp
  have hom : pr.old ∈ pr.s.items := by rw [e]; simp
  have hl : cpr.c.item cpr.left = pr.left := by rw [hps.left]; exact h.item hlm
  have ho : cpr.c.item cpr.old = pr.old := by rw [hps.old]; exact h.item hom
  rw [cCommit_eq p cpr pr z hl ho h.size hps.x hps.point h.M h.Z h.best h.recalc (h.better_eq z)]
  have hrs0 := h.rs
  rw [e, List.append_cons] at hrs0
  have hrs1 := hrs0.setItem (cOld2 p pr z) rfl rfl
  rw [← List.append_cons] at hrs1
  obtain ⟨sd', hins, hrs2, hgq2, hm2, hd2, hsz2⟩ := hrs1.insertNew (cNew2 p pr z)
    (by rw [setGlobalR_size, h.size]; rfl) hps.inside.1.le hps.inside.2.le h.dual h.maxlen
  have hins' : SD.insert ltF keyLe (SD.setGlobalR cpr.c.sd cpr.old (cOld2 p pr z).R)
      (sdItem (cNew2 p pr z).x (cNew2 p pr z).R) (some cpr.old) = .ok sd' := by
    rw [hps.old]; exact hins
  rw [hins']
  refine ⟨_, rfl, ?_⟩
  have hnd := h.rs.nodup
  have hitems := commit_items (p := p) hnd z e
  refine
    { rs := ?rs, attr := ?attr, gq := ?gq, maxlen := hm2, dual := hd2, size := ?size
      M := (commit_M p pr z).symm, Z := (commit_Z p pr z).symm, best := (commit_best p pr z).symm
      recalc := (commit_recalc p pr z).symm, iters := ?iters
      minDelta := by rw [commit_minDelta]; exact h.minDelta
      nTrials := ?nTrials, best_mem := ?best_mem }
  case rs =>
    rw [hitems]; exact hrs2
  case attr =>
    show ∀ it ∈ (commit p pr z).items,
      setAttr (setAttr cpr.c.attr cpr.old (cOld2 p pr z).attr) pr.s.nextId (cNew2 p pr z).attr it.id = it.attr
    rw [hps.old]
    exact setAttr_ins e hitems (by rw [hitems]; exact hrs2.nodup) rfl h.attr
  case gq =>
    rw [commit_queue, hgq2]
    show qinsert (qinsert cpr.c.sd.gq _ _) _ _ = _
    rw [h.gq]
  case size =>
    rw [commit_nextId, hsz2, setGlobalR_size, h.size]
  case iters =>
    rw [commit_iters]; exact congrArg (· + 1) h.iters
  case nTrials =>
    rw [commit_nTrials]; exact congrArg (· + 1) h.nTrials
  case best_mem =>
    rw [commit_best, cBest]
    split
    · exact ⟨cNew2 p pr z, by rw [hitems]; simp, rfl⟩
    · exact exists_ins e hitems (P := fun it => it.id = pr.s.best) h.best_mem (fun hb => hb)

theorem cRun_snoc (p : Params α) (l : List α) (z : α) {c : CState α} (h : cRun p l = some c) :
    cRun p (l ++ [z]) = cIterate p c z := by
  cases l with
  | nil => cases h
  | cons z0 zs =>
    have h' : zs.foldl (fun oc z => oc.bind fun c => cIterate p c z) (cFirst p z0) = some c := h
    show (zs ++ [z]).foldl (fun oc z => oc.bind fun c => cIterate p c z) (cFirst p z0) = _
    rw [List.foldl_append, h']
    rfl

theorem cCommit_run {p : Params α} {zs : List α} {c : CState α} {cpr : CPrep α} {pr : Prep α}
    (hc : cRun p zs = some c) (hcp : cPrepare p c = .ok cpr) (hps : PrepSim cpr pr) (z : α) :
    ∃ c', cCommit p cpr z = some c' ∧ cRun p (zs ++ [z]) = some c' ∧ Sim c' (commit p pr z) := by
  obtain ⟨c', hc', hs'⟩ := cCommit_sim (p := p) hps z
  refine ⟨c', hc', ?_, hs'⟩
  rw [cRun_snoc p _ z hc]
  unfold cIterate
  rw [hcp]
  exact hc'

theorem reach_sim {p : Params α} {s : State α} {log : List (List α × α)} (h : Reach p s log) :
    ∃ c, cRun p (log.map (·.2)) = some c ∧ Sim c s := by
  refine Reach.induction (P := fun s log => ∃ c, cRun p (log.map (·.2)) = some c ∧ Sim c s) ?_ ?_ h
  · exact fun z => cFirst_sim p z
  · intro s log pr z _ ⟨c, hc, hs⟩ hp
    obtain ⟨cpr, -, -, -, -, -, hcp, hps⟩ := cPrepare_sim hs hp
    obtain ⟨c', -, hrun, hs'⟩ := cCommit_run hc hcp hps z
    exact ⟨c', by rw [List.map_append]; exact hrun, hs'⟩

def lStep (p : Params α) (o : Option (State α × List (List α × α))) (z : α) :
    Option (State α × List (List α × α)) :=
  o.bind fun sl => match prepare p sl.1 with
    | .ok pr => some (commit p pr z, sl.2 ++ [(pr.point, z)])
    | .error _ => none

/-- the list-level run for the objective values `zs`, executable, for computed examples -/
def lRun (p : Params α) : List α → Option (State α × List (List α × α))
  | [] => none
  | z :: zs => zs.foldl (lStep p) (some (firstIteration p z, [(firstPoint p, z)]))

theorem lRun_reach {p : Params α} {zs : List α} {s : State α} {log : List (List α × α)}
    (h : lRun p zs = some (s, log)) : Reach p s log ∧ log.map (·.2) = zs := by
  cases zs with
  | nil => cases h
  | cons z zs =>
    -- the last value is the last step of the run
    induction zs using List.reverseRecOn generalizing s log with
    | nil => cases h; exact ⟨Reach.first p z, rfl⟩
    | append_singleton zs z' ih =>
      have e : lRun p (z :: (zs ++ [z'])) = lStep p (lRun p (z :: zs)) z' := List.foldl_concat ..
      rw [e] at h
      cases hr : lRun p (z :: zs) with
      | none => rw [hr] at h; cases h
      | some sl =>
        obtain ⟨hre, hlog⟩ := ih (s := sl.1) (log := sl.2) hr
        rw [hr] at h
        simp only [lStep, Option.bind_some] at h
        split at h
        · cases h
          exact ⟨hre.step z' ‹_›, by rw [List.map_append, hlog]; rfl⟩
        · cases h

/-- both runs computed: what is decided of their results holds of a reachable state and of the concrete state of the same run,
which represents it (`reach_sim`).  `dec` is an explicit argument (`fun _ _ => inferInstance`): as an instance argument it is
searched for as a function of `s c`, and for a conjunction of several list equalities that search runs into its size limit. -/
theorem runs_agree_of {p : Params α} {zs : List α} {R : State α → CState α → Prop}
    (dec : ∀ s c, Decidable (R s c)) (h : (match lRun p zs, cRun p zs with
      | some (s, _), some c => decide (R s c)
      | _, _ => false) = true) :
    ∃ s log c, Reach p s log ∧ log.map (·.2) = zs ∧ cRun p zs = some c ∧ SD.WF c.sd ∧ absState c = s ∧ R s c := by
  cases hr : lRun p zs with
  | none => rw [hr] at h; cases h
  | some r =>
    obtain ⟨s, log⟩ := r
    obtain ⟨hre, hlog⟩ := lRun_reach hr
    obtain ⟨c, hc, hs⟩ := reach_sim hre
    rw [hlog] at hc
    rw [hr, hc] at h
    exact ⟨s, log, c, hre, hlog, hc, hs.rs.wf, hs.abs, of_decide_eq_true h⟩

end AGP

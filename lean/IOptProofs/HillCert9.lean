import IOptProofs.HillRows
/-! Kernel-evaluated certificates (V), (G), (P), (L) of the Hill functions 900..999, twenty rows per evaluation. -/
namespace Hill
theorem hill_block_45 : ∀ i ∈ List.range' 900 20, hillOK i = true := hill_block _ _ (by decide +kernel)
theorem hill_block_46 : ∀ i ∈ List.range' 920 20, hillOK i = true := hill_block _ _ (by decide +kernel)
theorem hill_block_47 : ∀ i ∈ List.range' 940 20, hillOK i = true := hill_block _ _ (by decide +kernel)
theorem hill_block_48 : ∀ i ∈ List.range' 960 20, hillOK i = true := hill_block _ _ (by decide +kernel)
theorem hill_block_49 : ∀ i ∈ List.range' 980 20, hillOK i = true := hill_block _ _ (by decide +kernel)
end Hill

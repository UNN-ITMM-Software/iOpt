import IOptProofs.ProcessSameMethod
import IOptProofs.ProcessForget
import IOptProofs.ProcessField
/-!
# Resumed searches: the parameters `eps` / `itersLimit` changed in place between two `Solve` calls

The trial sequence does not depend on `eps` / `itersLimit` (`ProcessSameMethod`), and the global search never reads what
`DoLocalRefinement` overwrites (`ProcessForget`). So a first `Solve`, a resumed `Solve`, an uninterrupted reference run and any
number of resumptions all leave a state of the one canonical sequence (`Along`), up to the event log and what a
refinement overwrites; `solve_along` is the one statement the resumed-search results are read from: one more `Solve` goes on along
the sequence to the first index at which its criterion holds (`FirstStop`).

The sections differ in what they assume of the numeric type (the bare operations; a linear order where the stop criterion is read on
the trial sequence, `StopsAt`; an ordered field with the laws where "nothing raises" is proved): each lemma stands under the least it needs.
-/
set_option linter.unusedSectionVars false

namespace C03
open AGP AGP.Ctl Proc

/-- `CheckStopCondition` with accuracy `eps` and budget `L`, read on the trial sequence of `p` after `K`
trials: the budget is used up (`L ≤ K`), or one of the intervals subdivided so far (by trials `k ≤ K`) has
Hölder length `δ_k = delta p f k` below `eps`. -/
def StopsAt {α : Type} [Add α] [Sub α] [Mul α] [Div α] [Neg α] [LT α] [LE α]
    [DecidableLT α] [DecidableLE α] [OfNat α 0] [OfNat α 1] [OfNat α 2] [OfNat α 4] [Fns α]
    (p : Params α) (f : Nat → List α → Option α) (eps : α) (L : Nat) (K : Nat) : Prop :=
  L ≤ K ∨ ∃ k d, k ≤ K ∧ delta p f k = some d ∧ d < eps

section
variable {α : Type} [Add α] [Sub α] [Mul α] [Div α] [Neg α] [LinearOrder α]
  [OfNat α 0] [OfNat α 1] [OfNat α 2] [OfNat α 4] [Fns α]

theorem StopsAt.mono {p : Params α} {f : Nat → List α → Option α} {eps : α} {L K K' : Nat} (hK : K ≤ K')
    (h : StopsAt p f eps L K) : StopsAt p f eps L K' := by
  rcases h with h | ⟨k, d, hk, hd, hlt⟩
  · exact .inl (Nat.le_trans h hK)
  · exact .inr ⟨k, d, Nat.le_trans hk hK, hd, hlt⟩

theorem StopsAt.weaken {p : Params α} {f : Nat → List α → Option α} {eps eps' : α} {L L' K : Nat}
    (he : eps ≤ eps') (hL : L' ≤ L) (h : StopsAt p f eps L K) : StopsAt p f eps' L' K := by
  rcases h with h | ⟨k, d, hk, hd, hlt⟩
  · exact .inl (Nat.le_trans hL h)
  · exact .inr ⟨k, d, hk, hd, lt_of_lt_of_le hlt he⟩

theorem crit_iff_stopsAt {p1 p2 : Params α} (h : SameMethod p1 p2) (f : Nat → List α → Option α) (K : Nat) :
    Crit p2 f {} K ↔ StopsAt p1 f p2.eps p2.itersLimit K := by
  rw [crit_fresh_iff]
  unfold StopsAt
  constructor
  · rintro (⟨i, d, hi, hd, hlt⟩ | hl)
    · right
      refine ⟨i + 1, d, hi, ?_, hlt⟩
      show deltaAt p1 f {} (i + 1 - 1) = some d
      rw [← deltaAt_sameMethod h]; exact hd
    · exact .inl hl
  · rintro (hl | ⟨k, d, hk, hd, hlt⟩)
    · exact .inr hl
    · left
      rcases Nat.eq_zero_or_pos k with rfl | hk0
      · have : delta p1 f 0 = none := deltaAt_fresh_zero p1 f
        rw [this] at hd; cases hd
      · refine ⟨k - 1, d, by omega, ?_, hlt⟩
        rw [deltaAt_sameMethod h]; exact hd

end
end C03

section
variable {α : Type} [Add α] [Sub α] [Mul α] [Div α] [Neg α] [LT α] [LE α]
  [DecidableLT α] [DecidableLE α] [OfNat α 0] [OfNat α 1] [OfNat α 2] [OfNat α 4] [Fns α]

namespace Proc
open AGP AGP.Ctl

theorem iterN_le_prefix {p : Params α} {f : Nat → List α → Option α} {a b : Nat} {ps psa psb : PState α}
    {ida idb : List Nat} (hab : a ≤ b) (ha : iterN p f a ps = .ok (psa, ida)) (hb : iterN p f b ps = .ok (psb, idb)) :
    psa.evals <+: psb.evals := by
  rw [show b = a + (b - a) by omega] at hb
  obtain ⟨ps1, ids1, ids2, h1, h2, -⟩ := iterN_add_ok hb
  rw [ha] at h1; cases h1
  obtain ⟨new, hnew, -⟩ := (iterN_eff h2).evals
  exact ⟨new, hnew.symm⟩

/-- `ps` is state `K` of the canonical sequence from a fresh solver, up to the event log (`core`) and what a refinement overwrites
(`forget`) -/
def Along (p : Params α) (f : Nat → List α → Option α) (K : Nat) (ps : PState α) : Prop :=
  ∃ psK ids, iterN p f K {} = .ok (psK, ids) ∧ ps.forget.core = psK.forget.core

theorem along_fresh (p : Params α) (f : Nat → List α → Option α) : Along p f 0 ({} : PState α) :=
  ⟨{}, [], rfl, rfl⟩

theorem along_repr {ps psK : PState α} (hc : ps.forget.core = psK.forget.core) :
    ps.forget = ({ psK with log := ps.log } : PState α).forget :=
  PState.ext_core_log hc rfl

/-- what is read off a state `ps` that is state `K` of the canonical sequence (`psK`) up to `forget` and the log -/
structure AlongFacts (p : Params α) (f : Nat → List α → Option α) (K : Nat) (psK ps : PState α) : Prop where
  nTrials : ps.nTrials = K
  evals : ps.evals = psK.evals
  length : ps.evals.length = K
  iters : ps.iters = K
  calls : ps.calls = K
  minDelta : ps.minDelta = foldMin none (deltas p f {} K)
  oracle : ∀ i pt z, ps.evals[i]? = some (pt, z) → f i pt = some z

theorem along_fields {p : Params α} {f : Nat → List α → Option α} {K : Nat} {psK ps : PState α} {ids : List Nat}
    (hrun : iterN p f K {} = .ok (psK, ids)) (hc : ps.forget.core = psK.forget.core) : AlongFacts p f K psK ps := by
  have hc' : ps.core.forget = psK.core.forget := hc
  obtain ⟨e1, e2, -, e3, e4, e5, -⟩ := fields_of_forget hc'
  have e := iterN_eff hrun
  obtain ⟨new, hnew, -, hg⟩ := e.evals
  have he : ps.evals = psK.evals := e1
  exact {
    nTrials := e3.trans e.nTrials_fresh
    evals := he
    length := by rw [he, e.evals_length_fresh]
    iters := e4.trans e.iters_fresh
    calls := e2.trans e.calls_fresh
    minDelta := e5.trans (iterN_minDelta hrun)
    oracle := fun i pt z hi => by
      rw [he, hnew] at hi
      simpa using hg i pt z (by simpa using hi) }

theorem Along.nTrials {p : Params α} {f : Nat → List α → Option α} {K : Nat} {ps : PState α} (h : Along p f K ps) :
    ps.nTrials = K := by
  obtain ⟨psK, ids, hrun, hc⟩ := h
  exact (along_fields hrun hc).nTrials

theorem Along.same {p : Params α} {f : Nat → List α → Option α} {K : Nat} {ps ps' : PState α}
    (h : Along p f K ps) (h' : Along p f K ps') :
    ps.forget.core = ps'.forget.core ∧ ps.evals = ps'.evals ∧ ps.calls = ps'.calls ∧ ps.iters = ps'.iters ∧
    ps.minDelta = ps'.minDelta := by
  obtain ⟨psK, ids, hrun, hc⟩ := h
  obtain ⟨psK', ids', hrun', hc'⟩ := h'
  rw [hrun] at hrun'; cases hrun'
  have hF : ps.core.forget = ps'.core.forget := hc.trans hc'.symm
  obtain ⟨e, c, -, -, i, m, -⟩ := fields_of_forget hF
  exact ⟨hF, e, c, i, m⟩

theorem Along.evals_prefix {p : Params α} {f : Nat → List α → Option α} {K K' : Nat} {ps ps' : PState α}
    (hK : K ≤ K') (h : Along p f K ps) (h' : Along p f K' ps') : ps.evals <+: ps'.evals := by
  obtain ⟨psK, ids, hrun, hc⟩ := h
  obtain ⟨psK', ids', hrun', hc'⟩ := h'
  have e : ps.evals = psK.evals := congrArg (·.evals) hc
  have e' : ps'.evals = psK'.evals := congrArg (·.evals) hc'
  rw [e, e']
  exact iterN_le_prefix hK hrun hrun'

end Proc
end

section
variable {α : Type} [Add α] [Sub α] [Mul α] [Div α] [Neg α] [LinearOrder α]
  [OfNat α 0] [OfNat α 1] [OfNat α 2] [OfNat α 4] [Fns α]

namespace Proc
open AGP AGP.Ctl C03

variable {p q : Params α} {f : Nat → List α → Option α}

/-- `K'` is the first index from `K` on at which `StopsAt` holds: where a `Solve` with accuracy `eps` and budget `L`, started at
index `K` of the canonical sequence of `p`, stops (`solve_along`). -/
structure FirstStop (p : Params α) (f : Nat → List α → Option α) (eps : α) (L K K' : Nat) : Prop where
  le : K ≤ K'
  stops : StopsAt p f eps L K'
  first : ∀ j, K ≤ j → j < K' → ¬ StopsAt p f eps L j

theorem stopNow_iff_stopsAt (hs : SameMethod p q) {K : Nat} {psK : PState α} {ids : List Nat}
    (hrun : iterN p f K {} = .ok (psK, ids)) : stopNow q psK = true ↔ StopsAt p f q.eps q.itersLimit K := by
  rw [← iterN_sameMethod hs] at hrun
  rw [stopNow_iff_crit hrun, crit_iff_stopsAt hs]

theorem Along.stopNow_iff (hs : SameMethod p q) {K : Nat} {ps : PState α} (ha : Along p f K ps) :
    stopNow q ps = true ↔ StopsAt p f q.eps q.itersLimit K := by
  obtain ⟨psK, ids, hrun, hc⟩ := ha
  have h : stopNow q ps = stopNow q psK := stopNow_forget_congr (ps := ps.core) (ps' := psK.core) hc q
  rw [h, stopNow_iff_stopsAt hs hrun]

/-- `solve_along` below at the finer level "equal up to the event log only", for a `Solve` without refinement (`resume_core_exact`:
literally the same solver up to the log) -/
theorem solve_from (hs : SameMethod p q) {K : Nat} {psK ps : PState α} {ids : List Nat}
    (hrun : iterN p f K {} = .ok (psK, ids)) (hc : ps.core = psK.core)
    (hnr : (solveLoop q f (q.itersLimit + 1) ps).2 = false) :
    ∃ K' psK' ids', FirstStop p f q.eps q.itersLimit K K' ∧ iterN p f K' {} = .ok (psK', ids') ∧
      (solve q f (fun _ => none) ps).core = psK'.core := by
  have h0 : iterN q f K {} = .ok (psK, ids) := by rw [iterN_sameMethod hs]; exact hrun
  obtain ⟨j, psj, ids', r, Y, L⟩ := solve_passes q f ps
  have hpre := L.pre
  have hsl := L.loop
  rw [hsl] at hnr
  cases L.loopEnd with
  | raise _ _ => cases hnr
  | stop hst =>
    -- a run from `ps` continues the canonical sequence from index `K`
    have shift : ∀ {i : Nat} {psi : PState α} {idsi : List Nat}, iterN q f i ps = .ok (psi, idsi) →
        ∃ Y', iterN p f (K + i) {} = .ok (Y', ids ++ idsi) ∧ Y'.core = psi.core := fun hi => by
      obtain ⟨Y', h, hcY⟩ := iterN_shift h0 hc hi
      exact ⟨Y', by rw [← iterN_sameMethod hs]; exact h, hcY⟩
    obtain ⟨psK', hrunj, hcK⟩ := shift hpre.run
    have hstK : stopNow q psK' = true := by rw [stopNow_congr hcK]; exact hst
    refine ⟨K + j, psK', _, ⟨Nat.le_add_right _ _, (stopNow_iff_stopsAt hs hrunj).1 hstK, ?_⟩, hrunj, ?_⟩
    · intro i hi1 hi2 hcrit
      obtain ⟨psi, idsi, hri, hns⟩ := hpre.notStop (i - K) (by omega)
      obtain ⟨psi', hri', hci⟩ := shift hri
      rw [show K + (i - K) = i by omega] at hri'
      rw [← stopNow_congr hci, (stopNow_iff_stopsAt hs hri').2 hcrit] at hns
      cases hns
    · rw [solve_of_loop hsl]
      exact hcK.symm

/-- One more `Solve`, with parameters `q`, from a state along the canonical sequence, whatever refinements were or
are configured: the global search reads nothing a refinement overwrites, so it goes on along the same sequence from
index `K` to the first index `K' ≥ K` at which the criterion of `q` holds. -/
theorem solve_along (hs : SameMethod p q) {K : Nat} {ps : PState α} (ha : Along p f K ps)
    (hnr : (solveLoop q f (q.itersLimit + 1) ps).2 = false) (refine : PState α → Option (LocalResult α)) :
    ∃ K', FirstStop p f q.eps q.itersLimit K K' ∧ Along p f K' (solve q f refine ps) := by
  obtain ⟨psK, ids, hrun, hc⟩ := ha
  have hF := along_repr hc
  rw [(solveLoop_forget_congr q f _ hF).2] at hnr
  obtain ⟨K', psK', ids', hK', hrun', hcX⟩ :=
    solve_from hs hrun (ps := ({ psK with log := ps.log } : PState α)) rfl hnr
  refine ⟨K', hK', psK', _, hrun', ?_⟩
  rw [solve_forget_congr q f refine (fun _ => none) hF]
  exact congrArg PState.forget hcX

/-- a search resumed at index `K1` stops where the uninterrupted one does, or at once if that is behind it -/
theorem resume_max {eps : α} {L K1 K2 Ku : Nat} (h2 : FirstStop p f eps L K1 K2) (hu : FirstStop p f eps L 0 Ku) :
    K2 = max K1 Ku := by
  rcases Nat.le_total K1 Ku with h | h
  · rw [Nat.max_eq_right h]
    rcases Nat.lt_trichotomy K2 Ku with hlt | heq | hgt
    · exact absurd h2.stops (hu.first _ (Nat.zero_le _) hlt)
    · exact heq
    · exact absurd hu.stops (h2.first _ h hgt)
  · rw [Nat.max_eq_left h]
    rcases Nat.eq_or_lt_of_le h2.le with heq | hlt
    · exact heq.symm
    · exact absurd (hu.stops.mono h) (h2.first _ (Nat.le_refl _) hlt)

theorem resume_core_exact {p1 p2 : Params α} (hs : SameMethod p1 p2)
    (hnr1 : (solveLoop p1 f (p1.itersLimit + 1) {}).2 = false)
    (hnr2 : (solveLoop p2 f (p2.itersLimit + 1) (solve p1 f (fun _ => none) {})).2 = false)
    (hnrU : (solveLoop p2 f (p2.itersLimit + 1) {}).2 = false)
    (hle : (solve p1 f (fun _ => none) {}).nTrials ≤ (solve p2 f (fun _ => none) {}).nTrials) :
    (solve p2 f (fun _ => none) (solve p1 f (fun _ => none) {})).core = (solve p2 f (fun _ => none) {}).core := by
  have hrun0 : iterN p1 f 0 {} = .ok (({} : PState α), []) := rfl
  obtain ⟨K1, ps1, ids1, -, hrun1, hc1⟩ := solve_from (SameMethod.refl p1) hrun0 rfl hnr1
  obtain ⟨Ku, psU, idsU, hKu, hrunU, hcU⟩ := solve_from hs hrun0 rfl hnrU
  obtain ⟨K2, ps2, ids2, hK2, hrun2, hc2⟩ := solve_from hs hrun1 hc1 hnr2
  rw [PState.nTrials_congr hc1, PState.nTrials_congr hcU, (iterN_eff hrun1).nTrials_fresh,
    (iterN_eff hrunU).nTrials_fresh] at hle
  have hK : K2 = Ku := by
    rw [resume_max hK2 hKu]
    exact Nat.max_eq_right hle
  subst hK
  rw [hrunU] at hrun2; cases hrun2
  exact hc2.trans hcU.symm

end Proc
end

namespace Proc
open AGP AGP.Ctl C03
variable {α : Type} [Field α] [LinearOrder α] [IsStrictOrderedRing α] [Fns α]
variable {p q : Params α} {f : Nat → List α → Option α}

theorem along_no_raise (hL : FnsLaws α) (hr : 1 < p.r) (hn : 0 < p.n) (htot : ∀ i pt, f i pt ≠ none)
    (hs : SameMethod p q) {K : Nat} {ps : PState α} (ha : Along p f K ps) :
    (solveLoop q f (q.itersLimit + 1) ps).2 = false := by
  have hr2 : 1 < q.r := by rw [hs.2.1]; exact hr
  have hn2 : 0 < q.n := by rw [hs.1]; exact hn
  obtain ⟨psK, ids, hrun, hc⟩ := ha
  rw [(solveLoop_forget_congr q f _ (along_repr hc)).2]
  have hok : ProcOK q ({ psK with log := ps.log } : PState α) :=
    procOK_of_core (ps := psK) rfl ((procOK_sameMethod hs).2 (iterN_procOK (procOK_fresh p) hrun))
  exact (solveLoop_total hL hr2 hn2 htot (Nat.lt_succ_of_le (remaining_le q _)) hok).1

theorem resume_no_raise {p1 p2 : Params α} (hL : FnsLaws α) (hr : 1 < p1.r) (hn : 0 < p1.n)
    (htot : ∀ i pt, f i pt ≠ none) (hs : SameMethod p1 p2) (refine1 : PState α → Option (LocalResult α)) :
    (solveLoop p1 f (p1.itersLimit + 1) {}).2 = false ∧
    (solveLoop p2 f (p2.itersLimit + 1) (solve p1 f refine1 {})).2 = false ∧
    (solveLoop p2 f (p2.itersLimit + 1) {}).2 = false := by
  have h1 := along_no_raise hL hr hn htot (SameMethod.refl p1) (along_fresh p1 f)
  obtain ⟨K1, -, ha1⟩ := solve_along (SameMethod.refl p1) (along_fresh p1 f) h1 refine1
  exact ⟨h1, along_no_raise hL hr hn htot hs ha1, along_no_raise hL hr hn htot hs (along_fresh p1 f)⟩

end Proc

section
variable {α : Type} [Add α] [Sub α] [Mul α] [Div α] [Neg α] [LT α] [LE α]
  [DecidableLT α] [DecidableLE α] [OfNat α 0] [OfNat α 1] [OfNat α 2] [OfNat α 4] [Fns α]

namespace Proc
open AGP AGP.Ctl

def solveMany (f : Nat → List α → Option α) :
    List (Params α × (PState α → Option (LocalResult α))) → PState α → PState α
  | [], ps => ps
  | (q, r) :: t, ps => solveMany f t (solve q f r ps)

def NoRaiseMany (f : Nat → List α → Option α) :
    List (Params α × (PState α → Option (LocalResult α))) → PState α → Prop
  | [], _ => True
  | (q, r) :: t, ps => (solveLoop q f (q.itersLimit + 1) ps).2 = false ∧ NoRaiseMany f t (solve q f r ps)

end Proc
end

section
variable {α : Type} [Add α] [Sub α] [Mul α] [Div α] [Neg α] [LinearOrder α]
  [OfNat α 0] [OfNat α 1] [OfNat α 2] [OfNat α 4] [Fns α]

namespace Proc
open AGP AGP.Ctl C03
variable {p q : Params α} {f : Nat → List α → Option α}

def trialsAlone (f : Nat → List α → Option α) (q : Params α) : Nat := (solve q f (fun _ => none) {}).nTrials

theorem trialsAlone_spec (hs : SameMethod p q) (hnr : (solveLoop q f (q.itersLimit + 1) {}).2 = false) :
    FirstStop p f q.eps q.itersLimit 0 (trialsAlone f q) := by
  obtain ⟨Ku, hKu, ha⟩ := solve_along hs (along_fresh p f) hnr (fun _ => none)
  have hK : trialsAlone f q = Ku := ha.nTrials
  rw [hK]
  exact hKu

/-- Any number of resumptions from a state along the canonical sequence at index `K` end along the same sequence, at
index `max(K, max_q Ku(q))`, `Ku(q)` being the number of trials of one uninterrupted `Solve` with `q`. -/
theorem solveMany_along (qs : List (Params α × (PState α → Option (LocalResult α))))
    (hs : ∀ x ∈ qs, SameMethod p x.1) (hU : ∀ x ∈ qs, (solveLoop x.1 f (x.1.itersLimit + 1) {}).2 = false)
    {K : Nat} {ps : PState α} (ha : Along p f K ps) (hnr : NoRaiseMany f qs ps) :
    Along p f ((qs.map fun x => trialsAlone f x.1).foldl max K) (solveMany f qs ps) ∧
    (∀ x, qs.getLast? = some x → stopNow x.1 (solveMany f qs ps) = true) := by
  induction qs generalizing K ps with
  | nil => exact ⟨ha, fun x hx => by cases hx⟩
  | cons x t ih =>
    obtain ⟨q, r⟩ := x
    obtain ⟨hnr1, hnrt⟩ := hnr
    have hsq : SameMethod p q := hs (q, r) List.mem_cons_self
    obtain ⟨K', hK', ha'⟩ := solve_along hsq ha hnr1 r
    have hmax : K' = max K (trialsAlone f q) := resume_max hK' (trialsAlone_spec hsq (hU (q, r) List.mem_cons_self))
    have := ih (fun y hy => hs y (List.mem_cons_of_mem _ hy)) (fun y hy => hU y (List.mem_cons_of_mem _ hy)) ha' hnrt
    rw [hmax] at this
    refine ⟨this.1, ?_⟩
    intro y hy
    cases t with
    | nil =>
      simp only [List.getLast?_singleton, Option.some.injEq] at hy
      subst hy
      exact (ha'.stopNow_iff hsq).2 hK'.stops
    | cons z t' =>
      rw [List.getLast?_cons_cons] at hy
      exact this.2 y hy

end Proc
end

theorem Proc.le_foldl_max (l : List Nat) (a : Nat) : a ≤ l.foldl max a ∧ ∀ x ∈ l, x ≤ l.foldl max a := by
  induction l generalizing a with
  | nil => exact ⟨Nat.le_refl _, fun x hx => by cases hx⟩
  | cons y t ih =>
    obtain ⟨h1, h2⟩ := ih (max a y)
    refine ⟨Nat.le_trans (Nat.le_max_left _ _) h1, ?_⟩
    intro x hx
    rcases List.mem_cons.1 hx with rfl | hx
    · exact Nat.le_trans (Nat.le_max_right _ _) h1
    · exact h2 x hx

namespace Proc
open AGP AGP.Ctl C03
variable {α : Type} [Field α] [LinearOrder α] [IsStrictOrderedRing α] [Fns α]
variable {p q : Params α} {f : Nat → List α → Option α}

theorem noRaiseMany_total (hL : FnsLaws α) (hr : 1 < p.r) (hn : 0 < p.n) (htot : ∀ i pt, f i pt ≠ none)
    (qs : List (Params α × (PState α → Option (LocalResult α)))) (hs : ∀ x ∈ qs, SameMethod p x.1)
    {K : Nat} {ps : PState α} (ha : Along p f K ps) : NoRaiseMany f qs ps := by
  induction qs generalizing K ps with
  | nil => trivial
  | cons x t ih =>
    obtain ⟨q, r⟩ := x
    have hsq : SameMethod p q := hs (q, r) List.mem_cons_self
    have h1 := along_no_raise hL hr hn htot hsq ha
    obtain ⟨K', -, ha'⟩ := solve_along hsq ha h1 r
    exact ⟨h1, ih (fun y hy => hs y (List.mem_cons_of_mem _ hy)) ha'⟩

end Proc

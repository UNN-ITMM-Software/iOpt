import IOptModel.Method
/-!
# What `recalcAll`, `prepare`, `commit` and `firstIteration` return, field by field

The equations and inversions of the method's operations that hold over a bare numeric type: no arithmetic law and
no Mathlib. The invariants of the method (`MethodInv`) and the process layer (`Process`) both start from them.
The namespace `AGP.Ctl` ("control") holds those that follow the control flow of `prepare` (`selState`, `prepare_eq`, `prepare_ok`, the
records `Kept` / `SelFacts` of what it leaves alone), as opposed to the arithmetic of `commit` in `AGP` below.

The model's `commit` is a chain of `let`s. The proofs never unfold it: `commit_eq` presents it as one record update whose
components (`cNew2`, `cOld2`, `cM2`, `cZ`, `cBest`: the values of those `let`s, in the order of the source) are named here, and
its projections `commit_items_eq` … `commit_minDelta` are what the preservation proofs rewrite with.
-/

set_option linter.unusedSectionVars false

namespace AGP

/-- `findItem` through a map that keeps the ids (`eraseR`, `Item.forget`, `refineItem`) -/
theorem findItem_map {α : Type} (g : Item α → Item α) (hg : ∀ a, (g a).id = a.id) (l : List (Item α)) (id : Nat) :
    findItem (l.map g) id = (findItem l id).map g := by
  have : (fun it : Item α => it.id == id) ∘ g = fun it => it.id == id := funext fun a => by simp [hg]
  rw [findItem, List.find?_map, this]; rfl

theorem findItem_transfer {α : Type} {g : Item α → Item α} {l l' : List (Item α)} (h : l'.map g = l.map g)
    (hg : ∀ a, (g a).id = a.id) (id : Nat) : (findItem l' id).map g = (findItem l id).map g := by
  rw [← findItem_map g hg, h, findItem_map g hg]

end AGP

section
variable {α : Type} [Add α] [Sub α] [Mul α] [Div α] [Neg α] [LT α] [LE α]
  [DecidableLT α] [DecidableLE α] [OfNat α 0] [OfNat α 1] [OfNat α 2] [OfNat α 4] [Fns α]

namespace AGP.Ctl

/-- `recalcAll` followed by the refill of an empty queue: the state in which the selection is made -/
def selState (p : Params α) (s : State α) : State α :=
  let s := recalcAll p s
  if s.queue.isEmpty then { s with queue := refillQueue s.items } else s

/-- `s'` has the scalars of `s` that only `commit` writes: neither `recalcAll` nor the selection, whether it succeeds or
raises, touches them. -/
structure Kept (s' s : State α) : Prop where
  M : s'.M = s.M
  Z : s'.Z = s.Z
  best : s'.best = s.best
  iters : s'.iters = s.iters
  nTrials : s'.nTrials = s.nTrials
  nextId : s'.nextId = s.nextId

/-- `s'` is a state of the selection made from `s`: it is `recalcAll p s` up to the queue and `minDelta`, which the refill and the
pop write. What `selState`, `prepare` with a result and `prepare` with an exception have in common. -/
structure SelFacts (p : Params α) (s s' : State α) : Prop extends Kept s' s where
  items : s'.items = (recalcAll p s).items
  recalc : s'.recalc = false

theorem recalcAll_fields (p : Params α) (s : State α) : Kept (recalcAll p s) s := by
  unfold recalcAll
  split <;> exact { M := rfl, Z := rfl, best := rfl, iters := rfl, nTrials := rfl, nextId := rfl }

theorem recalcAll_minDelta (p : Params α) (s : State α) : (recalcAll p s).minDelta = s.minDelta := by
  unfold recalcAll
  split <;> rfl

/-- `recalcItems` writes the field `R` only (the function mapped is `eraseR`, which `ProcessFail` and
`MethodDefs` each name for their own use) -/
theorem recalcItems_map_R_none (r M Z : α) (l : Option (Item α)) (items : List (Item α)) :
    (recalcItems r M Z l items).map (fun it => { it with R := none }) =
      items.map (fun it => { it with R := none }) := by
  induction items generalizing l with
  | nil => cases l <;> rfl
  | cons it t ih =>
    cases l with
    | none => simp only [recalcItems, List.map_cons, ih]
    | some l => simp only [recalcItems, List.map_cons, ih]

theorem recalcAll_items_map_R_none (p : Params α) (s : State α) :
    (recalcAll p s).items.map (fun it => { it with R := none }) = s.items.map (fun it => { it with R := none }) := by
  unfold recalcAll
  split
  · exact recalcItems_map_R_none _ _ _ _ _
  · rfl

theorem selState_eq (p : Params α) (s : State α) :
    selState p s = { recalcAll p s with queue := (selState p s).queue } := by
  unfold selState
  simp only []
  split <;> rfl

theorem selState_fields (p : Params α) (s : State α) : SelFacts p s (selState p s) := by
  have hr : (recalcAll p s).recalc = false := by
    unfold recalcAll; split
    · rfl
    · next h => simpa using h
  rw [selState_eq]
  exact { recalcAll_fields p s with items := rfl, recalc := hr }

theorem selState_minDelta (p : Params α) (s : State α) : (selState p s).minDelta = s.minDelta := by
  rw [selState_eq]
  exact recalcAll_minDelta p s

theorem prepare_eq (p : Params α) (s : State α) : prepare p s =
    match (selState p s).queue with
    | [] => .error (selState p s, .emptyQueue)
    | (_, oid) :: q =>
      match findItem (selState p s).items oid with
      | none => .error ({ selState p s with queue := q }, .emptyQueue)
      | some old =>
        match leftOf (selState p s).items oid with
        | none => .error ({ selState p s with queue := q, minDelta := some (minOpt old.delta (selState p s).minDelta) }, .leftIsNone)
        | some left =>
          if nextX p (selState p s).M left old ≤ left.x ∨ old.x ≤ nextX p (selState p s).M left old then
            .error ({ selState p s with queue := q, minDelta := some (minOpt old.delta (selState p s).minDelta) }, .outsideInterval)
          else .ok { s := { selState p s with queue := q, minDelta := some (minOpt old.delta (selState p s).minDelta) },
                     old := old, left := left, x := nextX p (selState p s).M left old,
                     point := p.image (nextX p (selState p s).M left old) } := by
  rfl

/-- How a selection that succeeded got its result `pr` in `selState p s`: it popped `(k, oid)`, found the item with that id and its left
neighbour, and the new point lies strictly between them. -/
structure Selected (p : Params α) (s : State α) (pr : Prep α) (k : Option α) (oid : Nat) (q : List (Option α × Nat)) : Prop where
  queue : (selState p s).queue = (k, oid) :: q
  old : findItem (selState p s).items oid = some pr.old
  left : leftOf (selState p s).items oid = some pr.left
  s_eq : pr.s = { selState p s with queue := q, minDelta := some (minOpt pr.old.delta s.minDelta) }
  x : pr.x = nextX p s.M pr.left pr.old
  point : pr.point = p.image pr.x
  inside : ¬ (pr.x ≤ pr.left.x ∨ pr.old.x ≤ pr.x)

theorem prepare_ok {p : Params α} {s : State α} {pr : Prep α} (h : prepare p s = .ok pr) : ∃ k oid q, Selected p s pr k oid q := by
  rw [prepare_eq] at h
  split at h
  · cases h
  · next k oid q hq =>
    refine ⟨k, oid, q, ?_⟩
    split at h
    · cases h
    · next old hold =>
      split at h
      · cases h
      · next left hleft =>
        split at h
        · cases h
        · next hx =>
          cases h
          exact {
            queue := hq
            old := hold
            left := hleft
            s_eq := by simp only [selState_minDelta]
            x := by simp only [(selState_fields p s).M]
            point := rfl
            inside := hx }

/-- `pr.old` is the item of the returned list that carries the popped id, `pr.left` its left neighbour there -/
theorem prepare_ok_refs {p : Params α} {s : State α} {pr : Prep α} (hp : prepare p s = .ok pr) :
    findItem pr.s.items pr.old.id = some pr.old ∧ leftOf pr.s.items pr.old.id = some pr.left := by
  obtain ⟨k, oid, q, S⟩ := prepare_ok hp
  have hoid : pr.old.id = oid := by simpa using List.find?_some S.old
  rw [S.s_eq, hoid]
  exact ⟨S.old, S.left⟩

/-- what a successful selection leaves alone; the two fields it writes: the queue in `prepare_ok`, `minDelta` in `prepare_ok_minDelta` -/
theorem prepare_ok_fields {p : Params α} {s : State α} {pr : Prep α} (h : prepare p s = .ok pr) : SelFacts p s pr.s := by
  obtain ⟨k, oid, q, S⟩ := prepare_ok h
  rw [S.s_eq]
  exact { selState_fields p s with }

theorem prepare_ok_minDelta {p : Params α} {s : State α} {pr : Prep α} (h : prepare p s = .ok pr) :
    pr.s.minDelta = some (minOpt pr.old.delta s.minDelta) := by
  obtain ⟨k, oid, q, S⟩ := prepare_ok h
  rw [S.s_eq]

theorem prepare_ok_best {p : Params α} {s : State α} {pr : Prep α} (h : prepare p s = .ok pr) : pr.s.best = s.best :=
  (prepare_ok_fields h).best

theorem firstIteration_iters (p : Params α) (z : α) : (firstIteration p z).iters = 1 := rfl
theorem firstIteration_nTrials (p : Params α) (z : α) : (firstIteration p z).nTrials = 1 := rfl
theorem firstIteration_nextId (p : Params α) (z : α) : (firstIteration p z).nextId = 3 := rfl
theorem firstIteration_minDelta (p : Params α) (z : α) : (firstIteration p z).minDelta = none := rfl

/-- a selection that raises `e` leaves a state of the selection, and `e` is not what the objective raises -/
structure SelErrFacts (p : Params α) (s s' : State α) (e : Raise) : Prop extends SelFacts p s s' where
  ne_objective : e ≠ .objective

theorem prepare_error_fields {p : Params α} {s s' : State α} {e : Raise} (h : prepare p s = .error (s', e)) :
    SelErrFacts p s s' e := by
  rw [prepare_eq] at h
  repeat' split at h
  all_goals cases h
  all_goals exact { selState_fields p s with ne_objective := nofun }

end AGP.Ctl

namespace AGP

/-- whether `UpdateOptimum` replaces the best trial (the test as `commit` writes it) -/
def better (pr : Prep α) (z : α) : Bool :=
  match (findItem pr.s.items pr.s.best).map (·.z) with
  | some bz => decide (z < bz)
  | none => true

def cZ (pr : Prep α) (z : α) : α := if better pr z then z else pr.s.Z
def cBest (pr : Prep α) (z : α) : Nat := if better pr z then pr.s.nextId else pr.s.best
def cRc0 (pr : Prep α) (z : α) : Bool := if better pr z then true else pr.s.recalc
/-- the new item before its characteristic is computed -/
def cNew1 (p : Params α) (pr : Prep α) (z : α) : Item α :=
  { id := pr.s.nextId, x := pr.x, point := pr.point, z := z, hv := z, ev := true,
    delta := calcDelta p.n pr.left.x pr.x, R := none }
def cOld1 (p : Params α) (pr : Prep α) : Item α := { pr.old with delta := calcDelta p.n pr.x pr.old.x }
def cM1 (p : Params α) (pr : Prep α) (z : α) : α × Bool := calcM pr.s.M (cRc0 pr z) pr.left (cNew1 p pr z)
def cM2 (p : Params α) (pr : Prep α) (z : α) : α × Bool :=
  calcM (cM1 p pr z).1 (cM1 p pr z).2 (cNew1 p pr z) (cOld1 p pr)
def cNew2 (p : Params α) (pr : Prep α) (z : α) : Item α :=
  { cNew1 p pr z with R := some (calcR p.r (cM2 p pr z).1 (cZ pr z) pr.left (cNew1 p pr z)) }
def cOld2 (p : Params α) (pr : Prep α) (z : α) : Item α :=
  { cOld1 p pr with R := some (calcR p.r (cM2 p pr z).1 (cZ pr z) (cNew2 p pr z) (cOld1 p pr)) }

theorem commit_eq (p : Params α) (pr : Prep α) (z : α) : commit p pr z =
    { pr.s with
      items := insertBefore (cNew2 p pr z) (cOld2 p pr z) pr.s.items,
      queue := qinsert (qinsert pr.s.queue (cNew2 p pr z).R (cNew2 p pr z).id) (cOld2 p pr z).R (cOld2 p pr z).id,
      M := (cM2 p pr z).1, Z := cZ pr z, best := cBest pr z, recalc := (cM2 p pr z).2,
      iters := pr.s.iters + 1, nTrials := pr.s.nTrials + 1, nextId := pr.s.nextId + 1 } := by
  cases h : findItem pr.s.items pr.s.best with
  | none =>
    simp only [commit, better, h, Option.map, cZ, cBest, cRc0, cNew1, cOld1, cM1, cM2, cNew2, cOld2]; rfl
  | some bi =>
    by_cases hz : z < bi.z
    · simp only [commit, better, h, Option.map, hz, decide_true, cZ, cBest, cRc0, cNew1, cOld1, cM1, cM2, cNew2, cOld2]; rfl
    · simp only [commit, better, h, Option.map, hz, decide_false, cZ, cBest, cRc0, cNew1, cOld1, cM1, cM2, cNew2, cOld2]; rfl

section
variable (p : Params α) (pr : Prep α) (z : α)

theorem commit_items_eq : (commit p pr z).items = insertBefore (cNew2 p pr z) (cOld2 p pr z) pr.s.items :=
  congrArg State.items (commit_eq p pr z)
theorem commit_queue : (commit p pr z).queue =
    qinsert (qinsert pr.s.queue (cNew2 p pr z).R (cNew2 p pr z).id) (cOld2 p pr z).R (cOld2 p pr z).id :=
  congrArg State.queue (commit_eq p pr z)
theorem commit_M : (commit p pr z).M = (cM2 p pr z).1 := congrArg State.M (commit_eq p pr z)
theorem commit_Z : (commit p pr z).Z = cZ pr z := congrArg State.Z (commit_eq p pr z)
theorem commit_best : (commit p pr z).best = cBest pr z := congrArg State.best (commit_eq p pr z)
theorem commit_recalc : (commit p pr z).recalc = (cM2 p pr z).2 := congrArg State.recalc (commit_eq p pr z)
theorem commit_iters : (commit p pr z).iters = pr.s.iters + 1 := congrArg State.iters (commit_eq p pr z)
theorem commit_nTrials : (commit p pr z).nTrials = pr.s.nTrials + 1 := congrArg State.nTrials (commit_eq p pr z)
theorem commit_nextId : (commit p pr z).nextId = pr.s.nextId + 1 := congrArg State.nextId (commit_eq p pr z)
theorem commit_minDelta : (commit p pr z).minDelta = pr.s.minDelta :=
  (congrArg State.minDelta (commit_eq p pr z)).trans rfl

end

end AGP
end

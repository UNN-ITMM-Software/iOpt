import IOptProofs.GrishRows
/-! Kernel-evaluated certificates (V), (G), (P) of the Grishagin functions 51..60; one theorem per function,
so that the kernel's reduction cache is released between functions. -/
namespace Grish
theorem grish_ok_51 : grishOK 51 = true := grish_ok _ (by decide +kernel)
theorem grish_ok_52 : grishOK 52 = true := grish_ok _ (by decide +kernel)
theorem grish_ok_53 : grishOK 53 = true := grish_ok _ (by decide +kernel)
theorem grish_ok_54 : grishOK 54 = true := grish_ok _ (by decide +kernel)
theorem grish_ok_55 : grishOK 55 = true := grish_ok _ (by decide +kernel)
theorem grish_ok_56 : grishOK 56 = true := grish_ok _ (by decide +kernel)
theorem grish_ok_57 : grishOK 57 = true := grish_ok _ (by decide +kernel)
theorem grish_ok_58 : grishOK 58 = true := grish_ok _ (by decide +kernel)
theorem grish_ok_59 : grishOK 59 = true := grish_ok _ (by decide +kernel)
theorem grish_ok_60 : grishOK 60 = true := grish_ok _ (by decide +kernel)
end Grish

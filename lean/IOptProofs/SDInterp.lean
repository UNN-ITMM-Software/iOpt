import IOptProofs.SDInterpDefs
import IOptProofs.SDLinks
import IOptProofs.InterpAttr
import IOptProofs.Lookup
/-!
# The containers of `search_data.py`, taken from the SOURCE TEXT, are the model `SD`

`IOptGen/SearchDataCtlSrc.lean` (regenerated from `iOpt/method/search_data.py` on every run) holds the body of every method of
`CharacteristicsQueue`, `SearchData`, `SearchDataDualQueue` as a statement tree.  `IOptProofs/SDInterpDefs.lean` interprets such
trees, generically, over the model state `SD.State` (heap of items + `len(_allTrials)` + `curIter`), calling the other methods
through THEIR generated trees (`resolve`, `envN`).  Here the interpretation of the generated trees is proved to be the model
(the `_src` theorems: `SD.insert`, `SD.find`, `SD.refill`, `SD.clearQueue`, `SD.popMaxGlobal`, `SD.insertFirst`, `SD.popCurrent`,
the DEPQ contract `SD.qinsert`).  `Examples` runs the interpreter on the generated trees over `ℕ` and on seeded edits of them
(pointer writes reordered, the flag tested before it is reassigned, `Clear` re-creating the queue without `maxlen`).

Hypotheses (the notions and the facts about the container that do not mention the interpreter are at the end of
`IOptProofs/SDLinks.lean`).  `Closed s`: no dangling references (`first`, `left`, `right` are `None` or items of `trials`) —
true of every object graph Python can build; the model gives such references an ad-hoc meaning, the semantics is `stuck` on
them.  Iteration bound:
`ifuel = len(_allTrials)` (the cut of `SD.walk`; no well-formedness needed), or any `ifuel ≥ len(_allTrials)` on a well-linked
container (`RepL`, the link part of `SD.WF`; the `_wf` theorems).  Result types: `MOut.view` forgets `curIter`; `View.ofModel`
reads a model result.

How the file is built.  Look-ups are by index into tables whose keys are pairwise distinct (`List.lookup_at`), and all of
them are in the simp set `sd_eqs`; `sd_simp` runs a tree on a symbolic heap.  Every method first gets a contract at heap level
(`cq_*`, `sd_iter`, `sd_next`, `find_call`, `refill_call`, `getMaxGlobalR_call`, `pop_call`, `insertDataItem_run`): any
`len(_allTrials)`, any `curIter`, references below any bound `N` (`ClosedN`), so that the contract also holds on the heap with
the pending item and inside a caller.  The loops are inductions on the fuel along `SD.walk` (`find_loop`, `refill_loop`) or on
`wfuel` (`popLoop`); where the two classes differ, the class's text is a parameter with its specification (`QsSpec`,
`StepSpec`, `CndSpec`, the environment of `refill_run` / `popBase_run`).  `X_src_walk` (for the pops
`getMaxGlobalR_call`, `dualPops_src`) reads the contract through `MOut.view` under `walk s c.ifuel s.first = traversal s`;
`X_src` and `X_src_wf` are its two instances.

Where source and model differ (stated in the theorems, not hidden):
* on an EMPTY container (`first = None`) `for … in self` raises `StopIteration` out of `__iter__` (a plain function, not a
  generator), so `FindDataItemByOneDimensionalPoint`, `RefillQueue`, and through them `InsertDataItem` without hint and
  `GetDataItemWithMaxGlobalR` with an empty queue raise `StopIteration`; the model says `AttributeError` / `IndexError`
  (`insExpect`, `popExpect`);
* the base class never touches the local queue, `SD.clearQueue` / `SD.refill` reset `lq` whatever `dual` is: equal when
  `s.dual = false → s.lq = []` (`refillState`, `clearQueue_src'`);
* the `while` of the dual-queue pops is bounded by `wfuel`: the semantics says `outOfFuel` where `SD.popCurrent` says
  `IndexError` (`popCurrentO`, `popCurExpect_model`).
-/

-- one argument list serves several cases (`cases … <;> sd_simp […]`), and not every case uses every argument
set_option linter.unusedSimpArgs false

namespace SDInterp
open SD Gen.ProcSrc Gen.SearchDataCtl

theorem exprTable_nodup : (exprTable.map Prod.fst).Nodup := by decide +kernel
theorem calleeTable_nodup : (calleeTable.map Prod.fst).Nodup := by decide +kernel
theorem lvalTable_nodup : (lvalTable.map Prod.fst).Nodup := by decide +kernel
theorem cqMethods_nodup : (cqMethods.map Prod.fst).Nodup := by decide +kernel
theorem baseMethods_nodup : (baseMethods.map Prod.fst).Nodup := by decide +kernel
theorem dualMethods_nodup : (dualMethods.map Prod.fst).Nodup := by decide +kernel

theorem resolve_gq (b : Bool) {m : String} {pb : List String × List Stmt} (h : cqMethods.lookup m = some pb) :
    resolve b .gq m = some (.cq, pb) := by
  simp only [resolve, h, Option.map_some]
theorem resolve_lq (b : Bool) {m : String} {pb : List String × List Stmt} (h : cqMethods.lookup m = some pb) :
    resolve b .lq m = some (.cq, pb) := by
  simp only [resolve, h, Option.map_some]
theorem resolve_base {m : String} {pb : List String × List Stmt} (h : baseMethods.lookup m = some pb) :
    resolve false .sd m = some (.base, pb) := by
  simp only [resolve, Bool.false_eq_true, ↓reduceIte, h, Option.map_some]
theorem resolve_dual {m : String} {pb : List String × List Stmt} (h : dualMethods.lookup m = some pb) :
    resolve true .sd m = some (.dual, pb) := by
  simp only [resolve, ↓reduceIte, h]
theorem resolve_inherited (b : Bool) {m : String} {pb : List String × List Stmt} (hd : dualMethods.lookup m = none)
    (h : baseMethods.lookup m = some pb) : resolve b .sd m = some (.base, pb) := by
  cases b <;> simp only [resolve, Bool.false_eq_true, ↓reduceIte, hd, h, Option.map_some]

theorem ex_0 : exprTable.lookup "key" = some (Expr.var "key") := List.lookup_at exprTable_nodup 0 rfl
theorem ex_1 : exprTable.lookup "dataItem" = some (Expr.var "dataItem") := List.lookup_at exprTable_nodup 1 rfl
theorem ex_2 : exprTable.lookup "newDataItem" = some (Expr.var "newDataItem") := List.lookup_at exprTable_nodup 2 rfl
theorem ex_3 : exprTable.lookup "rightDataItem" = some (Expr.var "rightDataItem") := List.lookup_at exprTable_nodup 3 rfl
theorem ex_4 : exprTable.lookup "leftDataItem" = some (Expr.var "leftDataItem") := List.lookup_at exprTable_nodup 4 rfl
theorem ex_5 : exprTable.lookup "x" = some (Expr.var "x") := List.lookup_at exprTable_nodup 5 rfl
theorem ex_6 : exprTable.lookup "item" = some (Expr.var "item") := List.lookup_at exprTable_nodup 6 rfl
theorem ex_7 : exprTable.lookup "itr" = some (Expr.var "itr") := List.lookup_at exprTable_nodup 7 rfl
theorem ex_8 : exprTable.lookup "flag" = some (Expr.var "flag") := List.lookup_at exprTable_nodup 8 rfl
theorem ex_9 : exprTable.lookup "tmp" = some (Expr.var "tmp") := List.lookup_at exprTable_nodup 9 rfl
theorem ex_10 : exprTable.lookup "None" = some (Expr.litNone) := List.lookup_at exprTable_nodup 10 rfl
theorem ex_11 : exprTable.lookup "True" = some (Expr.litTrue) := List.lookup_at exprTable_nodup 11 rfl
theorem ex_12 : exprTable.lookup "False" = some (Expr.litFalse) := List.lookup_at exprTable_nodup 12 rfl
theorem ex_13 : exprTable.lookup "'GetLastItem: List is empty'" = some (Expr.litStr) := List.lookup_at exprTable_nodup 13 rfl
theorem ex_14 : exprTable.lookup "self" = some (Expr.self) := List.lookup_at exprTable_nodup 14 rfl
theorem ex_15 : exprTable.lookup "self.__firstDataItem" = some (Expr.fFirst) := List.lookup_at exprTable_nodup 15 rfl
theorem ex_16 : exprTable.lookup "self.curIter" = some (Expr.fCur) := List.lookup_at exprTable_nodup 16 rfl
theorem ex_17 : exprTable.lookup "newDataItem.GetX()" = some (Expr.acc (Acc.getX) (Expr.var "newDataItem")) := List.lookup_at exprTable_nodup 17 rfl
theorem ex_18 : exprTable.lookup "rightDataItem.GetLeft()" = some (Expr.acc (Acc.getLeft) (Expr.var "rightDataItem")) := List.lookup_at exprTable_nodup 18 rfl
theorem ex_19 : exprTable.lookup "newDataItem.globalR" = some (Expr.acc (Acc.globalR) (Expr.var "newDataItem")) := List.lookup_at exprTable_nodup 19 rfl
theorem ex_20 : exprTable.lookup "newDataItem.localR" = some (Expr.acc (Acc.localR) (Expr.var "newDataItem")) := List.lookup_at exprTable_nodup 20 rfl
theorem ex_21 : exprTable.lookup "rightDataItem.globalR" = some (Expr.acc (Acc.globalR) (Expr.var "rightDataItem")) := List.lookup_at exprTable_nodup 21 rfl
theorem ex_22 : exprTable.lookup "rightDataItem.localR" = some (Expr.acc (Acc.localR) (Expr.var "rightDataItem")) := List.lookup_at exprTable_nodup 22 rfl
theorem ex_23 : exprTable.lookup "itr.globalR" = some (Expr.acc (Acc.globalR) (Expr.var "itr")) := List.lookup_at exprTable_nodup 23 rfl
theorem ex_24 : exprTable.lookup "itr.localR" = some (Expr.acc (Acc.localR) (Expr.var "itr")) := List.lookup_at exprTable_nodup 24 rfl
theorem ex_25 : exprTable.lookup "rightDataItem is None" = some (Expr.isNone (Expr.var "rightDataItem")) := List.lookup_at exprTable_nodup 25 rfl
theorem ex_26 : exprTable.lookup "self.curIter is None" = some (Expr.isNone (Expr.fCur)) := List.lookup_at exprTable_nodup 26 rfl
theorem ex_27 : exprTable.lookup "item.GetX() > x" = some (Expr.gt (Expr.acc (Acc.getX) (Expr.var "item")) (Expr.var "x")) := List.lookup_at exprTable_nodup 27 rfl
theorem ex_28 : exprTable.lookup "self._RGlobalQueue.IsEmpty()" = some (Expr.call0 (Expr.fGq) "IsEmpty") := List.lookup_at exprTable_nodup 28 rfl
theorem ex_29 : exprTable.lookup "self.__RLocalQueue.IsEmpty()" = some (Expr.call0 (Expr.fLq) "IsEmpty") := List.lookup_at exprTable_nodup 29 rfl
theorem ex_30 : exprTable.lookup "self._RGlobalQueue.GetBestItem()[0]" = some (Expr.idx0 (Expr.call0 (Expr.fGq) "GetBestItem")) := List.lookup_at exprTable_nodup 30 rfl
theorem ex_31 : exprTable.lookup "bestItem[0]" = some (Expr.idx0 (Expr.var "bestItem")) := List.lookup_at exprTable_nodup 31 rfl
theorem ex_32 : exprTable.lookup "bestItem[1] != bestItem[0].globalR" = some (Expr.ne
  (Expr.idx1 (Expr.var "bestItem"))
  (Expr.acc (Acc.globalR) (Expr.idx0 (Expr.var "bestItem")))) := List.lookup_at exprTable_nodup 32 rfl
theorem ex_33 : exprTable.lookup "bestItem[1] != bestItem[0].localR" = some (Expr.ne
  (Expr.idx1 (Expr.var "bestItem"))
  (Expr.acc (Acc.localR) (Expr.idx0 (Expr.var "bestItem")))) := List.lookup_at exprTable_nodup 33 rfl
theorem ex_34 : exprTable.lookup "self.__baseQueue.popfirst()" = some (Expr.qPopfirst) := List.lookup_at exprTable_nodup 34 rfl
theorem ex_35 : exprTable.lookup "self.__baseQueue.is_empty()" = some (Expr.qIsEmpty) := List.lookup_at exprTable_nodup 35 rfl
theorem ex_36 : exprTable.lookup "self.__baseQueue.maxlen" = some (Expr.qMaxlen) := List.lookup_at exprTable_nodup 36 rfl
theorem ex_37 : exprTable.lookup "len(self.__baseQueue)" = some (Expr.qLen) := List.lookup_at exprTable_nodup 37 rfl
theorem ex_38 : exprTable.lookup "len(self._allTrials)" = some (Expr.lenAll) := List.lookup_at exprTable_nodup 38 rfl
theorem ex_39 : exprTable.lookup "self._allTrials[-1]" = some (Expr.lastAll) := List.lookup_at exprTable_nodup 39 rfl
theorem ce_0 : calleeTable.lookup "self.__baseQueue.clear" = some (Callee.qClear) := List.lookup_at calleeTable_nodup 0 rfl
theorem ce_1 : calleeTable.lookup "self.__baseQueue.insert" = some (Callee.qInsert) := List.lookup_at calleeTable_nodup 1 rfl
theorem ce_2 : calleeTable.lookup "self._RGlobalQueue.Clear" = some (Callee.method (Expr.fGq) "Clear") := List.lookup_at calleeTable_nodup 2 rfl
theorem ce_3 : calleeTable.lookup "self._RGlobalQueue.Insert" = some (Callee.method (Expr.fGq) "Insert") := List.lookup_at calleeTable_nodup 3 rfl
theorem ce_4 : calleeTable.lookup "self._RGlobalQueue.GetBestItem" = some (Callee.method (Expr.fGq) "GetBestItem") := List.lookup_at calleeTable_nodup 4 rfl
theorem ce_5 : calleeTable.lookup "self.__RLocalQueue.Clear" = some (Callee.method (Expr.fLq) "Clear") := List.lookup_at calleeTable_nodup 5 rfl
theorem ce_6 : calleeTable.lookup "self.__RLocalQueue.Insert" = some (Callee.method (Expr.fLq) "Insert") := List.lookup_at calleeTable_nodup 6 rfl
theorem ce_7 : calleeTable.lookup "self.__RLocalQueue.GetBestItem" = some (Callee.method (Expr.fLq) "GetBestItem") := List.lookup_at calleeTable_nodup 7 rfl
theorem ce_8 : calleeTable.lookup "self.FindDataItemByOneDimensionalPoint" = some (Callee.method (Expr.self) "FindDataItemByOneDimensionalPoint") := List.lookup_at calleeTable_nodup 8 rfl
theorem ce_9 : calleeTable.lookup "self.RefillQueue" = some (Callee.method (Expr.self) "RefillQueue") := List.lookup_at calleeTable_nodup 9 rfl
theorem ce_10 : calleeTable.lookup "self.ClearQueue" = some (Callee.method (Expr.self) "ClearQueue") := List.lookup_at calleeTable_nodup 10 rfl
theorem ce_11 : calleeTable.lookup "newDataItem.SetLeft" = some (Callee.setLeft (Expr.var "newDataItem")) := List.lookup_at calleeTable_nodup 11 rfl
theorem ce_12 : calleeTable.lookup "rightDataItem.SetLeft" = some (Callee.setLeft (Expr.var "rightDataItem")) := List.lookup_at calleeTable_nodup 12 rfl
theorem ce_13 : calleeTable.lookup "newDataItem.SetRight" = some (Callee.setRight (Expr.var "newDataItem")) := List.lookup_at calleeTable_nodup 13 rfl
theorem ce_14 : calleeTable.lookup "leftDataItem.SetRight" = some (Callee.setRight (Expr.var "leftDataItem")) := List.lookup_at calleeTable_nodup 14 rfl
theorem ce_15 : calleeTable.lookup "newDataItem.GetLeft().SetRight" = some (Callee.setRight (Expr.acc (Acc.getLeft) (Expr.var "newDataItem"))) := List.lookup_at calleeTable_nodup 15 rfl
theorem ce_16 : calleeTable.lookup "self._allTrials.append" = some (Callee.append) := List.lookup_at calleeTable_nodup 16 rfl
theorem ce_17 : calleeTable.lookup "self.curIter.GetRight" = some (Callee.pure (Expr.acc (Acc.getRight) (Expr.fCur))) := List.lookup_at calleeTable_nodup 17 rfl
-- entry 18 of the table is `"DEPQ"` (`ce_depq` below)
theorem ce_18 : calleeTable.lookup "print" = some (Callee.print) := List.lookup_at calleeTable_nodup 19 rfl
theorem lv_0 : lvalTable.lookup "flag" = some (LVal.loc "flag") := List.lookup_at lvalTable_nodup 0 rfl
theorem lv_1 : lvalTable.lookup "rightDataItem" = some (LVal.loc "rightDataItem") := List.lookup_at lvalTable_nodup 1 rfl
theorem lv_2 : lvalTable.lookup "tmp" = some (LVal.loc "tmp") := List.lookup_at lvalTable_nodup 2 rfl
theorem lv_3 : lvalTable.lookup "bestItem" = some (LVal.loc "bestItem") := List.lookup_at lvalTable_nodup 3 rfl
theorem lv_4 : lvalTable.lookup "item" = some (LVal.loc "item") := List.lookup_at lvalTable_nodup 4 rfl
theorem lv_5 : lvalTable.lookup "itr" = some (LVal.loc "itr") := List.lookup_at lvalTable_nodup 5 rfl
theorem lv_6 : lvalTable.lookup "self.curIter" = some (LVal.cur) := List.lookup_at lvalTable_nodup 6 rfl
theorem lv_7 : lvalTable.lookup "self.__firstDataItem" = some (LVal.first) := List.lookup_at lvalTable_nodup 7 rfl
theorem rs_gq_Clear (b : Bool) : resolve b .gq "Clear" = some (.cq, characteristicsQueue_ClearParams, characteristicsQueue_Clear) :=
  resolve_gq b (List.lookup_at cqMethods_nodup 1 rfl)
theorem rs_lq_Clear (b : Bool) : resolve b .lq "Clear" = some (.cq, characteristicsQueue_ClearParams, characteristicsQueue_Clear) :=
  resolve_lq b (List.lookup_at cqMethods_nodup 1 rfl)
theorem rs_gq_Insert (b : Bool) : resolve b .gq "Insert" = some (.cq, characteristicsQueue_InsertParams, characteristicsQueue_Insert) :=
  resolve_gq b (List.lookup_at cqMethods_nodup 2 rfl)
theorem rs_lq_Insert (b : Bool) : resolve b .lq "Insert" = some (.cq, characteristicsQueue_InsertParams, characteristicsQueue_Insert) :=
  resolve_lq b (List.lookup_at cqMethods_nodup 2 rfl)
theorem rs_gq_GetBestItem (b : Bool) : resolve b .gq "GetBestItem" = some (.cq, characteristicsQueue_GetBestItemParams, characteristicsQueue_GetBestItem) :=
  resolve_gq b (List.lookup_at cqMethods_nodup 3 rfl)
theorem rs_lq_GetBestItem (b : Bool) : resolve b .lq "GetBestItem" = some (.cq, characteristicsQueue_GetBestItemParams, characteristicsQueue_GetBestItem) :=
  resolve_lq b (List.lookup_at cqMethods_nodup 3 rfl)
theorem rs_gq_IsEmpty (b : Bool) : resolve b .gq "IsEmpty" = some (.cq, characteristicsQueue_IsEmptyParams, characteristicsQueue_IsEmpty) :=
  resolve_gq b (List.lookup_at cqMethods_nodup 4 rfl)
theorem rs_lq_IsEmpty (b : Bool) : resolve b .lq "IsEmpty" = some (.cq, characteristicsQueue_IsEmptyParams, characteristicsQueue_IsEmpty) :=
  resolve_lq b (List.lookup_at cqMethods_nodup 4 rfl)
theorem rs_gq_GetMaxLen (b : Bool) : resolve b .gq "GetMaxLen" = some (.cq, characteristicsQueue_GetMaxLenParams, characteristicsQueue_GetMaxLen) :=
  resolve_gq b (List.lookup_at cqMethods_nodup 5 rfl)
theorem rs_lq_GetMaxLen (b : Bool) : resolve b .lq "GetMaxLen" = some (.cq, characteristicsQueue_GetMaxLenParams, characteristicsQueue_GetMaxLen) :=
  resolve_lq b (List.lookup_at cqMethods_nodup 5 rfl)
theorem rs_gq_GetLen (b : Bool) : resolve b .gq "GetLen" = some (.cq, characteristicsQueue_GetLenParams, characteristicsQueue_GetLen) :=
  resolve_gq b (List.lookup_at cqMethods_nodup 6 rfl)
theorem rs_lq_GetLen (b : Bool) : resolve b .lq "GetLen" = some (.cq, characteristicsQueue_GetLenParams, characteristicsQueue_GetLen) :=
  resolve_lq b (List.lookup_at cqMethods_nodup 6 rfl)
theorem rs_base_ClearQueue : resolve false .sd "ClearQueue" = some (.base, searchData_ClearQueueParams, searchData_ClearQueue) :=
  resolve_base (List.lookup_at baseMethods_nodup 0 rfl)
theorem rs_base_InsertDataItem : resolve false .sd "InsertDataItem" = some (.base, searchData_InsertDataItemParams, searchData_InsertDataItem) :=
  resolve_base (List.lookup_at baseMethods_nodup 1 rfl)
theorem rs_sd_InsertFirstDataItem (b : Bool) : resolve b .sd "InsertFirstDataItem" = some (.base, searchData_InsertFirstDataItemParams, searchData_InsertFirstDataItem) :=
  resolve_inherited b (List.lookup_none (by decide +kernel)) (List.lookup_at baseMethods_nodup 2 rfl)
theorem rs_sd_FindDataItemByOneDimensionalPoint (b : Bool) : resolve b .sd "FindDataItemByOneDimensionalPoint" = some (.base, searchData_FindDataItemByOneDimensionalPointParams, searchData_FindDataItemByOneDimensionalPoint) :=
  resolve_inherited b (List.lookup_none (by decide +kernel)) (List.lookup_at baseMethods_nodup 3 rfl)
theorem rs_base_GetDataItemWithMaxGlobalR : resolve false .sd "GetDataItemWithMaxGlobalR" = some (.base, searchData_GetDataItemWithMaxGlobalRParams, searchData_GetDataItemWithMaxGlobalR) :=
  resolve_base (List.lookup_at baseMethods_nodup 4 rfl)
theorem rs_base_RefillQueue : resolve false .sd "RefillQueue" = some (.base, searchData_RefillQueueParams, searchData_RefillQueue) :=
  resolve_base (List.lookup_at baseMethods_nodup 5 rfl)
theorem rs_sd_GetCount (b : Bool) : resolve b .sd "GetCount" = some (.base, searchData_GetCountParams, searchData_GetCount) :=
  resolve_inherited b (List.lookup_none (by decide +kernel)) (List.lookup_at baseMethods_nodup 6 rfl)
theorem rs_sd_GetLastItem (b : Bool) : resolve b .sd "GetLastItem" = some (.base, searchData_GetLastItemParams, searchData_GetLastItem) :=
  resolve_inherited b (List.lookup_none (by decide +kernel)) (List.lookup_at baseMethods_nodup 7 rfl)
theorem rs_sd_iter (b : Bool) : resolve b .sd "__iter__" = some (.base, searchData_iterParams, searchData_iter) :=
  resolve_inherited b (List.lookup_none (by decide +kernel)) (List.lookup_at baseMethods_nodup 10 rfl)
theorem rs_sd_next (b : Bool) : resolve b .sd "__next__" = some (.base, searchData_nextParams, searchData_next) :=
  resolve_inherited b (List.lookup_none (by decide +kernel)) (List.lookup_at baseMethods_nodup 11 rfl)
theorem rs_dual_ClearQueue : resolve true .sd "ClearQueue" = some (.dual, searchDataDualQueue_ClearQueueParams, searchDataDualQueue_ClearQueue) :=
  resolve_dual (List.lookup_at dualMethods_nodup 0 rfl)
theorem rs_dual_InsertDataItem : resolve true .sd "InsertDataItem" = some (.dual, searchDataDualQueue_InsertDataItemParams, searchDataDualQueue_InsertDataItem) :=
  resolve_dual (List.lookup_at dualMethods_nodup 1 rfl)
theorem rs_dual_GetDataItemWithMaxGlobalR : resolve true .sd "GetDataItemWithMaxGlobalR" = some (.dual, searchDataDualQueue_GetDataItemWithMaxGlobalRParams, searchDataDualQueue_GetDataItemWithMaxGlobalR) :=
  resolve_dual (List.lookup_at dualMethods_nodup 2 rfl)
theorem rs_dual_GetDataItemWithMaxLocalR : resolve true .sd "GetDataItemWithMaxLocalR" = some (.dual, searchDataDualQueue_GetDataItemWithMaxLocalRParams, searchDataDualQueue_GetDataItemWithMaxLocalR) :=
  resolve_dual (List.lookup_at dualMethods_nodup 3 rfl)
theorem rs_dual_RefillQueue : resolve true .sd "RefillQueue" = some (.dual, searchDataDualQueue_RefillQueueParams, searchDataDualQueue_RefillQueue) :=
  resolve_dual (List.lookup_at dualMethods_nodup 4 rfl)
theorem ce_depq : calleeTable.lookup "DEPQ" = some .depqNew := List.lookup_at calleeTable_nodup 18 rfl
theorem lv_baseQueue : lvalTable.lookup "self.__baseQueue" = some .baseQueue := List.lookup_at lvalTable_nodup 8 rfl
theorem rs_gq_init (b : Bool) : resolve b .gq "__init__" = some (.cq, characteristicsQueue_initParams, characteristicsQueue_init) :=
  resolve_gq b (List.lookup_at cqMethods_nodup 0 rfl)
theorem rs_sd_SaveProgress (b : Bool) : resolve b .sd "SaveProgress" = some (.base, searchData_SaveProgressParams, searchData_SaveProgress) :=
  resolve_inherited b (List.lookup_none (by decide +kernel)) (List.lookup_at baseMethods_nodup 8 rfl)
theorem rs_sd_LoadProgress (b : Bool) : resolve b .sd "LoadProgress" = some (.base, searchData_LoadProgressParams, searchData_LoadProgress) :=
  resolve_inherited b (List.lookup_none (by decide +kernel)) (List.lookup_at baseMethods_nodup 9 rfl)

theorem toOpt_ofOpt {χ κ : Type} (o : Option Nat) : (Val.ofOpt o : Val χ κ).toOpt = some o := by cases o <;> rfl
theorem toOpt_ref {χ κ : Type} (i : Nat) : (Val.ref i : Val χ κ).toOpt = some (some i) := rfl
theorem toOpt_none {χ κ : Type} : (Val.none : Val χ κ).toOpt = some none := rfl
theorem ofOpt_some {χ κ : Type} (i : Nat) : (Val.ofOpt (some i) : Val χ κ) = .ref i := rfl
theorem ofOpt_none {χ κ : Type} : (Val.ofOpt none : Val χ κ) = .none := rfl

theorem envN_succ {χ κ : Type} (c : Ctx χ κ) (d : Nat) (o : Obj) (m : String) (args : List (Val χ κ)) (g : Heap χ κ) :
    envN c (d+1) o m args g =
      match resolve g.s.dual o m with
      | none => .stuck
      | some (cls, params, body) => runBody c (envN c d) { cls := cls, self := o } params body args g := rfl

attribute [sd_eqs] runBody bindParams execList execStmt evalCallee evalArgs evalExpr bindTargets assignLVal setLink readAcc
  MOut.toEOut Frame.isSd Heap.queue Heap.setQueue toOpt_ofOpt toOpt_ref toOpt_none ofOpt_some ofOpt_none
  List.length_cons List.length_nil List.zip_cons_cons List.zip_nil_right List.zip_nil_left List.lookup_cons List.lookup_nil
  beq_self_eq_true Bool.and_self Bool.and_true Bool.true_and and_self and_true true_and bne_iff_ne ne_eq not_false_eq_true
  decide_true decide_false Bool.not_eq_true Bool.false_eq_true
  ex_0 ex_1 ex_2 ex_3 ex_4 ex_5 ex_6 ex_7 ex_8 ex_9 ex_10 ex_11 ex_12 ex_13 ex_14 ex_15 ex_16 ex_17 ex_18 ex_19 ex_20 ex_21 ex_22
  ex_23 ex_24 ex_25 ex_26 ex_27 ex_28 ex_29 ex_30 ex_31 ex_32 ex_33 ex_34 ex_35 ex_36 ex_37 ex_38 ex_39
  ce_0 ce_1 ce_2 ce_3 ce_4 ce_5 ce_6 ce_7 ce_8 ce_9 ce_10 ce_11 ce_12 ce_13 ce_14 ce_15 ce_16 ce_17 ce_18 ce_depq
  lv_0 lv_1 lv_2 lv_3 lv_4 lv_5 lv_6 lv_7 lv_baseQueue
  rs_gq_Clear rs_lq_Clear rs_gq_Insert rs_lq_Insert rs_gq_GetBestItem rs_lq_GetBestItem rs_gq_IsEmpty rs_lq_IsEmpty
  rs_gq_GetMaxLen rs_lq_GetMaxLen rs_gq_GetLen rs_lq_GetLen rs_gq_init rs_base_ClearQueue rs_base_InsertDataItem
  rs_sd_InsertFirstDataItem rs_sd_FindDataItemByOneDimensionalPoint rs_base_GetDataItemWithMaxGlobalR rs_base_RefillQueue
  rs_sd_GetCount rs_sd_GetLastItem rs_sd_iter rs_sd_next rs_sd_SaveProgress rs_sd_LoadProgress rs_dual_ClearQueue
  rs_dual_InsertDataItem rs_dual_GetDataItemWithMaxGlobalR rs_dual_GetDataItemWithMaxLocalR rs_dual_RefillQueue

/-- symbolic execution of the interpreter: rewrite with its equations and the table look-ups (`sd_eqs`), evaluate the string
comparisons of the look-ups among the locals and the tests on literals -/
syntax "sd_simp" (" [" Lean.Parser.Tactic.simpLemma,* "]")? (Lean.Parser.Tactic.location)? : tactic
macro_rules
  | `(tactic| sd_simp $[[$xs,*]]? $[$loc]?) => do
    let xs : Array (Lean.TSyntax `Lean.Parser.Tactic.simpLemma) := match xs with | some xs => xs.getElems | none => #[]
    `(tactic| simp only [sd_eqs, ↓reduceIte, String.reduceBEq, reduceCtorEq, $xs,*] $[$loc]?)

section
variable {χ κ : Type}

/-- `Insert` / `Clear` of either queue object, on the DEPQ behind it (`Heap.queue`, `Heap.setQueue`) -/
theorem cq_Insert (c : Ctx χ κ) (d : Nat) (o : Obj) (ho : o ≠ .sd) (k : κ) (i : Nat) (g : Heap χ κ) :
    envN c (d+1) o "Insert" [.key k, .ref i] g =
      .done (g.setQueue o (qinsert c.le g.s.maxlen k i ((g.queue o).getD []))) .none := by
  rw [envN_succ]
  cases o <;> simp only [ne_eq, not_true_eq_false] at ho <;>
    sd_simp [characteristicsQueue_InsertParams, characteristicsQueue_Insert, Option.getD_some]

theorem cq_Clear (c : Ctx χ κ) (d : Nat) (o : Obj) (ho : o ≠ .sd) (g : Heap χ κ) :
    envN c (d+1) o "Clear" [] g = .done (g.setQueue o []) .none := by
  rw [envN_succ]
  cases o <;> simp only [ne_eq, not_true_eq_false] at ho <;>
    sd_simp [characteristicsQueue_ClearParams, characteristicsQueue_Clear]

theorem envN_of (c : Ctx χ κ) (d : Nat) {o : Obj} {m : String} {args : List (Val χ κ)} {g : Heap χ κ} {cls : Cls}
    {params : List String} {body : List Stmt} (h : resolve g.s.dual o m = some (cls, params, body)) :
    envN c (d+1) o m args g = runBody c (envN c d) ⟨cls, o⟩ params body args g := by
  rw [envN_succ, h]

theorem envN_sd (c : Ctx χ κ) (d : Nat) {s : State χ κ} {na : Nat} {cu : Option Nat} {m : String} {args : List (Val χ κ)}
    {b : Bool} {cls : Cls} {params : List String} {body : List Stmt} (hd : s.dual = b)
    (h : resolve b .sd m = some (cls, params, body)) :
    envN c (d+1) .sd m args ⟨s, na, cu⟩ = runBody c (envN c d) ⟨cls, .sd⟩ params body args ⟨s, na, cu⟩ :=
  envN_of c d (hd ▸ h)

def Out.toMOut : Out χ κ → MOut χ κ
  | .normal st => .done st.g .none
  | .returned st v => .done st.g v
  | .raised st e => .raised st.g e
  | .stuck => .stuck
  | .outOfFuel => .outOfFuel

theorem runBody_toMOut (c : Ctx χ κ) (env : MEnv χ κ) (fr : Frame) (params : List String) (body : List Stmt)
    (args : List (Val χ κ)) (g : Heap χ κ) :
    runBody c env fr params body args g =
      match bindParams fr.self params args with
      | none => .stuck
      | some l => (execList c env fr body ⟨g, l⟩).toMOut := by
  unfold runBody
  cases bindParams fr.self params args with
  | none => rfl
  | some l => cases execList c env fr body ⟨g, l⟩ <;> rfl

theorem execList_append (c : Ctx χ κ) (env : MEnv χ κ) (fr : Frame) (a b : List Stmt) (st : IState χ κ) :
    execList c env fr (a ++ b) st =
      match execList c env fr a st with
      | .normal st' => execList c env fr b st'
      | o => o := by
  induction a generalizing st with
  | nil => simp only [List.nil_append, execList]
  | cons x a ih =>
    simp only [List.cons_append, execList]
    cases execStmt c env fr x st with
    | normal st' => exact ih st'
    | returned st' v => rfl
    | raised st' e => rfl
    | stuck => rfl
    | outOfFuel => rfl

theorem execList_while (c : Ctx χ κ) (env : MEnv χ κ) (fr : Frame) {cond : String} {ce : Expr}
    (hce : exprTable.lookup cond = some ce) (body rest : List Stmt) (st : IState χ κ) :
    execList c env fr (.while cond body :: rest) st =
      match whileLoop c.wfuel (fun s => evalExpr c env fr s.l ce s.g) (fun s => execList c env fr body s) st with
      | .normal st' => execList c env fr rest st'
      | o => o := by
  rw [execList, execStmt, hce]
  rfl

/-- A method whose body is `return e`.  `e` is a variable with its look-up as a hypothesis: on a literal the checker would
evaluate the look-up (string comparisons down the table) again at every step that holds by computation. -/
theorem run_ret (c : Ctx χ κ) (env : MEnv χ κ) (fr : Frame) (e : String) (ex : Expr) (he : exprTable.lookup e = some ex)
    (g : Heap χ κ) :
    runBody c env fr ["self"] [.ret e] [] g =
      match evalExpr c env fr [("self", .obj fr.self)] ex g with
      | .val v g' => .done g' v
      | .raised g' x => .raised g' x
      | .stuck => .stuck
      | .outOfFuel => .outOfFuel := by
  sd_simp [he]
  cases evalExpr c env fr [("self", .obj fr.self)] ex g <;> rfl

theorem cq_IsEmpty_gq (c : Ctx χ κ) (d : Nat) (g : Heap χ κ) :
    envN c (d+1) .gq "IsEmpty" [] g = .done g (.bool g.s.gq.isEmpty) :=
  (envN_of c d (rs_gq_IsEmpty _)).trans (run_ret c _ _ _ _ ex_35 g)

theorem cq_IsEmpty_lq (c : Ctx χ κ) (d : Nat) (g : Heap χ κ) :
    envN c (d+1) .lq "IsEmpty" [] g = .done g (.bool g.s.lq.isEmpty) :=
  (envN_of c d (rs_lq_IsEmpty _)).trans (run_ret c _ _ _ _ ex_35 g)

theorem cq_GetBestItem_gq (c : Ctx χ κ) (d : Nat) (g : Heap χ κ) :
    envN c (d+1) .gq "GetBestItem" [] g =
      match g.s.gq with
      | [] => .raised g .indexError
      | (k, i) :: t => .done { g with s := { g.s with gq := t } } (.pair i k) := by
  refine (envN_of c d (rs_gq_GetBestItem _)).trans ((run_ret c _ _ _ _ ex_34 g).trans ?_)
  sd_simp
  cases g.s.gq with
  | nil => rfl
  | cons e t => obtain ⟨k, i⟩ := e; rfl

theorem cq_GetBestItem_lq (c : Ctx χ κ) (d : Nat) (g : Heap χ κ) :
    envN c (d+1) .lq "GetBestItem" [] g =
      match g.s.lq with
      | [] => .raised g .indexError
      | (k, i) :: t => .done { g with s := { g.s with lq := t } } (.pair i k) := by
  refine (envN_of c d (rs_lq_GetBestItem _)).trans ((run_ret c _ _ _ _ ex_34 g).trans ?_)
  sd_simp
  cases g.s.lq with
  | nil => rfl
  | cons e t => obtain ⟨k, i⟩ := e; rfl

theorem cq_GetLen_gq (c : Ctx χ κ) (d : Nat) (g : Heap χ κ) :
    envN c (d+1) .gq "GetLen" [] g = .done g (.nat g.s.gq.length) :=
  (envN_of c d (rs_gq_GetLen _)).trans (run_ret c _ _ _ _ ex_37 g)

theorem cq_GetMaxLen_gq (c : Ctx χ κ) (d : Nat) (g : Heap χ κ) :
    envN c (d+1) .gq "GetMaxLen" [] g = .done g (match g.s.maxlen with | some n => .nat n | none => .none) :=
  (envN_of c d (rs_gq_GetMaxLen _)).trans (run_ret c _ _ _ _ ex_36 g)

theorem sd_iter (c : Ctx χ κ) (d : Nat) (g : Heap χ κ) :
    envN c (d+1) .sd "__iter__" [] g =
      match g.s.first with
      | none => .raised { g with cur := none } .stopIteration
      | some i => .done { g with cur := some i } (.obj .sd) := by
  rw [envN_of c d (rs_sd_iter _)]
  cases hfi : g.s.first <;> sd_simp [searchData_iterParams, searchData_iter, otherTable, hfi]

theorem sd_next (c : Ctx χ κ) (d : Nat) (g : Heap χ κ) :
    envN c (d+1) .sd "__next__" [] g =
      match g.cur with
      | none => .raised g .stopIteration
      | some i =>
        match g.s.trials[i]? with
        | some it => .done { g with cur := it.right } (.ref i)
        | none => .stuck := by
  rw [envN_of c d (rs_sd_next _)]
  cases hc : g.cur with
  | none => sd_simp [searchData_nextParams, searchData_next, otherTable, hc]
  | some i => cases hi : g.s.trials[i]? <;> sd_simp [searchData_nextParams, searchData_next, otherTable, hc, hi]

def findBody : List Stmt := [.ite "item.GetX() > x" [.ret "item"] []]

theorem find_shape : searchData_FindDataItemByOneDimensionalPoint = [.forEach "item" "self" findBody, .ret "None"] := rfl

/-- the contract of `__next__` as a hypothesis on the `next` of a loop; `sd_next c d` proves it of the generated tree -/
def NextSpec (next : Heap χ κ → MOut χ κ) : Prop :=
  ∀ h, next h =
    match h.cur with
    | none => .raised h .stopIteration
    | some i =>
      match h.s.trials[i]? with
      | some it => .done { h with cur := it.right } (.ref i)
      | none => .stuck

theorem findBody_spec (c : Ctx χ κ) (env : MEnv χ κ) (fr : Frame) (x : χ) (g : Heap χ κ) (l : Locals χ κ) (i : Nat)
    (it : Item χ κ) (hit : g.s.trials[i]? = some it) (hx : l.lookup "x" = some (.coord x)) :
    execList c env fr findBody ⟨g, ("item", .ref i) :: l⟩ =
      if c.lt x it.x then .returned ⟨g, ("item", .ref i) :: l⟩ (.ref i) else .normal ⟨g, ("item", .ref i) :: l⟩ := by
  cases hlt : c.lt x it.x <;> sd_simp [findBody, hit, hx, hlt]

theorem find_loop (c : Ctx χ κ) (N : Nat) (x : χ) (next : Heap χ κ → MOut χ κ) (body : IState χ κ → Out χ κ)
    (hnext : NextSpec next)
    (hbody : ∀ g l i it, g.s.trials[i]? = some it → l.lookup "x" = some (.coord x) →
      body ⟨g, ("item", .ref i) :: l⟩ =
        if c.lt x it.x then .returned ⟨g, ("item", .ref i) :: l⟩ (.ref i) else .normal ⟨g, ("item", .ref i) :: l⟩) :
    ∀ (n : Nat) (s : State χ κ) (na : Nat) (l : Locals χ κ) (o : Option Nat), InR N o → ClosedA s.trials N →
      l.lookup "x" = some (.coord x) →
      ∃ cur' l', iterLoop n next body "item" ⟨⟨s, na, o⟩, l⟩ =
        match (walk s n o).find? (gtB c.lt s.trials x) with
        | some i => .returned ⟨⟨s, na, cur'⟩, l'⟩ (.ref i)
        | none => .normal ⟨⟨s, na, cur'⟩, l'⟩ := by
  intro n
  unfold NextSpec at hnext
  induction n with
  | zero =>
    intro s na l o _ _ _
    refine ⟨o, l, ?_⟩
    cases o <;> simp only [iterLoop, walk, List.find?_nil]
  | succ n ih =>
    intro s na l o ho hcl hx
    cases o with
    | none =>
      refine ⟨none, l, ?_⟩
      simp only [iterLoop, hnext, walk, List.find?_nil]
    | some i =>
      obtain ⟨it, hit, -, hr⟩ := hcl.get (ho i rfl)
      have hb : gtB c.lt s.trials x i = c.lt x it.x := by simp only [gtB, hit]
      simp only [iterLoop, hnext, hit, walk, List.find?_cons, hb, Option.bind_some, hbody ⟨s, na, it.right⟩ l i it hit hx]
      cases hlt : c.lt x it.x with
      | true => exact ⟨it.right, ("item", .ref i) :: l, rfl⟩
      | false =>
        obtain ⟨cur', l', h⟩ := ih s na (("item", .ref i) :: l) it.right hr hcl
          (by simp only [List.lookup_cons, String.reduceBEq, hx])
        refine ⟨cur', l', ?_⟩
        simp only [Bool.false_eq_true, ↓reduceIte]
        exact h

theorem find_call (c : Ctx χ κ) (d N : Nat) (x : χ) (s : State χ κ) (na : Nat) (cu : Option Nat) (h : ClosedN N s) :
    ∃ cur', envN c (d+2) .sd "FindDataItemByOneDimensionalPoint" [.coord x] ⟨s, na, cu⟩ =
      match s.first with
      | none => .raised ⟨s, na, none⟩ .stopIteration
      | some _ => .done ⟨s, na, cur'⟩ (.ofOpt ((walk s c.ifuel s.first).find? (gtB c.lt s.trials x))) := by
  cases hfi : s.first with
  | none =>
    refine ⟨none, ?_⟩
    rw [envN_succ, rs_sd_FindDataItemByOneDimensionalPoint, find_shape]
    sd_simp [searchData_FindDataItemByOneDimensionalPointParams, sd_iter, hfi]
  | some i0 =>
    obtain ⟨cur', l', h⟩ := find_loop c N x _ _ (sd_next c d)
      (fun g l i it h1 h2 => findBody_spec c (envN c (d+1)) { cls := .base, self := .sd } x g l i it h1 h2) c.ifuel s na
      [("self", .obj .sd), ("x", .coord x)] (some i0) (hfi ▸ h.1) h.2 (by simp only [List.lookup_cons, String.reduceBEq])
    refine ⟨cur', ?_⟩
    rw [envN_succ, rs_sd_FindDataItemByOneDimensionalPoint, find_shape]
    simp only [runBody, bindParams, searchData_FindDataItemByOneDimensionalPointParams, List.length_cons, List.length_nil,
      ↓reduceIte, List.zip_cons_cons, List.zip_nil_right, execList, execStmt, lv_4, ex_14, evalExpr, sd_iter, hfi, h]
    cases (walk s c.ifuel (some i0)).find? (gtB c.lt s.trials x) <;> sd_simp

/-- the four pointer writes and the `append` of `InsertDataItem` (shared by both classes) -/
def links5 : List Stmt := [
    .call [] "newDataItem.SetLeft" ["rightDataItem.GetLeft()"],
    .call [] "rightDataItem.SetLeft" ["newDataItem"],
    .call [] "newDataItem.SetRight" ["rightDataItem"],
    .call [] "newDataItem.GetLeft().SetRight" ["newDataItem"],
    .call [] "self._allTrials.append" ["newDataItem"]]

/-- `links5` on the heap with the pending item: `AttributeError` when the right neighbour `r` has no left neighbour, otherwise the array
is `SD.insTrials`, the one `SD.insert_def` ends in -/
theorem links_spec (c : Ctx χ κ) (env : MEnv χ κ) (cls : Cls) (hcls : cls ≠ .cq) (s : State χ κ) (new : Item χ κ)
    (cu : Option Nat) (l : Locals χ κ) (r : Nat) (rit : Item χ κ)
    (hn : l.lookup "newDataItem" = some (.ref s.trials.size)) (hr : l.lookup "rightDataItem" = some (.ref r))
    (hrit : s.trials[r]? = some rit) (hL : InR s.trials.size rit.left) :
    execList c env ⟨cls, .sd⟩ links5 ⟨⟨{ s with trials := s.trials.push new }, s.trials.size, cu⟩, l⟩ =
      match rit.left with
      | none => .raised ⟨⟨setLeft { s with trials := s.trials.push { new with left := none, right := some r } } r
          (some s.trials.size), s.trials.size, cu⟩, l⟩ .attributeError
      | some lf => .normal ⟨⟨{ s with trials := insTrials s.trials new lf r }, s.trials.size + 1, cu⟩, l⟩ := by
  have hrs : r < s.trials.size := (Array.getElem?_eq_some_iff.1 hrit).1
  have hrs' : r < s.trials.size + 1 := Nat.lt_succ_of_lt hrs
  have h0r : (s.trials.push new)[r]? = some rit := by rw [push_get_lt _ _ _ hrs, hrit]
  have e3 : (setLeft { s with trials := s.trials.push { new with left := rit.left, right := some r } } r
      (some s.trials.size)).trials[s.trials.size]? = some { new with left := rit.left, right := some r } := by
    simp [setLeft_get, Nat.ne_of_lt hrs]
  sd_simp [links5, hn, hr, h0r, hrs', Array.size_push, Nat.lt_succ_self, setLeft_size, setRight_size, chain_eq s new _ r hrs,
    e3, hcls]
  cases hl : rit.left with
  | none => sd_simp
  | some lf =>
    have hlf : lf < s.trials.size + 1 := Nat.lt_succ_of_lt (hL lf hl)
    sd_simp [hn, hlf, Array.size_push, Nat.lt_succ_self, setLeft_size, setRight_size, hcls]
    -- `insTrials` is the last two writes on the array with the new item, its links set, appended (`chain_eq`)
    rfl

theorem links_none (c : Ctx χ κ) (env : MEnv χ κ) (cls : Cls) (g : Heap χ κ)
    (l : Locals χ κ) (ni : Nat)
    (hn : l.lookup "newDataItem" = some (.ref ni)) (hr : l.lookup "rightDataItem" = some .none) :
    execList c env ⟨cls, .sd⟩ links5 ⟨g, l⟩ = .raised ⟨g, l⟩ .attributeError := by
  sd_simp [links5, hn, hr]

/-- the queue part of `SearchData.InsertDataItem` -/
def qsBase : List Stmt := [
    .call [] "self._RGlobalQueue.Insert" ["newDataItem.globalR", "newDataItem"],
    .ite "flag" [
      .call [] "self._RGlobalQueue.Insert" ["rightDataItem.globalR", "rightDataItem"]] []]

/-- the queue part of `SearchDataDualQueue.InsertDataItem` -/
def qsDual : List Stmt := [
    .call [] "self._RGlobalQueue.Insert" ["newDataItem.globalR", "newDataItem"],
    .call [] "self.__RLocalQueue.Insert" ["newDataItem.localR", "newDataItem"],
    .ite "flag" [
      .call [] "self._RGlobalQueue.Insert" ["rightDataItem.globalR", "rightDataItem"],
      .call [] "self.__RLocalQueue.Insert" ["rightDataItem.localR", "rightDataItem"]] []]

def insQ2 (c : Ctx χ κ) (m : Option Nat) (f : Bool) (kn : κ) (ni : Nat) (kr : κ) (r : Nat) (q : List (κ × Nat)) :
    List (κ × Nat) :=
  if f then qinsert c.le m kr r (qinsert c.le m kn ni q) else qinsert c.le m kn ni q

/-- what the queue part `qs` of `InsertDataItem`, in the text of class `cls`, does on a container with `dual = b` -/
def QsSpec (c : Ctx χ κ) (d : Nat) (cls : Cls) (qs : List Stmt) (b : Bool) : Prop :=
  ∀ (s : State χ κ) (na : Nat) (cu : Option Nat) (l : Locals χ κ) (ni r : Nat) (f : Bool) (rit nit : Item χ κ),
    l.lookup "newDataItem" = some (.ref ni) → l.lookup "rightDataItem" = some (.ref r) → l.lookup "flag" = some (.bool f) →
    s.trials[r]? = some rit → s.trials[ni]? = some nit →
    execList c (envN c (d+1)) ⟨cls, .sd⟩ qs ⟨⟨s, na, cu⟩, l⟩ =
      .normal ⟨⟨{ s with gq := insQ2 c s.maxlen f nit.globalR ni rit.globalR r s.gq,
                         lq := if b then insQ2 c s.maxlen f nit.localR ni rit.localR r s.lq else s.lq }, na, cu⟩, l⟩

theorem qsBase_spec (c : Ctx χ κ) (d : Nat) : QsSpec c d .base qsBase false := by
  intro s na cu l ni r f rit nit hn hr hf h0r h0n
  cases f <;> sd_simp [qsBase, hn, hr, hf, h0r, h0n, cq_Insert, Option.getD_some, insQ2]

theorem qsDual_spec (c : Ctx χ κ) (d : Nat) : QsSpec c d .dual qsDual true := by
  intro s na cu l ni r f rit nit hn hr hf h0r h0n
  cases f <;> sd_simp [qsDual, hn, hr, hf, h0r, h0n, cq_Insert, Option.getD_some, insQ2]

/-- the prologue of `InsertDataItem` (shared by both classes) -/
def pre2 : List Stmt := [
    .assign "flag" "True",
    .ite "rightDataItem is None" [
      .call ["rightDataItem"] "self.FindDataItemByOneDimensionalPoint" ["newDataItem.GetX()"],
      .assign "flag" "False"] []]

theorem insert_shape : searchData_InsertDataItem = pre2 ++ (links5 ++ qsBase) := rfl
theorem insertDual_shape : searchDataDualQueue_InsertDataItem = pre2 ++ (links5 ++ qsDual) := rfl

/-- the locals after the prologue -/
def insLocals (ni : Nat) (r : Option Nat) (f : Bool) (l0 : Locals χ κ) : Prop :=
  l0.lookup "newDataItem" = some (.ref ni) ∧ l0.lookup "rightDataItem" = some (.ofOpt r) ∧ l0.lookup "flag" = some (.bool f)

theorem pre2_hint (c : Ctx χ κ) (env : MEnv χ κ) (cls : Cls) (g : Heap χ κ) (ni h : Nat) :
    execList c env ⟨cls, .sd⟩ pre2 ⟨g, [("self", .obj .sd), ("newDataItem", .ref ni), ("rightDataItem", .ref h)]⟩ =
      .normal ⟨g, ("flag", .bool true) :: [("self", .obj .sd), ("newDataItem", .ref ni), ("rightDataItem", .ref h)]⟩ := by
  sd_simp [pre2]

theorem pre2_nohint (c : Ctx χ κ) (env : MEnv χ κ) (cls : Cls) (g : Heap χ κ) (ni : Nat) (nit : Item χ κ)
    (h0n : g.s.trials[ni]? = some nit) :
    execList c env ⟨cls, .sd⟩ pre2 ⟨g, [("self", .obj .sd), ("newDataItem", .ref ni), ("rightDataItem", .none)]⟩ =
      match env .sd "FindDataItemByOneDimensionalPoint" [.coord nit.x] g with
      | .done g' v => .normal ⟨g', ("flag", .bool false) :: ("rightDataItem", v) :: ("flag", .bool true) ::
          [("self", .obj .sd), ("newDataItem", .ref ni), ("rightDataItem", .none)]⟩
      | .raised g' e => .raised ⟨g', ("flag", .bool true) :: [("self", .obj .sd), ("newDataItem", .ref ni), ("rightDataItem", .none)]⟩ e
      | .stuck => .stuck
      | .outOfFuel => .outOfFuel := by
  sd_simp [pre2, h0n]
  cases env .sd "FindDataItemByOneDimensionalPoint" [.coord nit.x] g <;> rfl

/-- the heap in which a caller has created `new` (the next heap object) and not yet inserted it -/
def Heap.pending (s : State χ κ) (new : Item χ κ) (cu : Option Nat := none) : Heap χ κ :=
  { s := { s with trials := s.trials.push new }, nall := s.trials.size, cur := cu }

/-- what `InsertDataItem` must do according to the model; on an EMPTY container without hint the source raises
`StopIteration` (out of `__iter__`) where the model says `AttributeError` -/
def insExpect (c : Ctx χ κ) (s : State χ κ) (new : Item χ κ) (hint : Option Nat) : View χ κ :=
  if hint = none ∧ s.first = none then .err .stopIteration
  else View.ofModel ((SD.insert c.lt c.le s new hint).map fun s' => (s', Val.none))

theorem insQ2_eq (c : Ctx χ κ) (m : Option Nat) (f : Bool) (kn : κ) (ni : Nat) (kr : κ) (r : Nat) (q : List (κ × Nat)) :
    insQ2 c m f kn ni kr r q = if f then qinsert c.le m kr r (qinsert c.le m kn ni q) else qinsert c.le m kn ni q := rfl

theorem insert_tail_view (c : Ctx χ κ) (d : Nat) (cls : Cls) (hcls : cls ≠ .cq) (qs : List Stmt) (s : State χ κ)
    (hqs : QsSpec c (d+1) cls qs s.dual) (new : Item χ κ) (hint cu : Option Nat) (l : Locals χ κ) (r : Nat)
    (hro : hint.or (SD.find c.lt s new.x) = some r)
    (hl : insLocals s.trials.size (some r) hint.isSome l) (hr : r < s.trials.size) (hcl : ClosedA s.trials s.trials.size) :
    (execList c (envN c (d+2)) ⟨cls, .sd⟩ (links5 ++ qs) ⟨⟨{ s with trials := s.trials.push new }, s.trials.size, cu⟩, l⟩).toMOut.view =
      View.ofModel ((SD.insert c.lt c.le s new hint).map fun s' => (s', Val.none)) := by
  obtain ⟨rit, hrit, hL, -⟩ := hcl.get hr
  obtain ⟨hn, hrl, hf⟩ := hl
  rw [execList_append, links_spec c _ cls hcls s new cu l r rit hn hrl hrit hL]
  cases hlf : rit.left with
  | none =>
    simp only [Out.toMOut, MOut.view, insert_def, hro, hrit, hlf, Except.map, View.ofModel, Exc.ofErr]
  | some lf =>
    -- the queue part reads the characteristics off the heap after the writes
    obtain ⟨nit', e4n, hgn, hln⟩ := insTrials_keys s.trials new lf r Array.getElem?_push_size
    obtain ⟨rit', e4r, hgr, hlr⟩ := insTrials_keys s.trials new lf r ((push_get_lt _ new r hr).trans hrit)
    simp only []
    rw [show d + 2 = d + 1 + 1 from rfl,
      hqs { s with trials := insTrials s.trials new lf r } _ cu l _ r hint.isSome _ _ hn hrl hf e4r e4n, hgn, hln, hgr, hlr]
    simp only [Out.toMOut, MOut.view, insert_def, hro, hrit, hlf, Except.map, View.ofModel, insTrials_size]
    rfl

theorem insertDataItem_run (c : Ctx χ κ) (d : Nat) (s : State χ κ) (new : Item χ κ) (hint : Option Nat) (cu : Option Nat)
    (cls : Cls) (hcls : cls ≠ .cq) (params : List String) (body qs : List Stmt)
    (hres : resolve s.dual .sd "InsertDataItem" = some (cls, params, body))
    (hpar : params = ["self", "newDataItem", "rightDataItem"]) (hbody : body = pre2 ++ (links5 ++ qs))
    (hqs : QsSpec c (d+1) cls qs s.dual)
    (hcl : Closed s) (hh : InR s.trials.size hint) (hfuel : walk s c.ifuel s.first = traversal s) :
    (call c (d+2) .sd "InsertDataItem" [.ref s.trials.size, .ofOpt hint] (Heap.pending s new cu)).view =
      insExpect c s new hint := by
  subst hpar hbody
  obtain ⟨hfirst, hcl⟩ := hcl
  have h0n : ({ s with trials := s.trials.push new } : State χ κ).trials[s.trials.size]? = some new := by simp
  unfold call Heap.pending
  simp only [envN_succ, hres, runBody_toMOut, bindParams, List.length_cons, List.length_nil, ↓reduceIte, List.zip_cons_cons,
    List.zip_nil_right, execList_append _ _ _ pre2]
  cases hint with
  | some h =>
    simp only [insExpect, ofOpt_some, pre2_hint, reduceCtorEq, false_and, ↓reduceIte]
    refine insert_tail_view c d cls hcls qs s hqs new (some h) cu _ h rfl ?_ (hh h rfl) hcl
    simp only [insLocals, List.lookup_cons, String.reduceBEq, ofOpt_some, Option.isSome_some, and_self]
  | none =>
    obtain ⟨cur', hfc⟩ := find_call c d s.trials.size new.x { s with trials := s.trials.push new } s.trials.size cu
      ⟨hfirst, closedA_push new hcl⟩
    simp only [ofOpt_none, pre2_nohint c _ cls ⟨{ s with trials := s.trials.push new }, s.trials.size, cu⟩ s.trials.size new h0n, hfc]
    rcases Option.eq_none_or_eq_some s.first with hfi | ⟨i0, hfi⟩
    · simp only [hfi, Out.toMOut, MOut.view, insExpect, and_self, ↓reduceIte]
    · rw [show insExpect c s new none = View.ofModel ((SD.insert c.lt c.le s new none).map fun s' => (s', Val.none)) from by
        simp only [insExpect, hfi, reduceCtorEq, and_false, ↓reduceIte]]
      have hfe : (walk { s with trials := s.trials.push new } c.ifuel s.first).find?
          (gtB c.lt (s.trials.push new) new.x) = SD.find c.lt s new.x := by
        rw [find_push c.lt s new new.x hcl _ _ hfirst, hfuel]; rfl
      simp only [hfi] at hfe
      simp only [hfi, hfe]
      rw [← hfi]
      cases hfind : SD.find c.lt s new.x with
      | none =>
        rw [execList_append, links_none c _ cls _ _ s.trials.size (by simp only [List.lookup_cons, String.reduceBEq])
          (by simp only [List.lookup_cons, String.reduceBEq, ofOpt_none])]
        simp only [Out.toMOut, MOut.view, insert_def, Option.none_or, hfind, Except.map, View.ofModel, Exc.ofErr]
      | some r =>
        refine insert_tail_view c d cls hcls qs s hqs new none cur' _ r hfind ?_
          (gtB_lt (List.find?_some (find_eq c.lt s new.x ▸ hfind))) hcl
        simp only [insLocals, List.lookup_cons, String.reduceBEq, Option.isSome_none, and_self]

theorem walk_size (s : State χ κ) : walk s s.trials.size s.first = traversal s := rfl

theorem insertDataItem_src_walk (c : Ctx χ κ) (d : Nat) (s : State χ κ) (new : Item χ κ) (hint : Option Nat) (cu : Option Nat)
    (hcl : Closed s) (hh : InR s.trials.size hint) (hfuel : walk s c.ifuel s.first = traversal s) :
    (call c (d+2) .sd "InsertDataItem" [.ref s.trials.size, .ofOpt hint] (Heap.pending s new cu)).view =
      insExpect c s new hint := by
  cases hd : s.dual with
  | false =>
    exact insertDataItem_run c d s new hint cu .base (by decide) _ _ qsBase (hd ▸ rs_base_InsertDataItem) rfl insert_shape
      (hd ▸ qsBase_spec c (d+1)) hcl hh hfuel
  | true =>
    exact insertDataItem_run c d s new hint cu .dual (by decide) _ _ qsDual (hd ▸ rs_dual_InsertDataItem) rfl insertDual_shape
      (hd ▸ qsDual_spec c (d+1)) hcl hh hfuel

/-- **`InsertDataItem`, source tree = model** (both classes, with or without the hint), with the iteration bound of the model
(`ifuel = len(_allTrials)`), on every container without dangling references: the interpretation of the generated tree of
`SearchData.InsertDataItem` / `SearchDataDualQueue.InsertDataItem` (whichever `s.dual` selects), called with the freshly created
item (`Heap.pending`) and the hint, ends in exactly the state `SD.insert` computes, or raises `AttributeError` exactly when
`SD.insert` says so.  Only difference (`insExpect`): without hint on an EMPTY container the source raises `StopIteration`. -/
theorem insertDataItem_src (c : Ctx χ κ) (d : Nat) (s : State χ κ) (new : Item χ κ) (hint : Option Nat) (cu : Option Nat)
    (hcl : Closed s) (hh : InR s.trials.size hint) (hfuel : c.ifuel = s.trials.size) :
    (call c (d+2) .sd "InsertDataItem" [.ref s.trials.size, .ofOpt hint] (Heap.pending s new cu)).view =
      insExpect c s new hint :=
  insertDataItem_src_walk c d s new hint cu hcl hh (hfuel ▸ walk_size s)

/-- … and on a well-linked container (`RepL`: the link part of `SD.WF`) for EVERY iteration bound `≥ len(_allTrials)`:
the cut of the walk never happens. -/
theorem insertDataItem_src_wf (c : Ctx χ κ) (d : Nat) (s : State χ κ) (t : List Nat) (new : Item χ κ) (hint : Option Nat)
    (cu : Option Nat) (hwf : RepL s.trials s.first t) (hh : InR s.trials.size hint) (hfuel : s.trials.size ≤ c.ifuel) :
    (call c (d+2) .sd "InsertDataItem" [.ref s.trials.size, .ofOpt hint] (Heap.pending s new cu)).view =
      View.ofModel ((SD.insert c.lt c.le s new hint).map fun s' => (s', Val.none)) := by
  rw [insertDataItem_src_walk c d s new hint cu (closed_of_repL hwf) hh (walk_of_repL hwf hfuel), insExpect]
  simp only [repL_first_ne hwf, and_false, ↓reduceIte]

theorem refill_loop (c : Ctx χ κ) (N : Nat) (b : Bool) (next : Heap χ κ → MOut χ κ) (body : IState χ κ → Out χ κ)
    (hnext : NextSpec next)
    (hbody : ∀ (s : State χ κ) na cu l i it, s.dual = b → s.trials[i]? = some it →
      body ⟨⟨s, na, cu⟩, ("itr", .ref i) :: l⟩ = .normal ⟨⟨refillStep c.le s i, na, cu⟩, ("itr", .ref i) :: l⟩) :
    ∀ (n : Nat) (s : State χ κ) (na : Nat) (l : Locals χ κ) (o : Option Nat), s.dual = b → InR N o → ClosedA s.trials N →
      ∃ cur' l', iterLoop n next body "itr" ⟨⟨s, na, o⟩, l⟩ = .normal ⟨⟨(walk s n o).foldl (refillStep c.le) s, na, cur'⟩, l'⟩ := by
  intro n
  unfold NextSpec at hnext
  induction n with
  | zero =>
    intro s na l o _ _ _
    refine ⟨o, l, ?_⟩
    cases o <;> simp only [iterLoop, walk, List.foldl_nil]
  | succ n ih =>
    intro s na l o hd ho hcl
    cases o with
    | none =>
      refine ⟨none, l, ?_⟩
      simp only [iterLoop, hnext, walk, List.foldl_nil]
    | some i =>
      obtain ⟨it, hit, -, hr⟩ := hcl.get (ho i rfl)
      obtain ⟨cur', l', h⟩ := ih (refillStep c.le s i) na (("itr", .ref i) :: l) it.right (by rw [(refillStep_frame c.le _ i).2.2.2, hd]) hr
        (by rw [(refillStep_frame c.le s i).1]; exact hcl)
      refine ⟨cur', l', ?_⟩
      simp only [iterLoop, hnext, hit, walk, List.foldl_cons, Option.bind_some, hbody s na it.right l i it hd hit, h,
        walk_congr (refillStep_frame c.le s i).1]

/-- the body of the loop of `SearchData.RefillQueue` -/
def refillBody : List Stmt := [.call [] "self._RGlobalQueue.Insert" ["itr.globalR", "itr"]]
/-- the body of the loop of `SearchDataDualQueue.RefillQueue` -/
def refillBodyDual : List Stmt := [
  .call [] "self._RGlobalQueue.Insert" ["itr.globalR", "itr"],
  .call [] "self.__RLocalQueue.Insert" ["itr.localR", "itr"]]

theorem refillBody_spec (c : Ctx χ κ) (d : Nat) (s : State χ κ) (na : Nat) (cu : Option Nat) (l : Locals χ κ) (i : Nat)
    (it : Item χ κ) (hd : s.dual = false) (hit : s.trials[i]? = some it) :
    execList c (envN c (d+1)) ⟨.base, .sd⟩ refillBody ⟨⟨s, na, cu⟩, ("itr", .ref i) :: l⟩ =
      .normal ⟨⟨refillStep c.le s i, na, cu⟩, ("itr", .ref i) :: l⟩ := by
  sd_simp [refillBody, hit, cq_Insert, Option.getD_some, refillStep, hd, qIns]

theorem refillBodyDual_spec (c : Ctx χ κ) (d : Nat) (s : State χ κ) (na : Nat) (cu : Option Nat) (l : Locals χ κ) (i : Nat)
    (it : Item χ κ) (hd : s.dual = true) (hit : s.trials[i]? = some it) :
    execList c (envN c (d+1)) ⟨.dual, .sd⟩ refillBodyDual ⟨⟨s, na, cu⟩, ("itr", .ref i) :: l⟩ =
      .normal ⟨⟨refillStep c.le s i, na, cu⟩, ("itr", .ref i) :: l⟩ := by
  sd_simp [refillBodyDual, hit, cq_Insert, Option.getD_some, refillStep, hd, qIns]

theorem refill_run (c : Ctx χ κ) (env : MEnv χ κ) (cls : Cls) (N : Nat) (clr : Stmt) (body : List Stmt)
    (s s0 : State χ κ) (na : Nat) (cu : Option Nat)
    (hclr : execStmt c env ⟨cls, .sd⟩ clr ⟨⟨s, na, cu⟩, [("self", .obj .sd)]⟩ = .normal ⟨⟨s0, na, cu⟩, [("self", .obj .sd)]⟩)
    (ht : s0.trials = s.trials) (hfs : s0.first = s.first)
    (hiter : ∀ g : Heap χ κ, env .sd "__iter__" [] g =
      match g.s.first with
      | none => .raised { g with cur := none } .stopIteration
      | some i => .done { g with cur := some i } (.obj .sd))
    (hnext : NextSpec (fun h => env .sd "__next__" [] h))
    (hbody : ∀ (s : State χ κ) na cu l i it, s.dual = s0.dual → s.trials[i]? = some it →
      execList c env ⟨cls, .sd⟩ body ⟨⟨s, na, cu⟩, ("itr", .ref i) :: l⟩ =
        .normal ⟨⟨refillStep c.le s i, na, cu⟩, ("itr", .ref i) :: l⟩)
    (h : ClosedN N s) :
    ∃ cur', runBody c env ⟨cls, .sd⟩ ["self"] [clr, .forEach "itr" "self" body] [] ⟨s, na, cu⟩ =
      match s.first with
      | none => .raised ⟨s0, na, none⟩ .stopIteration
      | some _ => .done ⟨(walk s c.ifuel s.first).foldl (refillStep c.le) s0, na, cur'⟩ .none := by
  cases hfi : s.first with
  | none =>
    refine ⟨none, ?_⟩
    sd_simp [hclr, hiter, hfs, hfi]
  | some i0 =>
    obtain ⟨cur', l', h⟩ := refill_loop c N s0.dual _ _ hnext hbody c.ifuel s0 na
      [("self", .obj .sd)] (some i0) rfl (hfi ▸ h.1) (ht ▸ h.2)
    refine ⟨cur', ?_⟩
    rw [walk_congr ht] at h
    simp only [runBody, bindParams, List.length_cons, List.length_nil, ↓reduceIte, List.zip_nil_right, List.zip_nil_left,
      execList, hclr, execStmt, lv_5, ex_14, evalExpr, hiter, hfs, hfi, h]

theorem refill_call (c : Ctx χ κ) (d N : Nat) (s : State χ κ) (na : Nat) (cu : Option Nat) (hd : s.dual = false)
    (h : ClosedN N s) :
    ∃ cur', envN c (d+2) .sd "RefillQueue" [] ⟨s, na, cu⟩ =
      match s.first with
      | none => .raised ⟨{ s with gq := [] }, na, none⟩ .stopIteration
      | some _ => .done ⟨(walk s c.ifuel s.first).foldl (refillStep c.le) { s with gq := [] }, na, cur'⟩ .none := by
  rw [envN_sd c (d+1) hd rs_base_RefillQueue]
  exact refill_run c _ .base N _ refillBody s { s with gq := [] } na cu (by sd_simp [cq_Clear]) rfl rfl (sd_iter c d)
    (sd_next c d) (fun s' na cu l i it h1 h2 => refillBody_spec c d s' na cu l i it (h1.trans hd) h2) h

theorem clearQueue_call (c : Ctx χ κ) (d : Nat) (s : State χ κ) (na : Nat) (cu : Option Nat) (hd : s.dual = false) :
    envN c (d+2) .sd "ClearQueue" [] ⟨s, na, cu⟩ = .done ⟨{ s with gq := [] }, na, cu⟩ .none := by
  rw [envN_sd c (d+1) hd rs_base_ClearQueue]
  sd_simp [searchData_ClearQueueParams, searchData_ClearQueue, cq_Clear]

theorem clearQueueDual_call (c : Ctx χ κ) (d : Nat) (s : State χ κ) (na : Nat) (cu : Option Nat) (hd : s.dual = true) :
    envN c (d+2) .sd "ClearQueue" [] ⟨s, na, cu⟩ = .done ⟨clearQueue s, na, cu⟩ .none := by
  rw [envN_sd c (d+1) hd rs_dual_ClearQueue]
  sd_simp [searchDataDualQueue_ClearQueueParams, searchDataDualQueue_ClearQueue, cq_Clear, clearQueue]

theorem refillDual_call (c : Ctx χ κ) (d N : Nat) (s : State χ κ) (na : Nat) (cu : Option Nat) (hd : s.dual = true)
    (h : ClosedN N s) :
    ∃ cur', envN c (d+3) .sd "RefillQueue" [] ⟨s, na, cu⟩ =
      match s.first with
      | none => .raised ⟨clearQueue s, na, none⟩ .stopIteration
      | some _ => .done ⟨(walk s c.ifuel s.first).foldl (refillStep c.le) (clearQueue s), na, cur'⟩ .none := by
  rw [envN_sd c (d+2) hd rs_dual_RefillQueue]
  exact refill_run c _ .dual N _ refillBodyDual s (clearQueue s) na cu (by sd_simp [clearQueueDual_call c d s na cu hd]) rfl rfl
    (sd_iter c (d+1)) (sd_next c (d+1))
    (fun s' na cu l i it h1 h2 => refillBodyDual_spec c (d+1) s' na cu l i it (h1.trans hd) h2) h

/-- what `GetDataItemWithMaxGlobalR` of the base class must do according to the model; when the queue AND the container are
empty the source raises `StopIteration` (out of `__iter__` in `RefillQueue`) where the model says `IndexError` -/
def popExpect (c : Ctx χ κ) (s : State χ κ) (na : Nat) : View χ κ :=
  if s.gq.isEmpty = true ∧ s.first = none then .err .stopIteration
  else match SD.popMaxGlobal c.le s with
    | .ok (s', i, _) => .ok { s' with lq := s.lq } na (.ref i)
    | .error e => .err (Exc.ofErr e)

/-- "refill if the queue is empty; return the head" against `popExpect`, for variable source strings and a variable method
environment of which only the three calls are known (on literals the checker would run the interpreter, and the called methods,
through every table look-up at each step that is true by computation) -/
theorem popBase_run (c : Ctx χ κ) (env : MEnv χ κ) (emp rf best : String)
    (h1 : exprTable.lookup emp = some (.call0 .fGq "IsEmpty"))
    (h2 : calleeTable.lookup rf = some (.method .self "RefillQueue"))
    (h3 : exprTable.lookup best = some (.idx0 (.call0 .fGq "GetBestItem")))
    (s : State χ κ) (na : Nat) (cu cur' : Option Nat)
    (hemp : ∀ g : Heap χ κ, env .gq "IsEmpty" [] g = .done g (.bool g.s.gq.isEmpty))
    (hbest : ∀ g : Heap χ κ, env .gq "GetBestItem" [] g =
      match g.s.gq with
      | [] => .raised g .indexError
      | (k, i) :: t => .done { g with s := { g.s with gq := t } } (.pair i k))
    (hrf : env .sd "RefillQueue" [] ⟨s, na, cu⟩ =
      match s.first with
      | none => .raised ⟨{ s with gq := [] }, na, none⟩ .stopIteration
      | some _ => .done ⟨(walk s c.ifuel s.first).foldl (refillStep c.le) { s with gq := [] }, na, cur'⟩ .none)
    (hd : s.dual = false) (hfuel : walk s c.ifuel s.first = traversal s) :
    (runBody c env ⟨.base, .sd⟩ ["self"] [.ite emp [.call [] rf []] [], .ret best] [] ⟨s, na, cu⟩).view = popExpect c s na := by
  cases hq : s.gq with
  | cons e t =>
    obtain ⟨k, i⟩ := e
    sd_simp [h1, h2, h3, hemp, hbest, hq, List.isEmpty_cons]
    simp only [MOut.view, popExpect, popMaxGlobal, hq, List.isEmpty_cons, Bool.false_eq_true, false_and, ↓reduceIte]
  | nil =>
    rcases Option.eq_none_or_eq_some s.first with hfi | ⟨i0, hfi⟩
    · rw [hfi] at hrf
      sd_simp [h1, h2, h3, hemp, hbest, hq, List.isEmpty_nil, hrf]
      simp only [MOut.view, popExpect, hq, hfi, List.isEmpty_nil, and_self, ↓reduceIte]
    · rw [hfi] at hrf
      rw [← hfi, hfuel, refill_base_eq c.le s hd] at hrf
      sd_simp [h1, h2, h3, hemp, hbest, hq, List.isEmpty_nil, hrf]
      simp only [popExpect, popMaxGlobal, hq, hfi, List.isEmpty_nil, reduceCtorEq, and_false, ↓reduceIte]
      cases hg : (refill c.le s).gq with
      | nil => simp only [MOut.view, Exc.ofErr]
      | cons e t => obtain ⟨k, i⟩ := e; simp only [MOut.view]

theorem getMaxGlobalR_call (c : Ctx χ κ) (d N : Nat) (s : State χ κ) (na : Nat) (cu : Option Nat) (hd : s.dual = false)
    (h : ClosedN N s) (hfuel : walk s c.ifuel s.first = traversal s) :
    (envN c (d+3) .sd "GetDataItemWithMaxGlobalR" [] ⟨s, na, cu⟩).view = popExpect c s na := by
  obtain ⟨cur', hrf⟩ := refill_call c d N s na cu hd h
  rw [envN_sd c (d+2) hd rs_base_GetDataItemWithMaxGlobalR]
  exact popBase_run c _ _ _ _ ex_28 ce_9 ex_30 s na cu cur' (cq_IsEmpty_gq c (d+1)) (cq_GetBestItem_gq c (d+1)) hrf hd hfuel

/-- **`FindDataItemByOneDimensionalPoint`, source tree = `SD.find`** on every container without dangling references that the
iteration bound walks completely (`find_src`: the bound of the model; `find_src_wf`: any bound `≥ len(_allTrials)` on a
well-linked container): the state is unchanged and the returned item is `SD.find lt s x` (`None` ↔ `none`).
On an EMPTY container the source raises `StopIteration` (the `raise` in `__iter__` is not inside a generator). -/
theorem find_src_walk (c : Ctx χ κ) (d : Nat) (s : State χ κ) (x : χ) (cu : Option Nat) (hcl : Closed s)
    (hfuel : walk s c.ifuel s.first = traversal s) :
    (call c (d+1) .sd "FindDataItemByOneDimensionalPoint" [.coord x] (Heap.ofState s cu)).view =
      if s.first = none then .err .stopIteration else .ok s s.trials.size (.ofOpt (SD.find c.lt s x)) := by
  obtain ⟨cur', h⟩ := find_call c d s.trials.size x s s.trials.size cu hcl
  unfold call Heap.ofState
  rw [h]
  cases hfi : s.first with
  | none => simp only [MOut.view, ↓reduceIte]
  | some i0 =>
    rw [hfi] at hfuel
    simp only [MOut.view, reduceCtorEq, ↓reduceIte, hfuel, find_eq]

theorem find_src (c : Ctx χ κ) (d : Nat) (s : State χ κ) (x : χ) (cu : Option Nat) (hcl : Closed s)
    (hfuel : c.ifuel = s.trials.size) :
    (call c (d+1) .sd "FindDataItemByOneDimensionalPoint" [.coord x] (Heap.ofState s cu)).view =
      if s.first = none then .err .stopIteration else .ok s s.trials.size (.ofOpt (SD.find c.lt s x)) :=
  find_src_walk c d s x cu hcl (hfuel ▸ walk_size s)

theorem find_src_wf (c : Ctx χ κ) (d : Nat) (s : State χ κ) (t : List Nat) (x : χ) (cu : Option Nat)
    (hwf : RepL s.trials s.first t) (hfuel : s.trials.size ≤ c.ifuel) :
    (call c (d+1) .sd "FindDataItemByOneDimensionalPoint" [.coord x] (Heap.ofState s cu)).view =
      .ok s s.trials.size (.ofOpt (SD.find c.lt s x)) := by
  rw [find_src_walk c d s x cu (closed_of_repL hwf) (walk_of_repL hwf hfuel)]
  simp only [repL_first_ne hwf, ↓reduceIte]

/-- what `RefillQueue` must leave according to the model: `SD.refill`; the base class does not touch the local queue (which a
non-dual container does not have: `s.lq = []` there, and then this IS `SD.refill`) -/
def refillState (c : Ctx χ κ) (s : State χ κ) : State χ κ :=
  if s.dual then SD.refill c.le s else { SD.refill c.le s with lq := s.lq }

theorem refillState_eq (c : Ctx χ κ) (s : State χ κ) (h : s.dual = false → s.lq = []) : refillState c s = SD.refill c.le s := by
  unfold refillState
  cases hd : s.dual with
  | true => rfl
  | false =>
    simp only [Bool.false_eq_true, ↓reduceIte]
    have := refill_lq_nondual c.le s hd
    rw [h hd, ← this]

/-- **`RefillQueue`, source tree = `SD.refill`** (both classes; `refillState`), on every container without dangling references
that the iteration bound walks completely (`refillQueue_src`, `refillQueue_src_wf` as for `find`).  On an EMPTY container the
source raises `StopIteration`. -/
theorem refillQueue_src_walk (c : Ctx χ κ) (d : Nat) (s : State χ κ) (cu : Option Nat) (hcl : Closed s)
    (hfuel : walk s c.ifuel s.first = traversal s) :
    (call c (d+2) .sd "RefillQueue" [] (Heap.ofState s cu)).view =
      if s.first = none then .err .stopIteration else .ok (refillState c s) s.trials.size .none := by
  unfold call Heap.ofState refillState
  cases hd : s.dual with
  | false =>
    obtain ⟨cur', h⟩ := refill_call c (d+1) s.trials.size s s.trials.size cu hd hcl
    rw [h]
    rcases Option.eq_none_or_eq_some s.first with hfi | ⟨i0, hfi⟩
    · simp only [hfi, MOut.view, ↓reduceIte]
    · rw [hfuel, refill_base_eq c.le s hd]
      simp only [hfi, MOut.view, reduceCtorEq, ↓reduceIte, Bool.false_eq_true]
  | true =>
    obtain ⟨cur', h⟩ := refillDual_call c d s.trials.size s s.trials.size cu hd hcl
    rw [h]
    rcases Option.eq_none_or_eq_some s.first with hfi | ⟨i0, hfi⟩
    · simp only [hfi, MOut.view, ↓reduceIte]
    · rw [hfuel, ← refill_def c.le]
      simp only [hfi, MOut.view, reduceCtorEq, ↓reduceIte]

theorem refillQueue_src (c : Ctx χ κ) (d : Nat) (s : State χ κ) (cu : Option Nat) (hcl : Closed s)
    (hfuel : c.ifuel = s.trials.size) :
    (call c (d+2) .sd "RefillQueue" [] (Heap.ofState s cu)).view =
      if s.first = none then .err .stopIteration else .ok (refillState c s) s.trials.size .none :=
  refillQueue_src_walk c d s cu hcl (hfuel ▸ walk_size s)

theorem refillQueue_src_wf (c : Ctx χ κ) (d : Nat) (s : State χ κ) (t : List Nat) (cu : Option Nat)
    (hwf : RepL s.trials s.first t) (hlq : s.dual = false → s.lq = []) (hfuel : s.trials.size ≤ c.ifuel) :
    (call c (d+2) .sd "RefillQueue" [] (Heap.ofState s cu)).view = .ok (SD.refill c.le s) s.trials.size .none := by
  rw [refillQueue_src_walk c d s cu (closed_of_repL hwf) (walk_of_repL hwf hfuel), refillState_eq c s hlq]
  simp only [repL_first_ne hwf, ↓reduceIte]

/-- **`ClearQueue`, source tree = `SD.clearQueue`**: the dual class clears both queues (= `SD.clearQueue`), the base class
its only queue (= `SD.clearQueue` when `s.lq = []`) -/
theorem clearQueue_src (c : Ctx χ κ) (d : Nat) (s : State χ κ) (cu : Option Nat) :
    (call c (d+1) .sd "ClearQueue" [] (Heap.ofState s cu)).view =
      .ok (if s.dual then clearQueue s else { s with gq := [] }) s.trials.size .none := by
  unfold call Heap.ofState
  rcases Bool.eq_false_or_eq_true s.dual with hd | hd
  · rw [clearQueueDual_call c d s _ cu hd]; simp only [hd, ↓reduceIte, MOut.view]
  · rw [clearQueue_call c d s _ cu hd]; simp only [hd, Bool.false_eq_true, ↓reduceIte, MOut.view]

theorem clearQueue_src' (c : Ctx χ κ) (d : Nat) (s : State χ κ) (cu : Option Nat) (hlq : s.dual = false → s.lq = []) :
    (call c (d+1) .sd "ClearQueue" [] (Heap.ofState s cu)).view = .ok (clearQueue s) s.trials.size .none := by
  rw [clearQueue_src]
  rcases Bool.eq_false_or_eq_true s.dual with hd | hd
  · simp only [hd, ↓reduceIte]
  · have := hlq hd
    simp only [hd, Bool.false_eq_true, ↓reduceIte, clearQueue]
    rw [← this]

/-- **`GetDataItemWithMaxGlobalR` (base class), source tree = `SD.popMaxGlobal`** (`popExpect`: same new state, same item, same
`IndexError`; `StopIteration` when queue and container are both empty) -/
theorem getDataItemWithMaxGlobalR_src (c : Ctx χ κ) (d : Nat) (s : State χ κ) (cu : Option Nat) (hd : s.dual = false)
    (hcl : Closed s) (hfuel : c.ifuel = s.trials.size) :
    (call c (d+2) .sd "GetDataItemWithMaxGlobalR" [] (Heap.ofState s cu)).view = popExpect c s s.trials.size :=
  getMaxGlobalR_call c d s.trials.size s s.trials.size cu hd hcl (hfuel ▸ walk_size s)

theorem getDataItemWithMaxGlobalR_src_wf (c : Ctx χ κ) (d : Nat) (s : State χ κ) (t : List Nat) (cu : Option Nat)
    (hd : s.dual = false) (hlq : s.lq = []) (hwf : RepL s.trials s.first t) (hfuel : s.trials.size ≤ c.ifuel) :
    (call c (d+2) .sd "GetDataItemWithMaxGlobalR" [] (Heap.ofState s cu)).view =
      View.ofModel ((SD.popMaxGlobal c.le s).map fun r => (r.1, Val.ref r.2.1)) := by
  have hcl := closed_of_repL hwf
  unfold call Heap.ofState
  rw [getMaxGlobalR_call c d s.trials.size s s.trials.size cu hd hcl (walk_of_repL hwf hfuel), popExpect]
  simp only [repL_first_ne hwf, and_false, ↓reduceIte]
  cases hp : SD.popMaxGlobal c.le s with
  | error e => rfl
  | ok r =>
    obtain ⟨s', i, k⟩ := r
    obtain ⟨h1, h2⟩ := popMaxGlobal_lq c.le s hd hlq s' i k hp
    simp only [Except.map, View.ofModel, h2, hlq]
    rw [← h1]

/-- **`InsertFirstDataItem`, source tree = `SD.insertFirst`** (inherited by the dual class): called with the two freshly
created items (the next two heap objects), for ALL states -/
theorem insertFirstDataItem_src (c : Ctx χ κ) (d : Nat) (s : State χ κ) (l r : Item χ κ) (cu : Option Nat) :
    (call c d .sd "InsertFirstDataItem" [.ref s.trials.size, .ref (s.trials.size + 1)]
      ⟨{ s with trials := (s.trials.push l).push r }, s.trials.size, cu⟩).view =
      .ok (SD.insertFirst s l r) (s.trials.size + 2) .none := by
  have h1 : s.trials.size < ((s.trials.push l).push r).size := by simp only [Array.size_push]; omega
  have h2 : s.trials.size + 1 < ((s.trials.push l).push r).size := by simp only [Array.size_push]; omega
  have harr : (((s.trials.push l).push r).modify s.trials.size fun it => { it with right := some (s.trials.size + 1) }).modify
      (s.trials.size + 1) (fun it => { it with left := some s.trials.size }) =
      (s.trials.push { l with right := some (s.trials.size + 1) }).push { r with left := some s.trials.size } := by
    rw [modify_push_lt _ _ _ _ (by simp only [Array.size_push]; omega), modify_push_size, modify_push_size' _ _ _ _ (by simp)]
  unfold call
  rw [envN_of c d (rs_sd_InsertFirstDataItem _)]
  sd_simp [searchData_InsertFirstDataItemParams, searchData_InsertFirstDataItem, h1, h2, setRight_size, setLeft_size]
  simp only [MOut.view, insertFirst, setLeft, setRight, harr]

/-- **`GetCount`** = `len(_allTrials)` -/
theorem getCount_src (c : Ctx χ κ) (d : Nat) (g : Heap χ κ) :
    call c d .sd "GetCount" [] g = .done g (.nat g.nall) :=
  (envN_of c d (rs_sd_GetCount _)).trans (run_ret c _ _ _ _ ex_38 g)

/-- **`GetLastItem`**: the item appended last; on an empty list the `IndexError` is caught, a line is printed, `None` is returned -/
theorem getLastItem_src (c : Ctx χ κ) (d : Nat) (g : Heap χ κ) :
    call c d .sd "GetLastItem" [] g = .done g (if g.nall = 0 then .none else .ref (g.nall - 1)) := by
  rw [call, envN_of c d (rs_sd_GetLastItem _)]
  by_cases h : g.nall = 0 <;> sd_simp [searchData_GetLastItemParams, searchData_GetLastItem, excTable, h]

/-- **`CharacteristicsQueue.Insert(key, item)`** is the DEPQ contract `SD.qinsert` on the queue of the object -/
theorem characteristicsQueue_Insert_src (c : Ctx χ κ) (d : Nat) (s : State χ κ) (k : κ) (i : Nat) (cu : Option Nat) :
    (call c d .gq "Insert" [.key k, .ref i] (Heap.ofState s cu)).view =
        .ok { s with gq := SD.qIns c.le s s.gq k i } s.trials.size .none ∧
      (call c d .lq "Insert" [.key k, .ref i] (Heap.ofState s cu)).view =
        .ok { s with lq := SD.qIns c.le s s.lq k i } s.trials.size .none := by
  unfold call
  rw [cq_Insert c d .gq (by decide), cq_Insert c d .lq (by decide)]
  exact ⟨rfl, rfl⟩

/-- **`CharacteristicsQueue.GetBestItem()`** removes and returns the head (`IndexError` on an empty queue);
**`Clear()`** empties the queue and keeps `maxlen`; **`IsEmpty()`**, **`GetLen()`**, **`GetMaxLen()`** read it -/
theorem characteristicsQueue_src (c : Ctx χ κ) (d : Nat) (s : State χ κ) (cu : Option Nat) :
    (call c d .gq "GetBestItem" [] (Heap.ofState s cu)).view =
        (match s.gq with
         | [] => .err .indexError
         | (k, i) :: t => .ok { s with gq := t } s.trials.size (.pair i k)) ∧
      (call c d .gq "Clear" [] (Heap.ofState s cu)).view = .ok { s with gq := [] } s.trials.size .none ∧
      (call c d .gq "IsEmpty" [] (Heap.ofState s cu)).view = .ok s s.trials.size (.bool s.gq.isEmpty) ∧
      (call c d .gq "GetLen" [] (Heap.ofState s cu)).view = .ok s s.trials.size (.nat s.gq.length) ∧
      (call c d .gq "GetMaxLen" [] (Heap.ofState s cu)).view =
        .ok s s.trials.size (match s.maxlen with | some n => .nat n | none => .none) := by
  unfold call
  rw [cq_GetBestItem_gq, cq_Clear c d .gq (by decide), cq_IsEmpty_gq, cq_GetLen_gq, cq_GetMaxLen_gq]
  refine ⟨?_, rfl, rfl, rfl, rfl⟩
  show (match s.gq with | [] => _ | (k, i) :: t => _ : MOut χ κ).view = _
  cases s.gq with
  | nil => rfl
  | cons e t => obtain ⟨k, i⟩ := e; rfl

/-- **`CharacteristicsQueue.__init__(maxlen)`**: an empty queue with that `maxlen` -/
theorem characteristicsQueue_init_src (c : Ctx χ κ) (d : Nat) (s : State χ κ) (m : Option Nat) (cu : Option Nat) :
    (call c d .gq "__init__" [match m with | some n => .nat n | none => .none] (Heap.ofState s cu)).view =
      .ok { s with gq := [], maxlen := m } s.trials.size .none := by
  unfold call
  rw [envN_succ, rs_gq_init]
  cases m <;> sd_simp [characteristicsQueue_initParams, characteristicsQueue_init, ce_depq, lv_baseQueue] <;> rfl

/-- "refill if the queue is empty, then pop": `none` when the queue is still empty -/
def popStep (c : Ctx χ κ) (glob : Bool) (s : State χ κ) : Option (State χ κ × Nat × κ) :=
  let s1 := if (selq glob s).isEmpty then refill c.le s else s
  match selq glob s1 with
  | [] => none
  | (k, i) :: t => some (setq glob s1 t, i, k)

/-- `SD.popCurrent` with "fuel exhausted" (`none`) kept apart from the model's `IndexError` -/
def popCurrentO (c : Ctx χ κ) (glob : Bool) : Nat → State χ κ → Option (Except Err (State χ κ × Nat × κ))
  | 0, _ => none
  | fuel+1, s =>
    match popStep c glob s with
    | none => some (.error .indexError)
    | some (s', i, k) =>
      match s'.trials[i]? with
      | none => some (.error .attributeError)
      | some it => if c.ne k (curOf glob it) then popCurrentO c glob fuel s' else some (.ok (s', i, k))

/-- `popCurrentO` refines the model's `popCurrent`: the model reports exhausted fuel as `IndexError` -/
theorem popCurrent_eq_O (c : Ctx χ κ) (glob : Bool) (fuel : Nat) (s : State χ κ) :
    SD.popCurrent c.le c.ne glob fuel s = (popCurrentO c glob fuel s).getD (.error .indexError) := by
  induction fuel generalizing s with
  | zero => rfl
  | succ n ih =>
    rw [popCurrent_succ, popCurrentO, popStep]
    generalize (if (selq glob s).isEmpty then refill c.le s else s) = s1
    cases selq glob s1 with
    | nil => rfl
    | cons e t =>
      obtain ⟨k, i⟩ := e
      simp only [setq_trials]
      cases s1.trials[i]? with
      | none => rfl
      | some it =>
        simp only []
        cases c.ne k (curOf glob it) with
        | true => exact ih _
        | false => rfl

/-- what the dual-queue pops need of the container: it is a `SearchDataDualQueue`, not empty, closed, walked completely by the
iteration bound, and its queues refer to existing items.  All of it is preserved by the pops. -/
structure DInv (c : Ctx χ κ) (N : Nat) (s : State χ κ) : Prop where
  dual : s.dual = true
  first : ∃ i0, s.first = some i0
  inr : InR N s.first
  closed : ClosedA s.trials N
  fuel : walk s c.ifuel s.first = traversal s
  qin : QIn N s

theorem traversal_mem_lt {c : Ctx χ κ} {N : Nat} {s : State χ κ} (h : DInv c N s) : ∀ i ∈ traversal s, i < N := by
  rw [← h.fuel]
  exact walk_mem_lt h.closed _ _ h.inr

theorem DInv.congr {c : Ctx χ κ} {N : Nat} {s s' : State χ κ} (h : DInv c N s) (ht : s'.trials = s.trials)
    (hf : s'.first = s.first) (hd : s'.dual = s.dual) (hq : QIn N s') : DInv c N s' :=
  { dual := hd.trans h.dual, first := hf ▸ h.first, inr := hf ▸ h.inr, closed := ht ▸ h.closed
    fuel := by rw [walk_congr ht, hf, traversal_congr ht hf]; exact h.fuel
    qin := hq }

theorem DInv_refill {c : Ctx χ κ} {N : Nat} {s : State χ κ} (h : DInv c N s) : DInv c N (refill c.le s) :=
  h.congr (refill_trials s) (refill_first s) (refill_dual s) (by
    rw [refill_def c.le]
    exact foldl_refillStep_qin c.le N _ (traversal_mem_lt h) _
      ⟨fun e he => absurd he List.not_mem_nil, fun e he => absurd he List.not_mem_nil⟩)

theorem DInv_setq {c : Ctx χ κ} {N : Nat} {s : State χ κ} (h : DInv c N s) (glob : Bool) (e : κ × Nat) (t : List (κ × Nat))
    (hq : selq glob s = e :: t) : DInv c N (setq glob s t) ∧ e.2 < N := by
  refine ⟨h.congr (setq_trials glob s t) (setq_first glob s t) (setq_dual glob s t) ?_, ?_⟩ <;> cases glob
  · exact ⟨h.qin.1, fun e' he' => h.qin.2 e' ((show s.lq = e :: t from hq) ▸ List.mem_cons_of_mem _ he')⟩
  · exact ⟨fun e' he' => h.qin.1 e' ((show s.gq = e :: t from hq) ▸ List.mem_cons_of_mem _ he'), h.qin.2⟩
  · exact h.qin.2 e ((show s.lq = e :: t from hq) ▸ List.mem_cons_self)
  · exact h.qin.1 e ((show s.gq = e :: t from hq) ▸ List.mem_cons_self)

theorem popStep_inv {c : Ctx χ κ} {N : Nat} {s : State χ κ} (h : DInv c N s) (glob : Bool) (s' : State χ κ) (i : Nat) (k : κ)
    (hp : popStep c glob s = some (s', i, k)) : DInv c N s' ∧ i < N := by
  unfold popStep at hp
  have h1 : DInv c N (if (selq glob s).isEmpty then refill c.le s else s) := by
    by_cases he : (selq glob s).isEmpty = true
    · simp only [he, ↓reduceIte]; exact DInv_refill h
    · simp only [he, Bool.false_eq_true, ↓reduceIte]; exact h
  revert hp
  generalize (if (selq glob s).isEmpty then refill c.le s else s) = s1 at h1
  intro hp
  cases hq : selq glob s1 with
  | nil => simp only [hq] at hp; cases hp
  | cons e t =>
    obtain ⟨k', i'⟩ := e
    simp only [hq, Option.some.injEq, Prod.mk.injEq] at hp
    obtain ⟨rfl, rfl, rfl⟩ := hp
    exact DInv_setq h1 glob _ t hq

/-- what "refill if empty; `bestItem = GetBestItem()`" does (`popStep`) -/
def StepSpec (c : Ctx χ κ) (glob : Bool) (N : Nat) (step : IState χ κ → Out χ κ) : Prop :=
  ∀ s na cu l, DInv c N s → ∃ cu' g', step ⟨⟨s, na, cu⟩, l⟩ =
    match popStep c glob s with
    | none => .raised ⟨g', l⟩ .indexError
    | some (s', i, k) => .normal ⟨⟨s', na, cu'⟩, ("bestItem", .pair i k) :: l⟩

/-- what the loop condition `bestItem[1] != bestItem[0].<characteristic>` evaluates to -/
def CndSpec (c : Ctx χ κ) (glob : Bool) (cnd : IState χ κ → EOut χ κ) : Prop :=
  ∀ (g : Heap χ κ) l i k it, l.lookup "bestItem" = some (.pair i k) → g.s.trials[i]? = some it →
    cnd ⟨g, l⟩ = .val (.bool (c.ne k (curOf glob it))) g

/-- what the dual-queue pops must do according to the model (`popCurrentO` = `SD.popCurrent` with exhausted fuel kept apart) -/
def popCurExpect (c : Ctx χ κ) (glob : Bool) (s : State χ κ) (na : Nat) : View χ κ :=
  match popCurrentO c glob (c.wfuel + 1) s with
  | none => .outOfFuel
  | some (.ok (s', i, _)) => .ok s' na (.ref i)
  | some (.error e) => .err (Exc.ofErr e)

/-- a dual-queue pop is a do-while: `step`, the `while` loop with the same `step`, the `return`.  With the bound `n` on the loop it is
`popCurrentO` at `n + 1`, read as `popCurExpect` reads it -/
theorem popLoop (c : Ctx χ κ) (env : MEnv χ κ) (glob : Bool) (N : Nat) (cnd : IState χ κ → EOut χ κ) (step : IState χ κ → Out χ κ)
    (hcnd : CndSpec c glob cnd) (hstep : StepSpec c glob N step) :
    ∀ (n : Nat) (s : State χ κ) (na : Nat) (cu : Option Nat) (l : Locals χ κ), DInv c N s →
      (match step ⟨⟨s, na, cu⟩, l⟩ with
        | .normal st =>
          match whileLoop n cnd step st with
          | .normal st' => execList c env ⟨.dual, .sd⟩ [.ret "bestItem[0]"] st'
          | o => o
        | o => o).toMOut.view =
      match popCurrentO c glob (n + 1) s with
      | none => .outOfFuel
      | some (.ok (s', i, _)) => .ok s' na (.ref i)
      | some (.error e) => .err (Exc.ofErr e) := by
  intro n
  induction n using Nat.strongRecOn with
  | _ n ih =>
    intro s na cu l hinv
    obtain ⟨cu', g', hs⟩ := hstep s na cu l hinv
    rw [hs, popCurrentO]
    cases hp : popStep c glob s with
    | none => simp only [Out.toMOut, MOut.view, Exc.ofErr]
    | some r =>
      obtain ⟨s', i, k⟩ := r
      obtain ⟨hinv', hi⟩ := popStep_inv hinv glob s' i k hp
      obtain ⟨it, hit, -, -⟩ := hinv'.closed.get hi
      have hl : (("bestItem", .pair i k) :: l).lookup "bestItem" = some (.pair i k) := by
        simp only [List.lookup_cons, beq_self_eq_true]
      simp only [hit]
      rw [whileLoop, hcnd ⟨s', na, cu'⟩ _ i k it hl hit]
      cases hne : c.ne k (curOf glob it) with
      | false => sd_simp [hl]; simp only [Out.toMOut, MOut.view]
      | true =>
        cases n with
        | zero => simp only [↓reduceIte, popCurrentO, Out.toMOut, MOut.view]
        | succ m =>
          simp only [↓reduceIte]
          -- the goal nests the `match` on `step` inside the one on the loop, the statement the other way round
          rw [← ih m (Nat.lt_succ_self m) s' na cu' _ hinv']
          cases step ⟨⟨s', na, cu'⟩, ("bestItem", .pair i k) :: l⟩ <;> rfl

/-- the two statements "refill if empty; `bestItem = GetBestItem()`" of a pop, on the queue that `emp` / `best` name -/
def pairOn (emp best : String) : List Stmt := [
    .ite emp [.call [] "self.RefillQueue" []] [],
    .call ["bestItem"] best []]

theorem popG_shape : searchDataDualQueue_GetDataItemWithMaxGlobalR =
    pairOn "self._RGlobalQueue.IsEmpty()" "self._RGlobalQueue.GetBestItem" ++
      [.while "bestItem[1] != bestItem[0].globalR" (pairOn "self._RGlobalQueue.IsEmpty()" "self._RGlobalQueue.GetBestItem"),
       .ret "bestItem[0]"] := rfl
theorem popL_shape : searchDataDualQueue_GetDataItemWithMaxLocalR =
    pairOn "self.__RLocalQueue.IsEmpty()" "self.__RLocalQueue.GetBestItem" ++
      [.while "bestItem[1] != bestItem[0].localR" (pairOn "self.__RLocalQueue.IsEmpty()" "self.__RLocalQueue.GetBestItem"),
       .ret "bestItem[0]"] := rfl

theorem refillDual_done (c : Ctx χ κ) (d N : Nat) (s : State χ κ) (na : Nat) (cu : Option Nat) (h : DInv c N s) :
    ∃ cur', envN c (d+3) .sd "RefillQueue" [] ⟨s, na, cu⟩ = .done ⟨refill c.le s, na, cur'⟩ .none := by
  obtain ⟨cur', hr⟩ := refillDual_call c d N s na cu h.dual ⟨h.inr, h.closed⟩
  obtain ⟨i0, hfi⟩ := h.first
  refine ⟨cur', ?_⟩
  rw [hr, h.fuel, ← refill_def c.le, hfi]

theorem pairOn_spec (c : Ctx χ κ) (d N : Nat) (glob : Bool) (o : Obj) (fq : Expr) (emp best : String)
    (hemp : exprTable.lookup emp = some (.call0 fq "IsEmpty")) (hbest : calleeTable.lookup best = some (.method fq "GetBestItem"))
    (hfq : ∀ (l : Locals χ κ) (g : Heap χ κ), evalExpr c (envN c (d+3)) ⟨.dual, .sd⟩ l fq g = .val (.obj o) g)
    (hE : ∀ g : Heap χ κ, envN c (d+3) o "IsEmpty" [] g = .done g (.bool (selq glob g.s).isEmpty))
    (hB : ∀ g : Heap χ κ, envN c (d+3) o "GetBestItem" [] g =
      match selq glob g.s with
      | [] => .raised g .indexError
      | (k, i) :: t => .done { g with s := setq glob g.s t } (.pair i k)) :
    StepSpec c glob N (fun st => execList c (envN c (d+3)) ⟨.dual, .sd⟩ (pairOn emp best) st) := by
  intro s na cu l h
  obtain ⟨cur', hrf⟩ := refillDual_done c d N s na cu h
  cases hq : selq glob s with
  | cons e t =>
    obtain ⟨k, i⟩ := e
    refine ⟨cu, ⟨s, na, cu⟩, ?_⟩
    sd_simp [pairOn, hemp, hbest, hfq, hE, hB, hq, List.isEmpty_cons, popStep]
  | nil =>
    cases hq' : selq glob (refill c.le s) with
    | nil =>
      refine ⟨cu, ⟨refill c.le s, na, cur'⟩, ?_⟩
      sd_simp [pairOn, hemp, hbest, hfq, hE, hB, hq, List.isEmpty_nil, hrf, hq', popStep]
    | cons e t =>
      obtain ⟨k, i⟩ := e
      refine ⟨cur', ⟨s, na, cu⟩, ?_⟩
      sd_simp [pairOn, hemp, hbest, hfq, hE, hB, hq, List.isEmpty_nil, hrf, hq', popStep]

theorem cnd_spec (c : Ctx χ κ) (env : MEnv χ κ) (fr : Frame) (glob : Bool) :
    CndSpec c glob (fun s => evalExpr c env fr s.l
      (.ne (.idx1 (.var "bestItem")) (.acc (if glob then .globalR else .localR) (.idx0 (.var "bestItem")))) s.g) := by
  intro g l i k it hl hit
  cases glob <;> sd_simp [hl, hit, curOf]

theorem pop_call (c : Ctx χ κ) (d N : Nat) (glob : Bool) (m cond : String) (ce : Expr) (pair : List Stmt)
    (hres : resolve true .sd m = some (.dual, ["self"], pair ++ [.while cond pair, .ret "bestItem[0]"]))
    (hce : exprTable.lookup cond = some ce)
    (hcnd : CndSpec c glob (fun s => evalExpr c (envN c (d+3)) ⟨.dual, .sd⟩ s.l ce s.g))
    (hstep : StepSpec c glob N (fun st => execList c (envN c (d+3)) ⟨.dual, .sd⟩ pair st))
    (s : State χ κ) (na : Nat) (cu : Option Nat) (hinv : DInv c N s) :
    (envN c (d+4) .sd m [] ⟨s, na, cu⟩).view = popCurExpect c glob s na := by
  simp only [envN_succ, hinv.dual, hres, runBody_toMOut, bindParams, List.length_nil, ↓reduceIte, List.zip_nil_right, List.zip_nil_left,
    execList_append _ _ _ pair, execList_while c _ _ hce]
  exact popLoop c (envN c (d+3)) glob N _ _ hcnd hstep c.wfuel s na cu _ hinv

theorem popG_call (c : Ctx χ κ) (d N : Nat) (s : State χ κ) (na : Nat) (cu : Option Nat) (hinv : DInv c N s) :
    (envN c (d+4) .sd "GetDataItemWithMaxGlobalR" [] ⟨s, na, cu⟩).view = popCurExpect c true s na :=
  pop_call c d N true _ _ _ _ (popG_shape ▸ rs_dual_GetDataItemWithMaxGlobalR) ex_32 (cnd_spec c _ _ true)
    (pairOn_spec c d N true .gq .fGq _ _ ex_28 ce_4 (fun _ _ => rfl) (cq_IsEmpty_gq c (d+2)) (cq_GetBestItem_gq c (d+2))) s na cu hinv

theorem popL_call (c : Ctx χ κ) (d N : Nat) (s : State χ κ) (na : Nat) (cu : Option Nat) (hinv : DInv c N s) :
    (envN c (d+4) .sd "GetDataItemWithMaxLocalR" [] ⟨s, na, cu⟩).view = popCurExpect c false s na :=
  pop_call c d N false _ _ _ _ (popL_shape ▸ rs_dual_GetDataItemWithMaxLocalR) ex_33 (cnd_spec c _ _ false)
    (pairOn_spec c d N false .lq .fLq _ _ ex_29 ce_7 (fun _ _ => rfl) (cq_IsEmpty_lq c (d+2)) (cq_GetBestItem_lq c (d+2))) s na cu hinv

def popCurModel (c : Ctx χ κ) (glob : Bool) (s : State χ κ) (na : Nat) : View χ κ :=
  match SD.popCurrent c.le c.ne glob (c.wfuel + 1) s with
  | .ok (s', i, _) => .ok s' na (.ref i)
  | .error e => .err (Exc.ofErr e)

/-- unless the `while` bound is hit, `popCurExpect` IS the model's `popCurrent` at fuel `wfuel + 1` (the model itself reports an
exhausted fuel as `IndexError`) -/
theorem popCurExpect_model (c : Ctx χ κ) (glob : Bool) (s : State χ κ) (na : Nat) :
    popCurExpect c glob s na = .outOfFuel ∨ popCurExpect c glob s na = popCurModel c glob s na := by
  unfold popCurExpect popCurModel
  rw [popCurrent_eq_O]
  cases popCurrentO c glob (c.wfuel + 1) s with
  | none => exact Or.inl rfl
  | some r =>
    right
    simp only [Option.getD_some]
    cases r with
    | error e => rfl
    | ok v => rfl

theorem dualPops_src (c : Ctx χ κ) (d : Nat) (s : State χ κ) (cu : Option Nat) (hinv : DInv c s.trials.size s) :
    (call c (d+3) .sd "GetDataItemWithMaxGlobalR" [] (Heap.ofState s cu)).view = popCurExpect c true s s.trials.size ∧
      (call c (d+3) .sd "GetDataItemWithMaxLocalR" [] (Heap.ofState s cu)).view = popCurExpect c false s s.trials.size :=
  ⟨popG_call c d _ s _ cu hinv, popL_call c d _ s _ cu hinv⟩

/-- **the dual-queue pops, source tree = model** (`popCurExpect`, see `popCurExpect_model`), on a non-empty
`SearchDataDualQueue` without dangling references, with the iteration bound of the model -/
theorem getDataItemWithMaxR_dual_src (c : Ctx χ κ) (d : Nat) (s : State χ κ) (cu : Option Nat) (hd : s.dual = true)
    (hcl : Closed s) (hne : s.first ≠ none) (hq : QIn s.trials.size s) (hfuel : c.ifuel = s.trials.size) :
    (call c (d+3) .sd "GetDataItemWithMaxGlobalR" [] (Heap.ofState s cu)).view = popCurExpect c true s s.trials.size ∧
      (call c (d+3) .sd "GetDataItemWithMaxLocalR" [] (Heap.ofState s cu)).view = popCurExpect c false s s.trials.size :=
  dualPops_src c d s cu
    { dual := hd, first := Option.ne_none_iff_exists'.1 hne, inr := hcl.1, closed := hcl.2
      fuel := hfuel ▸ walk_size s, qin := hq }

theorem getDataItemWithMaxR_dual_src_wf (c : Ctx χ κ) (d : Nat) (s : State χ κ) (t : List Nat) (cu : Option Nat)
    (hd : s.dual = true) (hwf : RepL s.trials s.first t) (hq : QIn s.trials.size s) (hfuel : s.trials.size ≤ c.ifuel) :
    (call c (d+3) .sd "GetDataItemWithMaxGlobalR" [] (Heap.ofState s cu)).view = popCurExpect c true s s.trials.size ∧
      (call c (d+3) .sd "GetDataItemWithMaxLocalR" [] (Heap.ofState s cu)).view = popCurExpect c false s s.trials.size :=
  dualPops_src c d s cu
    { dual := hd, first := Option.ne_none_iff_exists'.1 (repL_first_ne hwf)
      inr := (closed_of_repL hwf).1, closed := (closed_of_repL hwf).2
      fuel := walk_of_repL hwf hfuel, qin := hq }

/-- **`SaveProgress` / `LoadProgress`** have empty bodies: nothing happens, `None` is returned -/
theorem saveLoadProgress_src (c : Ctx χ κ) (d : Nat) (g : Heap χ κ) (v : Val χ κ) :
    call c d .sd "SaveProgress" [v] g = .done g .none ∧ call c d .sd "LoadProgress" [v] g = .done g .none := by
  unfold call
  rw [envN_succ, envN_succ, rs_sd_SaveProgress, rs_sd_LoadProgress]
  constructor <;> sd_simp [searchData_SaveProgressParams, searchData_SaveProgress, searchData_LoadProgressParams, searchData_LoadProgress]
end
end SDInterp

namespace SDInterp.Examples
open SD Gen.ProcSrc Gen.SearchDataCtl

def C (n : Nat) : Ctx Nat Nat :=
  { lt := fun a b => decide (a < b), le := fun a b => decide (a ≤ b), ne := fun a b => a != b, ifuel := n, wfuel := 10 }

def mk (x g : Nat) (lR : Nat := 0) : Item Nat Nat := { x := x, globalR := g, localR := lR }

/-- a decidable picture of an item (for `decide`) -/
structure ItemS where
  x : Nat
  left : Option Nat
  right : Option Nat
  gR : Nat
  lR : Nat
deriving DecidableEq

structure StateS where
  trials : List ItemS
  first : Option Nat
  gq : List (Nat × Nat)
  lq : List (Nat × Nat)
  maxlen : Option Nat
  dual : Bool
deriving DecidableEq

def snapS (s : State Nat Nat) : StateS :=
  { trials := s.trials.toList.map fun it => ⟨it.x, it.left, it.right, it.globalR, it.localR⟩, first := s.first, gq := s.gq,
    lq := s.lq, maxlen := s.maxlen, dual := s.dual }

inductive Snap where
  | ok (s : StateS) (nall : Nat) (v : Val Nat Nat)
  | err (e : Exc)
  | stuck
  | outOfFuel
deriving DecidableEq

def snap (v : View Nat Nat) : Snap :=
  match v with
  | .ok s na r => .ok (snapS s) na r
  | .err e => .err e
  | .stuck => .stuck
  | .outOfFuel => .outOfFuel

def s2 : State Nat Nat := SD.insertFirst { maxlen := some 2 } (mk 0 0) (mk 100 7)
def s3 : State Nat Nat := match SD.insert (C 0).lt (C 0).le s2 (mk 50 3) none with | .ok s => s | .error _ => s2
def s4 : State Nat Nat := match SD.insert (C 0).lt (C 0).le s3 (mk 25 9) (some 2) with | .ok s => s | .error _ => s3

example : snapS s4 = ⟨[⟨0, none, some 3, 0, 0⟩, ⟨100, some 2, none, 7, 0⟩, ⟨50, some 3, some 1, 3, 0⟩, ⟨25, some 0, some 2, 9, 0⟩],
    some 0, [(9, 3), (3, 2)], [], some 2, false⟩ := by decide +kernel

/-- the interpreter RUN on the generated trees gives the model's results (the `InsertDataItem` with hint evicts through
`maxlen`; in the next example the second `GetDataItemWithMaxGlobalR` goes through `RefillQueue`) -/
example : snap (call (C 0) 0 .sd "InsertFirstDataItem" [.ref 0, .ref 1] ⟨{ maxlen := some 2, trials := #[mk 0 0, mk 100 7] }, 0, none⟩).view =
      .ok (snapS s2) 2 .none ∧
    snap (call (C 2) 2 .sd "InsertDataItem" [.ref 2, .none] (Heap.pending s2 (mk 50 3))).view = .ok (snapS s3) 3 .none ∧
    snap (call (C 3) 2 .sd "InsertDataItem" [.ref 3, .ref 2] (Heap.pending s3 (mk 25 9))).view = .ok (snapS s4) 4 .none ∧
    snap (call (C 4) 1 .sd "FindDataItemByOneDimensionalPoint" [.coord 30] (Heap.ofState s4)).view =
      .ok (snapS s4) 4 (.ref 2) ∧
    snap (call (C 4) 1 .sd "FindDataItemByOneDimensionalPoint" [.coord 100] (Heap.ofState s4)).view =
      .ok (snapS s4) 4 .none := by decide +kernel

example : snap (call (C 4) 2 .sd "GetDataItemWithMaxGlobalR" [] (Heap.ofState s4)).view =
      .ok (snapS { s4 with gq := [(3, 2)] }) 4 (.ref 3) ∧
    snap (call (C 4) 2 .sd "GetDataItemWithMaxGlobalR" [] (Heap.ofState { s4 with gq := [] })).view =
      .ok (snapS { s4 with gq := [(7, 1)] }) 4 (.ref 3) ∧
    snap (popExpect (C 4) { s4 with gq := [] } 4) = .ok (snapS { s4 with gq := [(7, 1)] }) 4 (.ref 3) := by decide +kernel

def snapIns (s : State Nat Nat) (new : Item Nat Nat) (hint : Option Nat) : Snap :=
  snap (View.ofModel ((SD.insert (C 0).lt (C 0).le s new hint).map fun s' => (s', Val.none)))

/-- the generated tree of `InsertDataItem`, run as a tree, is the model on these inputs (base line for the edits below) -/
example : snap (runTree (C 3) 3 .base .sd searchData_InsertDataItemParams searchData_InsertDataItem [.ref 3, .ref 2]
      (Heap.pending s3 (mk 25 9))).view = snapIns s3 (mk 25 9) (some 2) ∧
    snap (runTree (C 3) 3 .base .sd searchData_InsertDataItemParams searchData_InsertDataItem [.ref 3, .none]
      (Heap.pending s3 (mk 25 9))).view = snapIns s3 (mk 25 9) none := by decide +kernel

/-- `InsertDataItem` with the first two pointer writes swapped (`rightDataItem.SetLeft(newDataItem)` BEFORE
`newDataItem.SetLeft(rightDataItem.GetLeft())`) -/
def insSwap12 : List Stmt :=
  [
    .assign "flag" "True",
    .ite "rightDataItem is None" [
      .call ["rightDataItem"] "self.FindDataItemByOneDimensionalPoint" ["newDataItem.GetX()"],
      .assign "flag" "False"] [],
    .call [] "rightDataItem.SetLeft" ["newDataItem"],
    .call [] "newDataItem.SetLeft" ["rightDataItem.GetLeft()"],
    .call [] "newDataItem.SetRight" ["rightDataItem"],
    .call [] "newDataItem.GetLeft().SetRight" ["newDataItem"],
    .call [] "self._allTrials.append" ["newDataItem"],
    .call [] "self._RGlobalQueue.Insert" ["newDataItem.globalR", "newDataItem"],
    .ite "flag" [
      .call [] "self._RGlobalQueue.Insert" ["rightDataItem.globalR", "rightDataItem"]] []]

/-- **the tie is sensitive to the order of the pointer writes**: with writes 1 and 2 swapped the interpreter is not stuck and
the result is NOT the model (the new item becomes its own left and right neighbour, the old left neighbour keeps pointing at the
right one) -/
theorem swap12_not_model :
    snap (runTree (C 3) 3 .base .sd searchData_InsertDataItemParams insSwap12 [.ref 3, .ref 2] (Heap.pending s3 (mk 25 9))).view ≠
      snapIns s3 (mk 25 9) (some 2) := by decide +kernel

example : snap (runTree (C 3) 3 .base .sd searchData_InsertDataItemParams insSwap12 [.ref 3, .ref 2] (Heap.pending s3 (mk 25 9))).view =
    .ok ⟨[⟨0, none, some 2, 0, 0⟩, ⟨100, some 2, none, 7, 0⟩, ⟨50, some 3, some 1, 3, 0⟩, ⟨25, some 3, some 3, 9, 0⟩],
      some 0, [(9, 3), (3, 2)], [], some 2, false⟩ 4 .none := by decide +kernel

/-- `InsertDataItem` with writes 2 and 3 swapped (`newDataItem.SetRight(rightDataItem)` BEFORE `rightDataItem.SetLeft(newDataItem)`) -/
def insSwap23 : List Stmt :=
  [
    .assign "flag" "True",
    .ite "rightDataItem is None" [
      .call ["rightDataItem"] "self.FindDataItemByOneDimensionalPoint" ["newDataItem.GetX()"],
      .assign "flag" "False"] [],
    .call [] "newDataItem.SetLeft" ["rightDataItem.GetLeft()"],
    .call [] "newDataItem.SetRight" ["rightDataItem"],
    .call [] "rightDataItem.SetLeft" ["newDataItem"],
    .call [] "newDataItem.GetLeft().SetRight" ["newDataItem"],
    .call [] "self._allTrials.append" ["newDataItem"],
    .call [] "self._RGlobalQueue.Insert" ["newDataItem.globalR", "newDataItem"],
    .ite "flag" [
      .call [] "self._RGlobalQueue.Insert" ["rightDataItem.globalR", "rightDataItem"]] []]

/-- … whereas swapping writes 2 and 3 (they touch different fields of different items) is STILL the model on these inputs -/
theorem swap23_still_model :
    snap (runTree (C 3) 3 .base .sd searchData_InsertDataItemParams insSwap23 [.ref 3, .ref 2] (Heap.pending s3 (mk 25 9))).view =
        snapIns s3 (mk 25 9) (some 2) ∧
      snap (runTree (C 3) 3 .base .sd searchData_InsertDataItemParams insSwap23 [.ref 3, .none] (Heap.pending s3 (mk 25 9))).view =
        snapIns s3 (mk 25 9) none := by decide +kernel

/-- `InsertDataItem` with `flag = False` moved to the end: the `if flag:` test sees the value from before the reassignment -/
def insStaleFlag : List Stmt :=
  [
    .assign "flag" "True",
    .ite "rightDataItem is None" [
      .call ["rightDataItem"] "self.FindDataItemByOneDimensionalPoint" ["newDataItem.GetX()"]] [],
    .call [] "newDataItem.SetLeft" ["rightDataItem.GetLeft()"],
    .call [] "rightDataItem.SetLeft" ["newDataItem"],
    .call [] "newDataItem.SetRight" ["rightDataItem"],
    .call [] "newDataItem.GetLeft().SetRight" ["newDataItem"],
    .call [] "self._allTrials.append" ["newDataItem"],
    .call [] "self._RGlobalQueue.Insert" ["newDataItem.globalR", "newDataItem"],
    .ite "flag" [
      .call [] "self._RGlobalQueue.Insert" ["rightDataItem.globalR", "rightDataItem"]] [],
    .assign "flag" "False"]

/-- **the flag matters**: tested before it is reassigned, the call WITHOUT hint also queues the right neighbour: not the model
(the entry `(3, 2)` is queued a second time and, with `maxlen = 2`, evicts the entry of the new item); WITH a hint nothing changes -/
theorem staleFlag_not_model :
    snap (runTree (C 3) 3 .base .sd searchData_InsertDataItemParams insStaleFlag [.ref 3, .none] (Heap.pending s3 (mk 25 1))).view ≠
        snapIns s3 (mk 25 1) none ∧
      snap (runTree (C 3) 3 .base .sd searchData_InsertDataItemParams insStaleFlag [.ref 3, .ref 2] (Heap.pending s3 (mk 25 1))).view =
        snapIns s3 (mk 25 1) (some 2) := by decide +kernel

example : (match snap (runTree (C 3) 3 .base .sd searchData_InsertDataItemParams insStaleFlag [.ref 3, .none]
      (Heap.pending s3 (mk 25 1))).view with | .ok s _ _ => some s.gq | _ => none) = some [(3, 2), (3, 2)] ∧
    (match snapIns s3 (mk 25 1) none with | .ok s _ _ => some s.gq | _ => none) = some [(3, 2), (1, 3)] := by decide +kernel

/-- `CharacteristicsQueue.Clear` re-creating the queue WITHOUT `maxlen`: `self.__baseQueue = DEPQ()` -/
def clearRecreate : List Stmt := [.call ["self.__baseQueue"] "DEPQ" []]

/-- **`Clear` must keep `maxlen`**: the re-created queue is unbounded, which is NOT `SD.clearQueue` on a bounded container
(and cannot be told apart on an unbounded one) -/
theorem clearRecreate_not_model :
    snap (runTree (C 0) 0 .cq .gq characteristicsQueue_ClearParams clearRecreate [] (Heap.ofState s4)).view ≠
        .ok (snapS (clearQueue s4)) 4 .none ∧
      snap (runTree (C 0) 0 .cq .gq characteristicsQueue_ClearParams characteristicsQueue_Clear [] (Heap.ofState s4)).view =
        .ok (snapS (clearQueue s4)) 4 .none ∧
      snap (runTree (C 0) 0 .cq .gq characteristicsQueue_ClearParams clearRecreate [] (Heap.ofState { s4 with maxlen := none })).view =
        .ok (snapS (clearQueue { s4 with maxlen := none })) 4 .none := by decide +kernel

/-- statements outside the tables are not silently accepted: an unknown callee, an unknown expression, a private attribute used
in the text of another class, `append` of an item that is not the next heap object, a dangling reference -/
example : snap (runTree (C 3) 3 .base .sd ["self"] [.call [] "self._allTrials.clear" []] [] (Heap.ofState s4)).view = .stuck ∧
    snap (runTree (C 3) 3 .base .sd ["self"] [.ret "self._allTrials[0]"] [] (Heap.ofState s4)).view = .stuck ∧
    snap (runTree (C 3) 3 .dual .sd ["self"] [.ret "self.__firstDataItem"] [] (Heap.ofState s4)).view = .stuck ∧
    snap (runTree (C 3) 3 .base .sd ["self", "newDataItem"] [.call [] "self._allTrials.append" ["newDataItem"]] [.ref 2]
      (Heap.ofState s4)).view = .stuck ∧
    snap (call (C 3) 1 .sd "FindDataItemByOneDimensionalPoint" [.coord 30] (Heap.ofState { s4 with first := some 9 })).view = .stuck := by
  decide +kernel

/-- the empty container: the source raises `StopIteration` where the model says `AttributeError` / `IndexError` -/
example : snap (call (C 0) 2 .sd "InsertDataItem" [.ref 0, .none] (Heap.pending {} (mk 5 5))).view = .err .stopIteration ∧
    snapIns {} (mk 5 5) none = .err .attributeError ∧
    snap (call (C 0) 2 .sd "GetDataItemWithMaxGlobalR" [] (Heap.ofState {})).view = .err .stopIteration ∧
    (match SD.popMaxGlobal (C 0).le ({} : State Nat Nat) with | .error e => some e | .ok _ => none) = some .indexError := by
  decide +kernel

/-- a dual-queue container with a stale entry at the head of the global queue: item 2 was queued with key 9, its
characteristic is now 3 -/
def sd : State Nat Nat := { s3 with dual := true, gq := [(9, 2), (7, 1)], lq := [] }

/-- the interpreter RUN on the generated trees of the dual-queue pops: the stale head is skipped (`while`), the local queue is
refilled first; the results are the model's `popCurrent` -/
example : snap (call (C 3) 3 .sd "GetDataItemWithMaxGlobalR" [] (Heap.ofState sd)).view = snap (popCurModel (C 3) true sd 3) ∧
    snap (call (C 3) 3 .sd "GetDataItemWithMaxGlobalR" [] (Heap.ofState sd)).view =
      .ok (snapS { sd with gq := [] }) 3 (.ref 1) ∧
    snap (call (C 3) 3 .sd "GetDataItemWithMaxLocalR" [] (Heap.ofState sd)).view = snap (popCurModel (C 3) false sd 3) ∧
    snap (popCurExpect (C 3) true sd 3) = snap (popCurModel (C 3) true sd 3) := by decide +kernel

/-- with a `while` bound that is too small the interpreter says so (the model would say `IndexError`) -/
example : snap (call { C 3 with wfuel := 0 } 3 .sd "GetDataItemWithMaxGlobalR" [] (Heap.ofState sd)).view = .outOfFuel := by
  decide +kernel

theorem closed_s4 : Closed s4 := by
  refine ⟨?_, Nat.le_refl _, ?_⟩
  · intro i h; cases h; decide
  · intro j it hj hit
    have hj' : j < 4 := hj
    match j, hj' with
    | 0, _ | 1, _ | 2, _ | 3, _ => cases hit; constructor <;> intro i h <;> cases h <;> decide

theorem closed_sd : Closed sd := by
  refine ⟨?_, Nat.le_refl _, ?_⟩
  · intro i h; cases h; decide
  · intro j it hj hit
    have hj' : j < 3 := hj
    match j, hj' with
    | 0, _ | 1, _ | 2, _ => cases hit; constructor <;> intro i h <;> cases h <;> decide

/-- the tie theorems instantiated on these containers (their hypotheses are satisfiable) -/
example := insertDataItem_src (C 4) 0 s4 (mk 10 1) none none closed_s4 (InR_none _) rfl
example := insertDataItem_src (C 4) 0 s4 (mk 10 1) (some 3) none closed_s4 (by intro i h; cases h; decide) rfl
example := find_src (C 4) 0 s4 30 none closed_s4 rfl
example := refillQueue_src (C 4) 0 s4 none closed_s4 rfl
example := getDataItemWithMaxGlobalR_src (C 4) 0 s4 none rfl closed_s4 rfl
example := getDataItemWithMaxR_dual_src (C 3) 0 sd none rfl closed_sd (by decide)
  ⟨by intro e he; simp only [sd, List.mem_cons, List.not_mem_nil, or_false] at he; rcases he with rfl | rfl <;> decide,
   by intro e he; cases he⟩ rfl
example := insertFirstDataItem_src (C 0) 0 ({} : State Nat Nat) (mk 0 0) (mk 100 7) none

theorem repL_s4 : RepL s4.trials s4.first [0, 3, 2, 1] := by
  refine ⟨by decide, by decide, by decide, ?_⟩
  refine ⟨by decide, by decide, by decide, by decide, trivial⟩

/-- … and the well-formed versions, at an iteration bound larger than the container -/
example := insertDataItem_src_wf (C 50) 0 s4 _ (mk 10 1) (some 3) none repL_s4 (by intro i h; cases h; decide) (by decide)
example := getDataItemWithMaxGlobalR_src_wf (C 50) 0 s4 _ none rfl rfl repL_s4 (by decide)
end SDInterp.Examples

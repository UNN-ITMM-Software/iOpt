import IOptProofs.EvNumPt
/-!
# The loop of `__GetXonY` over a linearly ordered field

* `invDigits`: the digits recovered by `xLoop`; `xLoop_eq`: `xLoop` returns
  `x + r1 · frac (invDigits …)` (unconditionally).
* `invDigits_ptOf` (from `Inv.invStep_step`): on the centre of the cell of a valid digit list the loop recovers that list.
* `invDigits_close` (from `Inv.step_invStep`): from an arbitrary cube point it recovers valid digits, and the centre of
  their cell is within half a cell width of the point.
-/

set_option linter.unusedSectionVars false
namespace Ev.Num
variable {α : Type} [Field α] [LinearOrder α] [IsStrictOrderedRing α] [FloorSemiring α]

/-- the sign read by `__GetXonY`: `-1` if `y < 0` else `1` -/
def sgnOf (y : α) : Int := if y < 0 then -1 else 1

theorem sgnOf_pm (y : α) : sgnOf y = 1 ∨ sgnOf y = -1 := by
  unfold sgnOf; split <;> simp

theorem xLevel_eq (r : α) (y : List α) :
    xLevel r y = (y.map sgnOf, y.map fun yi => yi - (sgnOf yi : α) * r) := by
  unfold xLevel
  simp only [Prod.mk.injEq]
  refine ⟨rfl, ?_⟩
  rw [show (List.map (fun yi : α => if yi < 0 then (-1 : Int) else 1) y) = y.map sgnOf from rfl,
    List.zipWith_map_right, List.zipWith_self]
  apply List.map_congr_left
  intro a _
  rw [addSigned_pm _ _ _ (by rcases sgnOf_pm a with h | h <;> simp [h])]
  push_cast; ring

theorem signVec_map_sgnOf (y : List α) : signVec y.length (y.map sgnOf) :=
  ⟨List.length_map _, fun _ hx => by
    obtain ⟨a, _, rfl⟩ := List.mem_map.1 hx
    exact sgnOf_pm a⟩

theorem sgnOf_pm_mul_add {s : Int} (hs : s = 1 ∨ s = -1) {r c : α} (hc : |c| < r) :
    sgnOf ((s : α) * r + c) = s := by
  have h := abs_lt.1 hc
  unfold sgnOf
  rcases hs with rfl | rfl
  · rw [if_neg]; push_cast; linarith
  · rw [if_pos]; push_cast; linarith

/-- on a point `o · r + b` with `|b| < r` the level reads the signs `o` and leaves `b` -/
theorem xLevel_decomp (r : α) : ∀ (o : List Int) (b : List α), o.length = b.length →
    (∀ s ∈ o, s = 1 ∨ s = -1) → (∀ x ∈ b, |x| < r) →
    xLevel r (List.zipWith (fun (s : Int) (c : α) => (s : α) * r + c) o b) = (o, b) := by
  intro o b hl ho hb
  rw [xLevel_eq]
  induction o generalizing b with
  | nil => rw [List.eq_nil_of_length_eq_zero hl.symm]; rfl
  | cons s o ih =>
    obtain ⟨c, b, rfl⟩ := List.exists_cons_of_length_eq_add_one hl.symm
    rw [List.forall_mem_cons] at ho hb
    have := ih b (by simpa using hl) ho.2 hb.2
    simp only [Prod.mk.injEq] at this
    simp only [List.zipWith_cons_cons, List.map_cons, this.1, this.2,
      sgnOf_pm_mul_add ho.1 hb.1, add_sub_cancel_left]

/-- the digits recovered by the loop of `__GetXonY` (same recursion as `xLoop`) -/
def invDigits (n : Nat) : Nat → α → St → List α → List Nat
  | 0, _, _, _ => []
  | k+1, r, s, y =>
    (invStep n s (xLevel (r * half) y).1).2 ::
      invDigits n k (r * half) (invStep n s (xLevel (r * half) y).1).1 (xLevel (r * half) y).2

theorem length_invDigits (n : Nat) : ∀ (k : Nat) (r : α) (s : St) (y : List α),
    (invDigits n k r s y).length = k
  | 0, _, _, _ => rfl
  | k+1, r, s, y => by simp [invDigits, length_invDigits n k]

theorem xLoop_eq (n : Nat) : ∀ (k : Nat) (r r1 x : α) (s : St) (y : List α),
    xLoop n k r r1 x s y = x + r1 * frac n (invDigits n k r s y)
  | 0, r, r1, x, s, y => by simp [xLoop, invDigits, frac_nil]
  | k+1, r, r1, x, s, y => by
    simp only [xLoop, invDigits, frac_cons]
    rw [xLoop_eq n k, nexp_eq]
    ring

theorem invDigits_ptOf {n : Nat} (hn : Ev.DimOK n) : ∀ (ds : List Nat) (r : α) (s : St),
    0 < r → validState n s → validDigits n ds →
    invDigits n ds.length r s (ptOf n (signs n s ds) r) = ds
  | [], _, _, _, _, _ => rfl
  | d :: ds, r, s, hr, hs, hd => by
    rw [validDigits_cons] at hd
    obtain ⟨hs', ho⟩ := step_shape hs d
    have hsl := signList_signs ds _ hs'
    have hlv : xLevel (r / 2) (ptOf n (signs n s (d :: ds)) r) =
        ((step n s d).2, ptOf n (signs n (step n s d).1 ds) (r / 2)) := by
      rw [signs_cons]
      simp only [ptOf]
      apply xLevel_decomp
      · rw [ho.1, length_ptOf _ _ hsl]
      · exact ho.2
      · exact abs_ptOf_lt _ _ (by positivity) hsl
    simp only [List.length_cons, invDigits, mul_half, hlv, Inv.invStep_step hn hs hd.1]
    rw [invDigits_ptOf hn ds (r / 2) _ (by positivity) hs' hd.2]

theorem abs_sub_sgnOf_le (y r : α) (hy : |y| ≤ 2 * r) :
    |y - (sgnOf y : α) * r| ≤ r := by
  have h := abs_le.1 hy
  unfold sgnOf
  rw [abs_le]
  split
  · push_cast; constructor <;> linarith
  · push_cast; constructor <;> linarith

theorem forall₂_zipWith_right {β γ δ : Type} {R : β → δ → Prop} {h : β → γ → δ} {y : List β}
    {b : List γ} (H : List.Forall₂ (fun a c => R a (h a c)) y b) :
    List.Forall₂ R y (List.zipWith h y b) := by
  induction H with
  | nil => exact .nil
  | cons hac _ ih => exact .cons hac ih

/-- the digits recovered by the loop of `__GetXonY` from an arbitrary point: a level subtracts `±r/2` from
a coordinate of absolute value `≤ r`, which leaves absolute value `≤ r/2`, and what it subtracts is the level's
term of `ptOf` -/
theorem invDigits_close {n : Nat} (hn : Ev.DimOK n) : ∀ (k : Nat) (r : α) (s : St)
    (y : List α), 0 < r → validState n s → y.length = n → (∀ yi ∈ y, |yi| ≤ r) →
    validDigits n (invDigits n k r s y) ∧
    List.Forall₂ (fun yi c => |yi - c| ≤ r / 2^k) y
      (ptOf n (signs n s (invDigits n k r s y)) r)
  | 0, r, s, y, hr, hs, hy, hb => by
    simp only [invDigits, signs_nil, ptOf]
    refine ⟨validDigits_nil n, List.forall₂_iff_zip.2 ⟨by simp [hy], fun {a c} hac => ?_⟩⟩
    obtain ⟨ha, hc⟩ := List.of_mem_zip hac
    rw [List.eq_of_mem_replicate hc, sub_zero, pow_zero, div_one]
    exact hb a ha
  | k+1, r, s, y, hr, hs, hy, hb => by
    obtain ⟨hdlt, hstep⟩ := Inv.step_invStep hn hs (hy ▸ signVec_map_sgnOf y)
    have hs' := invStep_shape hs (hy ▸ signVec_map_sgnOf y)
    obtain ⟨ihv, ihc⟩ := invDigits_close hn k (r / 2) (invStep n s (y.map sgnOf)).1
      (y.map fun yi => yi - (sgnOf yi : α) * (r / 2)) (by positivity) hs'
      (by rw [List.length_map, hy])
      (fun yi hyi => by
        obtain ⟨a, ha, rfl⟩ := List.mem_map.1 hyi
        exact abs_sub_sgnOf_le a (r / 2) (by have := hb a ha; linarith))
    simp only [invDigits, mul_half, xLevel_eq]
    refine ⟨validDigits_cons.2 ⟨hdlt, ihv⟩, ?_⟩
    rw [signs_cons, hstep, ptOf, List.zipWith_map_left]
    refine forall₂_zipWith_right ((List.forall₂_map_left_iff.1 ihc).imp fun a c h => ?_)
    rwa [sub_add_eq_sub_sub, pow_succ', ← div_div]

theorem inverseCube_eq {n : Nat} (hn : Ev.DimOK n) (m : Nat) (y : List α) :
    inverseCube n m y = frac n (invDigits n m (1 / 2) (St.init n) y) := by
  rw [inverseCube, if_neg (by simpa using hn.ne_one), xLoop_eq, half_eq, zero_add, one_mul]

end Ev.Num

import IOptGen.Meta
import IOptProofs.CertBlocks
import Mathlib.Algebra.Order.Field.Rat
import Mathlib.Algebra.Order.Field.Basic
import Mathlib.Tactic.Positivity
import Mathlib.Tactic.Linarith
import Mathlib.Tactic.Push
/-!
# Declared metadata of the shipped problem instances: the Boolean check and its meaning (for C18, C10)

`Gen.metaRowsPacked` (regenerated from the running Python classes) has one row per shipped instance.
`metaOK` is the decidable well-formedness check, `MetaWF` what it means over the rationals; `rowOK` is what the kernel
evaluates on every row (`BenchMeta1`): `metaOK`, except that a row of an open family is compared with the constructor's
metadata, which passes `metaOK` for every argument.

The family code is the first word of a row (`MetaRow.family`): hill 0, shekel 1, shekel4 2, grishagin 3, gkls 4,
rastrigin 5, xsquared 6, stronginc3 7 (the legend of the generated `IOptGen/Meta.lean`).  Rastrigin and XSquared are the open
families (any dimension; the table holds `n = 1..50`).
-/

namespace BenchMeta
open Gen

theorem two_pow_pos (k : Nat) : (0 : Rat) < (2 : Rat) ^ k := by positivity

theorem toRat_lt_iff (a b : Dy) : Dy.lt a b = true ↔ a.toRat < b.toRat := by
  unfold Dy.lt Dy.toRat
  rw [decide_eq_true_iff, div_lt_div_iff₀ (two_pow_pos _) (two_pow_pos _)]
  norm_cast

theorem toRat_le_iff (a b : Dy) : Dy.le a b = true ↔ a.toRat ≤ b.toRat := by
  unfold Dy.le Dy.toRat
  rw [decide_eq_true_iff, div_le_div_iff₀ (two_pow_pos _) (two_pow_pos _)]
  norm_cast

/-- the double is (plus or minus) zero -/
def dyIsZero (d : Dy) : Bool := d.1 == 0

theorem toRat_eq_zero_of_isZero {d : Dy} (h : dyIsZero d = true) : d.toRat = 0 := by
  unfold dyIsZero at h
  have : d.1 = 0 := by simpa using h
  simp [Dy.toRat, this]

def lenOK (r : MetaRow) : Bool :=
  r.dimension == r.nFloat && r.dimension == r.nNames && r.lower.length == r.dimension &&
  r.upper.length == r.dimension && r.optPoint.length == r.dimension

def boundsOK (r : MetaRow) : Bool :=
  (List.zip r.lower r.upper).all (fun p => Dy.lt p.1 p.2) &&
  (List.zip r.lower r.optPoint).all (fun p => Dy.le p.1 p.2) &&
  (List.zip r.optPoint r.upper).all (fun p => Dy.le p.1 p.2)

/-- the Boolean well-formedness check of one metadata row (property C18, first sentence) -/
def metaOK (r : MetaRow) : Bool :=
  lenOK r && boundsOK r && r.nObjectives == 1 && r.nOptima == 1

structure MetaWF (r : MetaRow) : Prop where
  dim_nFloat : r.dimension = r.nFloat
  dim_nNames : r.dimension = r.nNames
  len_lower : r.lower.length = r.dimension
  len_upper : r.upper.length = r.dimension
  len_opt : r.optPoint.length = r.dimension
  one_objective : r.nObjectives = 1
  one_optimum : r.nOptima = 1
  lower_lt_upper : List.Forall₂ (fun l u => l.toRat < u.toRat) r.lower r.upper
  lower_le_opt : List.Forall₂ (fun l p => l.toRat ≤ p.toRat) r.lower r.optPoint
  opt_le_upper : List.Forall₂ (fun p u => p.toRat ≤ u.toRat) r.optPoint r.upper

theorem forall₂_of_zip_all {α β : Type} (p : α × β → Bool) (R : α → β → Prop)
    (hp : ∀ a b, p (a, b) = true → R a b) :
    ∀ (l : List α) (u : List β), l.length = u.length → (List.zip l u).all p = true → List.Forall₂ R l u
  | [], [], _, _ => List.Forall₂.nil
  | [], _ :: _, h, _ => by simp at h
  | _ :: _, [], h, _ => by simp at h
  | a :: l, b :: u, h, hall => by
    simp only [List.zip_cons_cons, List.all_cons, Bool.and_eq_true] at hall
    exact List.Forall₂.cons (hp a b hall.1)
      (forall₂_of_zip_all p R hp l u (by simpa using h) hall.2)

theorem metaWF_of_metaOK {r : MetaRow} (h : metaOK r = true) : MetaWF r := by
  simp only [metaOK, lenOK, boundsOK, Bool.and_eq_true, beq_iff_eq] at h
  obtain ⟨⟨⟨⟨⟨⟨⟨h1, h2⟩, h3⟩, h4⟩, h5⟩, ⟨⟨b1, b2⟩, b3⟩⟩, h6⟩, h7⟩ := h
  exact
    { dim_nFloat := h1, dim_nNames := h2, len_lower := h3, len_upper := h4, len_opt := h5
      one_objective := h6, one_optimum := h7
      lower_lt_upper := forall₂_of_zip_all _ _ (fun a b => (toRat_lt_iff a b).1) _ _ (h3.trans h4.symm) b1
      lower_le_opt := forall₂_of_zip_all _ _ (fun a b => (toRat_le_iff a b).1) _ _ (h3.trans h5.symm) b2
      opt_le_upper := forall₂_of_zip_all _ _ (fun a b => (toRat_le_iff a b).1) _ _ (h5.trans h4.symm) b3 }

/-! The kernel's `whnf` cache hashes a `Nat` literal by its low machine word only, and the low word of every
metadata row is the family code; evaluating `f row` for hundreds of literal rows therefore makes every cache
lookup compare terms that are structurally equal up to the literal, at a cost that grows quadratically with the
number of rows (a hundred rows: 168 k heartbeats bare, 1.8 k tagged).  `tag n row` (= `row`) keeps a distinct small
literal `n` inside every term that mentions the row, which restores good hashing; the table is walked once by
`CertBlocks.firstAll`, whose countdown supplies the literal. -/

def tag (i row : Nat) : Nat := row + (i - i)

@[simp] theorem tag_eq (i row : Nat) : tag i row = row := by simp [tag]

/-- rows `a, …, a+n-1` of a table pass `f` if the walk accepts them tagged -/
theorem tagged_block {f : Nat → Bool} (arr : Array Nat) (a n : Nat)
    (h : CertBlocks.firstAll (fun k x => f (tag k x)) n (CertBlocks.skip a arr.toList) = true) :
    ∀ i ∈ List.range' a n, f arr[i]! = true := fun i hi => by
  simpa only [tag_eq] using CertBlocks.forall_range' (fun k x => f (tag k x)) arr a n h i hi

theorem getElem!_eq_toList (arr : Array Nat) (i : Nat) (h : i < arr.size) :
    arr[i]! = arr.toList[i]'(by simpa using h) := by
  rw [getElem!_pos arr i h]; simp

/-! ### the two open families (any dimension): metadata as functions of `n` -/

/-- the double `0.0` -/
def dyZero : Dy := (0, 1074)
/-- the double `-2.2` -/
def dyM2_2 : Dy := Dy.ofBits 0xc00199999999999a
/-- the double `1.8` -/
def dy1_8 : Dy := Dy.ofBits 0x3ffccccccccccccd
/-- the double `-1.0` -/
def dyM1 : Dy := Dy.ofBits 0xbff0000000000000
/-- the double `1.0` (`dyOne` of `GrishSoundMeta` is the same) -/
def dy1 : Dy := Dy.ofBits 0x3ff0000000000000

/-- metadata of `Rastrigin(n)`: box `[-2.2, 1.8]^n`, optimum `0` at the origin -/
def rastriginMeta (n : Nat) : MetaRow :=
  { family := 5, arg0 := n, arg1 := 0, dimension := n, nFloat := n, nNames := n, nObjectives := 1,
    nConstraints := 0, nOptima := 1, lower := List.replicate n dyM2_2, upper := List.replicate n dy1_8,
    optPoint := List.replicate n dyZero, optValue := dyZero }

/-- metadata of `XSquared(n)`: box `[-1, 1]^n`, optimum `0` at the origin -/
def xsquaredMeta (n : Nat) : MetaRow :=
  { family := 6, arg0 := n, arg1 := 0, dimension := n, nFloat := n, nNames := n, nObjectives := 1,
    nConstraints := 0, nOptima := 1, lower := List.replicate n dyM1, upper := List.replicate n dy1,
    optPoint := List.replicate n dyZero, optValue := dyZero }

/-- the Boolean check on a row of constant vectors, for every length -/
theorem metaOK_replicate (r : MetaRow) (n : Nat) (lo hi opt : Dy) (hd : r.dimension = n) (hf : r.nFloat = n)
    (hn : r.nNames = n) (hob : r.nObjectives = 1) (hop : r.nOptima = 1) (hl : r.lower = List.replicate n lo)
    (hu : r.upper = List.replicate n hi) (ho : r.optPoint = List.replicate n opt)
    (h1 : Dy.lt lo hi = true) (h2 : Dy.le lo opt = true) (h3 : Dy.le opt hi = true) : metaOK r = true := by
  simp [metaOK, lenOK, boundsOK, hd, hf, hn, hob, hop, hl, hu, ho, List.zip_replicate', h1, h2, h3]

/-- the constructors' metadata passes, for every `n`, the check that is evaluated on the table rows -/
theorem rastriginMeta_ok (n : Nat) : metaOK (rastriginMeta n) = true :=
  metaOK_replicate _ n dyM2_2 dy1_8 dyZero rfl rfl rfl rfl rfl rfl rfl rfl
    (by decide +kernel) (by decide +kernel) (by decide +kernel)

theorem xsquaredMeta_ok (n : Nat) : metaOK (xsquaredMeta n) = true :=
  metaOK_replicate _ n dyM1 dy1 dyZero rfl rfl rfl rfl rfl rfl rfl rfl
    (by decide +kernel) (by decide +kernel) (by decide +kernel)

theorem rastriginMeta_wf (n : Nat) : MetaWF (rastriginMeta n) := metaWF_of_metaOK (rastriginMeta_ok n)

theorem xsquaredMeta_wf (n : Nat) : MetaWF (xsquaredMeta n) := metaWF_of_metaOK (xsquaredMeta_ok n)

def rowBEq (r s : MetaRow) : Bool :=
  r.family == s.family && r.arg0 == s.arg0 && r.arg1 == s.arg1 && r.dimension == s.dimension &&
  r.nFloat == s.nFloat && r.nNames == s.nNames && r.nObjectives == s.nObjectives &&
  r.nConstraints == s.nConstraints && r.nOptima == s.nOptima && r.lower == s.lower &&
  r.upper == s.upper && r.optPoint == s.optPoint && r.optValue == s.optValue

theorem eq_of_rowBEq {r s : MetaRow} (h : rowBEq r s = true) : r = s := by
  cases r; cases s
  simp only [rowBEq, Bool.and_eq_true, beq_iff_eq] at h
  simp only [MetaRow.mk.injEq]
  tauto

/-- the check of one table row: a row of family 5 (6) must be `rastriginMeta` (`xsquaredMeta`) of its own argument `≥ 1`,
which passes `metaOK` for every argument (`rastriginMeta_ok`); on any other row `metaOK` is evaluated -/
def rowOK (row : Nat) : Bool :=
  let r := metaDecode row
  if r.family == 5 then rowBEq r (rastriginMeta r.arg0) && 1 ≤ r.arg0
  else if r.family == 6 then rowBEq r (xsquaredMeta r.arg0) && 1 ≤ r.arg0
  else metaOK r

theorem rowOK_sound {row : Nat} (h : rowOK row = true) :
    metaOK (metaDecode row) = true ∧
    ((metaDecode row).family = 5 →
      metaDecode row = rastriginMeta (metaDecode row).arg0 ∧ 1 ≤ (metaDecode row).arg0) ∧
    ((metaDecode row).family = 6 →
      metaDecode row = xsquaredMeta (metaDecode row).arg0 ∧ 1 ≤ (metaDecode row).arg0) := by
  simp only [rowOK, beq_iff_eq] at h
  split at h
  · rename_i h5
    simp only [Bool.and_eq_true, decide_eq_true_eq] at h
    have e := eq_of_rowBEq h.1
    exact ⟨e ▸ rastriginMeta_ok _, fun _ => ⟨e, h.2⟩, fun h6 => absurd (h5.symm.trans h6) (by decide)⟩
  · rename_i h5
    split at h
    · simp only [Bool.and_eq_true, decide_eq_true_eq] at h
      have e := eq_of_rowBEq h.1
      exact ⟨e ▸ xsquaredMeta_ok _, fun h => absurd h h5, fun _ => ⟨e, h.2⟩⟩
    · rename_i h6
      exact ⟨h, fun h => absurd h h5, fun h => absurd h h6⟩

def hasRow (rows : List Nat) (fam n : Nat) : Bool :=
  rows.any fun row => Dy.word row 0 == fam && Dy.word row 1 == n

/-- the `arg0` words of the rows of family `fam` among the first `n` rows, in table order -/
def famArgs (fam : Nat) : List Nat → Nat → List Nat
  | [], _ => []
  | _ :: _, 0 => []
  | x :: t, n+1 =>
    if Dy.word (tag n x) 0 == fam then Dy.word (tag n x) 1 :: famArgs fam t n else famArgs fam t n

theorem famArgs_sound (fam : Nat) :
    ∀ (l : List Nat) (n a : Nat), a ∈ famArgs fam l n →
      ∃ i, ∃ h : i < l.length, Dy.word l[i] 0 = fam ∧ Dy.word l[i] 1 = a
  | [], _, _, h => by simp [famArgs] at h
  | _ :: _, 0, _, h => by simp [famArgs] at h
  | x :: t, n+1, a, h => by
    have tail : a ∈ famArgs fam t n →
        ∃ i, ∃ h : i < (x :: t).length, Dy.word (x :: t)[i] 0 = fam ∧ Dy.word (x :: t)[i] 1 = a := fun h' =>
      have ⟨i, hi, h1, h2⟩ := famArgs_sound fam t n a h'
      ⟨i + 1, Nat.succ_lt_succ hi, h1, h2⟩
    simp only [famArgs, tag_eq] at h
    split at h
    · rename_i hf
      rcases List.mem_cons.1 h with rfl | h'
      · exact ⟨0, Nat.succ_pos _, beq_iff_eq.mp hf, rfl⟩
      · exact tail h'
    · exact tail h

theorem metaDecode_family (row : Nat) : (metaDecode row).family = Dy.word row 0 := rfl
theorem metaDecode_arg0 (row : Nat) : (metaDecode row).arg0 = Dy.word row 1 := rfl

theorem famArgs_block (arr : Array Nat) (fam s K a : Nat) (h : a ∈ famArgs fam (arr.toList.drop s) K) :
    ∃ i, i < arr.size ∧ (metaDecode arr[i]!).family = fam ∧ (metaDecode arr[i]!).arg0 = a := by
  obtain ⟨i, hi, hf, ha⟩ := famArgs_sound fam _ _ a h
  rw [List.getElem_drop] at hf ha
  have hi' : s + i < arr.size := by
    rw [List.length_drop, Array.length_toList] at hi
    omega
  have hrow := getElem!_eq_toList arr (s + i) hi'
  exact ⟨s + i, hi', by rw [metaDecode_family, hrow]; exact hf, by rw [metaDecode_arg0, hrow]; exact ha⟩

theorem table_has_row (arr : Array Nat) (fam n s K : Nat) (mk : Nat → MetaRow)
    (hargs : n ∈ famArgs fam (arr.toList.drop s) K)
    (hrows : ∀ i < arr.size, (metaDecode arr[i]!).family = fam →
      metaDecode arr[i]! = mk (metaDecode arr[i]!).arg0) :
    ∃ i, i < arr.size ∧ metaDecode arr[i]! = mk n := by
  obtain ⟨i, hi, hf, ha⟩ := famArgs_block arr fam s K n hargs
  exact ⟨i, hi, by rw [hrows i hi hf, ha]⟩

end BenchMeta

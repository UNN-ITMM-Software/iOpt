import IOptModel.Problems
import IOptProofs.GklsCheck
import IOptProofs.GklsVec
import Mathlib.Data.List.GetD
import Mathlib.Tactic.FieldSimp
import Mathlib.Tactic.NormNum
/-!
# GKLS test functions: data, constants, well-formedness over ℝ and the soundness of the certificate

* `Gkls.toData r : Prob.GklsData ℝ` – a regenerated data set `r : Gen.GklsRaw` with every dyadic cast to `ℝ`;
  `Gkls.consts` – the constants of `GKLSFunction`.
* `Gkls.Good D` – everything the structure theorems (`IOptProps/C14.lean`) need about real GKLS data `D`;
  every clause is free of square roots (squared distances are compared).
* `Gkls.good_of_WF : WF r = true → Good (toData r)` – soundness of the certificate `Gkls.WF` (`GklsCheck`), which checks
  the same clauses on integer numerators.
-/

namespace Gkls
open Prob

/-- `M_i = local_min[i]` (`M_0 = T` is the paraboloid vertex, `M_1` the global minimiser) -/
def Mi (D : GklsData ℝ) (i : Nat) : List ℝ := D.localMin.getD i []
/-- `ρ_i`, the radius of ball `i` -/
def rhoi (D : GklsData ℝ) (i : Nat) : ℝ := D.rho.getD i 0
/-- `f_i`, the value prescribed at `M_i` -/
def fi (D : GklsData ℝ) (i : Nat) : ℝ := D.f.getD i 0
/-- `a_i = ‖T - M_i‖² + f_0 - f_i` -/
def cubA (D : GklsData ℝ) (i : Nat) : ℝ := sqDist (Mi D 0) (Mi D i) + fi D 0 - fi D i

/-- well-formedness of real GKLS data (all clauses root-free) -/
structure Good (D : GklsData ℝ) : Prop where
  /-- the dimension is at least 2 -/
  dim_ge : 2 ≤ D.dim
  len_min : D.localMin.length = 10
  len_rho : D.rho.length = 10
  len_f : D.f.length = 10
  /-- every minimiser has `dim` coordinates -/
  len_M : ∀ i < 10, (Mi D i).length = D.dim
  /-- every radius is positive -/
  rho_pos : ∀ i < 10, 0 < rhoi D i
  /-- every radius is at least the PRECISION guard `10⁻¹⁰` -/
  rho_ge_prec : ∀ i < 10, (1e-10 : ℝ) ≤ rhoi D i
  f_zero : fi D 0 = 0
  f_one : fi D 1 = -1
  /-- every non-global local minimum is strictly higher than the global one -/
  f_gt : ∀ i < 10, 2 ≤ i → -1 < fi D i
  /-- every minimiser lies in the box `[-1,1]^n` -/
  in_box : ∀ i < 10, ∀ c ∈ Mi D i, -1 ≤ c ∧ c ≤ 1
  /-- balls `1..9` are pairwise disjoint: `‖M_i - M_j‖² > (ρ_i + ρ_j)²` -/
  disjoint : ∀ i < 10, ∀ j < 10, 1 ≤ i → i < j → (rhoi D i + rhoi D j) ^ 2 < sqDist (Mi D i) (Mi D j)
  /-- the vertex `T = M_0` lies outside every ball: `‖T - M_i‖² > ρ_i²` -/
  vertex_out : ∀ i < 10, 1 ≤ i → rhoi D i ^ 2 < sqDist (Mi D 0) (Mi D i)
  /-- `ρ² - 2dρ + a > 0` without roots (`d = ‖T - M_i‖`) -/
  cubic1 : ∀ i < 10, 1 ≤ i → 0 ≤ rhoi D i ^ 2 + cubA D i ∧
    4 * sqDist (Mi D 0) (Mi D i) * rhoi D i ^ 2 < (rhoi D i ^ 2 + cubA D i) ^ 2
  /-- `ρ² - 4dρ + 3a ≥ 0` without roots -/
  cubic2 : ∀ i < 10, 1 ≤ i → 0 ≤ rhoi D i ^ 2 + 3 * cubA D i ∧
    16 * sqDist (Mi D 0) (Mi D i) * rhoi D i ^ 2 ≤ (rhoi D i ^ 2 + 3 * cubA D i) ^ 2

/-- the constants of `GKLSFunction` read as real numbers -/
noncomputable def consts : GklsConsts ℝ :=
  { maxValue := 1e100, precision := 1e-10, domainLeft := -1, domainRight := 1, three := 3, four := 4 }

/-- the exact real value `num / 2^k` of a dyadic -/
noncomputable def toReal (d : Dy) : ℝ := (d.1 : ℝ) / 2 ^ d.2

/-- a regenerated data set with every dyadic cast to `ℝ` -/
noncomputable def toData (r : Gen.GklsRaw) : GklsData ℝ :=
  { dim := r.dim, localMin := r.localMin.map (·.map toReal), rho := r.rho.map toReal, f := r.f.map toReal }

noncomputable def castZ (u z : Int) : ℝ := (z : ℝ) / (u : ℝ)

/-- integer numerators over the denominator `u`, read as reals -/
noncomputable def castData (u : Int) (D : GklsData Int) : GklsData ℝ :=
  { dim := D.dim, localMin := D.localMin.map (·.map (castZ u)), rho := D.rho.map (castZ u), f := D.f.map (castZ u) }

theorem toReal_eq_sc (d : Dy) (h : d.2 ≤ E) : toReal d = castZ unit (sc d) := by
  unfold toReal castZ sc unit
  push_cast
  have h2 : (2 : ℝ) ^ E = 2 ^ (E - d.2) * 2 ^ d.2 := by rw [← pow_add, Nat.sub_add_cancel h]
  rw [h2]
  field_simp

theorem map_toReal (l : List Dy) (h : ∀ d ∈ l, d.2 ≤ E) : l.map toReal = (l.map sc).map (castZ unit) := by
  rw [List.map_map]
  exact List.map_congr_left fun d hd => toReal_eq_sc d (h d hd)

theorem toData_eq_castData (r : Gen.GklsRaw) (h : expOK r = true) :
    toData r = castData unit (toDataZ r) := by
  unfold expOK at h
  simp only [Bool.and_eq_true, List.all_eq_true, decide_eq_true_eq] at h
  obtain ⟨⟨h1, h2⟩, h3⟩ := h
  unfold toData castData toDataZ
  congr 1
  · rw [List.map_map]
    exact List.map_congr_left fun m hm => map_toReal m (h1 m hm)
  · exact map_toReal r.rho h2
  · exact map_toReal r.f h3

section sound
variable (u : Int) (D : GklsData Int)

theorem Mi_castData (i : Nat) : Mi (castData u D) i = (MiZ D i).map (castZ u) := by
  unfold Mi MiZ castData
  simpa using List.getD_map (l := D.localMin) (d := []) (n := i) (fun m : List Int => m.map (castZ u))

theorem castZ_zero : castZ u 0 = 0 := by simp [castZ]

theorem getD_castZ (l : List Int) (i : Nat) :
    (l.map (castZ u)).getD i 0 = ((l.getD i 0 : Int) : ℝ) / (u : ℝ) := by
  have h := List.getD_map (l := l) (d := 0) (n := i) (castZ u)
  rwa [castZ_zero] at h

theorem rhoi_castData (i : Nat) : rhoi (castData u D) i = (rhoZ D i : ℝ) / (u : ℝ) := getD_castZ u D.rho i

theorem fi_castData (i : Nat) : fi (castData u D) i = (fZ D i : ℝ) / (u : ℝ) := getD_castZ u D.f i

@[simp] theorem sqDistZ_cons (a b : Int) (x y : List Int) :
    sqDistZ (a :: x) (b :: y) = (a - b) * (a - b) + sqDistZ x y := sqDist_cons a b x y

theorem sqDist_cast (x y : List Int) :
    sqDist (x.map (castZ u)) (y.map (castZ u)) = (sqDistZ x y : ℝ) / (u : ℝ) ^ 2 := by
  induction x generalizing y with
  | nil => simp [sqDistZ]
  | cons a x ih =>
    cases y with
    | nil => simp [sqDistZ]
    | cons b y =>
      rw [List.map_cons, List.map_cons, sqDist_cons, ih y, sqDistZ_cons]
      unfold castZ
      push_cast
      ring

theorem cubA_castData (hu : (u : ℝ) ≠ 0) (i : Nat) :
    cubA (castData u D) i = (cubAZ u D i : ℝ) / (u : ℝ) ^ 2 := by
  unfold cubA cubAZ
  rw [Mi_castData, Mi_castData, sqDist_cast, fi_castData, fi_castData, Int.cast_add, Int.cast_mul, Int.cast_sub,
    add_div, sq, mul_div_mul_right _ _ hu, sub_div, add_sub_assoc]

end sound

/-- the PRECISION clause by cross-multiplication: `10⁻¹⁰ ≤ R/U` when `U ≤ R·10¹⁰` -/
theorem prec_le_div {R U : ℝ} (hU : 0 < U) (h : U ≤ R * 10000000000) : (1e-10 : ℝ) ≤ R / U := by
  have e : (1e-10 : ℝ) = 1 / 10000000000 := by norm_num
  rw [e, div_le_div_iff₀ (by norm_num) hU, one_mul]
  exact h

/-- the cubic conditions (`c = 1`, `k = 4` and `c = 3`, `k = 16`) survive the division of lengths by `U` and of
squares by `U²` -/
theorem scale_cubic (c k R A S U : ℝ) (hU : 0 < U) :
    (0 ≤ R * R + c * A → 0 ≤ (R / U) ^ 2 + c * (A / U ^ 2)) ∧
    (k * S * (R * R) < (R * R + c * A) * (R * R + c * A) →
      k * (S / U ^ 2) * (R / U) ^ 2 < ((R / U) ^ 2 + c * (A / U ^ 2)) ^ 2) ∧
    (k * S * (R * R) ≤ (R * R + c * A) * (R * R + c * A) →
      k * (S / U ^ 2) * (R / U) ^ 2 ≤ ((R / U) ^ 2 + c * (A / U ^ 2)) ^ 2) := by
  have e : (R / U) ^ 2 + c * (A / U ^ 2) = (R * R + c * A) / U ^ 2 := by ring
  have e2 : k * (S / U ^ 2) * (R / U) ^ 2 = k * S * (R * R) / U ^ 4 := by ring
  have e3 : ((R * R + c * A) / U ^ 2) ^ 2 = (R * R + c * A) * (R * R + c * A) / U ^ 4 := by ring
  rw [e, e2, e3]
  exact ⟨fun h => div_nonneg h (pow_pos hU 2).le, fun h => div_lt_div_of_pos_right h (pow_pos hU 4),
    fun h => div_le_div_of_nonneg_right h (pow_pos hU 4).le⟩

/-- soundness of the integer clauses: numerators over a positive denominator `u` satisfying `GoodZ`
are well-formed real data.  Every real clause compares fractions over the same power of `u`. -/
theorem good_of_goodZ (u : Int) (hu : 0 < u) (D : GklsData Int) (h : GoodZ u D) : Good (castData u D) := by
  obtain ⟨⟨⟨h1, h2, h3, h4⟩, hM⟩, ⟨hrho, ⟨hf0, hf1⟩, hfi, hbox⟩, ⟨hdis, hver⟩, hc1, hc2⟩ := h
  have hU : (0 : ℝ) < (u : ℝ) := Int.cast_pos.mpr hu
  have hU2 : (0 : ℝ) < (u : ℝ) ^ 2 := pow_pos hU 2
  refine
    { dim_ge := h1
      len_min := (List.length_map _).trans h2
      len_rho := (List.length_map _).trans h3
      len_f := (List.length_map _).trans h4
      len_M := ?_, rho_pos := ?_, rho_ge_prec := ?_, f_zero := ?_, f_one := ?_, f_gt := ?_, in_box := ?_,
      disjoint := ?_, vertex_out := ?_, cubic1 := ?_, cubic2 := ?_ }
  · intro i hi
    rw [Mi_castData, List.length_map]
    exact hM i hi
  · intro i hi
    rw [rhoi_castData]
    exact div_pos (Int.cast_pos.mpr (hrho i hi).1) hU
  · intro i hi
    rw [rhoi_castData]
    exact prec_le_div hU (by exact_mod_cast (hrho i hi).2)
  · rw [fi_castData, hf0, Int.cast_zero, zero_div]
  · rw [fi_castData, hf1, Int.cast_neg, neg_div, div_self hU.ne']
  · intro i hi h2i
    rw [fi_castData, lt_div_iff₀ hU, neg_one_mul]
    exact_mod_cast hfi i hi h2i
  · intro i hi c hc
    rw [Mi_castData, List.mem_map] at hc
    obtain ⟨z, hz, rfl⟩ := hc
    unfold castZ
    rw [le_div_iff₀ hU, div_le_iff₀ hU, neg_one_mul, one_mul]
    exact_mod_cast hbox i hi z hz
  · intro i hi j hj h1i hij
    rw [Mi_castData, Mi_castData, sqDist_cast, rhoi_castData, rhoi_castData, ← add_div, div_pow,
      div_lt_div_iff_of_pos_right hU2, sq]
    exact_mod_cast hdis i hi j hj h1i hij
  · intro i hi h1i
    rw [Mi_castData, Mi_castData, sqDist_cast, rhoi_castData, div_pow, div_lt_div_iff_of_pos_right hU2, sq]
    exact_mod_cast hver i hi h1i
  · intro i hi h1i
    obtain ⟨ha, hb⟩ := hc1 i hi h1i
    obtain ⟨s1, s2, _⟩ := scale_cubic 1 4 (rhoZ D i) (cubAZ u D i) (sqDistZ (MiZ D 0) (MiZ D i)) u hU
    rw [one_mul, one_mul] at s1 s2
    rw [cubA_castData u D hU.ne', Mi_castData, Mi_castData, sqDist_cast, rhoi_castData]
    exact ⟨s1 (by exact_mod_cast ha), s2 (by exact_mod_cast hb)⟩
  · intro i hi h1i
    obtain ⟨ha, hb⟩ := hc2 i hi h1i
    obtain ⟨s1, _, s3⟩ := scale_cubic 3 16 (rhoZ D i) (cubAZ u D i) (sqDistZ (MiZ D 0) (MiZ D i)) u hU
    rw [cubA_castData u D hU.ne', Mi_castData, Mi_castData, sqDist_cast, rhoi_castData]
    exact ⟨s1 (by exact_mod_cast ha), s3 (by exact_mod_cast hb)⟩

theorem unit_pos : 0 < unit := by
  unfold unit
  exact_mod_cast Nat.pow_pos (n := E) (by decide : 0 < 2)

theorem wf_parts (r : Gen.GklsRaw) (h : WF r = true) : expOK r = true ∧ GoodZ unit (toDataZ r) := by
  unfold WF at h
  simp only [Bool.and_eq_true, decide_eq_true_eq] at h
  exact ⟨h.1.2, h.2⟩

theorem good_of_WF (r : Gen.GklsRaw) (h : WF r = true) : Good (toData r) := by
  obtain ⟨h2, h3⟩ := wf_parts r h
  rw [toData_eq_castData r h2]
  exact good_of_goodZ unit unit_pos _ h3

theorem dim_toData (r : Gen.GklsRaw) : (toData r).dim = r.dim := rfl

end Gkls

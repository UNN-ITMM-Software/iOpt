import IOptProofs.GrishRows
/-! Kernel-evaluated certificates (V), (G), (P) of the Grishagin functions 61..70; one theorem per function,
so that the kernel's reduction cache is released between functions. -/
namespace Grish
theorem grish_ok_61 : grishOK 61 = true := grish_ok _ (by decide +kernel)
theorem grish_ok_62 : grishOK 62 = true := grish_ok _ (by decide +kernel)
theorem grish_ok_63 : grishOK 63 = true := grish_ok _ (by decide +kernel)
theorem grish_ok_64 : grishOK 64 = true := grish_ok _ (by decide +kernel)
theorem grish_ok_65 : grishOK 65 = true := grish_ok _ (by decide +kernel)
theorem grish_ok_66 : grishOK 66 = true := grish_ok _ (by decide +kernel)
theorem grish_ok_67 : grishOK 67 = true := grish_ok _ (by decide +kernel)
theorem grish_ok_68 : grishOK 68 = true := grish_ok _ (by decide +kernel)
theorem grish_ok_69 : grishOK 69 = true := grish_ok _ (by decide +kernel)
theorem grish_ok_70 : grishOK 70 = true := grish_ok _ (by decide +kernel)
end Grish

import IOptProofs.MethodProc
import IOptProofs.ProcessStop
import IOptProofs.ProcessEvents
import IOptProps.C03
import IOptProps.C13
/-!
# Corollaries over an ordered field: with an objective that never raises, nothing raises

The bridge `IOptProofs/MethodProc.lean` (`Proc.solveLoop_total`, `Proc.doGlobalIteration_total`) shows that over a
linearly ordered field with the laws of the library functions (`FnsLaws`), `1 < r`, `0 < n`, the exceptions of
`CalculateIterationPoint` are unreachable.  Combined with the control-flow theorems this removes the "nothing raises"
hypotheses of C03 / C13 for objectives that never raise.
-/

set_option linter.unusedSectionVars false

namespace Proc
open AGP AGP.Ctl
variable {α : Type} [Field α] [LinearOrder α] [IsStrictOrderedRing α] [Fns α]
variable {p : Params α} {f : Nat → List α → Option α}

theorem solve_fresh_no_raise (hL : FnsLaws α) (hr : 1 < p.r) (hn : 0 < p.n) (htot : ∀ i pt, f i pt ≠ none) :
    (solveLoop p f (p.itersLimit + 1) {}).2 = false :=
  (solveLoop_total hL hr hn htot (Nat.lt_succ_of_le (remaining_le p _)) (procOK_fresh p)).1

theorem noIterRaise_total (hL : FnsLaws α) (hr : 1 < p.r) (hn : 0 < p.n) (htot : ∀ i pt, f i pt ≠ none)
    (ops : List Op) {ps : PState α} (h : ProcOK p ps) :
    NoIterRaise p f (fun _ => none) ops ps := by
  induction ops generalizing ps with
  | nil => trivial
  | cons op ops ih =>
    refine ⟨?_, ih ?_⟩
    · rintro ⟨k, rfl, hra⟩
      exact hra (doGlobalIteration_total hL hr hn htot k h)
    · cases op with
      | iter k =>
        exact doGlobalIteration_procOK k h (doGlobalIteration_total hL hr hn htot k h)
      | solve =>
        have h2 := (solveLoop_total hL hr hn htot (Nat.lt_succ_of_le (remaining_le p _)) h).2
        refine procOK_of_core ?_ h2
        show (solve p f (fun _ => none) ps).core = _
        rw [solve_eq]; rfl

end Proc

namespace C03
open AGP AGP.Ctl Proc
variable {α : Type} [Field α] [LinearOrder α] [IsStrictOrderedRing α] [Fns α]

/-- **C03 over an ordered field, objective never raises.**  With the laws of the library functions, `1 < r`, `0 < n`,
`itersLimit ≥ 1` and an objective that never raises, `Solve` on a fresh solver performs exactly `K` iterations, `1 ≤ K ≤ itersLimit`,
where `K` is the least `k ≥ 2` with `δ_k < eps`, capped by `itersLimit`; the number of calls of the objective is `K`; the criterion
holds in the final state. -/
theorem C03_stop_exact_field (p : Params α) (f : Nat → List α → Option α) (refine : PState α → Option (LocalResult α))
    (hL : FnsLaws α) (hr : 1 < p.r) (hn : 0 < p.n) (htot : ∀ i pt, f i pt ≠ none) (hlim : 1 ≤ p.itersLimit) :
    ∃ K, (solve p f refine {}).nTrials = K ∧ (solve p f refine {}).evals.length = K ∧ (solve p f refine {}).calls = K ∧
      1 ≤ K ∧ K ≤ p.itersLimit ∧
      (K = p.itersLimit ∨ ∃ d, delta p f K = some d ∧ d < p.eps) ∧
      (∀ k d, k < K → delta p f k = some d → ¬ d < p.eps) ∧
      stopNow p (solve p f refine {}) = true := by
  obtain ⟨K, h1, h2, rest⟩ := C03_stop_exact p f refine hlim (solve_fresh_no_raise hL hr hn htot)
  -- no call raised, so every call made a trial
  obtain ⟨j, psj, ids, r, Y, L⟩ := solve_passes p f ({} : PState α)
  have e := L.passes.eff
  have hc : (solve p f refine {}).calls = (solve p f refine {}).nTrials := by
    rw [L.solve_eq]
    simp only [PState.appendLog_calls, refineStep_calls, PState.appendLog_nTrials, refineStep_nTrials, e.calls, e.nTrials,
      e.isObjective_total htot]
    rfl
  exact ⟨K, h1, h2, hc.trans h1, rest⟩

/-- **C03 over an ordered field: the reported accuracy is the smallest subdivided length** (objective never raises). -/
theorem C03_accuracy_is_min_field (p : Params α) (f : Nat → List α → Option α) (refine : PState α → Option (LocalResult α))
    (hL : FnsLaws α) (hr : 1 < p.r) (hn : 0 < p.n) (htot : ∀ i pt, f i pt ≠ none) :
    ∃ K, (solve p f refine {}).nTrials = K ∧
      (∀ d, d ∈ deltas p f {} K ↔ ∃ k, 2 ≤ k ∧ k ≤ K ∧ delta p f k = some d) ∧
      (∀ k, 2 ≤ k → k ≤ K → ∃ d, delta p f k = some d) ∧
      (K ≤ 1 → (solve p f refine {}).minDelta = none) ∧
      (2 ≤ K → ∃ m, (solve p f refine {}).minDelta = some m ∧ m ∈ deltas p f {} K ∧ ∀ d ∈ deltas p f {} K, m ≤ d) :=
  C03_accuracy_is_min p f refine (solve_fresh_no_raise hL hr hn htot)

end C03

namespace C13
open AGP AGP.Ctl Proc
variable {α : Type} [Field α] [LinearOrder α] [IsStrictOrderedRing α] [Fns α]

/-- **C13 over an ordered field, objective never raises, no refinement configured.**  After any sequence of
`DoGlobalIteration(k_j)` (`k_j ≥ 1`) and `Solve` calls on a fresh solver: `BeforeMethodStart` occurs exactly once if the objective
was called at all (and not otherwise), before every `OnEndIteration`; the id lists of the `OnEndIteration` notifications
concatenate to exactly `2, 3, …, numberOfGlobalTrials + 1`, the ids of the evaluated trials in evaluation order. -/
theorem C13_events_wellformed_field (p : Params α) (f : Nat → List α → Option α)
    (hL : FnsLaws α) (hr : 1 < p.r) (hn : 0 < p.n) (htot : ∀ i pt, f i pt ≠ none)
    (ops : List Op) (hops : ∀ k, Op.iter k ∈ ops → 1 ≤ k) :
    let ps := runOps p f (fun _ => none) ops {}
    (ps.log.count Event.beforeStart = if ps.calls = 0 then 0 else 1) ∧
    Ordered ps.log ∧
    idsOf ps.log = List.range' 2 ps.nTrials := by
  intro ps
  obtain ⟨h1, h2, -, h4⟩ := C13_events_wellformed p f (fun _ => none) htot ops hops
  exact ⟨h1, h2, h4 (noIterRaise_total hL hr hn htot ops (procOK_fresh p))⟩

end C13

import IOptProofs.HillRows
/-! Kernel-evaluated certificates (V), (G), (P), (L) of the Hill functions 800..899, twenty rows per evaluation. -/
namespace Hill
theorem hill_block_40 : ∀ i ∈ List.range' 800 20, hillOK i = true := hill_block _ _ (by decide +kernel)
theorem hill_block_41 : ∀ i ∈ List.range' 820 20, hillOK i = true := hill_block _ _ (by decide +kernel)
theorem hill_block_42 : ∀ i ∈ List.range' 840 20, hillOK i = true := hill_block _ _ (by decide +kernel)
theorem hill_block_43 : ∀ i ∈ List.range' 860 20, hillOK i = true := hill_block _ _ (by decide +kernel)
theorem hill_block_44 : ∀ i ∈ List.range' 880 20, hillOK i = true := hill_block _ _ (by decide +kernel)
end Hill

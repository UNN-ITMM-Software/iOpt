import IOptProofs.BenchMeta
import IOptProofs.BenchShekelDefs
/-!
The metadata rows 1000..1999 are the Shekel functions 0..999 and declare exactly the optimum of the
`minShekel` table (`Gen.shekelMinValue`, `Gen.shekelMinPoint`) and the box `[0, 10]`.
(The two packed tables are walked in parallel, once: random access into a 1000-row literal costs the
kernel a traversal of the literal per access.)
-/
namespace BenchMeta
open Gen

/-- the double `10.0` -/
def dy10 : Dy := Dy.ofBits 0x4024000000000000

/-- skip `s` rows of `ms`, then check `f i m s` on the pairs `(ms[s+j], ss[j])`, `i = i0 + j`, for ALL rows of `ss` -/
def checkPairs (f : Nat → Nat → Nat → Bool) : List Nat → List Nat → Nat → Nat → Bool
  | _, [], _, _ => true
  | [], _ :: _, _, _ => false
  | _ :: ms, s :: ss, k + 1, i => checkPairs f ms (s :: ss) k i
  | m :: ms, s :: ss, 0, i => f i (tag i m) s && Shk.forceNat (i + 1) fun i' => checkPairs f ms ss 0 i'

theorem checkPairs_sound (f : Nat → Nat → Nat → Bool) :
    ∀ (ms ss : List Nat) (k i0 : Nat), checkPairs f ms ss k i0 = true →
      ∀ j, (hj : j < ss.length) → ∃ hm : k + j < ms.length, f (i0 + j) ms[k + j] ss[j] = true
  | _, [], _, _, _, j, hj => by simp at hj
  | [], _ :: _, _, _, h, _, _ => by simp [checkPairs] at h
  | _ :: ms, s :: ss, k + 1, i, h, j, hj => by
    obtain ⟨hm, hf⟩ := checkPairs_sound f ms (s :: ss) k i (by simpa [checkPairs] using h) j hj
    refine ⟨by simp only [List.length_cons]; omega, ?_⟩
    have : k + 1 + j = (k + j) + 1 := by omega
    simp only [this, List.getElem_cons_succ]
    exact hf
  | m :: ms, s :: ss, 0, i, h, j, hj => by
    simp only [checkPairs, tag_eq, Shk.forceNat, Bool.and_eq_true] at h
    cases j with
    | zero => exact ⟨by simp, by simpa using h.1⟩
    | succ j =>
      obtain ⟨hm, hf⟩ := checkPairs_sound f ms ss 0 (i + 1) h.2 j (by simpa using hj)
      refine ⟨by simp only [List.length_cons]; omega, ?_⟩
      have e1 : 0 + (j + 1) = (0 + j) + 1 := by omega
      have e2 : i + (j + 1) = i + 1 + j := by omega
      simp only [e1, e2, List.getElem_cons_succ]
      exact hf

theorem pairs_sound {f : Nat → Nat → Nat → Bool} (M R : Array Nat) (k0 : Nat)
    (h : checkPairs f M.toList R.toList k0 0 = true) (i : Nat) (hi : i < R.size) :
    k0 + i < M.size ∧ f i M[k0 + i]! R[i]! = true := by
  obtain ⟨hm, hf⟩ := checkPairs_sound f _ _ _ _ h i (by simpa using hi)
  have hm' : k0 + i < M.size := by simpa using hm
  rw [Nat.zero_add] at hf
  exact ⟨hm', by rw [getElem!_eq_toList M _ hm', getElem!_eq_toList R i hi]; exact hf⟩

/-- metadata row `m` is the Shekel function `i` whose table row is `s`: family 1, argument `i`, declared
point `[minShekel[i][1]]`, declared value `minShekel[i][0]`, box `[0,10]` -/
def shekelPairOK (i m s : Nat) : Bool :=
  (metaDecode m).family == 1 && (metaDecode m).arg0 == i &&
  (metaDecode m).optPoint == [Dy.get s 31] && (metaDecode m).optValue == Dy.get s 30 &&
  (metaDecode m).lower == [dyZero] && (metaDecode m).upper == [dy10]

theorem meta_shekel_pairs :
    checkPairs shekelPairOK metaRowsPacked.toList shekelRows.toList 1000 0 = true := by decide +kernel

theorem shekelRows_size : shekelRows.size = 1000 := by decide +kernel

theorem shekel_meta_row (i : Nat) (hi : i < 1000) :
    1000 + i < metaRowsPacked.size ∧ (metaDecode metaRowsPacked[1000 + i]!).family = 1 ∧
      (metaDecode metaRowsPacked[1000 + i]!).arg0 = i ∧
      (metaDecode metaRowsPacked[1000 + i]!).optPoint = [shekelMinPoint i] ∧
      (metaDecode metaRowsPacked[1000 + i]!).optValue = shekelMinValue i ∧
      (metaDecode metaRowsPacked[1000 + i]!).lower = [dyZero] ∧
      (metaDecode metaRowsPacked[1000 + i]!).upper = [dy10] := by
  obtain ⟨hm, hf⟩ := pairs_sound _ _ 1000 meta_shekel_pairs i (by rw [shekelRows_size]; exact hi)
  simp only [shekelPairOK, Bool.and_eq_true, beq_iff_eq] at hf
  obtain ⟨⟨⟨⟨⟨h1, h2⟩, h3⟩, h4⟩, h5⟩, h6⟩ := hf
  exact ⟨hm, h1, h2, h3, h4, h5, h6⟩

end BenchMeta

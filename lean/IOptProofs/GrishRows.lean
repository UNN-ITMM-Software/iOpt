import IOptProofs.GrishDefs
import IOptProofs.EnclRec
/-!
# Grishagin: the certificate in the form the kernel evaluates (no Mathlib)

Not a second checker: `grishOKR` is `grishOK` with the bisection `bnb` written with the recursor on the fuel and the
coordinates of the four sub-squares evaluated once before they are handed down (`bnbR`); same tests in the same order,
equal to `grishOK` (`grishOKR_eq`), and that equation is all that is used of it.  `bnb` is compiled from structural
recursion on the fuel, a step of which the kernel unfolds at about 115 heartbeats more than a step of the recursor, and it
hands `Nat.add (Nat.mul 2 ny) 1` down as a term that grows with the depth and is evaluated again wherever it is used: of
what the kernel spends on a function through `bnb`, between a fifth and a quarter is this driver and not the leaf tests.
-/

namespace Grish
open Encl

/-- `bnb`, by the recursor on the fuel; the children get literals -/
noncomputable def bnbR (ctx : Ctx) (fuel lev nx ny : Nat) : Bool :=
  @Nat.rec (fun _ => Nat → Nat → Nat → Bool) (fun _ _ _ => false)
    (fun _ ih lev nx ny =>
      (Nat.ble 5 lev && leafOK ctx lev nx ny) ||
      (force (Nat.add lev 1) fun l => force (Nat.mul 2 nx) fun x0 => force (Nat.mul 2 ny) fun y0 =>
        force (Nat.add x0 1) fun x1 => force (Nat.add y0 1) fun y1 =>
          (ih l x0 y0 && ih l x0 y1 && ih l x1 y0 && ih l x1 y1))) fuel lev nx ny

theorem bnbR_eq (ctx : Ctx) (fuel lev nx ny : Nat) : bnbR ctx fuel lev nx ny = bnb ctx fuel lev nx ny := by
  induction fuel generalizing lev nx ny with
  | zero => rfl
  | succ fuel ih =>
    show ((Nat.ble 5 lev && leafOK ctx lev nx ny) ||
      (force (Nat.add lev 1) fun l => force (Nat.mul 2 nx) fun x0 => force (Nat.mul 2 ny) fun y0 =>
        force (Nat.add x0 1) fun x1 => force (Nat.add y0 1) fun y1 =>
          (bnbR ctx fuel l x0 y0 && bnbR ctx fuel l x0 y1 && bnbR ctx fuel l x1 y0 && bnbR ctx fuel l x1 y1))) = _
    simp only [force_eq, ih]
    rfl

/-- `rowOK` with the bisection `bnbR` -/
noncomputable def rowOKR (row wx wy : Nat) : Bool :=
  allCoefOK row &&
  decide (0 ≤ (Dy.get row 197).1) && decide (0 ≤ (Dy.get row 198).1) &&
  Nat.ble (Dy.get row 197).1.toNat (2 ^ (Dy.get row 197).2) &&
  Nat.ble (Dy.get row 198).1.toNat (2 ^ (Dy.get row 198).2) &&
  Nat.ble wx (2 ^ 32) && Nat.ble wy (2 ^ 32) &&
  decide ((Dy.get row 199).1 < 0) &&
  Nat.ble (2 ^ (Dy.get row 199).2) (Dy.get row 199).1.natAbs &&
  (fun ctx =>
    valueOK ctx (Dy.get row 199).1.natAbs (Dy.get row 199).2 &&
    Nat.ble ctx.swlo ctx.gthr &&
    bnbR ctx 24 0 0 0) (mkCtx row wx wy)

theorem rowOKR_eq (row wx wy : Nat) : rowOKR row wx wy = rowOK row wx wy := by
  simp only [rowOKR, rowOK, bnbR_eq]

/-- `grishOK` through `rowOKR` -/
noncomputable def grishOKR (k : Nat) : Bool :=
  rowOKR (Gen.grishaginRows[k - 1]!) (witness k).1 (witness k).2

theorem grishOKR_eq (k : Nat) : grishOKR k = grishOK k := rowOKR_eq ..

theorem grish_ok (k : Nat) (h : grishOKR k = true) : grishOK k = true := (grishOKR_eq k).symm.trans h

end Grish

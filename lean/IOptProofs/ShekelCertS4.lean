import IOptProofs.BenchShekel4Defs
/-! kernel-evaluated C10 certificates of the three Shekel4 functions (4-dimensional branch and bound) -/
namespace Shk4
theorem shekel4_cert_1 : shekel4OK 1 = true := by decide +kernel
theorem shekel4_cert_2 : shekel4OK 2 = true := by decide +kernel
theorem shekel4_cert_3 : shekel4OK 3 = true := by decide +kernel
end Shk4

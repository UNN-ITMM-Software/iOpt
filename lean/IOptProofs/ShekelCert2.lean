import IOptProofs.ShekelRows
/-! Kernel-evaluated C10 certificates of the Shekel functions 400..599, fifty rows per evaluation. -/
namespace Shk
theorem shekel_block_8 : ∀ i ∈ List.range' 400 50, shekelOK i = true := shekel_block _ _ (by decide +kernel)
theorem shekel_block_9 : ∀ i ∈ List.range' 450 50, shekelOK i = true := shekel_block _ _ (by decide +kernel)
theorem shekel_block_10 : ∀ i ∈ List.range' 500 50, shekelOK i = true := shekel_block _ _ (by decide +kernel)
theorem shekel_block_11 : ∀ i ∈ List.range' 550 50, shekelOK i = true := shekel_block _ _ (by decide +kernel)
end Shk

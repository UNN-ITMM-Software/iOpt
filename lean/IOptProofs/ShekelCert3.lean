import IOptProofs.ShekelRows
/-! Kernel-evaluated C10 certificates of the Shekel functions 600..799, fifty rows per evaluation. -/
namespace Shk
theorem shekel_block_12 : ∀ i ∈ List.range' 600 50, shekelOK i = true := shekel_block _ _ (by decide +kernel)
theorem shekel_block_13 : ∀ i ∈ List.range' 650 50, shekelOK i = true := shekel_block _ _ (by decide +kernel)
theorem shekel_block_14 : ∀ i ∈ List.range' 700 50, shekelOK i = true := shekel_block _ _ (by decide +kernel)
theorem shekel_block_15 : ∀ i ∈ List.range' 750 50, shekelOK i = true := shekel_block _ _ (by decide +kernel)
end Shk

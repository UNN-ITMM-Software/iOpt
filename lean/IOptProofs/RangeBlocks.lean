/-! Assembling a statement over a range of naturals from statements over consecutive blocks of equal width.  The
certificates of the Hill, Shekel, GKLS and metadata tables are proved block by block (a block is one kernel evaluation
for Hill, Shekel and the metadata, fifty for GKLS); `HillCertAll`, `ShekelCertAll`, `ShekelTabCertAll`, `GklsCertAll` and
`BenchMeta1` put the blocks together with these. -/

theorem List.forall_mem_range'_of_blocks {P : Nat → Prop} (a w n : Nat)
    (h : ∀ j < n, ∀ i ∈ List.range' (a + w * j) w, P i) : ∀ i ∈ List.range' a (w * n), P i := by
  intro i hi
  obtain ⟨ha, hlt⟩ := List.mem_range'_1.1 hi
  have hw : 0 < w := Nat.pos_of_ne_zero fun h0 => by subst h0; omega
  have hj : (i - a) / w < n := (Nat.div_lt_iff_lt_mul hw).2 (by rw [Nat.mul_comm]; omega)
  have := Nat.div_add_mod (i - a) w
  have := Nat.mod_lt (i - a) hw
  exact h _ hj i (List.mem_range'_1.2 ⟨by omega, by omega⟩)

theorem Nat.forall_lt_of_blocks {P : Nat → Prop} (w n : Nat)
    (h : ∀ j < n, ∀ i ∈ List.range' (w * j) w, P i) : ∀ i < w * n, P i := fun i hi =>
  List.forall_mem_range'_of_blocks 0 w n (by simpa using h) i (List.mem_range'_1.2 ⟨Nat.zero_le i, by omega⟩)

import IOptProofs.ShekelRows
/-! Kernel-evaluated C18 table certificates (min / max / Lipschitz tables) of the Shekel functions 200..299;
five rows per evaluation keep the memory of the module near 2 GB. -/
namespace Shk
theorem shekel_tab_block_40 : ∀ i ∈ List.range' 200 5, shekelTabOK i = true := shekel_tab_block _ _ (by decide +kernel)
theorem shekel_tab_block_41 : ∀ i ∈ List.range' 205 5, shekelTabOK i = true := shekel_tab_block _ _ (by decide +kernel)
theorem shekel_tab_block_42 : ∀ i ∈ List.range' 210 5, shekelTabOK i = true := shekel_tab_block _ _ (by decide +kernel)
theorem shekel_tab_block_43 : ∀ i ∈ List.range' 215 5, shekelTabOK i = true := shekel_tab_block _ _ (by decide +kernel)
theorem shekel_tab_block_44 : ∀ i ∈ List.range' 220 5, shekelTabOK i = true := shekel_tab_block _ _ (by decide +kernel)
theorem shekel_tab_block_45 : ∀ i ∈ List.range' 225 5, shekelTabOK i = true := shekel_tab_block _ _ (by decide +kernel)
theorem shekel_tab_block_46 : ∀ i ∈ List.range' 230 5, shekelTabOK i = true := shekel_tab_block _ _ (by decide +kernel)
theorem shekel_tab_block_47 : ∀ i ∈ List.range' 235 5, shekelTabOK i = true := shekel_tab_block _ _ (by decide +kernel)
theorem shekel_tab_block_48 : ∀ i ∈ List.range' 240 5, shekelTabOK i = true := shekel_tab_block _ _ (by decide +kernel)
theorem shekel_tab_block_49 : ∀ i ∈ List.range' 245 5, shekelTabOK i = true := shekel_tab_block _ _ (by decide +kernel)
theorem shekel_tab_block_50 : ∀ i ∈ List.range' 250 5, shekelTabOK i = true := shekel_tab_block _ _ (by decide +kernel)
theorem shekel_tab_block_51 : ∀ i ∈ List.range' 255 5, shekelTabOK i = true := shekel_tab_block _ _ (by decide +kernel)
theorem shekel_tab_block_52 : ∀ i ∈ List.range' 260 5, shekelTabOK i = true := shekel_tab_block _ _ (by decide +kernel)
theorem shekel_tab_block_53 : ∀ i ∈ List.range' 265 5, shekelTabOK i = true := shekel_tab_block _ _ (by decide +kernel)
theorem shekel_tab_block_54 : ∀ i ∈ List.range' 270 5, shekelTabOK i = true := shekel_tab_block _ _ (by decide +kernel)
theorem shekel_tab_block_55 : ∀ i ∈ List.range' 275 5, shekelTabOK i = true := shekel_tab_block _ _ (by decide +kernel)
theorem shekel_tab_block_56 : ∀ i ∈ List.range' 280 5, shekelTabOK i = true := shekel_tab_block _ _ (by decide +kernel)
theorem shekel_tab_block_57 : ∀ i ∈ List.range' 285 5, shekelTabOK i = true := shekel_tab_block _ _ (by decide +kernel)
theorem shekel_tab_block_58 : ∀ i ∈ List.range' 290 5, shekelTabOK i = true := shekel_tab_block _ _ (by decide +kernel)
theorem shekel_tab_block_59 : ∀ i ∈ List.range' 295 5, shekelTabOK i = true := shekel_tab_block _ _ (by decide +kernel)
end Shk

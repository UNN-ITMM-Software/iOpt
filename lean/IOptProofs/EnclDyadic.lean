import IOptProofs.EnclSoundTaylor
/-!
# Enclosure kit: dyadic table entries and dyadic intervals

What the bisection certificates share besides the trigonometric kit: the real value of a table entry `(m, e)`, the
biased encoding of an integer, a signed value kept as two truncated differences (`tsub_parts`), the intervals
`[n/2^k, (n+1)/2^k]` of the bisection (`Leaf`) with their halves and centres, and the test that such an interval lies
near a dyadic point.
-/

theorem dyR_of_nonneg {d : Dy} (h : 0 ≤ d.1) : dyR d = ((d.1.toNat : ℕ) : ℝ) / 2 ^ d.2 := by
  rw [dyR_eq, ← Int.cast_natCast, Int.toNat_of_nonneg h]

/-- a table entry scaled by `2^s` to an integer (the checkers' `scaled`), when the division is exact -/
theorem dyR_scaled {d : Dy} {s : ℕ} (h : (d.1 * (2 : ℤ) ^ s) % (2 : ℤ) ^ d.2 = 0) :
    (((d.1 * (2 : ℤ) ^ s) / (2 : ℤ) ^ d.2 : ℤ) : ℝ) = dyR d * 2 ^ s := by
  have hz := Int.ediv_mul_cancel (Int.dvd_of_emod_eq_zero h)
  have hr : (((d.1 * (2 : ℤ) ^ s) / (2 : ℤ) ^ d.2 : ℤ) : ℝ) * 2 ^ d.2 = (d.1 : ℝ) * 2 ^ s := by exact_mod_cast hz
  rw [dyR_eq, div_mul_eq_mul_div, eq_div_iff (by positivity)]
  exact hr

namespace Encl

/-- the biased encoding `(z + B).toNat` (the checkers' `enc`, `encA`) of an integer of modulus `≤ B` -/
theorem toNat_bias_cast {z : ℤ} {B : ℕ} (h : |(z : ℝ)| ≤ B) : (((z + (B : ℤ)).toNat : ℕ) : ℝ) = z + B := by
  have hz : (0 : ℤ) ≤ z + (B : ℤ) := by
    have : |z| ≤ (B : ℤ) := by exact_mod_cast h
    linarith only [(abs_le.mp this).1]
  rw [← Int.cast_natCast, Int.toNat_of_nonneg hz, Int.cast_add, Int.cast_natCast]

theorem natAbs_cast (z : ℤ) : ((z.natAbs : ℕ) : ℝ) = |(z : ℝ)| := by
  rw [Nat.cast_natAbs, Int.cast_abs]

/-- a signed value `A = a - b` of which a checker keeps the two truncated differences `P = a ∸ b`, `N = b ∸ a`: they
are its positive and its negative part -/
theorem tsub_parts {a b : ℕ} {A : ℝ} (h : (a : ℝ) - b = A) :
    ((Nat.sub a b : ℕ) : ℝ) - ((Nat.sub b a : ℕ) : ℝ) = A ∧
    ((Nat.sub a b : ℕ) : ℝ) + ((Nat.sub b a : ℕ) : ℝ) = |A| := by
  rw [Nat.sub_eq, Nat.sub_eq, cast_tsub, cast_tsub, show (b : ℝ) - a = -A by linarith only [h], h]
  exact ⟨max_zero_sub_max_neg_zero_eq_self A, max_zero_add_max_neg_zero_eq_abs_self A⟩

theorem ble_cast {a b : ℕ} (h : Nat.ble a b = true) : (a : ℝ) ≤ b :=
  Nat.cast_le.mpr (Nat.le_of_ble_eq_true h)

theorem unit_of_le {n k : ℕ} (h : n ≤ 2 ^ k) : 0 ≤ (n : ℝ) / 2 ^ k ∧ (n : ℝ) / 2 ^ k ≤ 1 := by
  have hp : (0 : ℝ) < 2 ^ k := by positivity
  refine ⟨by positivity, ?_⟩
  rw [div_le_one hp]
  exact_mod_cast h

def Leaf (k n : ℕ) (x : ℝ) : Prop := (n : ℝ) / 2 ^ k ≤ x ∧ x ≤ ((n : ℝ) + 1) / 2 ^ k

theorem leaf_root {x : ℝ} : Leaf 0 0 x ↔ 0 ≤ x ∧ x ≤ 1 := by
  unfold Leaf; norm_num

theorem idx_half {k n : ℕ} (h : n < 2 ^ k) :
    Nat.mul 2 n < 2 ^ (Nat.add k 1) ∧ Nat.add (Nat.mul 2 n) 1 < 2 ^ (Nat.add k 1) := by
  show 2 * n < 2 ^ (k + 1) ∧ 2 * n + 1 < 2 ^ (k + 1)
  rw [pow_succ]
  omega

theorem leaf_iff {k n : ℕ} {x : ℝ} : Leaf k n x ↔ (n : ℝ) ≤ x * 2 ^ k ∧ x * 2 ^ k ≤ n + 1 := by
  have hk : (0 : ℝ) < 2 ^ k := by positivity
  unfold Leaf
  rw [div_le_iff₀ hk, le_div_iff₀ hk]

theorem leaf_child {k m : ℕ} {x : ℝ} :
    Leaf (Nat.add k 1) m x ↔ (m : ℝ) ≤ 2 * (x * 2 ^ k) ∧ 2 * (x * 2 ^ k) ≤ m + 1 := by
  rw [leaf_iff, show (2 : ℝ) ^ (Nat.add k 1) = 2 ^ k * 2 from pow_succ 2 k, ← mul_assoc, mul_comm _ (2 : ℝ)]

theorem cast_two_mul (n : ℕ) : ((Nat.mul 2 n : ℕ) : ℝ) = 2 * n := by
  rw [cast_nat_mul, Nat.cast_ofNat]
theorem cast_two_mul_succ (n : ℕ) : ((Nat.add (Nat.mul 2 n) 1 : ℕ) : ℝ) = 2 * n + 1 := by
  rw [cast_nat_add, cast_two_mul, Nat.cast_one]

theorem leaf_split {k n : ℕ} {x : ℝ} (hx : Leaf k n x) :
    Leaf (Nat.add k 1) (Nat.mul 2 n) x ∨ Leaf (Nat.add k 1) (Nat.add (Nat.mul 2 n) 1) x := by
  obtain ⟨h1, h2⟩ := leaf_iff.mp hx
  rw [leaf_child, leaf_child, cast_two_mul, cast_two_mul_succ]
  rcases le_total (2 * (x * 2 ^ k)) (2 * n + 1) with h | h
  · exact Or.inl ⟨by linarith only [h1], h⟩
  · exact Or.inr ⟨h, by linarith only [h2]⟩

theorem leaf_left {k n : ℕ} {x : ℝ} (hx : Leaf (Nat.add k 1) (Nat.mul 2 n) x) : Leaf k n x := by
  rw [leaf_child, cast_two_mul] at hx
  exact leaf_iff.mpr ⟨by linarith only [hx.1], by linarith only [hx.2]⟩

theorem leaf_right {k n : ℕ} {x : ℝ} (hx : Leaf (Nat.add k 1) (Nat.add (Nat.mul 2 n) 1) x) :
    Leaf k n x := by
  rw [leaf_child, cast_two_mul_succ] at hx
  exact leaf_iff.mpr ⟨by linarith only [hx.1], by linarith only [hx.2]⟩

theorem leaf_centre_mem (k n : ℕ) :
    Leaf k n (((Nat.add (Nat.mul 2 n) 1 : ℕ) : ℝ) / 2 ^ (Nat.add k 1)) := by
  refine leaf_left (leaf_iff.mpr ?_)
  rw [div_mul_cancel₀ _ (by positivity), cast_two_mul, cast_two_mul_succ]
  exact ⟨by linarith only, le_rfl⟩

theorem leaf_centre_dist {k n : ℕ} {x : ℝ} (hx : Leaf k n x) :
    |x - ((Nat.add (Nat.mul 2 n) 1 : ℕ) : ℝ) / 2 ^ (Nat.add k 1)| ≤ 1 / 2 ^ (Nat.add k 1) := by
  have hd : (0 : ℝ) < 2 ^ (Nat.add k 1) := by positivity
  obtain ⟨h1, h2⟩ := leaf_iff.mp hx
  rw [← mul_div_cancel_right₀ x hd.ne', ← sub_div, abs_div, abs_of_pos hd, div_le_div_iff_of_pos_right hd,
    show (2 : ℝ) ^ (Nat.add k 1) = 2 ^ k * 2 from pow_succ 2 k, cast_two_mul_succ, abs_le]
  exact ⟨by linarith only [h1], by linarith only [h2]⟩

/-- the two comparisons of the checkers' `inside pN pK R k n`: the leaf `[n/2^k, (n+1)/2^k]` lies within `1/R` of
`pN/2^pK` -/
theorem inside_arith {pN pK R k n : ℕ} (hR : 0 < R)
    (h1 : Nat.ble (Nat.shiftLeft (Nat.mul R pN) k)
      (Nat.add (Nat.shiftLeft (Nat.mul R n) pK) (Nat.shiftLeft 1 (Nat.add k pK))) = true)
    (h2 : Nat.ble (Nat.shiftLeft (Nat.mul R (Nat.add n 1)) pK)
      (Nat.add (Nat.shiftLeft (Nat.mul R pN) k) (Nat.shiftLeft 1 (Nat.add k pK))) = true)
    {x : ℝ} (hx : Leaf k n x) : |x - (pN : ℝ) / 2 ^ pK| ≤ 1 / R := by
  have h1 := ble_cast h1
  have h2 := ble_cast h2
  simp only [cast_nat_add, cast_nat_mul, shl_cast, Nat.cast_one] at h1 h2
  have hk : (0 : ℝ) < 2 ^ k := by positivity
  have hpk : (0 : ℝ) < 2 ^ pK := by positivity
  have hR' : (0 : ℝ) < R := by exact_mod_cast hR
  rw [show (2 : ℝ) ^ (Nat.add k pK) = 2 ^ k * 2 ^ pK from pow_add 2 k pK] at h1 h2
  -- the two tests, divided by `R·2^k·2^pK`
  have a1 : (pN : ℝ) / 2 ^ pK ≤ (n : ℝ) / 2 ^ k + 1 / R := by
    rw [div_add_div _ _ hk.ne' hR'.ne', div_le_div_iff₀ hpk (by positivity)]
    linarith only [h1]
  have a2 : ((n : ℝ) + 1) / 2 ^ k ≤ (pN : ℝ) / 2 ^ pK + 1 / R := by
    rw [div_add_div _ _ hpk.ne' hR'.ne', div_le_div_iff₀ hk (by positivity)]
    linarith only [h2]
  exact abs_le.mpr ⟨by linarith only [a1, hx.1], by linarith only [a2, hx.2]⟩

end Encl

import IOptProofs.ConsoleInterpDefs
import IOptProofs.InterpAttr
import IOptProofs.KernelRfl
/-!
# What the console listener, taken from the SOURCE TEXT, prints

`IOptGen/ConsoleSrc.lean` (regenerated on every run from `iOpt/method/listener.py` and
`iOpt/output_system/console/console_output.py`) holds the statement trees of `ConsoleFullOutputListener` and
`FunctionConsoleFullOutput` and the `print` statements of `ConsoleOutputer`; `IOptProofs/ConsoleInterpDefs.lean` interprets them,
generically, with SYMBOLIC values (a printed datum is a `FieldRef`: which field of which callback argument).  The theorems here are
about the GENERATED material (`genProg`).

NOT covered: `str.format` rendering (padding, rounding), the layout arithmetic, the `print` to `sys.stdout` itself.

Runs in which nothing is read from an unknown state (the printers, `__init__`, `BeforeMethodStart`, the table look-ups) are checked by
the kernel (`kernel_rfl`: arguments are variables, the trees are not); runs that read attributes of an arbitrary heap are executed
symbolically by `simp only` with the interpreter's equations (`console_exec`).
-/

namespace ConsoleInterp
open Gen.ProcSrc Gen.Console

/-! ### the printers of `ConsoleOutputer`: positional binding of the arguments to the labels -/

/-- the lines of `printResult`, as a function of the fields bound to its parameters `numberOfGlobalTrials`, `numberOfLocalTrials`,
`solvingTime`, `solutionAccuracy`, `bestTrialPoint`, `bestTrialValue` -/
def resultLines (g l t a p v : FieldRef) : List Line := [
  .deco "'-' * (30 + 20 * dim + 2)", .deco "Result", .deco "'-' * (30 + 20 * dim + 2)",
  .field "global iteration count: " g "|{:>29} {:<{width}}|",
  .field "local iteration count: " l "|{:>29} {:<{width}}|",
  .field "solving time: " t "|{:>29} {:<{width}}|",
  .field "solution point: " p "|{:>29} {:<{width}}|",
  .field "solution value: " v "|{:>29} {:<{width}.8f}|",
  .field "accuracy: " a "|{:>29} {:<{width}.8f}|",
  .deco "'-' * (30 + 20 * dim + 2)"]

/-- the lines of `printBest`, as a function of the fields bound to `numberOfGlobalTrials`, `numberOfLocalTrials`,
`solutionAccuracy`, `bestTrialPoint`, `bestTrialValue`, `iter` -/
def bestLines (g l a p v i : FieldRef) : List Line := [
  .field "current iteration # " i "|{:>29} {:<{width}}|",
  .field "global iteration count: " g "|{:>29} {:<{width}}|",
  .field "local iteration count: " l "|{:>29} {:<{width}}|",
  .field "current best point: " p "|{:>29} {:<{width}}|",
  .field "current best value: " v "|{:>29} {:<{width}.8f}|",
  .field "currant accuracy: " a "|{:>29} {:<{width}.8f}|",
  .deco "'.' * (30 + 20 * dim + 2)"]

/-- the pieces of the line of `printIter`, as a function of the fields bound to `point`, `value`, `iter` -/
def iterLines (p v i : FieldRef) : List Line := [
  .deco "'|'", .field "" i "{:>5}:", .field "" v "{:>19.8f}", .field "" p "{:<{width}}|"]

def initLines (fe fr fR fl nObj nCons : FieldRef) : List Line := [
  .deco "", .deco "'-' * (30 + 20 * dim + 2)", .deco "Task Description", .deco "'-' * (30 + 20 * dim + 2)",
  .field "dimension: " .dim "|{:>29} {:<{width}}|",
  .field "bounds: " .boundsString "|{:>29} {:<{width}}|",
  .field "objective-function count: " nObj "|{:>29} {:<{width}}|",
  .field "constraint-function count: " nCons "|{:>29} {:<{width}}|",
  .deco "'-' * (30 + 20 * dim + 2)", .deco "Method Parameters", .deco "'-' * (30 + 20 * dim + 2)",
  .field "eps: " fe "|{:>29} {:<{width}}|",
  .field "r: " fr "|{:>29} {:<{width}}|",
  .field "epsR: " fR "|{:>29} {:<{width}}|",
  .field "itersLimit: " fl "|{:>29} {:<{width}}|",
  .deco "'-' * (30 + 20 * dim + 2)", .deco "Iterations", .deco "'-' * (30 + 20 * dim + 2)", .deco ""]

/-- **`printResult`, generated print list**: whatever is passed for `solved` (it is not printed) and whatever fields are passed in
the six other positions, the label "global iteration count: " shows the argument in position 2, … -/
theorem printResult_render (s : Val) (g l t a p v : FieldRef) :
    renderPrinter printResultP [s, .field g, .field l, .field t, .field a, .field p, .field v] =
      some (resultLines g l t a p v) := by kernel_rfl

theorem printBest_render (g l a p v i : FieldRef) :
    renderPrinter printBestP [.field g, .field l, .field a, .field p, .field v, .field i] = some (bestLines g l a p v i) := by
  kernel_rfl

/-- the counter is handed over as an integer -/
theorem printBest_render_num (g l a p v : FieldRef) (k : Nat) :
    renderPrinter printBestP [.field g, .field l, .field a, .field p, .field v, .nat k] = some (bestLines g l a p v (.num k)) := by
  kernel_rfl

theorem printIter_render_num (p v : FieldRef) (k : Nat) :
    renderPrinter printIterP [.field p, .field v, .nat k] = some (iterLines p v (.num k)) := by kernel_rfl

/-- `printInit`: the loop that builds the bounds string needs `floatdim`, the lower and the upper bounds in positions 5, 8, 9 -/
theorem printInit_render (fe fr fR fl nObj nCons : FieldRef) :
    renderPrinter printInitP [.field fe, .field fr, .field fR, .field fl, .field .dim, .field nObj, .field nCons,
      .field .lower, .field .upper] = some (initLines fe fr fR fl nObj nCons) := by kernel_rfl

/-- a wrong number of arguments is stuck -/
example : renderPrinter printResultP [.field .status, .field .nGlobal, .field .nLocal] = none := by decide

theorem lk_mFinal : genProg.meths.lookup "self.__fcfo.printFinalResult" = some ([.attr "__fcfo"],
    .proc .fcfo functionConsoleFullOutput_printFinalResultParams functionConsoleFullOutput_printFinalResult) := by kernel_rfl
theorem lk_mBestInfo : genProg.meths.lookup "self.__fcfo.printBestPointInfo" = some ([.attr "__fcfo"],
    .proc .fcfo functionConsoleFullOutput_printBestPointInfoParams functionConsoleFullOutput_printBestPointInfo) := by kernel_rfl
theorem lk_mIterInfo : genProg.meths.lookup "self.__fcfo.printIterPointInfo" = some ([.attr "__fcfo"],
    .proc .fcfo functionConsoleFullOutput_printIterPointInfoParams functionConsoleFullOutput_printIterPointInfo) := by kernel_rfl
theorem lk_mInitInfo : genProg.meths.lookup "self.__fcfo.printInitInfo" = some ([.attr "__fcfo"],
    .proc .fcfo functionConsoleFullOutput_printInitInfoParams functionConsoleFullOutput_printInitInfo) := by kernel_rfl
theorem lk_mResult : genProg.meths.lookup "self.__outputer.printResult" = some ([.attr "__outputer"], .printer printResultP) := by kernel_rfl
theorem lk_mBest : genProg.meths.lookup "self.__outputer.printBest" = some ([.attr "__outputer"], .printer printBestP) := by kernel_rfl
theorem lk_mIter : genProg.meths.lookup "self.__outputer.printIter" = some ([.attr "__outputer"], .printer printIterP) := by kernel_rfl
theorem lk_mInit : genProg.meths.lookup "self.__outputer.printInit" = some ([.attr "__outputer"], .printer printInitP) := by kernel_rfl
theorem lk_cFinal : genProg.ctors.lookup "self.__fcfo.printFinalResult" = none := by kernel_rfl
theorem lk_cBestInfo : genProg.ctors.lookup "self.__fcfo.printBestPointInfo" = none := by kernel_rfl
theorem lk_cIterInfo : genProg.ctors.lookup "self.__fcfo.printIterPointInfo" = none := by kernel_rfl
theorem lk_cResult : genProg.ctors.lookup "self.__outputer.printResult" = none := by kernel_rfl
theorem lk_cBest : genProg.ctors.lookup "self.__outputer.printBest" = none := by kernel_rfl
theorem lk_cIter : genProg.ctors.lookup "self.__outputer.printIter" = none := by kernel_rfl
theorem lk_gFinal : getterTable.lookup ("self.__fcfo.printFinalResult", ["solution", "status"]) = none := by decide +kernel
theorem lk_gStop : getterTable.lookup ("self.__fcfo.printFinalResult", ["solution", "status"]) = none := lk_gFinal
theorem lk_gBestInfo : getterTable.lookup ("self.__fcfo.printBestPointInfo", ["solution", "self.iters"]) = none := by decide +kernel
theorem lk_gIterInfo : getterTable.lookup ("self.__fcfo.printIterPointInfo", ["savedNewPoints"]) = none := by decide +kernel
theorem lk_gResult : getterTable.lookup ("self.__outputer.printResult", ["status", "solution.numberOfGlobalTrials",
    "solution.numberOfLocalTrials", "solution.solvingTime", "solution.solutionAccuracy", "bestTrialPoint", "bestTrialValue"]) =
    none := by decide +kernel
theorem lk_gBest : getterTable.lookup ("self.__outputer.printBest", ["solution.numberOfGlobalTrials",
    "solution.numberOfLocalTrials", "solution.solutionAccuracy", "bestTrialPoint", "bestTrialValue", "self.iterNum"]) =
    none := by decide +kernel
theorem lk_gIter : getterTable.lookup ("self.__outputer.printIter", ["point", "value", "self.iterNum"]) = none := by decide +kernel
theorem lk_gGetZ : getterTable.lookup ("savedNewPoints[0].GetZ", []) = some ("savedNewPoints", [.get .newValue]) := by decide +kernel

attribute [console_exec] runBody bindParams bindPos execList execStmt execCall evalArgs evalExpr evalParsed parseExpr litTable
  exprTable condTable evalCond applyPath applySel fieldOwner assignTo attrTargets localTargets List.lookup List.lookup_cons_self
  BEq.rfl Option.map List.contains_eq_mem List.mem_cons List.not_mem_nil or_self or_false or_true decide_true
  lk_mFinal lk_mBestInfo lk_mIterInfo lk_mResult lk_mBest lk_mIter lk_cFinal lk_cBestInfo lk_cIterInfo lk_cResult lk_cBest lk_cIter
  lk_gFinal lk_gBestInfo lk_gIterInfo lk_gResult lk_gBest lk_gIter lk_gGetZ

def finalReport : List Line := resultLines .nGlobal .nLocal .time .accuracy .point .value

/-- **`printFinalResult(solution, status)`, generated tree**: from any object state in which `self.__outputer` is the outputer, the
lines of `finalReport` are printed - each field read from the `solution` PARAMETER - and nothing else changes. -/
theorem printFinalResult_run (d : Nat) (st : St) (h2 : st.heap.get .fcfo "__outputer" = some (.obj .outputer)) :
    runner genProg (d+1) functionConsoleFullOutput_printFinalResultParams functionConsoleFullOutput_printFinalResult
      (.obj .fcfo) [.solution, .field .status] st = some { st with out := st.out ++ finalReport } := by
  simp only [runner, console_exec, String.reduceBEq, String.reduceEq, ↓reduceIte,
    functionConsoleFullOutput_printFinalResultParams, functionConsoleFullOutput_printFinalResult, h2, printResult_render,
    finalReport]

/-- what `printBestPointInfo` prints when the counter is `k` and the period is `n` -/
def customOut (n k : Nat) : List Line :=
  if k % n = 0 then bestLines .nGlobal .nLocal .accuracy .point .value (.num k) else []

/-- **`printBestPointInfo(solution, iters)`, generated tree**: with the counter `self.iterNum = k` and `iters = n ≠ 0`: the block of
`printBest` is printed iff `k % n = 0` - each field read from the `solution` PARAMETER, "current iteration # " being `k` -; in
both cases the counter becomes `k + 1`. -/
theorem printBestPointInfo_run (d : Nat) (st : St) (n k : Nat) (hn : n ≠ 0)
    (h2 : st.heap.get .fcfo "__outputer" = some (.obj .outputer)) (hk : st.heap.get .fcfo "iterNum" = some (.nat k)) :
    runner genProg (d+1) functionConsoleFullOutput_printBestPointInfoParams functionConsoleFullOutput_printBestPointInfo
      (.obj .fcfo) [.solution, .nat n] st =
      some { heap := st.heap.set (.fcfo, "iterNum") (.nat (k+1)), out := st.out ++ customOut n k } := by
  by_cases hd : k % n = 0
  · simp only [runner, console_exec, String.reduceBEq, String.reduceEq, ↓reduceIte,
      functionConsoleFullOutput_printBestPointInfoParams, functionConsoleFullOutput_printBestPointInfo, hk, hn, hd,
      bne_self_eq_false, h2, printBest_render_num, customOut]
  · have hb : (k % n != 0) = true := by simp [hd]
    simp only [runner, console_exec, String.reduceBEq, ↓reduceIte,
      functionConsoleFullOutput_printBestPointInfoParams, functionConsoleFullOutput_printBestPointInfo, hk, hn, hb,
      customOut, hd, List.append_nil]

/-- **`printIterPointInfo(savedNewPoints)`, generated tree**: with the counter `self.iterNum = k`: the line of `printIter` shows `k`,
then the value and the point of `savedNewPoints[0]`; the counter becomes `k + 1`. -/
theorem printIterPointInfo_run (d : Nat) (st : St) (k : Nat)
    (h2 : st.heap.get .fcfo "__outputer" = some (.obj .outputer)) (hk : st.heap.get .fcfo "iterNum" = some (.nat k)) :
    runner genProg (d+1) functionConsoleFullOutput_printIterPointInfoParams functionConsoleFullOutput_printIterPointInfo
      (.obj .fcfo) [.savedNewPoints] st =
      some { heap := st.heap.set (.fcfo, "iterNum") (.nat (k+1)), out := st.out ++ iterLines .newPoint .newValue (.num k) } := by
  simp only [runner, console_exec, String.reduceBEq, String.reduceEq, ↓reduceIte,
    functionConsoleFullOutput_printIterPointInfoParams, functionConsoleFullOutput_printIterPointInfo, hk, h2,
    printIter_render_num]

/-- the part of the object state that the later callbacks read -/
structure Started (mode : String) (n k : Nat) (h : Heap) : Prop where
  fcfo : h.get .listener "__fcfo" = some (.obj .fcfo)
  mode : h.get .listener "mode" = some (.str mode)
  iters : h.get .listener "iters" = some (.nat n)
  outputer : h.get .fcfo "__outputer" = some (.obj .outputer)
  iterNum : h.get .fcfo "iterNum" = some (.nat k)

theorem Heap.get_set_same (h : Heap) (o : Obj) (a : String) (v : Val) : (h.set (o, a) v).get o a = some v := by
  unfold Heap.get
  induction h with
  | nil => simp [Heap.set]
  | cons kv t ih =>
    obtain ⟨k', v'⟩ := kv
    by_cases hk : k' = (o, a)
    · simp [Heap.set, hk]
    · have : ((o, a) == k') = false := by simp [Ne.symm hk]
      simp [Heap.set, hk, List.lookup, this, ih]

theorem Heap.get_set_ne (h : Heap) (o o' : Obj) (a a' : String) (v : Val) (hne : (o', a') ≠ (o, a)) :
    (h.set (o, a) v).get o' a' = h.get o' a' := by
  have hb : ((o', a') == (o, a)) = false := by simp [hne]
  unfold Heap.get
  induction h with
  | nil => simp [Heap.set, List.lookup, hb]
  | cons kv t ih =>
    obtain ⟨k0, v0⟩ := kv
    by_cases hk : k0 = (o, a)
    · subst hk
      simp [Heap.set, List.lookup, hb]
    · simp only [Heap.set, hk, ↓reduceIte, List.lookup]
      rw [ih]

/-- the attributes of a listener after `__init__`, with `fc` in `self.__fcfo` -/
def listenerHeap (mode : String) (n : Nat) (fc : Val) : Heap :=
  [((.listener, "__fcfo"), fc), ((.listener, "mode"), .str mode), ((.listener, "iters"), .nat n)]

/-- the attributes of the three objects after `BeforeMethodStart`, the counter being `k` -/
def startedHeap (mode : String) (n k : Nat) : Heap :=
  listenerHeap mode n (.obj .fcfo) ++
    [((.fcfo, "problem"), .problem), ((.fcfo, "parameters"), .parameters), ((.fcfo, "__outputer"), .obj .outputer),
     ((.fcfo, "iterNum"), .nat k)]

/-- the block printed by `BeforeMethodStart` -/
def initReport : List Line := initLines .eps .r .epsR .itersLimit .nObjectives .nConstraints

/-- **`ConsoleFullOutputListener(mode, iters)`, generated tree of `__init__`** -/
theorem newListener_run (mode : String) (n : Nat) :
    newListener genProg mode n = some { heap := listenerHeap mode n .none_, out := [] } := by kernel_rfl

/-- **`BeforeMethodStart(method)`, generated trees** (the constructor of `FunctionConsoleFullOutput` through the tree of ITS
`__init__`): on a fresh listener it creates the `FunctionConsoleFullOutput` on `method.task.problem` / `method.parameters` with a
`ConsoleOutputer` and the counter `1`, and prints the task description: dimension, bounds, function counts, `eps`, `r`, `epsR`,
`itersLimit`, each under its own label. -/
theorem beforeMethodStart_run (mode : String) (n : Nat) (out : List Line) :
    beforeMethodStart genProg { heap := listenerHeap mode n .none_, out := out } =
      some { heap := startedHeap mode n 1, out := out ++ initReport } := by kernel_rfl

theorem start_run (mode : String) (n : Nat) :
    (newListener genProg mode n).bind (beforeMethodStart genProg) =
      some { heap := startedHeap mode n 1, out := initReport } := by
  rw [newListener_run, Option.bind_some, beforeMethodStart_run, List.nil_append]

theorem started_startedHeap (mode : String) (n k : Nat) : Started mode n k (startedHeap mode n k) :=
  ⟨rfl, rfl, rfl, rfl, rfl⟩

theorem Started.bump {mode : String} {n k : Nat} {h : Heap} (hS : Started mode n k h) (k' : Nat) :
    Started mode n k' (h.set (.fcfo, "iterNum") (.nat k')) where
  fcfo := by rw [Heap.get_set_ne _ _ _ _ _ _ (by decide)]; exact hS.fcfo
  mode := by rw [Heap.get_set_ne _ _ _ _ _ _ (by decide)]; exact hS.mode
  iters := by rw [Heap.get_set_ne _ _ _ _ _ _ (by decide)]; exact hS.iters
  outputer := by rw [Heap.get_set_ne _ _ _ _ _ _ (by decide)]; exact hS.outputer
  iterNum := Heap.get_set_same _ _ _ _

/-- the callbacks run at `depth = 2`; in this form the methods of `FunctionConsoleFullOutput` they call (`print*_run`, stated for
`runner genProg (d+1)`) are met at `d = 0` -/
theorem runner_two : runner genProg 2 = runBody genProg (runner genProg (0+1)) := rfl

/-- **`OnMethodStop(searchData, solution, status)`, generated trees**: from any state of the listener in which `BeforeMethodStart` has
been run (`self.__fcfo` is the `FunctionConsoleFullOutput`, whose `__outputer` is the outputer), whatever the mode, the period and
the counter, the callback prints `finalReport` - every field read from the `solution` ARGUMENT of the callback - and changes
nothing else. -/
theorem onMethodStop_started {mode : String} {n k : Nat} (st : St) (hS : Started mode n k st.heap) :
    onMethodStop genProg st = some { st with out := st.out ++ finalReport } := by
  rw [onMethodStop, callback, depth, runner_two]
  simp only [console_exec, String.reduceBEq, ↓reduceIte, consoleFullOutputListener_OnMethodStopParams,
    consoleFullOutputListener_OnMethodStop, hS.fcfo, printFinalResult_run 0 st hS.outputer]

theorem onEndIteration_custom {n k : Nat} (hn : n ≠ 0) (st : St) (hS : Started "custom" n k st.heap) :
    onEndIteration genProg st =
      some { heap := st.heap.set (.fcfo, "iterNum") (.nat (k+1)), out := st.out ++ customOut n k } := by
  rw [onEndIteration, callback, depth, runner_two]
  simp only [console_exec, String.reduceBEq, ↓reduceIte, consoleFullOutputListener_OnEndIterationParams,
    consoleFullOutputListener_OnEndIteration, hS.mode, hS.iters, hS.fcfo,
    printBestPointInfo_run 0 st n k hn hS.outputer hS.iterNum]

theorem onEndIteration_full {n k : Nat} (st : St) (hS : Started "full" n k st.heap) :
    onEndIteration genProg st =
      some { heap := st.heap.set (.fcfo, "iterNum") (.nat (k+1)), out := st.out ++ iterLines .newPoint .newValue (.num k) } := by
  rw [onEndIteration, callback, depth, runner_two]
  simp only [console_exec, String.reduceBEq, ↓reduceIte, consoleFullOutputListener_OnEndIterationParams,
    consoleFullOutputListener_OnEndIteration, hS.mode, hS.fcfo, printIterPointInfo_run 0 st k hS.outputer hS.iterNum]

/-- in any other mode (`'result'` included) nothing is printed and nothing changes -/
theorem onEndIteration_other {mode : String} {n k : Nat} (hf : mode ≠ "full") (hc : mode ≠ "custom") (st : St)
    (hS : Started mode n k st.heap) : onEndIteration genProg st = some st := by
  rw [onEndIteration, callback, depth, runner_two]
  have hf' : (mode == "full") = false := by simp [hf]
  have hc' : (mode == "custom") = false := by simp [hc]
  -- the innermost test `self.mode == 'result'` has two empty branches
  cases hr : mode == "result" <;>
    simp only [console_exec, String.reduceBEq, consoleFullOutputListener_OnEndIterationParams,
      consoleFullOutputListener_OnEndIteration, hS.mode, hf', hc', hr]

def blocks (blk : Nat → List Line) (k : Nat) : Nat → List Line
  | 0 => []
  | j + 1 => blocks blk k j ++ blk (k + j)

/-- what `j` notifications print in mode `'custom'` when the counter starts at `k` -/
def customOuts (n k : Nat) : Nat → List Line := blocks (customOut n) k

/-- what `j` notifications print in mode `'full'` when the counter starts at `k` -/
def fullOuts (k : Nat) : Nat → List Line := blocks (fun i => iterLines .newPoint .newValue (.num i)) k

/-- `j` notifications in a mode in which each one prints the block `blk` of the current counter and increments the counter: the
counter advances by `j` and the blocks of `k`, …, `k + j - 1` are printed (`Started` is preserved by `Started.bump`) -/
theorem onEndIterations_blocks {mode : String} {n : Nat} {blk : Nat → List Line}
    (hstep : ∀ {k : Nat} (st : St), Started mode n k st.heap →
      onEndIteration genProg st = some { heap := st.heap.set (.fcfo, "iterNum") (.nat (k+1)), out := st.out ++ blk k })
    (k : Nat) (st : St) (hS : Started mode n k st.heap) (j : Nat) :
    ∃ st', onEndIterations genProg j st = some st' ∧ Started mode n (k + j) st'.heap ∧ st'.out = st.out ++ blocks blk k j := by
  induction j with
  | zero => exact ⟨st, rfl, hS, by simp [blocks]⟩
  | succ j ih =>
    obtain ⟨st', h1, hS', ho⟩ := ih
    refine ⟨{ heap := st'.heap.set (.fcfo, "iterNum") (.nat (k + j + 1)), out := st'.out ++ blk (k + j) }, ?_,
      hS'.bump (k + j + 1), ?_⟩
    · simp only [onEndIterations, h1]
      exact hstep st' hS'
    · simp only [ho, blocks, List.append_assoc]

/-- **the `%`-schedule of mode `'custom'`**: `j` notifications on a listener whose counter is `k` advance the counter to `k + j` and
print, for each `i < j`, the block of `printBest` with "current iteration # " `= k + i` iff `n` divides `k + i`. -/
theorem onEndIterations_custom {n : Nat} (hn : n ≠ 0) (k : Nat) (st : St) (hS : Started "custom" n k st.heap) (j : Nat) :
    ∃ st', onEndIterations genProg j st = some st' ∧ Started "custom" n (k + j) st'.heap ∧
      st'.out = st.out ++ customOuts n k j :=
  onEndIterations_blocks (onEndIteration_custom hn) k st hS j

theorem onEndIterations_full {n : Nat} (k : Nat) (st : St) (hS : Started "full" n k st.heap) (j : Nat) :
    ∃ st', onEndIterations genProg j st = some st' ∧ Started "full" n (k + j) st'.heap ∧
      st'.out = st.out ++ fullOuts k j :=
  onEndIterations_blocks onEndIteration_full k st hS j

theorem onEndIterations_other {mode : String} {n k : Nat} (hf : mode ≠ "full") (hc : mode ≠ "custom") (st : St)
    (hS : Started mode n k st.heap) (j : Nat) : onEndIterations genProg j st = some st := by
  induction j with
  | zero => rfl
  | succ j ih => simp only [onEndIterations, ih]; exact onEndIteration_other hf hc st hS

theorem entries_finalReport : entries finalReport =
    [("global iteration count: ", .nGlobal), ("local iteration count: ", .nLocal), ("solving time: ", .time),
     ("solution point: ", .point), ("solution value: ", .value), ("accuracy: ", .accuracy)] := by decide +kernel

theorem entries_bestLines (k : Nat) : entries (bestLines .nGlobal .nLocal .accuracy .point .value (.num k)) =
    [("current iteration # ", .num k), ("global iteration count: ", .nGlobal), ("local iteration count: ", .nLocal),
     ("current best point: ", .point), ("current best value: ", .value), ("currant accuracy: ", .accuracy)] := rfl

theorem entries_iterLines (k : Nat) : entries (iterLines .newPoint .newValue (.num k)) =
    [("", .num k), ("", .newValue), ("", .newPoint)] := rfl

theorem entries_initReport : entries initReport =
    [("dimension: ", .dim), ("bounds: ", .boundsString), ("objective-function count: ", .nObjectives),
     ("constraint-function count: ", .nConstraints), ("eps: ", .eps), ("r: ", .r), ("epsR: ", .epsR),
     ("itersLimit: ", .itersLimit)] := by decide +kernel

/-- the final report, read against the arguments of the callback: the data of the solution HANDED OVER -/
theorem shown_finalReport {V P : Type} (a : Args V P) : shownEntries a finalReport =
    [("global iteration count: ", .nat a.solution.nGlobal), ("local iteration count: ", .nat a.solution.nLocal),
     ("solving time: ", .val a.solution.time), ("solution point: ", .pt a.solution.point),
     ("solution value: ", .val a.solution.value), ("accuracy: ", .val a.solution.accuracy)] := rfl

theorem shown_bestLines {V P : Type} (a : Args V P) (k : Nat) :
    shownEntries a (bestLines .nGlobal .nLocal .accuracy .point .value (.num k)) =
    [("current iteration # ", .nat k), ("global iteration count: ", .nat a.solution.nGlobal),
     ("local iteration count: ", .nat a.solution.nLocal), ("current best point: ", .pt a.solution.point),
     ("current best value: ", .val a.solution.value), ("currant accuracy: ", .val a.solution.accuracy)] := rfl

theorem shown_iterLines {V P : Type} (a : Args V P) (k : Nat) :
    shownEntries a (iterLines .newPoint .newValue (.num k)) = [("", .nat k), ("", .val a.newValue), ("", .pt a.newPoint)] := rfl

/-- the only notification in `Solve` -/
theorem sites_solve : sitesList Gen.ProcSrc.solve =
    [("listener.OnMethodStop", ["self.searchData", "self.GetResults()", "status"])] := by decide +kernel

/-- the notifications in `DoGlobalIteration` -/
theorem sites_doGlobalIteration : sitesList Gen.ProcSrc.doGlobalIteration =
    [("listener.BeforeMethodStart", ["self.method"]), ("listener.OnEndIteration", ["savedNewPoints", "self.GetResults()"])] := by
  decide +kernel

/-- no notification elsewhere in `process.py` -/
theorem sites_rest : sitesList Gen.ProcSrc.doLocalRefinement = [] ∧ sitesList Gen.ProcSrc.getResults = [] ∧
    sitesList Gen.ProcSrc.problemCalculate = [] := by decide +kernel

/-- at both call sites the parameter `solution` of the callback receives the expression `self.GetResults()` -/
theorem site_solution_arg :
    siteArgFor ("listener.OnMethodStop", ["self.searchData", "self.GetResults()", "status"]) "solution" = some "self.GetResults()" ∧
    siteArgFor ("listener.OnEndIteration", ["savedNewPoints", "self.GetResults()"]) "solution" = some "self.GetResults()" := by
  decide +kernel

/-- the notifications as issued at the call sites are the callbacks run on the opaque arguments -/
theorem notify_stop (st : St) :
    notify genProg ("listener.OnMethodStop", ["self.searchData", "self.GetResults()", "status"]) st = onMethodStop genProg st := by kernel_rfl

theorem notify_end (st : St) :
    notify genProg ("listener.OnEndIteration", ["savedNewPoints", "self.GetResults()"]) st = onEndIteration genProg st := by kernel_rfl

theorem notify_before (st : St) :
    notify genProg ("listener.BeforeMethodStart", ["self.method"]) st = beforeMethodStart genProg st := by kernel_rfl

end ConsoleInterp

/-! ## Non-vacuity, and what the ties exclude: runs of the interpreter on the generated trees and on edited trees -/

namespace ConsoleInterp.Examples
open Gen.ProcSrc Gen.Console

/-- a started listener (mode `'result'`, nothing printed yet) -/
def S0 : St := { heap := startedHeap "result" 100 1, out := [] }

/-- the interpreter RUN on the generated trees: `__init__`, `BeforeMethodStart`, four `OnEndIteration` in mode `'custom'` with
period 2, `OnMethodStop`: the init block, the best-point blocks numbered 2 and 4, the final report; the counter ends at 5.
(The lives below rewrite with `start_run` first: the kernel has run `__init__` and `BeforeMethodStart` there, for every mode and
period, and runs the notifications here.) -/
example :
    ((((newListener genProg "custom" 2).bind (beforeMethodStart genProg)).bind (onEndIterations genProg 4)).bind
        (onMethodStop genProg)) =
      some { heap := startedHeap "custom" 2 5,
             out := initReport ++ bestLines .nGlobal .nLocal .accuracy .point .value (.num 2) ++
               bestLines .nGlobal .nLocal .accuracy .point .value (.num 4) ++ finalReport } := by
  rw [start_run]
  decide +kernel

/-- mode `'full'`: one line per notification, numbered 1, 2, 3 -/
example :
    (((newListener genProg "full" 100).bind (beforeMethodStart genProg)).bind (onEndIterations genProg 3)).map (entries ·.out) =
      some (entries initReport ++ [("", .num 1), ("", .newValue), ("", .newPoint), ("", .num 2), ("", .newValue), ("", .newPoint),
        ("", .num 3), ("", .newValue), ("", .newPoint)]) := by
  rw [start_run]
  decide +kernel

/-- mode `'result'`: the notifications print nothing; the final report is the whole output after the init block -/
example :
    ((((newListener genProg "result" 100).bind (beforeMethodStart genProg)).bind (onEndIterations genProg 7)).bind
        (onMethodStop genProg)).map (·.out) = some (initReport ++ finalReport) := by
  rw [start_run]
  decide +kernel

/-- the tie theorems instantiated (their hypotheses hold on the state that `BeforeMethodStart` leaves) -/
example := onMethodStop_started S0 (started_startedHeap "result" 100 1)
example := onEndIterations_custom (n := 3) (by decide) 1 { heap := startedHeap "custom" 3 1 } (started_startedHeap "custom" 3 1) 10

/-- a listener that was never told `BeforeMethodStart` (attached after the first iteration): `self.__fcfo` is `None`, every later
callback is stuck (Python: `AttributeError: 'NoneType' object has no attribute 'printFinalResult'`) -/
example : (newListener genProg "result" 100).bind (onMethodStop genProg) = none ∧
    (newListener genProg "full" 100).bind (onEndIteration genProg) = none ∧
    (newListener genProg "result" 100).bind (onEndIteration genProg) = newListener genProg "result" 100 := by decide +kernel

/-- mode `'custom'` with `iters = 0`: stuck (Python: `ZeroDivisionError` in `self.iterNum % iters`) -/
example : ((newListener genProg "custom" 0).bind (beforeMethodStart genProg)).bind (onEndIteration genProg) = none := by
  rw [start_run]
  decide +kernel

/-- the chain needs two call levels; with one, the callback cannot call the method of `FunctionConsoleFullOutput` -/
example : runner genProg 1 consoleFullOutputListener_OnMethodStopParams consoleFullOutputListener_OnMethodStop
    (.obj .listener) [.searchData, .solution, .field .status] S0 = none := by decide +kernel

/-- arity mismatch at the call site is stuck: `OnMethodStop(solution, status)` -/
example : callback genProg consoleFullOutputListener_OnMethodStopParams consoleFullOutputListener_OnMethodStop
    [.solution, .field .status] S0 = none := by decide +kernel

/-! ### seeded edits of the source are stuck or render another report -/

def withMeth (name : String) (recv : List Sel) (c : Callee) : Prog :=
  { genProg with meths := (name, (recv, c)) :: genProg.meths }

/-- (1) `printFinalResult` passing `numberOfLocalTrials` and `numberOfGlobalTrials` in the other order -/
def printFinalResultSwapped : List Stmt :=
  [
    .assign "bestTrialPoint" "solution.bestTrials[0].point.floatVariables",
    .assign "bestTrialValue" "solution.bestTrials[0].functionValues[0].value",
    .call [] "self.__outputer.printResult" ["status", "solution.numberOfLocalTrials", "solution.numberOfGlobalTrials", "solution.solvingTime", "solution.solutionAccuracy", "bestTrialPoint", "bestTrialValue"]]

/-- … the two counts appear under each other's label -/
example : (onMethodStop (withMeth "self.__fcfo.printFinalResult" [.attr "__fcfo"]
      (.proc .fcfo functionConsoleFullOutput_printFinalResultParams printFinalResultSwapped)) S0).map (entries ·.out) =
    some [("global iteration count: ", .nLocal), ("local iteration count: ", .nGlobal), ("solving time: ", .time),
      ("solution point: ", .point), ("solution value: ", .value), ("accuracy: ", .accuracy)] := by decide +kernel

/-- (2) `printFinalResult` reading a cached trial `self.best` instead of `solution.bestTrials[0]` -/
def printFinalResultCached : List Stmt :=
  [
    .assign "bestTrialPoint" "self.best.point.floatVariables",
    .assign "bestTrialValue" "self.best.functionValues[0].value",
    .call [] "self.__outputer.printResult" ["status", "solution.numberOfGlobalTrials", "solution.numberOfLocalTrials", "solution.solvingTime", "solution.solutionAccuracy", "bestTrialPoint", "bestTrialValue"]]

/-- … stuck: the expression is not a field of the argument -/
example : onMethodStop (withMeth "self.__fcfo.printFinalResult" [.attr "__fcfo"]
      (.proc .fcfo functionConsoleFullOutput_printFinalResultParams printFinalResultCached)) S0 = none := by decide +kernel

/-- (3) `printResult` printing `numberOfLocalTrials` under the label "global iteration count: " -/
def printResultWrongLabel : Printer :=
  { printResultP with prints := printResultPrints.map fun p =>
      if p.args = ["'global iteration count: '", "numberOfGlobalTrials"] then
        { p with args := ["'global iteration count: '", "numberOfLocalTrials"] } else p }

/-- … the local count is shown twice, the global count nowhere -/
example : (onMethodStop (withMeth "self.__outputer.printResult" [.attr "__outputer"] (.printer printResultWrongLabel)) S0).map
      (entries ·.out) =
    some [("global iteration count: ", .nLocal), ("local iteration count: ", .nLocal), ("solving time: ", .time),
      ("solution point: ", .point), ("solution value: ", .value), ("accuracy: ", .accuracy)] := by decide +kernel

/-- (4) `OnMethodStop` passing `status, solution` in the other order -/
def onMethodStopSwapped : List Stmt :=
  [
    .call [] "self.__fcfo.printFinalResult" ["status", "solution"]]

/-- … stuck: `printFinalResult` then reads `bestTrials[0]` of the status flag -/
example : callback genProg consoleFullOutputListener_OnMethodStopParams onMethodStopSwapped
    [.searchData, .solution, .field .status] S0 = none := by decide +kernel

/-- (5) the call site passing the search data where the solution belongs (`OnMethodStop(solution, searchData, status)`) -/
example : callback genProg consoleFullOutputListener_OnMethodStopParams consoleFullOutputListener_OnMethodStop
    [.solution, .searchData, .field .status] S0 = none := by decide +kernel

/-- (6) `printBestPointInfo` without the increment of the counter: every notification prints (period 1) or none does -/
def printBestPointInfoNoIncrement : List Stmt :=
  [
    .ite "self.iterNum % iters != 0" [] [
      .assign "bestTrialPoint" "solution.bestTrials[0].point.floatVariables",
      .assign "bestTrialValue" "solution.bestTrials[0].functionValues[0].value",
      .call [] "self.__outputer.printBest" ["solution.numberOfGlobalTrials", "solution.numberOfLocalTrials", "solution.solutionAccuracy", "bestTrialPoint", "bestTrialValue", "self.iterNum"]]]

example : (onEndIterations (withMeth "self.__fcfo.printBestPointInfo" [.attr "__fcfo"]
      (.proc .fcfo functionConsoleFullOutput_printBestPointInfoParams printBestPointInfoNoIncrement)) 4
      { heap := startedHeap "custom" 2 1 }).map (·.out) = some [] ∧
    (onEndIterations genProg 4 { heap := startedHeap "custom" 2 1 }).map (·.out) = some (customOuts 2 1 4) ∧
    customOuts 2 1 4 ≠ [] := by decide +kernel

/-- (7) `OnEndIteration` in mode `'custom'` handing over a solution kept from an earlier call (`self.last`) -/
def onEndIterationCached : List Stmt :=
  [
    .ite "self.mode == 'full'" [
      .call [] "self.__fcfo.printIterPointInfo" ["savedNewPoints"]] [
      .ite "self.mode == 'custom'" [
        .call [] "self.__fcfo.printBestPointInfo" ["self.last", "self.iters"]] [
        .ite "self.mode == 'result'" [] []]]]

example : callback genProg consoleFullOutputListener_OnEndIterationParams onEndIterationCached
    [.savedNewPoints, .solution] { heap := startedHeap "custom" 1 1 } = none := by decide +kernel

/-- statements outside the tables are not silently accepted -/
example : callback genProg ["self"] [.other "print('x')"] [] S0 = none ∧
    callback genProg ["self"] [.assign "self.iterNum" "0"] [] S0 = none ∧
    callback genProg ["self"] [.assign "dim" "1"] [] S0 = none ∧
    callback genProg ["self"] [.ret "None"] [] S0 = none ∧
    renderPrinter { printResultP with other := ["dim = 0"] } [.field .status, .field .nGlobal, .field .nLocal, .field .time,
      .field .accuracy, .field .point, .field .value] = none ∧
    renderPrinter { printResultP with locals := [("bestTrialValue", "0")] } [.field .status, .field .nGlobal, .field .nLocal,
      .field .time, .field .accuracy, .field .point, .field .value] = none := by decide +kernel

end ConsoleInterp.Examples

import IOptModel.Method
import IOptGen.MethodSrc
import Mathlib.Tactic.Ring
import Mathlib.Tactic.FieldSimp
import Mathlib.Algebra.Order.Field.Basic
/-!
# The hand-written model of `Method` equals the translation of the CURRENT source text

`IOptGen/MethodSrc.lean` is regenerated on every run by `harness/src2lean.py` from the source text of
`iOpt/method/method.py` (symbolic execution of the Python AST).  The theorems below state that the
functions of the hand-written model `IOptModel/Method.lean` — the ones every property theorem is about —
are these translations.  A change of a formula, of a comparison or of a branch in the source changes the
generated definitions and one of these theorems stops checking.

The first group holds over the raw numeric classes (hence also for the `Float` instance that the driver
executes): the expression trees are identical.  The second group (`nextX`) holds over ordered fields:
the source multiplies by `dg = ±1.0` where the model adds or subtracts.
-/
set_option linter.unusedSectionVars false

namespace SrcTie
open AGP Gen.Src

section raw
variable {α : Type} [Add α] [Sub α] [Mul α] [Div α] [Neg α] [LT α] [LE α]
  [DecidableLT α] [DecidableLE α] [OfNat α 0] [OfNat α 1] [OfNat α 2] [OfNat α 4] [Fns α]

/-- what the arithmetic reads from an item of the model: `GetIndex()` is 0 for evaluated items, -2 for end points -/
def pt (it : Item α) : Pt α := ⟨it.x, it.z, if it.ev then 0 else -2, it.delta⟩

/-- `Method.CalculateDelta` -/
theorem calcDelta_src (n : Nat) (lx rx : α) : calcDelta n lx rx = calculateDelta lx rx n := rfl

/-- `Method.CalculateGlobalR`, all three branches -/
theorem calcR_src (r M Z : α) (left cur : Item α) :
    calcR r M Z left cur = calculateGlobalR (pt left) (pt cur) r M Z := by
  cases hl : left.ev <;> cases hc : cur.ev <;> simp [calcR, calculateGlobalR, pt, hl, hc]

/-- `Method.CalculateM`: the new estimate and the recalc flag -/
theorem calcM_src (M : α) (recalc : Bool) (left cur : Item α) :
    calcM M recalc left cur
      = (calculateM_M (pt left) (pt cur) M, calculateM_recalc (pt left) (pt cur) M recalc) := by
  cases hl : left.ev <;> cases hc : cur.ev <;>
    simp only [calcM, calculateM_M, calculateM_recalc, pt, hl, hc, GT.gt] <;>
    by_cases h : M < Fns.abs (left.z - cur.z) / cur.delta <;> simp [h]

/-- `min(old.delta, self.min_delta)` in `CalculateIterationPoint` -/
theorem minDelta_src (old : Item α) (md : Option α) :
    AGP.minOpt old.delta md = iterationPoint_minDelta (pt old) md := by
  cases md <;> rfl

/-- `Method.CheckStopCondition` (finite `min_delta`) -/
theorem stopCond_src (p : Params α) (s : State α) (d : α) (h : s.minDelta = some d) :
    stopCond p s = checkStopCondition d p.eps s.iters p.itersLimit := by
  simp only [stopCond, h, checkStopCondition, ge_iff_le]
  by_cases h1 : d < p.eps <;> by_cases h2 : p.itersLimit ≤ s.iters <;> simp [h1, h2]

/-- `Method.CheckStopCondition` while `min_delta` is still `inf`: only the budget counts -/
theorem stopCond_inf (p : Params α) (s : State α) (h : s.minDelta = none) :
    stopCond p s = decide (p.itersLimit ≤ s.iters) := by
  simp [stopCond, h]

/-- `Method.UpdateOptimum` for two evaluated points: the comparison that `commit` makes -/
theorem updateOptimum_src (best new : Item α) (hb : best.ev = true) (hn : new.ev = true) :
    updateOptimum_taken (pt best) (pt new) = decide (new.z < best.z) ∧
    ∀ Z : α, updateOptimum_Z (pt best) (pt new) Z = if new.z < best.z then new.z else Z := by
  simp [updateOptimum_taken, updateOptimum_Z, pt, hb, hn]

theorem updateOptimum_recalc_src (best new : Item α) (hb : best.ev = true) (hn : new.ev = true) (rc : Bool) :
    updateOptimum_recalc (pt best) (pt new) rc = if new.z < best.z then true else rc := by
  simp [updateOptimum_recalc, pt, hb, hn]

end raw

section field
variable {α : Type} [Field α] [LinearOrder α] [IsStrictOrderedRing α] [Fns α]

/-- `Method.CalculateNextPointCoordinate`: the returned coordinate is the model's `nextX`, and the function
raises exactly when the model's `prepare` reports `outsideInterval` -/
theorem nextX_src (p : Params α) (M : α) (left cur : Item α) :
    calculateNextPointCoordinate (pt left) (pt cur) p.r M p.n
      = if nextX p M left cur ≤ left.x ∨ cur.x ≤ nextX p M left cur then none
        else some (nextX p M left cur) := by
  have e1 : ∀ a q : α, a - (AGP.half * 1 * q) / p.r = a - AGP.half * q / p.r := by
    intro a q; simp [AGP.half]
  have e2 : ∀ a q : α, a - (AGP.half * (-1) * q) / p.r = a + AGP.half * q / p.r := by
    intro a q; simp only [AGP.half]; ring
  have e0 : (Gen.Src.half : α) = AGP.half := rfl
  unfold calculateNextPointCoordinate nextX
  cases hl : left.ev <;> cases hc : cur.ev
  all_goals simp only [pt, hl, hc, GT.gt, ge_iff_le, Bool.false_eq_true, if_false, if_true,
    beq_self_eq_true, (by decide : ((-2 : Int) = 0) = False), (by decide : ((0 : Int) = -2) = False),
    (by decide : ((false == true) = true) = False), (by decide : ((true == false) = true) = False), e0]
  · by_cases h : 0 < cur.z - left.z
    · rw [if_pos h, if_pos h, e1]
    · rw [if_neg h, if_neg h, e2]
  · by_cases h : 0 < cur.z - left.z
    · rw [if_pos h, if_pos h, e1]
    · rw [if_neg h, if_neg h, e2]

end field

end SrcTie

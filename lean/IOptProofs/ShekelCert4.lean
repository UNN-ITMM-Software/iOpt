import IOptProofs.ShekelRows
/-! Kernel-evaluated C10 certificates of the Shekel functions 800..999, fifty rows per evaluation. -/
namespace Shk
theorem shekel_block_16 : ∀ i ∈ List.range' 800 50, shekelOK i = true := shekel_block _ _ (by decide +kernel)
theorem shekel_block_17 : ∀ i ∈ List.range' 850 50, shekelOK i = true := shekel_block _ _ (by decide +kernel)
theorem shekel_block_18 : ∀ i ∈ List.range' 900 50, shekelOK i = true := shekel_block _ _ (by decide +kernel)
theorem shekel_block_19 : ∀ i ∈ List.range' 950 50, shekelOK i = true := shekel_block _ _ (by decide +kernel)
end Shk

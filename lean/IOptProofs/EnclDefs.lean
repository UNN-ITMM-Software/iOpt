/-!
# Enclosure kit, computational part (no Mathlib): biased fixed-point trigonometry on `Nat`

Everything here is written for the *kernel* evaluator (`decide +kernel`): the kernel evaluates the
binary `Nat` primitives (`Nat.add/sub/mul/div/shiftLeft/shiftRight/ble`) on literals with GMP in a few
reduction steps, while `Int` arithmetic unfolds through several matchers per operation (measured:
about 15 times slower).  Therefore signed fixed-point numbers are stored *biased*:

* a trigonometric value `x ∈ (-2, 2)` is the natural number `x·2^64 + B`, `B = 2^65`;
* all functions are straight-line compositions of the primitives, sharing is by argument passing
  (the kernel memoises the weak head normal form of each closed argument term);
* a big literal is never the *second* argument of `Nat.add/sub/mul` with an open first argument: these
  functions recurse on the second argument, and a failed definitional-equality test on such a term
  with free variables would count down from the literal (observed as a kernel timeout).

The soundness of every function (against `Real.cos`, `Real.sin`) is proved in `EnclSoundTaylor.lean`,
`EnclSoundMul.lean`, `EnclSoundSum.lean`.
-/

namespace Encl

/-- `2^64`: one unit of the trigonometric fixed-point format -/
def ONE : Nat := 18446744073709551616
/-- `2^65`: bias of the trigonometric fixed-point format -/
def B : Nat := 36893488147419103232
/-- `⌊π·2^70⌋` -/
def PI_N : Nat := 3708937962535486895300
/-- `2·B^2 + ONE·B = 5·2^129` -/
def CIM : Nat := 3402823669209384634633746074317682114560

/-- `φ·2^64` (rounded down) for `φ = 2π·(num/2^k)/32` -/
def phi (num k : Nat) : Nat := Nat.shiftRight (Nat.mul PI_N num) (Nat.add k 10)

/-- `u·2^64` for `u = φ²` -/
def usq (p : Nat) : Nat := Nat.shiftRight (Nat.mul p p) 64

/-- one Horner level `1 - u·w/d` of the Taylor polynomials; `dd = d·2^64` -/
def lvl (u w dd : Nat) : Nat := Nat.sub ONE (Nat.div (Nat.mul u w) dd)

/-- `1 - u/2 + u²/24 - u³/720 + u⁴/8! - u⁵/10!` in Horner form -/
def cosT (u : Nat) : Nat :=
  lvl u (lvl u (lvl u (lvl u (lvl u ONE 1660206966633859645440) 1033017668127734890496)
    553402322211286548480) 221360928884514619392) 36893488147419103232

/-- `φ·(1 - u/6 + u²/120 - u³/7! + u⁴/9!)` in Horner form -/
def sinT (p u : Nat) : Nat :=
  Nat.shiftRight (Nat.mul p
    (lvl u (lvl u (lvl u (lvl u ONE 1328165573307087716352) 774763251095801167872)
      368934881474191032320) 110680464442257309696)) 64

/-- real part of the product `(x + i u)(y + i v)` of biased fixed-point complex numbers -/
def cmulRe (X Y U V : Nat) : Nat :=
  Nat.shiftRight
    (Nat.sub (Nat.add (Nat.mul X Y) (Nat.shiftLeft (Nat.add ONE (Nat.add U V)) 65))
             (Nat.add (Nat.mul U V) (Nat.shiftLeft (Nat.add X Y) 65))) 64

/-- imaginary part of the product `(x + i u)(y + i v)` of biased fixed-point complex numbers -/
def cmulIm (X Y U V : Nat) : Nat :=
  Nat.shiftRight
    (Nat.sub (Nat.add CIM (Nat.add (Nat.mul X V) (Nat.mul U Y)))
             (Nat.shiftLeft (Nat.add (Nat.add X Y) (Nat.add U V)) 65)) 64

/-- `m` squarings in continuation-passing style -/
def pow2 {α : Type} : Nat → Nat → Nat → (Nat → Nat → α) → α
  | 0, X, U, k => k X U
  | m+1, X, U, k => pow2 m (cmulRe X X U U) (cmulIm X X U U) k

/-- biased enclosure centre of `(cos 2πt, sin 2πt)` for `t = num/2^k ∈ [0,1]`, passed to `cont` -/
def trig {α : Type} (num k : Nat) (cont : Nat → Nat → α) : α :=
  pow2 5 (Nat.add B (cosT (usq (phi num k)))) (Nat.add B (sinT (phi num k) (usq (phi num k)))) cont

/-! ## weighted sums of `cos iθ`, `sin iθ`, `i = 0, 1, …` by the angle-addition recurrence -/

/-- the six biased coefficients of index `i`:
`a0 = a_i`, `b0 = b_i` (value), `a1 = i·a_i`, `b1 = -i·b_i` (derivative / 2π),
`a2 = i²·a_i`, `b2 = i²·b_i` (second derivative / (-4π²)); each is `value·2^80 + 2^89` -/
structure Coef where
  a0 : Nat
  b0 : Nat
  a1 : Nat
  b1 : Nat
  a2 : Nat
  b2 : Nat

/-- raw accumulated products -/
structure Acc where
  f : Nat
  g1 : Nat
  g2 : Nat
  sc : Nat

/-- `X, U` = biased `cos iθ, sin iθ`; `Y, V` = biased `cos θ, sin θ` -/
def evGo : List Coef → Nat → Nat → Nat → Nat → Nat → Nat → Nat → Nat → Acc
  | [], _, _, _, _, f, g1, g2, sc => ⟨f, g1, g2, sc⟩
  | c :: l, X, U, Y, V, f, g1, g2, sc =>
    evGo l (cmulRe X Y U V) (cmulIm X Y U V) Y V
      (Nat.add (Nat.add f (Nat.mul c.a0 U)) (Nat.mul c.b0 X))
      (Nat.add (Nat.add g1 (Nat.mul c.a1 X)) (Nat.mul c.b1 U))
      (Nat.add (Nat.add g2 (Nat.mul c.a2 U)) (Nat.mul c.b2 X))
      (Nat.add (Nat.add sc X) U)

/-- accumulated products at the point `num/2^k` -/
def evAcc (cs : List Coef) (num k : Nat) : Acc :=
  trig num k fun Y V => evGo cs (Nat.add ONE B) B Y V 0 0 0 0

end Encl

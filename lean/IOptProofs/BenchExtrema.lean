import Mathlib.Analysis.Calculus.MeanValue
import Mathlib.Topology.Order.Compact
/-!
# Minimisers and Lipschitz bounds on an interval

What the one-dimensional benchmark families (Hill on `[0,1]`, Shekel on `[0,10]`) do with the pointwise facts a
certificate gives them: a continuous function attains its minimum on the interval (and on a cube, for Shekel4 on
`[0,10]^n`); if some point of it has a smaller value than every point off a neighbourhood `N`, every minimiser lies in
`N` (the location clause of C10); a bound of `|f'|` on the interval is a Lipschitz constant there (C18).
-/

namespace Bench
open Set

theorem exists_min_Icc {a b : ℝ} (hab : a ≤ b) {f : ℝ → ℝ} (hf : Continuous f) :
    ∃ xs, a ≤ xs ∧ xs ≤ b ∧ ∀ x, a ≤ x → x ≤ b → f xs ≤ f x := by
  obtain ⟨xs, hxs, hmin⟩ := isCompact_Icc.exists_isMinOn ⟨a, left_mem_Icc.2 hab⟩ hf.continuousOn
  exact ⟨xs, hxs.1, hxs.2, fun x h0 h1 => hmin ⟨h0, h1⟩⟩

theorem exists_max_Icc {a b : ℝ} (hab : a ≤ b) {f : ℝ → ℝ} (hf : Continuous f) :
    ∃ xs, a ≤ xs ∧ xs ≤ b ∧ ∀ x, a ≤ x → x ≤ b → f x ≤ f xs :=
  let ⟨xs, h0, h1, hm⟩ := exists_min_Icc hab hf.neg
  ⟨xs, h0, h1, fun x x0 x1 => neg_le_neg_iff.1 (hm x x0 x1)⟩

/-- the minimum on the cube `[a, b]^n`, its points written as lists of length `n` (Shekel4) -/
theorem exists_min_cube {a b : ℝ} (hab : a ≤ b) (g : List ℝ → ℝ) (n : Nat)
    (hg : Continuous fun y : Fin n → ℝ => g (List.ofFn y)) :
    ∃ xs : List ℝ, xs.length = n ∧ (∀ xj ∈ xs, a ≤ xj ∧ xj ≤ b) ∧
      ∀ x : List ℝ, x.length = n → (∀ xj ∈ x, a ≤ xj ∧ xj ≤ b) → g xs ≤ g x := by
  obtain ⟨ys, hys, hmin⟩ := (isCompact_Icc (a := fun _ : Fin n => a) (b := fun _ => b)).exists_isMinOn
    ⟨fun _ => a, fun _ => le_rfl, fun _ => hab⟩ hg.continuousOn
  refine ⟨List.ofFn ys, List.length_ofFn, fun xj hxj => ?_, fun x hlen hx => ?_⟩
  · obtain ⟨i, rfl⟩ := (List.mem_ofFn' _ _).1 hxj
    exact ⟨hys.1 i, hys.2 i⟩
  · subst hlen
    have : g (List.ofFn ys) ≤ g (List.ofFn fun i : Fin x.length => x[i.val]) :=
      hmin (a := fun i => x[i.val]) ⟨fun i => (hx _ (List.getElem_mem _)).1, fun i => (hx _ (List.getElem_mem _)).2⟩
    rwa [List.ofFn_getElem] at this

/-- a point `p` of `[a, b]` with `f p < f x` for all `x ∈ [a, b]` off `N`: a minimiser exists, and every minimiser is in
`N` -/
theorem minimiser_Icc {a b : ℝ} {f : ℝ → ℝ} (hf : Continuous f) {p : ℝ} (hp : a ≤ p ∧ p ≤ b) {N : ℝ → Prop}
    (hoff : ∀ x, a ≤ x → x ≤ b → ¬ N x → f p < f x) :
    (∃ xs, a ≤ xs ∧ xs ≤ b ∧ ∀ x, a ≤ x → x ≤ b → f xs ≤ f x) ∧
    ∀ xs, a ≤ xs → xs ≤ b → (∀ x, a ≤ x → x ≤ b → f xs ≤ f x) → N xs :=
  ⟨exists_min_Icc (hp.1.trans hp.2) hf, fun xs h0 h1 h =>
    by_contra fun hn => absurd (h p hp.1 hp.2) (not_le.2 (hoff xs h0 h1 hn))⟩

/-- the mean value inequality on `[a, b]` -/
theorem lipschitz_of_abs_deriv_le {a b C : ℝ} {f f' : ℝ → ℝ} (hd : ∀ x, HasDerivAt f (f' x) x)
    (hb : ∀ x, a ≤ x → x ≤ b → |f' x| ≤ C) (x y : ℝ) (hx0 : a ≤ x) (hx1 : x ≤ b) (hy0 : a ≤ y) (hy1 : y ≤ b) :
    |f x - f y| ≤ C * |x - y| := by
  have := (convex_Icc a b).norm_image_sub_le_of_norm_hasDerivWithin_le (f := f) (f' := f') (C := C)
    (fun z _ => (hd z).hasDerivWithinAt) (fun z hz => by rw [Real.norm_eq_abs]; exact hb z hz.1 hz.2)
    (show y ∈ Icc a b from ⟨hy0, hy1⟩) (show x ∈ Icc a b from ⟨hx0, hx1⟩)
  simpa [Real.norm_eq_abs] using this

end Bench

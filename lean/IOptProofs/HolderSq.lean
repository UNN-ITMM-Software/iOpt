import IOptProofs.HolderIdx
import Mathlib.Algebra.BigOperators.Group.Finset.Basic
import Mathlib.Algebra.Order.BigOperators.Group.Finset
import Mathlib.Analysis.SpecialFunctions.Pow.Real
import Mathlib.Tactic.Ring
import Mathlib.Tactic.Linarith
import Mathlib.Tactic.Positivity
import Mathlib.Tactic.FieldSimp
/-!
# Hölder property of the evolvent: Euclidean distance of coordinate lists and the squared bound

Vectors are coordinate lists (`List ℝ`, as produced by the model's `imageCube`/`getImage`).
-/

namespace Ev
open Num (cellIdx cellIdx_lt)

/-- for lists of the same length -/
def sqDist (a b : List ℝ) : ℝ := (List.zipWith (fun u v => (u - v)^2) a b).sum

noncomputable def dist2 (a b : List ℝ) : ℝ := Real.sqrt (sqDist a b)

def getR (l : List ℝ) (i : Nat) : ℝ := l.getD i 0

theorem getR_cons_zero (x : ℝ) (l : List ℝ) : getR (x :: l) 0 = x := rfl
theorem getR_cons_succ (x : ℝ) (l : List ℝ) (i : Nat) : getR (x :: l) (i+1) = getR l i := rfl

theorem getR_eq_getElem {l : List ℝ} {i : Nat} (h : i < l.length) : getR l i = l[i] := by
  simp [getR, List.getD_eq_getElem?_getD, h]

theorem sqDist_nonneg (a b : List ℝ) : 0 ≤ sqDist a b :=
  List.sum_nonneg (Num.forall_mem_zipWith (P := fun _ => True) (Q := fun _ => True)
    (fun u v _ _ => sq_nonneg (u - v)) a b (fun _ _ => trivial) (fun _ _ => trivial))

theorem dist2_nonneg (a b : List ℝ) : 0 ≤ dist2 a b := Real.sqrt_nonneg _

theorem sqDist_eq_sum {n : Nat} {a b : List ℝ} (ha : a.length = n) (hb : b.length = n) :
    sqDist a b = ∑ i ∈ Finset.range n, (getR a i - getR b i)^2 := by
  induction n generalizing a b with
  | zero =>
    have : a = [] := List.length_eq_zero_iff.1 ha
    subst this
    simp [sqDist]
  | succ k ih =>
    obtain ⟨x, a, rfl⟩ := List.exists_cons_of_length_eq_add_one ha
    obtain ⟨y, b, rfl⟩ := List.exists_cons_of_length_eq_add_one hb
    simp only [List.length_cons, Nat.add_right_cancel_iff] at ha hb
    rw [Finset.sum_range_succ']
    simp only [getR_cons_zero, getR_cons_succ]
    rw [← ih ha hb]
    simp only [sqDist, List.zipWith_cons_cons, List.sum_cons]
    ring

theorem sqDist_comm (a b : List ℝ) : sqDist a b = sqDist b a := by
  unfold sqDist
  rw [List.zipWith_comm]
  simp only [sub_sq_comm]

theorem dist2_comm (a b : List ℝ) : dist2 a b = dist2 b a := by
  unfold dist2; rw [sqDist_comm]

theorem sqDist_self (a : List ℝ) : sqDist a a = 0 := by
  simp [sqDist, List.zipWith_self]

theorem dist2_self (a : List ℝ) : dist2 a a = 0 := by
  unfold dist2; rw [sqDist_self, Real.sqrt_zero]

theorem sq_le_sq_of_abs_le {x κ : ℝ} (h : |x| ≤ κ) : x^2 ≤ κ^2 :=
  sq_le_sq.2 (h.trans (le_abs_self κ))

theorem dist2_le_of_sq {a b : List ℝ} {c : ℝ} (hc : 0 ≤ c) (h : sqDist a b ≤ c^2) :
    dist2 a b ≤ c :=
  Real.sqrt_le_iff.2 ⟨hc, h⟩

theorem sqDist_le_of_all {n : Nat} {a b : List ℝ} (ha : a.length = n) (hb : b.length = n)
    {κ : ℝ} (h : ∀ i, i < n → |getR a i - getR b i| ≤ κ) :
    sqDist a b ≤ n * κ^2 := by
  rw [sqDist_eq_sum ha hb]
  calc ∑ i ∈ Finset.range n, (getR a i - getR b i)^2
      ≤ ∑ _i ∈ Finset.range n, κ^2 :=
        Finset.sum_le_sum fun i hi => sq_le_sq_of_abs_le (h i (Finset.mem_range.1 hi))
    _ = n * κ^2 := by simp

theorem sqDist_le_of_one {n : Nat} {a b : List ℝ} (ha : a.length = n) (hb : b.length = n)
    {κ : ℝ} (h2 : ∀ i, i < n → |getR a i - getR b i| ≤ 2 * κ) {c : Nat} (hc : c < n)
    (h1 : ∀ i, i < n → i ≠ c → |getR a i - getR b i| ≤ κ) :
    sqDist a b ≤ (n + 3) * κ^2 := by
  rw [sqDist_eq_sum ha hb]
  have hcm : c ∈ Finset.range n := Finset.mem_range.2 hc
  rw [← Finset.add_sum_erase _ _ hcm]
  have hA : (getR a c - getR b c)^2 ≤ 4 * κ^2 := by
    have := sq_le_sq_of_abs_le (h2 c hc)
    rwa [mul_pow, show (2:ℝ)^2 = 4 by norm_num] at this
  have hB : ∑ i ∈ (Finset.range n).erase c, (getR a i - getR b i)^2
      ≤ ∑ _i ∈ (Finset.range n).erase c, κ^2 :=
    Finset.sum_le_sum fun i hi =>
      have ⟨hic, hin⟩ := Finset.mem_erase.1 hi
      sq_le_sq_of_abs_le (h1 i (Finset.mem_range.1 hin) hic)
  have hC : ∑ _i ∈ (Finset.range n).erase c, κ^2 = ((n:ℝ) - 1) * κ^2 := by
    rw [Finset.sum_const, Finset.card_erase_of_mem hcm, Finset.card_range, nsmul_eq_mul,
      Nat.cast_sub (by omega : 1 ≤ n), Nat.cast_one]
  linarith

attribute [local instance] Ev.Num.floorTrunc

theorem getR_map_cast {l : List Int} {i : Nat} (D : ℝ) :
    getR (l.map (fun (Y : Int) => (Y : ℝ) / D)) i = (getI l i : ℝ) / D := by
  unfold getR getI
  rcases Nat.lt_or_ge i l.length with h | h
  · simp [List.getD_eq_getElem?_getD, h]
  · simp [List.getD_eq_getElem?_getD, h]

theorem abs_cast_div_le {a b K : Int} {D : ℝ} (hD : 0 < D) (h : |a - b| < K) :
    |(a:ℝ) / D - (b:ℝ) / D| ≤ (K:ℝ) / D := by
  rw [← sub_div, abs_div, abs_of_pos hD, ← Int.cast_sub, ← Int.cast_abs]
  exact div_le_div_of_nonneg_right (by exact_mod_cast h.le) hD.le

/-- `C08_coord_bound` at the subintervals of `x'`, `x''` (their density-`p` ancestors are equal or consecutive), in cube
units: one coordinate of the images differs by at most `2·2^-p` and the others by at most `2^-p` -/
theorem sqDist_imageCube_le_sq {n : Nat} (hn : Ev.DimOK n) {m p : Nat} (hp : p ≤ m) {x' x'' : ℝ}
    (h0' : 0 ≤ x') (h0'' : 0 ≤ x'') (hd : |x' - x''| ≤ 1 / ((2:ℝ)^n)^p) :
    sqDist (imageCube n m x') (imageCube n m x'') ≤ ((n:ℝ) + 3) * (1 / 2^p)^2 := by
  have h := C08_coord_bound hn (digitsOf_valid n m (cellIdx n m x'))
    (digitsOf_valid n m (cellIdx n m x'')) (by simp [digitsOf_length]) p
    (by
      rw [Num.take_digitsOf_cellIdx n hp, Num.take_digitsOf_cellIdx n hp,
        indexOf_digitsOf (cellIdx_lt n p x'), indexOf_digitsOf (cellIdx_lt n p x'')]
      exact cellIdx_close n p h0' h0'' hd)
  rw [digitsOf_length] at h
  obtain ⟨hall, c, hc, hone⟩ := h
  have hD : (0:ℝ) < 2^(m+1) := by positivity
  have hκ : (((2:Int)^(m - p + 1) : Int) : ℝ) / 2^(m+1) = 1 / 2^p := by
    rw [show m + 1 = m - p + 1 + p by omega, pow_add 2 (m - p + 1) p, Int.cast_pow, Int.cast_ofNat,
      div_mul_eq_div_div, div_self (by positivity)]
  refine sqDist_le_of_one (length_imageCube n m x') (length_imageCube n m x'') (fun i _ => ?_) hc
    fun i _ hic => ?_
  all_goals simp only [Num.imageCube_cellIdx hn m, getR_map_cast]
  · refine (abs_cast_div_le hD (hall i)).trans_eq ?_
    rw [Int.cast_mul, mul_div_assoc, hκ, Int.cast_ofNat]
  · exact (abs_cast_div_le hD (hone i hic)).trans_eq hκ

end Ev

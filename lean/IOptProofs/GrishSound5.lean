import IOptProofs.GrishSound4
import IOptProofs.BenchBox
/-!
# Grishagin checker, soundness part 5: the leaf test and the bisection
-/

namespace Grish
open Encl Finset

theorem inside_sound {pN pK R k n : ℕ} (hR : 0 < R) (h : inside pN pK R k n = true) {x : ℝ}
    (hx : Leaf k n x) : |x - (pN : ℝ) / 2 ^ pK| ≤ 1 / R := by
  simp only [inside, Bool.and_eq_true] at h
  exact inside_arith hR h.1 h.2 hx

/-- the property certified on every leaf: `S < S(w)` (lower bound `swlo`), or the point is within `1/200`
of the declared point in both coordinates and `S ≤ gthr` -/
def Good (ctx : Ctx) (α1 β1 α2 β2 : ℕ → ℕ → ℝ) (x y : ℝ) : Prop :=
  SS α1 β1 α2 β2 x y * 2 ^ 328 < (ctx.swlo : ℝ) ∨
  (SS α1 β1 α2 β2 x y * 2 ^ 328 ≤ (ctx.gthr : ℝ) ∧
    |x - (ctx.pxN : ℝ) / 2 ^ ctx.pxK| ≤ 1 / 200 ∧ |y - (ctx.pyN : ℝ) / 2 ^ ctx.pyK| ≤ 1 / 200)

theorem leafOK_sound {ctx : Ctx} {α1 β1 α2 β2 : ℕ → ℕ → ℝ} (hc : CtxRep ctx α1 β1 α2 β2)
    {lev nx ny : ℕ} (hnx : nx < 2 ^ lev) (hny : ny < 2 ^ lev) (h : leafOK ctx lev nx ny = true)
    {x y : ℝ} (hx : Leaf lev nx x) (hy : Leaf lev ny y) : Good ctx α1 β1 α2 β2 x y := by
  have ls := leafSup_sound hc hnx hny hx hy
  unfold leafOK at h
  simp only [Bool.or_eq_true, Bool.and_eq_true, Nat.blt_eq, Nat.ble_eq] at h
  have hpos : (0 : ℝ) < 2 ^ (Nat.add (Nat.mul 4 lev) 84) := by positivity
  rcases h with h | ⟨h, hix, hiy⟩
  · have h' := (Nat.cast_lt (α := ℝ)).mpr h
    rw [shl_cast] at h'
    exact Or.inl (lt_of_mul_lt_mul_right (ls.trans_lt h') hpos.le)
  · have h' := (Nat.cast_le (α := ℝ)).mpr h
    rw [shl_cast] at h'
    exact Or.inr ⟨le_of_mul_le_mul_right (ls.trans h') hpos,
      by simpa using inside_sound (by norm_num : 0 < 200) hix hx,
      by simpa using inside_sound (by norm_num : 0 < 200) hiy hy⟩

/-- the bisection, by the principle `Bench.bisect_sound`: boxes are the dyadic squares `(lev, nx, ny)` (with their index
bounds, which the leaf bound needs), points are pairs `(x, y)`, and the four quarters cover a square -/
theorem bnb_sound {ctx : Ctx} {α1 β1 α2 β2 : ℕ → ℕ → ℝ} (hc : CtxRep ctx α1 β1 α2 β2) (fuel : ℕ) :
    Bench.Sound (fun (B : ℕ × ℕ × ℕ) (p : ℝ × ℝ) => Leaf B.1 B.2.1 p.1 ∧ Leaf B.1 B.2.2 p.2)
      (fun B => (B.2.1 < 2 ^ B.1 ∧ B.2.2 < 2 ^ B.1) ∧ bnb ctx fuel B.1 B.2.1 B.2.2 = true)
      (fun p => Good ctx α1 β1 α2 β2 p.1 p.2) := by
  refine Bench.bisect_sound _ _
    (fun fuel (B : ℕ × ℕ × ℕ) => (B.2.1 < 2 ^ B.1 ∧ B.2.2 < 2 ^ B.1) ∧ bnb ctx fuel B.1 B.2.1 B.2.2 = true)
    (fun B h => by simp [bnb] at h) ?_ fuel
  rintro f ⟨lev, nx, ny⟩ ⟨⟨hnx, hny⟩, h⟩ p ⟨hx, hy⟩
  simp only [bnb, Bool.or_eq_true, Bool.and_eq_true] at h
  rcases h with ⟨_, h⟩ | ⟨⟨⟨h00, h01⟩, h10⟩, h11⟩
  · exact Or.inl (leafOK_sound hc hnx hny h hx hy)
  · obtain ⟨lx0, lx1⟩ := idx_half hnx
    obtain ⟨ly0, ly1⟩ := idx_half hny
    right
    rcases leaf_split hx with ax | ax <;> rcases leaf_split hy with ay | ay
    · exact ⟨(_, _, _), ⟨⟨lx0, ly0⟩, h00⟩, ax, ay⟩
    · exact ⟨(_, _, _), ⟨⟨lx0, ly1⟩, h01⟩, ax, ay⟩
    · exact ⟨(_, _, _), ⟨⟨lx1, ly0⟩, h10⟩, ax, ay⟩
    · exact ⟨(_, _, _), ⟨⟨lx1, ly1⟩, h11⟩, ax, ay⟩

theorem bnb_sound_unit {ctx : Ctx} {α1 β1 α2 β2 : ℕ → ℕ → ℝ} (hc : CtxRep ctx α1 β1 α2 β2) {fuel : ℕ}
    (h : bnb ctx fuel 0 0 0 = true) {x y : ℝ} (hx0 : 0 ≤ x) (hx1 : x ≤ 1) (hy0 : 0 ≤ y) (hy1 : y ≤ 1) :
    Good ctx α1 β1 α2 β2 x y :=
  bnb_sound hc fuel (0, 0, 0) ⟨⟨by norm_num, by norm_num⟩, h⟩ (x, y)
    ⟨leaf_root.mpr ⟨hx0, hx1⟩, leaf_root.mpr ⟨hy0, hy1⟩⟩

end Grish

/-!
# The dimensions for which the evolvent theorems are established (central definition)

`Ev.DimOK n` is the ONE place that says for which dimensions `n` the theorems about the evolvent (`C07`, `C08`, `C09`, `C17`,
`C20`, and `C01`/`C05` through them) are stated: those that speak of the curve carry `(hn : Ev.DimOK n)`.  What they need of one level is
available for every `n ≥ 2`, so `Ev.DimOK n` is just `2 ≤ n`: they hold in EVERY dimension with a curve (`n = 1` is the
affine branch of the code).  By what they need, in increasing order:

* the shape of a level only (`Ev.step_shape`, `EvShape.lean`: every digit, induction over the loops, no closed form):
  `C07_centres(_index)`, `C08_nested`, `C07_image_cell(_end)`, `C07_getImage_in_box`, `Num.imageCube_cellIdx`;
* also `node` / `numbr` mutually inverse (`Ev.All.numbr_node_all`, `Ev.All.node_numbr_all`, `EvGenBits.lean`, `EvGenNode.lean`; as
  Boolean checks `Ev.Inv.nodeOK_all`, `Ev.Inv.numbrOK_all`), used through `Inv.invStep_step`, `Inv.step_invStep`: the round trips of `C09`;
* also the level bijection `EvFacts.inj`, `EvFacts.surj`: `C07_injective`, `C07_surjective`, `C07_cells_by_index`,
  `C08_children_distinct`;
* also self-similarity and gluing, `EvFacts.self0`, `selfL`, `glue` (`EvGenGlue.lean`, `EvGenCert.lean`): `C08_adjacent`,
  `C08_coord_bound`, the Hölder bounds and the `C01` minorant built on them.

`EvFacts n` as a whole is `Ev.evFacts_all`, handed over by `Ev.evFacts_of_dimOK` (`EvDimFacts.lean`).  (For `n = 2, …, 7` the
level facts are also established by evaluation, independently and beside the development: `EvFinCertAll.lean`,
`EvInvFin.lean`, `EvInvFin6.lean`, `EvInvFin7.lean`.)

Use the lemmas below, never the shape of the definition.
-/

namespace Ev

/-- The dimensions with a curve.  The theorems name this predicate instead of writing `2 ≤ n` so that the range of
dimensions they cover is said once, here, and no proof depends on how it is said: what a proof needs (`2 ≤ n`,
`0 < n`, `n ≠ 1`, …) it takes from the lemmas below. -/
def DimOK (n : Nat) : Prop := 2 ≤ n

instance (n : Nat) : Decidable (DimOK n) := inferInstanceAs (Decidable (2 ≤ n))

/-- `n = 1` (the affine branch of the code, no curve) or a dimension covered by `DimOK`: every `n ≥ 1` -/
def DimOK1 (n : Nat) : Prop := 1 ≤ n

instance (n : Nat) : Decidable (DimOK1 n) := inferInstanceAs (Decidable (1 ≤ n))

theorem dimOK_iff (n : Nat) : DimOK n ↔ 2 ≤ n := Iff.rfl

theorem dimOK1_iff (n : Nat) : DimOK1 n ↔ 1 ≤ n := Iff.rfl

theorem DimOK.two_le {n : Nat} (h : DimOK n) : 2 ≤ n := h

theorem dimOK_of_two_le {n : Nat} (h : 2 ≤ n) : DimOK n := h

theorem DimOK.pos {n : Nat} (h : DimOK n) : 0 < n := Nat.lt_of_lt_of_le (by decide) h.two_le

theorem DimOK.one_le {n : Nat} (h : DimOK n) : 1 ≤ n := h.pos

theorem DimOK.ne_zero {n : Nat} (h : DimOK n) : n ≠ 0 := Nat.pos_iff_ne_zero.1 h.pos

theorem DimOK.ne_one {n : Nat} (h : DimOK n) : n ≠ 1 := fun e => by
  have := h.two_le; omega

theorem dimOK_of_mem {n : Nat} (h : n ∈ [2, 3, 4, 5, 6, 7]) : DimOK n := by
  simp only [List.mem_cons, List.not_mem_nil, or_false] at h
  rcases h with rfl | rfl | rfl | rfl | rfl | rfl <;> decide

theorem DimOK1.one_le {n : Nat} (h : DimOK1 n) : 1 ≤ n := h

theorem DimOK.dimOK1 {n : Nat} (h : DimOK n) : DimOK1 n := h.one_le

theorem DimOK1.cases {n : Nat} (h : DimOK1 n) : n = 1 ∨ DimOK n := by
  have h1 := h.one_le
  by_cases e : n = 1
  · exact Or.inl e
  · exact Or.inr (by show 2 ≤ n; omega)

theorem dimOK1_one : DimOK1 1 := by decide

end Ev

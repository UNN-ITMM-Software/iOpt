import IOptProofs.ShekelRows
/-! Kernel-evaluated C18 table certificates (min / max / Lipschitz tables) of the Shekel functions 900..999;
five rows per evaluation keep the memory of the module near 2 GB. -/
namespace Shk
theorem shekel_tab_block_180 : ∀ i ∈ List.range' 900 5, shekelTabOK i = true := shekel_tab_block _ _ (by decide +kernel)
theorem shekel_tab_block_181 : ∀ i ∈ List.range' 905 5, shekelTabOK i = true := shekel_tab_block _ _ (by decide +kernel)
theorem shekel_tab_block_182 : ∀ i ∈ List.range' 910 5, shekelTabOK i = true := shekel_tab_block _ _ (by decide +kernel)
theorem shekel_tab_block_183 : ∀ i ∈ List.range' 915 5, shekelTabOK i = true := shekel_tab_block _ _ (by decide +kernel)
theorem shekel_tab_block_184 : ∀ i ∈ List.range' 920 5, shekelTabOK i = true := shekel_tab_block _ _ (by decide +kernel)
theorem shekel_tab_block_185 : ∀ i ∈ List.range' 925 5, shekelTabOK i = true := shekel_tab_block _ _ (by decide +kernel)
theorem shekel_tab_block_186 : ∀ i ∈ List.range' 930 5, shekelTabOK i = true := shekel_tab_block _ _ (by decide +kernel)
theorem shekel_tab_block_187 : ∀ i ∈ List.range' 935 5, shekelTabOK i = true := shekel_tab_block _ _ (by decide +kernel)
theorem shekel_tab_block_188 : ∀ i ∈ List.range' 940 5, shekelTabOK i = true := shekel_tab_block _ _ (by decide +kernel)
theorem shekel_tab_block_189 : ∀ i ∈ List.range' 945 5, shekelTabOK i = true := shekel_tab_block _ _ (by decide +kernel)
theorem shekel_tab_block_190 : ∀ i ∈ List.range' 950 5, shekelTabOK i = true := shekel_tab_block _ _ (by decide +kernel)
theorem shekel_tab_block_191 : ∀ i ∈ List.range' 955 5, shekelTabOK i = true := shekel_tab_block _ _ (by decide +kernel)
theorem shekel_tab_block_192 : ∀ i ∈ List.range' 960 5, shekelTabOK i = true := shekel_tab_block _ _ (by decide +kernel)
theorem shekel_tab_block_193 : ∀ i ∈ List.range' 965 5, shekelTabOK i = true := shekel_tab_block _ _ (by decide +kernel)
theorem shekel_tab_block_194 : ∀ i ∈ List.range' 970 5, shekelTabOK i = true := shekel_tab_block _ _ (by decide +kernel)
theorem shekel_tab_block_195 : ∀ i ∈ List.range' 975 5, shekelTabOK i = true := shekel_tab_block _ _ (by decide +kernel)
theorem shekel_tab_block_196 : ∀ i ∈ List.range' 980 5, shekelTabOK i = true := shekel_tab_block _ _ (by decide +kernel)
theorem shekel_tab_block_197 : ∀ i ∈ List.range' 985 5, shekelTabOK i = true := shekel_tab_block _ _ (by decide +kernel)
theorem shekel_tab_block_198 : ∀ i ∈ List.range' 990 5, shekelTabOK i = true := shekel_tab_block _ _ (by decide +kernel)
theorem shekel_tab_block_199 : ∀ i ∈ List.range' 995 5, shekelTabOK i = true := shekel_tab_block _ _ (by decide +kernel)
end Shk

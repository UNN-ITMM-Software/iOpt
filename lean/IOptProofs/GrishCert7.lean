import IOptProofs.GrishRows
/-! Kernel-evaluated certificates (V), (G), (P) of the Grishagin functions 71..80; one theorem per function,
so that the kernel's reduction cache is released between functions. -/
namespace Grish
theorem grish_ok_71 : grishOK 71 = true := grish_ok _ (by decide +kernel)
theorem grish_ok_72 : grishOK 72 = true := grish_ok _ (by decide +kernel)
theorem grish_ok_73 : grishOK 73 = true := grish_ok _ (by decide +kernel)
theorem grish_ok_74 : grishOK 74 = true := grish_ok _ (by decide +kernel)
theorem grish_ok_75 : grishOK 75 = true := grish_ok _ (by decide +kernel)
theorem grish_ok_76 : grishOK 76 = true := grish_ok _ (by decide +kernel)
theorem grish_ok_77 : grishOK 77 = true := grish_ok _ (by decide +kernel)
theorem grish_ok_78 : grishOK 78 = true := grish_ok _ (by decide +kernel)
theorem grish_ok_79 : grishOK 79 = true := grish_ok _ (by decide +kernel)
theorem grish_ok_80 : grishOK 80 = true := grish_ok _ (by decide +kernel)
end Grish

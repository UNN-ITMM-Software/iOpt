import IOptProofs.GrishRows
/-! Kernel-evaluated certificates (V), (G), (P) of the Grishagin functions 91..100; one theorem per function,
so that the kernel's reduction cache is released between functions. -/
namespace Grish
theorem grish_ok_91 : grishOK 91 = true := grish_ok _ (by decide +kernel)
theorem grish_ok_92 : grishOK 92 = true := grish_ok _ (by decide +kernel)
theorem grish_ok_93 : grishOK 93 = true := grish_ok _ (by decide +kernel)
theorem grish_ok_94 : grishOK 94 = true := grish_ok _ (by decide +kernel)
theorem grish_ok_95 : grishOK 95 = true := grish_ok _ (by decide +kernel)
theorem grish_ok_96 : grishOK 96 = true := grish_ok _ (by decide +kernel)
theorem grish_ok_97 : grishOK 97 = true := grish_ok _ (by decide +kernel)
theorem grish_ok_98 : grishOK 98 = true := grish_ok _ (by decide +kernel)
theorem grish_ok_99 : grishOK 99 = true := grish_ok _ (by decide +kernel)
theorem grish_ok_100 : grishOK 100 = true := grish_ok _ (by decide +kernel)
end Grish

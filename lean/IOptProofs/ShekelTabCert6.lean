import IOptProofs.ShekelRows
/-! Kernel-evaluated C18 table certificates (min / max / Lipschitz tables) of the Shekel functions 600..699;
five rows per evaluation keep the memory of the module near 2 GB. -/
namespace Shk
theorem shekel_tab_block_120 : ∀ i ∈ List.range' 600 5, shekelTabOK i = true := shekel_tab_block _ _ (by decide +kernel)
theorem shekel_tab_block_121 : ∀ i ∈ List.range' 605 5, shekelTabOK i = true := shekel_tab_block _ _ (by decide +kernel)
theorem shekel_tab_block_122 : ∀ i ∈ List.range' 610 5, shekelTabOK i = true := shekel_tab_block _ _ (by decide +kernel)
theorem shekel_tab_block_123 : ∀ i ∈ List.range' 615 5, shekelTabOK i = true := shekel_tab_block _ _ (by decide +kernel)
theorem shekel_tab_block_124 : ∀ i ∈ List.range' 620 5, shekelTabOK i = true := shekel_tab_block _ _ (by decide +kernel)
theorem shekel_tab_block_125 : ∀ i ∈ List.range' 625 5, shekelTabOK i = true := shekel_tab_block _ _ (by decide +kernel)
theorem shekel_tab_block_126 : ∀ i ∈ List.range' 630 5, shekelTabOK i = true := shekel_tab_block _ _ (by decide +kernel)
theorem shekel_tab_block_127 : ∀ i ∈ List.range' 635 5, shekelTabOK i = true := shekel_tab_block _ _ (by decide +kernel)
theorem shekel_tab_block_128 : ∀ i ∈ List.range' 640 5, shekelTabOK i = true := shekel_tab_block _ _ (by decide +kernel)
theorem shekel_tab_block_129 : ∀ i ∈ List.range' 645 5, shekelTabOK i = true := shekel_tab_block _ _ (by decide +kernel)
theorem shekel_tab_block_130 : ∀ i ∈ List.range' 650 5, shekelTabOK i = true := shekel_tab_block _ _ (by decide +kernel)
theorem shekel_tab_block_131 : ∀ i ∈ List.range' 655 5, shekelTabOK i = true := shekel_tab_block _ _ (by decide +kernel)
theorem shekel_tab_block_132 : ∀ i ∈ List.range' 660 5, shekelTabOK i = true := shekel_tab_block _ _ (by decide +kernel)
theorem shekel_tab_block_133 : ∀ i ∈ List.range' 665 5, shekelTabOK i = true := shekel_tab_block _ _ (by decide +kernel)
theorem shekel_tab_block_134 : ∀ i ∈ List.range' 670 5, shekelTabOK i = true := shekel_tab_block _ _ (by decide +kernel)
theorem shekel_tab_block_135 : ∀ i ∈ List.range' 675 5, shekelTabOK i = true := shekel_tab_block _ _ (by decide +kernel)
theorem shekel_tab_block_136 : ∀ i ∈ List.range' 680 5, shekelTabOK i = true := shekel_tab_block _ _ (by decide +kernel)
theorem shekel_tab_block_137 : ∀ i ∈ List.range' 685 5, shekelTabOK i = true := shekel_tab_block _ _ (by decide +kernel)
theorem shekel_tab_block_138 : ∀ i ∈ List.range' 690 5, shekelTabOK i = true := shekel_tab_block _ _ (by decide +kernel)
theorem shekel_tab_block_139 : ∀ i ∈ List.range' 695 5, shekelTabOK i = true := shekel_tab_block _ _ (by decide +kernel)
end Shk

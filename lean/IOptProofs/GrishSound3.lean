import IOptProofs.GrishSound2
import IOptProofs.EnclTrigReal
import IOptProofs.EnclDyadic
/-!
# Grishagin checker, soundness part 3: the leaf bound `supS`
-/

namespace Grish
open Encl Finset

theorem adiff_cast (a b : ℕ) : ((adiff a b : ℕ) : ℝ) = |(a : ℝ) - b| := by
  unfold adiff
  rw [Nat.add_eq, Nat.cast_add]
  exact (tsub_parts rfl).2

theorem PH_cast : (PH : ℝ) = 3294199 := by norm_num [PH]
theorem E0T_cast : (E0T : ℝ) = 2 ^ 137 := by norm_num [E0T]

/-- `supS` is the bound `RB` of `S_bound` in the integer units of the checker: the centre values `A_k` (given, like
the `g_k`, by their parts as `tsub_parts` describes them) scaled by `2^(2λ+40)`, half-width `2^(λ+40)`, `Q = PH/2^20` -/
theorem supS_eq_RB {w1 w2 lam pa1 na1 px1 nx1 py1 ny1 pa2 na2 px2 nx2 py2 ny2 : ℕ}
    {A1 A2 gx1 gy1 gx2 gy2 : ℝ}
    (hA1 : (pa1 : ℝ) - na1 = A1 ∧ (pa1 : ℝ) + na1 = |A1|) (hx1 : (px1 : ℝ) - nx1 = gx1 ∧ (px1 : ℝ) + nx1 = |gx1|)
    (hy1 : (py1 : ℝ) - ny1 = gy1 ∧ (py1 : ℝ) + ny1 = |gy1|) (hA2 : (pa2 : ℝ) - na2 = A2 ∧ (pa2 : ℝ) + na2 = |A2|)
    (hx2 : (px2 : ℝ) - nx2 = gx2 ∧ (px2 : ℝ) + nx2 = |gx2|) (hy2 : (py2 : ℝ) - ny2 = gy2 ∧ (py2 : ℝ) + ny2 = |gy2|) :
    ((supS w1 w2 lam pa1 na1 px1 nx1 py1 ny1 pa2 na2 px2 nx2 py2 ny2 : ℕ) : ℝ)
      = RB (3294199 / 2 ^ 20) (2 ^ lam * 2 ^ 40) ((2 ^ lam) ^ 2 * 2 ^ 40 * A1) ((2 ^ lam) ^ 2 * 2 ^ 40 * A2) gx1 gy1 gx2 gy2
          (3294199 ^ 2 * w1 + 2 ^ 137 * ((2 ^ lam) ^ 2 * 2 ^ 40))
          (3294199 ^ 2 * w2 + 2 ^ 137 * ((2 ^ lam) ^ 2 * 2 ^ 40)) := by
  unfold supS RB
  simp only [Nat.add_eq, Nat.mul_eq]
  push_cast [shl_cast, adiff_cast, PH_cast, E0T_cast]
  have a1 : ((pa1 : ℝ) * px1 + na1 * nx1 + (pa2 * px2 + na2 * nx2) - (pa1 * nx1 + na1 * px1 + (pa2 * nx2 + na2 * px2)))
      = A1 * gx1 + A2 * gx2 := by rw [← hA1.1, ← hA2.1, ← hx1.1, ← hx2.1]; ring
  have a2 : ((pa1 : ℝ) * py1 + na1 * ny1 + (pa2 * py2 + na2 * ny2) - (pa1 * ny1 + na1 * py1 + (pa2 * ny2 + na2 * py2)))
      = A1 * gy1 + A2 * gy2 := by rw [← hA1.1, ← hA2.1, ← hy1.1, ← hy2.1]; ring
  have f : ∀ u v u' v' : ℝ, (2 ^ lam) ^ 2 * 2 ^ 40 * u * v + (2 ^ lam) ^ 2 * 2 ^ 40 * u' * v'
      = (2 ^ lam) ^ 2 * 2 ^ 40 * (u * v + u' * v') := fun _ _ _ _ => by ring
  rw [a1, a2, hA1.2, hA2.2, hx1.2, hy1.2, hx2.2, hy2.2, abs_mul_abs_self, abs_mul_abs_self, f, f]
  simp only [abs_mul, abs_of_pos (by positivity : (0 : ℝ) < (2 ^ lam) ^ 2 * 2 ^ 40)]
  ring

theorem nw_coAB_le {α β : ℕ → ℕ → ℝ} (ha : ∀ i < 7, ∀ j < 7, |α i j| ≤ 1) (hb : ∀ i < 7, ∀ j < 7, |β i j| ≤ 1)
    (p q : ℕ) :
    nw p q (coAB α β) ≤ 2 * ((∑ i ∈ range 7, ((i + 1 : ℕ) : ℝ) ^ p) * ∑ j ∈ range 7, ((j + 1 : ℕ) : ℝ) ^ q) := by
  unfold nw coAB
  rw [sum_mul_sum, mul_sum]
  refine sum_le_sum fun i hi => ?_
  rw [mul_sum]
  refine sum_le_sum fun j hj => ?_
  have h1 := ha i (mem_range.mp hi) j (mem_range.mp hj)
  have h2 := hb i (mem_range.mp hi) j (mem_range.mp hj)
  rw [mul_comm 2]
  refine mul_le_mul_of_nonneg_left ?_ (by positivity)
  simp only [Pi.zero_apply, abs_zero]
  linarith only [h1, h2]

theorem sum_pows : ∑ i ∈ range 7, ((i + 1 : ℕ) : ℝ) ^ 0 = 7 ∧ ∑ i ∈ range 7, ((i + 1 : ℕ) : ℝ) ^ 1 = 28 := by
  rw [sum_range7, sum_range7]
  norm_num

theorem trigs_ok {num k : ℕ} (h : num ≤ 2 ^ k) :
    TDok (trigs num k) ∧
    (∀ i < 7, |sn i (num / 2 ^ k) - sH (trigs num k) i| ≤ 1 / 2 ^ 42) ∧
    (∀ i < 7, |cs i (num / 2 ^ k) - cH (trigs num k) i| ≤ 1 / 2 ^ 42) := by
  have key := fun i hi => trigs_spec h i hi
  have e : (1 : ℝ) + 1 / 2 ^ 42 ≤ 5 / 4 := by norm_num
  exact ⟨fun i hi => ⟨(abs_le_of_near (abs_sn_le i _) (key i hi).1).trans e,
      (abs_le_of_near (abs_cs_le i _) (key i hi).2).trans e⟩,
    fun i hi => (key i hi).1, fun i hi => (key i hi).2⟩

/-- enclosure of the value and of the gradient (divided by `π`) at a dyadic point `(a, b)` -/
theorem centre_spec {α β : ℕ → ℕ → ℝ} (ha : ∀ i < 7, ∀ j < 7, |α i j| ≤ 1) (hb : ∀ i < 7, ∀ j < 7, |β i j| ≤ 1)
    {nx kx ny ky : ℕ} (hx : nx ≤ 2 ^ kx) (hy : ny ≤ 2 ^ ky) :
    |gen (coAB α β) (nx / 2 ^ kx) (ny / 2 ^ ky) - genH (coAB α β) (trigs nx kx) (trigs ny ky)| ≤ 1 / 2 ^ 34 ∧
    |gen (dxOp (coAB α β)) (nx / 2 ^ kx) (ny / 2 ^ ky) - genH (dxOp (coAB α β)) (trigs nx kx) (trigs ny ky)|
      ≤ 1 / 2 ^ 32 ∧
    |gen (dyOp (coAB α β)) (nx / 2 ^ kx) (ny / 2 ^ ky) - genH (dyOp (coAB α β)) (trigs nx kx) (trigs ny ky)|
      ≤ 1 / 2 ^ 32 := by
  obtain ⟨_, xs1, xc1⟩ := trigs_ok hx
  obtain ⟨_, ys1, yc1⟩ := trigs_ok hy
  have e0 := gen_sub_genV_le (coAB α β) _ _ xs1 xc1 ys1 yc1
  have e1 := gen_sub_genV_le (dxOp (coAB α β)) _ _ xs1 xc1 ys1 yc1
  have e2 := gen_sub_genV_le (dyOp (coAB α β)) _ _ xs1 xc1 ys1 yc1
  rw [nw_dxOp] at e1
  rw [nw_dyOp] at e2
  obtain ⟨s0, s1⟩ := sum_pows
  have n0 := nw_coAB_le ha hb 0 0
  have n1 := nw_coAB_le ha hb 1 0
  have n2 := nw_coAB_le ha hb 0 1
  rw [s0] at n0 n1 n2
  rw [s1] at n1 n2
  have hε : (0 : ℝ) ≤ 2 * (1 / 2 ^ 42) + (1 / 2 ^ 42) ^ 2 := by positivity
  have step : ∀ {n c t : ℝ}, n ≤ c → (2 * (1 / 2 ^ 42) + (1 / 2 ^ 42) ^ 2) * c ≤ t →
      (2 * (1 / 2 ^ 42) + (1 / 2 ^ 42) ^ 2) * n ≤ t :=
    fun hn hc => (mul_le_mul_of_nonneg_left hn hε).trans hc
  exact ⟨e0.trans (step n0 (by norm_num)), e1.trans (step n1 (by norm_num)), e2.trans (step n2 (by norm_num))⟩

theorem wq_nonneg (K : Co) : 0 ≤ wq K :=
  div_nonneg (add_nonneg (add_nonneg (nw_nonneg 2 0 K) (mul_nonneg zero_le_two (nw_nonneg 1 1 K))) (nw_nonneg 0 2 K))
    zero_le_two

/-- `π ≤ PH / 2^20` -/
theorem pi_le_PH : Real.pi ≤ 3294199 / 2 ^ 20 := by
  have := Real.pi_lt_d20
  norm_num at this ⊢; linarith

theorem model_perturb {F A Ah Gx Gxh Gy Gyh δx δy T e0 e1 h : ℝ}
    (t : |F - A - Real.pi * Gx * δx - Real.pi * Gy * δy| ≤ T)
    (c0 : |A - Ah| ≤ e0) (c1 : |Gx - Gxh| ≤ e1) (c2 : |Gy - Gyh| ≤ e1) (hx : |δx| ≤ h) (hy : |δy| ≤ h) :
    |F - Ah - Real.pi * Gxh * δx - Real.pi * Gyh * δy| ≤ T + e0 + 4 * (e1 * h) + 4 * (e1 * h) := by
  have he : 0 ≤ e1 := (abs_nonneg _).trans c1
  have b : ∀ {G Gh δ : ℝ}, |G - Gh| ≤ e1 → |δ| ≤ h → |Real.pi * ((G - Gh) * δ)| ≤ 4 * (e1 * h) := by
    intro G Gh δ c hδ
    rw [abs_mul, abs_mul, abs_of_nonneg Real.pi_pos.le]
    exact mul_le_mul Real.pi_le_four (mul_le_mul c hδ (abs_nonneg _) he) (by positivity) (by norm_num)
  have e : F - Ah - Real.pi * Gxh * δx - Real.pi * Gyh * δy
      = (F - A - Real.pi * Gx * δx - Real.pi * Gy * δy) + (A - Ah) + Real.pi * ((Gx - Gxh) * δx)
        + Real.pi * ((Gy - Gyh) * δy) := by ring
  rw [e]
  exact (abs_add_le _ _).trans (add_le_add ((abs_add_three _ _ _).trans (add_le_add (add_le_add t c0) (b c1 hx)))
    (b c2 hy))

theorem affine_model {α β : ℕ → ℕ → ℝ} (ha : ∀ i < 7, ∀ j < 7, |α i j| ≤ 1) (hb : ∀ i < 7, ∀ j < 7, |β i j| ≤ 1)
    {nx kx ny ky : ℕ} (hx : nx ≤ 2 ^ kx) (hy : ny ≤ 2 ^ ky) {x y h W : ℝ}
    (hxa : |x - nx / 2 ^ kx| ≤ h) (hyb : |y - ny / 2 ^ ky| ≤ h) (hh : h ≤ 1 / 2) (hW : wq (coAB α β) ≤ W) :
    |gen (coAB α β) x y - genH (coAB α β) (trigs nx kx) (trigs ny ky)
        - Real.pi * genH (dxOp (coAB α β)) (trigs nx kx) (trigs ny ky) * (x - nx / 2 ^ kx)
        - Real.pi * genH (dyOp (coAB α β)) (trigs nx kx) (trigs ny ky) * (y - ny / 2 ^ ky)|
      ≤ (3294199 / 2 ^ 20) ^ 2 * W * h ^ 2 + 1 / 2 ^ 27 := by
  obtain ⟨c0, c1, c2⟩ := centre_spec ha hb hx hy
  have b3 : Real.pi ^ 2 * wq (coAB α β) * h ^ 2 ≤ (3294199 / 2 ^ 20) ^ 2 * W * h ^ 2 :=
    mul_le_mul_of_nonneg_right
      (mul_le_mul (pow_le_pow_left₀ Real.pi_pos.le pi_le_PH 2) hW (wq_nonneg _) (by positivity)) (by positivity)
  refine (model_perturb (gen_taylor (coAB α β) hxa hyb) c0 c1 c2 hxa hyb).trans ?_
  have e : (1 : ℝ) / 2 ^ 34 + 4 * (1 / 2 ^ 32 * (1 / 2)) + 4 * (1 / 2 ^ 32 * (1 / 2)) ≤ 1 / 2 ^ 27 := by norm_num
  have m : (1 : ℝ) / 2 ^ 32 * h ≤ 1 / 2 ^ 32 * (1 / 2) := mul_le_mul_of_nonneg_left hh (by positivity)
  linarith only [b3, e, m]

/-- the matrices of `ctx` store the real coefficients of `d1`, `d2`, and `w1`, `w2` (units `2^-164`) dominate their
second-derivative constants `wq`; the leaf bound, the bisection and the value test are sound for ANY context in this
relation, `mkCtx` of an accepted table row is one (`ctxRep_mk`) -/
structure CtxRep (ctx : Ctx) (α1 β1 α2 β2 : ℕ → ℕ → ℝ) : Prop where
  m1 : MatRep ctx.m1 α1 β1
  m2 : MatRep ctx.m2 α2 β2
  w1 : wq (coAB α1 β1) ≤ (ctx.w1 : ℝ) / 2 ^ 164
  w2 : wq (coAB α2 β2) ≤ (ctx.w2 : ℝ) / 2 ^ 164

/-- `d1² + d2²` (`S` in the module documentation of `GrishDefs`) -/
noncomputable def SS (α1 β1 α2 β2 : ℕ → ℕ → ℝ) (x y : ℝ) : ℝ :=
  gen (coAB α1 β1) x y ^ 2 + gen (coAB α2 β2) x y ^ 2

/-- **soundness of the leaf bound**: `S_bound` for the two affine models as they stand, in real units; `RB_scale` with
`s = 2^164`, `t = E = 2^(2λ+40)` then turns `(2^164·E)²` times its bound into the integer `supS` -/
theorem leafSup_sound {ctx : Ctx} {α1 β1 α2 β2 : ℕ → ℕ → ℝ} (hc : CtxRep ctx α1 β1 α2 β2)
    {lev nx ny : ℕ} (hnx : nx < 2 ^ lev) (hny : ny < 2 ^ lev) {x y : ℝ} (hx : Leaf lev nx x) (hy : Leaf lev ny y) :
    SS α1 β1 α2 β2 x y * 2 ^ 328 * 2 ^ (Nat.add (Nat.mul 4 lev) 84) ≤ (leafSup ctx lev nx ny : ℝ) := by
  have hkx := (idx_half hnx).2.le
  have hky := (idx_half hny).2.le
  have dx := leaf_centre_dist hx
  have dy := leaf_centre_dist hy
  have hh : (1 : ℝ) / 2 ^ (Nat.add lev 1) ≤ 1 / 2 :=
    one_div_le_one_div_of_le two_pos (le_self_pow₀ one_le_two (Nat.succ_ne_zero lev))
  obtain ⟨tyok, _, _⟩ := trigs_ok hky
  -- the half-width and the remainders of `supS_eq_RB` are `E` times the real half-width, `E·2^164` times the real remainders
  have e1 : (2 : ℝ) ^ (Nat.add lev 1) * 2 ^ 40 = (2 ^ (Nat.add lev 1)) ^ 2 * 2 ^ 40 * (1 / 2 ^ (Nat.add lev 1)) := by
    field_simp
  have hr : ∀ w : ℝ, 3294199 ^ 2 * w + 2 ^ 137 * ((2 ^ (Nat.add lev 1)) ^ 2 * 2 ^ 40)
      = (2 ^ (Nat.add lev 1)) ^ 2 * 2 ^ 40 * (2 ^ 164 *
        ((3294199 / 2 ^ 20) ^ 2 * (w / 2 ^ 164) * (1 / 2 ^ (Nat.add lev 1)) ^ 2 + 1 / 2 ^ 27)) := fun w => by
    field_simp
  unfold leafSup
  rw [supS_eq_RB (tsub_parts (val_spec hc.m1 tyok _)) (tsub_parts (gx_spec hc.m1 tyok _))
      (tsub_parts (gy_spec hc.m1 tyok _)) (tsub_parts (val_spec hc.m2 tyok _)) (tsub_parts (gx_spec hc.m2 tyok _))
      (tsub_parts (gy_spec hc.m2 tyok _)), e1, hr, hr, RB_scale (by positivity) (by positivity),
    show (2 : ℝ) ^ (Nat.add (Nat.mul 4 lev) 84) = ((2 ^ (Nat.add lev 1)) ^ 2 * 2 ^ 40) ^ 2 by
      simp only [Nat.add_eq, Nat.mul_eq]; ring,
    show (2 : ℝ) ^ 328 = (2 ^ 164) ^ 2 by rw [← pow_mul], mul_assoc, ← mul_pow, mul_comm]
  exact mul_le_mul_of_nonneg_left (S_bound Real.pi_pos.le pi_le_PH
    (affine_model hc.m1.ha hc.m1.hb hkx hky dx dy hh hc.w1) (affine_model hc.m2.ha hc.m2.hb hkx hky dx dy hh hc.w2)
    dx dy) (sq_nonneg _)

end Grish

import IOptProofs.ShekelRows
/-! Kernel-evaluated C18 table certificates (min / max / Lipschitz tables) of the Shekel functions 500..599;
five rows per evaluation keep the memory of the module near 2 GB. -/
namespace Shk
theorem shekel_tab_block_100 : ∀ i ∈ List.range' 500 5, shekelTabOK i = true := shekel_tab_block _ _ (by decide +kernel)
theorem shekel_tab_block_101 : ∀ i ∈ List.range' 505 5, shekelTabOK i = true := shekel_tab_block _ _ (by decide +kernel)
theorem shekel_tab_block_102 : ∀ i ∈ List.range' 510 5, shekelTabOK i = true := shekel_tab_block _ _ (by decide +kernel)
theorem shekel_tab_block_103 : ∀ i ∈ List.range' 515 5, shekelTabOK i = true := shekel_tab_block _ _ (by decide +kernel)
theorem shekel_tab_block_104 : ∀ i ∈ List.range' 520 5, shekelTabOK i = true := shekel_tab_block _ _ (by decide +kernel)
theorem shekel_tab_block_105 : ∀ i ∈ List.range' 525 5, shekelTabOK i = true := shekel_tab_block _ _ (by decide +kernel)
theorem shekel_tab_block_106 : ∀ i ∈ List.range' 530 5, shekelTabOK i = true := shekel_tab_block _ _ (by decide +kernel)
theorem shekel_tab_block_107 : ∀ i ∈ List.range' 535 5, shekelTabOK i = true := shekel_tab_block _ _ (by decide +kernel)
theorem shekel_tab_block_108 : ∀ i ∈ List.range' 540 5, shekelTabOK i = true := shekel_tab_block _ _ (by decide +kernel)
theorem shekel_tab_block_109 : ∀ i ∈ List.range' 545 5, shekelTabOK i = true := shekel_tab_block _ _ (by decide +kernel)
theorem shekel_tab_block_110 : ∀ i ∈ List.range' 550 5, shekelTabOK i = true := shekel_tab_block _ _ (by decide +kernel)
theorem shekel_tab_block_111 : ∀ i ∈ List.range' 555 5, shekelTabOK i = true := shekel_tab_block _ _ (by decide +kernel)
theorem shekel_tab_block_112 : ∀ i ∈ List.range' 560 5, shekelTabOK i = true := shekel_tab_block _ _ (by decide +kernel)
theorem shekel_tab_block_113 : ∀ i ∈ List.range' 565 5, shekelTabOK i = true := shekel_tab_block _ _ (by decide +kernel)
theorem shekel_tab_block_114 : ∀ i ∈ List.range' 570 5, shekelTabOK i = true := shekel_tab_block _ _ (by decide +kernel)
theorem shekel_tab_block_115 : ∀ i ∈ List.range' 575 5, shekelTabOK i = true := shekel_tab_block _ _ (by decide +kernel)
theorem shekel_tab_block_116 : ∀ i ∈ List.range' 580 5, shekelTabOK i = true := shekel_tab_block _ _ (by decide +kernel)
theorem shekel_tab_block_117 : ∀ i ∈ List.range' 585 5, shekelTabOK i = true := shekel_tab_block _ _ (by decide +kernel)
theorem shekel_tab_block_118 : ∀ i ∈ List.range' 590 5, shekelTabOK i = true := shekel_tab_block _ _ (by decide +kernel)
theorem shekel_tab_block_119 : ∀ i ∈ List.range' 595 5, shekelTabOK i = true := shekel_tab_block _ _ (by decide +kernel)
end Shk

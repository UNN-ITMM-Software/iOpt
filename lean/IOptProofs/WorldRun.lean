import IOptProofs.WorldLocal
/-!
# C12 helpers at the level of schedules

* `AllClosed`: every solver's component is closed; invariant of `run repaired`.
* `runFrom_spec`: from an all-closed world, after ANY schedule, the component of every solver `i` is the fold of the LOCAL step
  over `i`'s own operations, the module heap stays, and the world is all-closed again (the one induction over schedules).
* `report_own`, `mem_reach_owner`: observations of a closed component look at that component only.
* `step_frame`: a step of solver `j` changes nothing outside region `j`, and inside only what it lists.
-/

namespace World
variable {V : Type}

def lreport (c : Comp V) (sol : Ref) : Option V := do
  let (l, _) ← Cell.sol? (lread c sol)
  let b ← Cell.head? (lread c l)
  let fl ← Cell.fv? (lread c b)
  let h ← Cell.head? (lread c fl)
  Cell.value? (lread c h)

theorem report_own (w : State V) {i : Nat} (hc : Closed i (w.solver i)) {sol : Ref} (hs : sol.owner = some i) :
    report w sol = lreport (w.solver i) sol := by
  unfold report lreport
  rw [read_own w hs]
  refine Option.bind_congr fun ⟨l, k⟩ hp => ?_
  dsimp only
  rw [read_own w (hc.solRef hp)]
  refine Option.bind_congr fun b hb => ?_
  rw [read_own w (hc.head hb)]
  refine Option.bind_congr fun fl hfl => ?_
  rw [read_own w (hc.fv hfl)]
  refine Option.bind_congr fun h hh => ?_
  rw [read_own w (hc.head hh)]

theorem reportTrials_own (w : State V) {i : Nat} {sol : Ref} (hs : sol.owner = some i) :
    reportTrials w sol = (Cell.sol? (lread (w.solver i) sol)).map (·.2) := by
  rw [reportTrials, read_own w hs]

theorem itemRefs_owner (w : State V) {i : Nat} (hc : Closed i (w.solver i)) {n : Ref} (hn : n.owner = some i) :
    ∀ r ∈ itemRefs w n, r.owner = some i := by
  intro r hr
  rw [itemRefs, read_own w hn, List.mem_cons] at hr
  rcases hr with rfl | hr
  · exact hn
  · split at hr
    · next fl h1 =>
      have hfl := hc.fv h1
      rw [read_own w hfl, List.mem_cons, Option.mem_toList] at hr
      rcases hr with rfl | hr
      · exact hfl
      · exact hc.head hr
    · cases hr

theorem mem_reach_owner (w : State V) {i : Nat} (hc : Closed i (w.solver i)) :
    ∀ r ∈ reach w i, r.owner = some i := by
  intro r hr
  unfold reach at hr
  split at hr
  · cases hr
  · next s hst =>
    have hsol := hc.sol s hst
    simp only [List.mem_append, List.mem_cons, List.mem_flatMap] at hr
    rcases hr with ((rfl | hr) | ⟨n, hn, hr⟩) | ⟨n, hn, hr⟩
    · exact hsol
    · -- below the Solution: its `bestTrials` list and the trial in it
      rw [read_own w hsol] at hr
      split at hr
      · next l k h1 =>
        have hl := hc.solRef h1
        rw [read_own w hl, List.mem_cons] at hr
        rcases hr with rfl | hr
        · exact hl
        · split at hr
          · next b h2 => exact itemRefs_owner w hc (hc.head h2) r hr
          · cases hr
      · cases hr
    · exact itemRefs_owner w hc (hc.items s hst n hn) r hr
    · exact itemRefs_owner w hc (hc.best s hst n (Option.mem_toList.1 hn)) r hr

section
variable [OfNat V 0]

def AllClosed (w : State V) : Prop := ∀ k, Closed k (w.solver k)

theorem allClosed_init : AllClosed (init repaired : State V) := fun k => closed_default k

theorem step_eq {w : State V} (hw : AllClosed w) (j : Nat) (op : Op V) :
    step repaired w j op = (lstep j (w.solver j) op).map (fun p => (w.setComp j p.1, p.2)) := by
  have := step_local w (hw j) op
  rwa [State.setComp_self] at this

theorem stepW_eq {w : State V} (hw : AllClosed w) (a : Nat × Op V) :
    stepW repaired w a = w.setComp a.1 (lstepW a.1 (w.solver a.1) a.2) := by
  unfold stepW lstepW
  rw [step_eq hw]
  cases lstep a.1 (w.solver a.1) a.2 with
  | none => simp
  | some p => simp

theorem lstepW_closed {i : Nat} {c : Comp V} (hc : Closed i c) (op : Op V) : Closed i (lstepW i c op) := by
  unfold lstepW
  cases h : lstep i c op with
  | none => exact hc
  | some p => exact (lstep_spec hc (o := p.2) (c' := p.1) h).1

theorem allClosed_stepW {w : State V} (hw : AllClosed w) (a : Nat × Op V) : AllClosed (stepW repaired w a) := by
  intro k
  rw [stepW_eq hw]
  by_cases hk : k = a.1
  · subst hk; rw [State.setComp_solver_same]; exact lstepW_closed (hw _) _
  · rw [State.setComp_solver_other _ _ hk]; exact hw k

theorem runFrom_append (vr : Variant) (w : State V) (p q : List (Nat × Op V)) :
    runFrom vr w (p ++ q) = runFrom vr (runFrom vr w p) q := by
  simp [runFrom, List.foldl_append]

theorem run_append (vr : Variant) (p q : List (Nat × Op V)) : run vr (p ++ q) = runFrom vr (run vr p) q :=
  runFrom_append vr _ p q

def lrun (i : Nat) (c : Comp V) (ops : List (Nat × Op V)) : Comp V := ops.foldl (fun c a => lstepW i c a.2) c

theorem runFrom_spec {w : State V} (hw : AllClosed w) (sched : List (Nat × Op V)) :
    AllClosed (runFrom repaired w sched) ∧
    runFrom repaired w sched =
      { modHeap := w.modHeap, solver := fun i => lrun i (w.solver i) (sched.filter (·.1 = i)) } := by
  induction sched generalizing w with
  | nil => exact ⟨hw, rfl⟩
  | cons a t ih =>
    obtain ⟨h1, h2⟩ := ih (allClosed_stepW hw a)
    refine ⟨h1, h2.trans ?_⟩
    rw [stepW_eq hw]
    congr 1
    funext i
    by_cases ha : a.1 = i
    · subst ha; simp [lrun]
    · simp [ha, State.setComp_solver_other _ _ (Ne.symm ha)]

theorem run_spec (sched : List (Nat × Op V)) :
    AllClosed (run repaired sched) ∧
    run repaired sched = { solver := fun i => lrun i {} (sched.filter (·.1 = i)) } :=
  runFrom_spec allClosed_init sched

theorem allClosed_run (sched : List (Nat × Op V)) : AllClosed (run repaired sched) := (run_spec sched).1

theorem lstepW_handed {i : Nat} {c : Comp V} (hc : Closed i c) (op : Op V) : c.handed <+: (lstepW i c op).handed := by
  unfold lstepW
  cases h : lstep i c op with
  | none => exact List.prefix_refl _
  | some p =>
    obtain ⟨t, ht⟩ := (lstep_spec hc (c' := p.1) (o := p.2) h).2.2.2.handed
    exact ⟨t, ht.symm⟩

theorem lrun_handed {i : Nat} {c : Comp V} (hc : Closed i c) (ops : List (Nat × Op V)) :
    c.handed <+: (lrun i c ops).handed := by
  induction ops generalizing c with
  | nil => exact List.prefix_refl _
  | cons a t ih => exact (lstepW_handed hc a.2).trans (ih (lstepW_closed hc a.2))

theorem handed_mono (pre post : List (Nat × Op V)) (i : Nat) :
    ∀ s ∈ ((run repaired pre).solver i).handed, s ∈ ((run repaired (pre ++ post)).solver i).handed := by
  intro s hs
  rw [run_append, (runFrom_spec (allClosed_run pre) post).2]
  exact (lrun_handed (allClosed_run pre i) _).subset hs

theorem step_frame {w w' : State V} (hw : AllClosed w) {j : Nat} {op : Op V} {o : Out}
    (h : step repaired w j op = some (w', o)) :
    (∀ r ∈ o.wrote, r.owner = some j) ∧
    (∀ r ∈ o.allocated, r.owner = some j ∧ w.read r = none ∧ (w'.read r).isSome) ∧
    (∀ r, r.owner ≠ some j → w'.read r = w.read r) ∧
    (∀ i, i ≠ j → w'.solver i = w.solver i) ∧ w'.modHeap = w.modHeap ∧
    (∀ r, r ∉ o.wrote → (w.read r).isSome → w'.read r = w.read r) := by
  rw [step_eq hw] at h
  cases hl : lstep j (w.solver j) op with
  | none => simp [hl] at h
  | some p =>
    obtain ⟨c', o'⟩ := p
    simp only [hl, Option.map_some, Option.some.injEq, Prod.mk.injEq] at h
    obtain ⟨rfl, rfl⟩ := h
    obtain ⟨-, hwr, hal, hf⟩ := lstep_spec (hw j) hl
    have hother : ∀ r : Ref, r.owner ≠ some j → (w.setComp j c').read r = w.read r := by
      intro r hr
      unfold State.read
      cases ho : r.owner with
      | none => rfl
      | some k =>
        have : k ≠ j := fun e => hr (by rw [ho, e])
        simp only [State.setComp_solver_other _ _ this]
    refine ⟨hwr, fun r hr => ?_, hother, fun i hi => State.setComp_solver_other _ _ hi, rfl, fun r hr hsome => ?_⟩
    · have ho := hal r hr
      obtain ⟨h1, h2⟩ := hf.fresh r hr
      rw [read_local w j c' ho, read_own w ho]
      exact ⟨ho, List.getElem?_eq_none h1, by rw [lread, List.getElem?_eq_getElem h2]; rfl⟩
    · by_cases ho : r.owner = some j
      · rw [read_own w ho] at hsome ⊢
        rw [read_local w j c' ho]
        obtain ⟨x, hx⟩ := Option.isSome_iff_exists.1 hsome
        -- a written ref with the same index would be `r` itself, which is not in `o.wrote`
        refine hf.frame.2 r.idx (lread_lt hx) fun r' hr' hidx => hr ?_
        have : r' = r := by
          cases r'; cases r
          simp only [Ref.mk.injEq]
          exact ⟨by simpa using (hwr _ hr').trans ho.symm, hidx⟩
        exact this ▸ hr'
      · exact hother r ho

end
end World

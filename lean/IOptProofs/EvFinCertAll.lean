import IOptProofs.EvFinCert
import IOptProofs.EvFinCert6
import IOptProofs.EvFinCert7
/-!
# The kernel-evaluated certificates `EvCert 2 … EvCert 7`, collected

A cross-check beside the development: `Ev.evFacts_all` (`EvGenCert.lean`) proves the same facts for every `n ≥ 2`, and
that is what everything else uses (`Ev.evFacts_of_dimOK`).  Nothing imports this module but the root.
-/

namespace Ev

theorem evFacts_of_mem {n : Nat} (hn : n ∈ [2, 3, 4, 5, 6, 7]) : EvFacts n := by
  simp only [List.mem_cons, List.not_mem_nil, or_false] at hn
  rcases hn with rfl | rfl | rfl | rfl | rfl | rfl
  · exact evFacts2
  · exact evFacts3
  · exact evFacts4
  · exact evFacts5
  · exact evFacts6
  · exact evFacts7

end Ev

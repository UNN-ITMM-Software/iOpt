import IOptProofs.EnclSoundMul
import IOptProofs.HillDefs
import IOptProofs.HillReal
/-!
# Enclosure kit, soundness part 3: the weighted sums of `evGo`

`evGo` / `evAcc` evaluate, by the angle-addition recurrence, three trigonometric sums at once; their only user is the Hill
checker, and the sums are stated against `Hill.tsum`.  For a column pair `(pa, pb)` of biased coefficients the accumulator
of `evGo` is related exactly to `fixSum = Σ_j (pa_j - ba)(U_j - B) + (pb_j - ba)(X_j - B)`; if the pair stores the real
coefficient list `l` in units of `u` (`ColRep`), `fixSum` is within `EMAX · |u| · Σ_j (|a_j| + |b_j|)` of `u·2^64` times
`tsum l`.
-/

namespace Encl
open Complex

/-- single-column form of `evGo`: `pa` multiplies the sine, `pb` the cosine -/
def goF (pa pb : Coef → ℕ) : List Coef → ℕ → ℕ → ℕ → ℕ → ℕ → ℕ
  | [], _, _, _, _, f => f
  | c :: l, X, U, Y, V, f =>
    goF pa pb l (cmulRe X Y U V) (cmulIm X Y U V) Y V (Nat.add (Nat.add f (Nat.mul (pa c) U)) (Nat.mul (pb c) X))

/-- the `sc` accumulator of `evGo` -/
def goSC : List Coef → ℕ → ℕ → ℕ → ℕ → ℕ → ℕ
  | [], _, _, _, _, sc => sc
  | _ :: l, X, U, Y, V, sc => goSC l (cmulRe X Y U V) (cmulIm X Y U V) Y V (Nat.add (Nat.add sc X) U)

/-- the four accumulators of `evGo` are three instances of `goF` and `goSC` -/
theorem evGo_eq (cs : List Coef) : ∀ X U Y V f g1 g2 sc,
    evGo cs X U Y V f g1 g2 sc = ⟨goF Coef.a0 Coef.b0 cs X U Y V f, goF Coef.b1 Coef.a1 cs X U Y V g1,
      goF Coef.a2 Coef.b2 cs X U Y V g2, goSC cs X U Y V sc⟩ := by
  induction cs with
  | nil => intros; rfl
  | cons c l ih =>
    intros
    simp only [evGo, goF, goSC]
    rw [ih]
    congr 2
    exact Nat.add_right_comm _ _ _

noncomputable def fixSum (pa pb : Coef → ℕ) (ba : ℝ) : List Coef → ℕ → ℕ → ℕ → ℕ → ℝ
  | [], _, _, _, _ => 0
  | c :: l, X, U, Y, V =>
    ((pa c : ℝ) - ba) * ((U : ℝ) - B) + ((pb c : ℝ) - ba) * ((X : ℝ) - B)
      + fixSum pa pb ba l (cmulRe X Y U V) (cmulIm X Y U V) Y V

theorem goSC_cast (cs : List Coef) : ∀ X U Y V sc,
    ((goSC cs X U Y V sc : ℕ) : ℝ) = sc + ((goSC cs X U Y V 0 : ℕ) : ℝ) := by
  induction cs with
  | nil => intros; simp [goSC]
  | cons c l ih =>
    intro X U Y V sc
    simp only [goSC]
    rw [ih _ _ _ _ (Nat.add (Nat.add sc X) U), ih _ _ _ _ (Nat.add (Nat.add 0 X) U)]
    simp only [cast_nat_add, Nat.cast_zero]
    ring

theorem goF_cast (pa pb : Coef → ℕ) (ba : ℝ) (cs : List Coef) : ∀ X U Y V f,
    ((goF pa pb cs X U Y V f : ℕ) : ℝ) = f + fixSum pa pb ba cs X U Y V
      + (B : ℝ) * (Hill.colSum pa pb cs : ℕ) + ba * ((goSC cs X U Y V 0 : ℕ) : ℝ)
      - 2 * (cs.length : ℝ) * ba * B := by
  induction cs with
  | nil => intros; simp [goF, fixSum, Hill.colSum, goSC]
  | cons c l ih =>
    intro X U Y V f
    simp only [goF, fixSum, Hill.colSum, goSC, List.length_cons]
    rw [ih, goSC_cast l _ _ _ _ (Nat.add (Nat.add 0 X) U)]
    simp only [cast_nat_add, cast_nat_mul, Nat.cast_zero]
    push_cast
    ring

/-- the column pair `(pa, pb)` of `cs` stores the real coefficient list `l` in units of `u`, biased by `ba` -/
def ColRep (pa pb : Coef → ℕ) (ba u : ℝ) (cs : List Coef) (l : List (ℝ × ℝ)) : Prop :=
  List.Forall₂ (fun c p => (pa c : ℝ) - ba = p.1 * u ∧ (pb c : ℝ) - ba = p.2 * u) cs l

/-- a real-linear form of a complex number moves by at most its weight times the distance -/
theorem pair_err (α β : ℝ) {z w : ℂ} {e : ℝ} (h : ‖z - w‖ ≤ e) :
    |α * z.im + β * z.re - (α * w.im + β * w.re)| ≤ (|α| + |β|) * e := by
  rw [show α * z.im + β * z.re - (α * w.im + β * w.re) = α * (z - w).im + β * (z - w).re by
    rw [sub_im, sub_re]; ring, add_mul]
  refine (abs_add_le _ _).trans (add_le_add ?_ ?_)
  · rw [abs_mul]; exact mul_le_mul_of_nonneg_left ((abs_im_le_norm _).trans h) (abs_nonneg _)
  · rw [abs_mul]; exact mul_le_mul_of_nonneg_left ((abs_re_le_norm _).trans h) (abs_nonneg _)

/-- error of the fixed-point sum against the trigonometric sum it encodes, and a crude bound of the fixed-point sum -/
theorem fixSum_err {pa pb : Coef → ℕ} {ba u : ℝ} {Y V : ℕ} {θ : ℝ}
    (hw : ‖exp ((θ : ℂ) * I) - dZ Y V‖ ≤ 330973 / 2 ^ 64) {cs : List Coef} {l : List (ℝ × ℝ)}
    (h : ColRep pa pb ba u cs l) :
    ∀ (i X U : ℕ), i + cs.length ≤ 17 →
      ‖exp (((i * θ : ℝ) : ℂ) * I) - dZ X U‖ ≤ i * 330976 / 2 ^ 64 →
      |Hill.tsum l i θ * (u * 2 ^ 64) - fixSum pa pb ba cs X U Y V| ≤ Hill.wsum 0 l i * |u| * 16777216 ∧
      |fixSum pa pb ba cs X U Y V| ≤ 5 / 4 * 2 ^ 64 * (Hill.wsum 0 l i * |u|) := by
  induction h with
  | nil => intros; simp [Hill.tsum, fixSum, Hill.wsum]
  | @cons c p cs l hc _ ih =>
    intro i X U hlen hz
    simp only [List.length_cons] at hlen
    have hi : i ≤ 16 := by omega
    obtain ⟨nz, hz'⟩ := rec_step hi hw hz
    obtain ⟨ih1, ih2⟩ := ih (i + 1) _ _ (by omega) hz'
    have rad : (i : ℝ) * 330976 / 2 ^ 64 ≤ 16777216 / 2 ^ 64 :=
      div_le_div_of_nonneg_right ((mul_le_mul_of_nonneg_right (Nat.cast_le.2 hi) (by norm_num)).trans (by norm_num))
        (by positivity)
    -- the term of index `i` is a linear form of the centre, which is within the radius of `e^{iiθ}` and within `5/4` of `0`
    have e1 := pair_err (p.1 * u) (p.2 * u) (hz.trans rad)
    have e2 := pair_err (p.1 * u) (p.2 * u) (w := 0) ((sub_zero (dZ X U)).symm ▸ nz)
    rw [exp_ofReal_mul_I_im, exp_ofReal_mul_I_re, dZ_im, dZ_re] at e1
    rw [dZ_im, dZ_re, zero_im, zero_re, mul_zero, mul_zero, add_zero, sub_zero] at e2
    have e1 := abs_le.mp e1
    have e2 := abs_le.mp e2
    have ih1 := abs_le.mp ih1
    have ih2 := abs_le.mp ih2
    simp only [Hill.tsum, fixSum, Hill.wsum, pow_zero, one_mul]
    rw [hc.1, hc.2, dT_sub_B U, dT_sub_B X]
    simp only [abs_mul] at e1 e2
    exact ⟨abs_le.mpr ⟨by linarith only [e1.1, ih1.1], by linarith only [e1.2, ih1.2]⟩,
      abs_le.mpr ⟨by linarith only [e2.1, ih2.1], by linarith only [e2.2, ih2.2]⟩⟩

/-- the starting point `(X₀, U₀) = (ONE + B, B)` denotes `1 = e^{i·0·θ}` exactly -/
theorem start_spec (θ : ℝ) :
    ‖exp ((((0 : ℕ) * θ : ℝ) : ℂ) * I) - dZ (Nat.add ONE B) B‖ ≤ (0 : ℕ) * 330976 / 2 ^ 64 := by
  have : dZ (Nat.add ONE B) B = 1 := by
    apply Complex.ext
    · simp only [dZ_re, one_re]
      unfold dT
      rw [cast_nat_add, add_sub_cancel_right, ONE_cast, div_self (by positivity)]
    · simp only [dZ_im, one_im]
      unfold dT
      rw [sub_self, zero_div]
  rw [this]; simp

theorem evAcc_eq (cs : List Coef) (num k : ℕ) :
    (evAcc cs num k).f = goF Coef.a0 Coef.b0 cs (Nat.add ONE B) B (trigC num k) (trigS num k) 0 ∧
    (evAcc cs num k).g1 = goF Coef.b1 Coef.a1 cs (Nat.add ONE B) B (trigC num k) (trigS num k) 0 ∧
    (evAcc cs num k).g2 = goF Coef.a2 Coef.b2 cs (Nat.add ONE B) B (trigC num k) (trigS num k) 0 ∧
    (evAcc cs num k).sc = goSC cs (Nat.add ONE B) B (trigC num k) (trigS num k) 0 := by
  unfold evAcc
  rw [trig_eq, evGo_eq]
  exact ⟨rfl, rfl, rfl, rfl⟩

end Encl

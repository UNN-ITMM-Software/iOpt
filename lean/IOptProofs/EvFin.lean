import IOptProofs.EvShape
/-!
# The finite facts about one level of the evolvent (`EvFacts n`), unsigned form and Boolean certificate

`EvFacts n` collects the facts (F1)-(F3) about `Ev.step n` over **all** valid level states
(`it < n`, `iw ∈ {±1}^n`) and all digits `d < 2^n`.

`step` is equivariant under the coordinate-wise reflections (`(step n ⟨it, w⟩ d).2 = U n it d * w`,
`iw' = w * (-V n it d)` pointwise, see `step_eq`), so every fact is a fact about the "unsigned" vectors `U`, `V`
(which depend on `it`, `d` only): `UFacts n`, transported to an arbitrary sign vector `w` by `evFacts_of_uFacts`.

`UFacts n` is proved for every `n ≥ 2` in `IOptProofs/EvGenCert.lean`.  Independently, it is what the Boolean
certificate `EvCert n` says (`uFacts_of_cert`), which the kernel evaluates for `n ≤ 7`
(`IOptProofs/EvFinCert*.lean`); the certificate does not enumerate the `2^n` sign vectors `iw`.
-/

namespace Ev

structure EvFacts (n : Nat) : Prop where
  /-- (F1) closure: the next state is valid and the offset is a sign vector -/
  closed : ∀ s d, validState n s → d < 2^n →
    validState n (step n s d).1 ∧ signVec n (step n s d).2
  /-- (F2) the map digit ↦ offset is injective on `d < 2^n` ... -/
  inj : ∀ s d d', validState n s → d < 2^n → d' < 2^n →
    (step n s d).2 = (step n s d').2 → d = d'
  /-- (F2) ... and onto `{±1}^n` -/
  surj : ∀ s o, validState n s → signVec n o → ∃ d, d < 2^n ∧ (step n s d).2 = o
  /-- (F3) self-similarity at the first digit: the first child of the first child starts in the
  same corner -/
  self0 : ∀ s, validState n s → (step n (step n s 0).1 0).2 = (step n s 0).2
  /-- (F3) self-similarity at the last digit -/
  selfL : ∀ s, validState n s →
    (step n (step n s (2^n-1)).1 (2^n-1)).2 = (step n s (2^n-1)).2
  /-- (F3) gluing: consecutive children `d`, `d+1` differ in exactly one coordinate `c`; the exit
  corner `X` of child `d` and the entry corner `E` of child `d+1` agree off `c` and point at each
  other on `c`. -/
  glue : ∀ s d, validState n s → d + 1 < 2^n → ∃ c, c < n ∧
    getI (step n s d).2 c ≠ getI (step n s (d+1)).2 c ∧
    getI (step n (step n s d).1 (2^n-1)).2 c = getI (step n s (d+1)).2 c ∧
    getI (step n (step n s (d+1)).1 0).2 c = getI (step n s d).2 c ∧
    ∀ i, i < n → i ≠ c →
      getI (step n s d).2 i = getI (step n s (d+1)).2 i ∧
      getI (step n (step n s d).1 (2^n-1)).2 i = getI (step n (step n s (d+1)).1 0).2 i

/-- offset vector of digit `d` in a state with `it`, before multiplication by `iw` -/
def U (n it d : Nat) : List Int := swap0 (node n d).2.1 it
/-- the vector `iv` of digit `d` in a state with `it` (after the swap) -/
def V (n it d : Nat) : List Int := swap0 (node n d).2.2 it
def T (n it d : Nat) : Nat := relabel (node n d).1 it

theorem step_eq (n : Nat) (s : St) (d : Nat) :
    step n s d = (⟨T n s.it d, List.zipWith (fun w v => w * (-v)) s.iw (V n s.it d)⟩,
                  List.zipWith (· * ·) (U n s.it d) s.iw) := rfl

/-- second-level offset (digit `d`, then digit `e`) before multiplication by `iw` -/
def X0 (n it d e : Nat) : List Int :=
  List.zipWith (fun u v => u * (-v)) (U n (T n it d) e) (V n it d)

def sgnB (x : Int) : Bool := x == 1 || x == -1
def signVecB (n : Nat) (o : List Int) : Bool := o.length == n && o.all sgnB

def signVecs : Nat → List (List Int)
  | 0 => [[]]
  | n+1 => (signVecs n).flatMap (fun v => [1 :: v, (-1) :: v])

def closedB (n it : Nat) : Bool :=
  (List.range (2^n)).all fun d =>
    signVecB n (U n it d) && signVecB n (V n it d) && decide (T n it d < n)

/-- candidate inverse of `U n it` (the code's own `__CalculateNumbr`; any function would do) -/
def decU (n it : Nat) (v : List Int) : Nat := (numbr n (swap0 v it)).1

def injB (n it : Nat) : Bool := (List.range (2^n)).all fun d => decU n it (U n it d) == d

def surjB (n it : Nat) : Bool :=
  (signVecs n).all fun v => decide (decU n it v < 2^n) && U n it (decU n it v) == v

def selfB (n it : Nat) : Bool :=
  X0 n it 0 0 == U n it 0 && X0 n it (2^n-1) (2^n-1) == U n it (2^n-1)

def glueAt (n : Nat) (a b X E : List Int) (c : Nat) : Bool :=
  getI a c != getI b c && getI X c == getI b c && getI E c == getI a c &&
  (List.range n).all fun i => i == c || (getI a i == getI b i && getI X i == getI E i)

def glueB (n it : Nat) : Bool :=
  (List.range (2^n - 1)).all fun d =>
    (List.range n).any
      (glueAt n (U n it d) (U n it (d+1)) (X0 n it d (2^n-1)) (X0 n it (d+1) 0))

def itOK (n it : Nat) : Bool :=
  closedB n it && injB n it && surjB n it && selfB n it && glueB n it

/-- the Boolean certificate for dimension `n`: `n · 2^n` cheap checks -/
def EvCert (n : Nat) : Bool := (List.range n).all (itOK n)

theorem sgnB_iff (x : Int) : sgnB x = true ↔ (x = 1 ∨ x = -1) := by
  simp [sgnB]

theorem signVecB_iff (n : Nat) (o : List Int) : signVecB n o = true ↔ signVec n o := by
  simp [signVecB, signVec, sgnB_iff]

theorem mem_signVecs {n : Nat} {o : List Int} (h : signVec n o) : o ∈ signVecs n := by
  induction n generalizing o with
  | zero => rw [List.eq_nil_of_length_eq_zero h.1]; exact List.mem_singleton.2 rfl
  | succ n ih =>
    obtain ⟨x, t, rfl⟩ := List.exists_cons_of_length_eq_add_one h.1
    rw [signVecs, List.mem_flatMap]
    refine ⟨t, ih ⟨by simpa using h.1, fun w hw => h.2 w (List.mem_cons_of_mem _ hw)⟩, ?_⟩
    rcases h.2 x List.mem_cons_self with rfl | rfl <;> simp

/-- The facts about the unsigned level data `U`, `V`, `T`, `X0` (which depend on `it` and the digits only)
from which `EvFacts n` follows; in the shape in which `EvCert n` checks them. -/
structure UFacts (n : Nat) : Prop where
  closed : ∀ {it d}, it < n → d < 2^n → signVec n (U n it d) ∧ signVec n (V n it d) ∧ T n it d < n
  inj : ∀ {it d}, it < n → d < 2^n → decU n it (U n it d) = d
  surj : ∀ {it v}, it < n → signVec n v → decU n it v < 2^n ∧ U n it (decU n it v) = v
  self : ∀ {it}, it < n → X0 n it 0 0 = U n it 0 ∧ X0 n it (2^n-1) (2^n-1) = U n it (2^n-1)
  glue : ∀ {it d}, it < n → d + 1 < 2^n → ∃ c, c < n ∧
    getI (U n it d) c ≠ getI (U n it (d+1)) c ∧
    getI (X0 n it d (2^n-1)) c = getI (U n it (d+1)) c ∧
    getI (X0 n it (d+1) 0) c = getI (U n it d) c ∧
    ∀ i, i < n → i ≠ c →
      getI (U n it d) i = getI (U n it (d+1)) i ∧
      getI (X0 n it d (2^n-1)) i = getI (X0 n it (d+1) 0) i

theorem uFacts_of_cert {n : Nat} (h : EvCert n = true) : UFacts n := by
  simp only [EvCert, itOK, List.all_eq_true, List.mem_range, Bool.and_eq_true] at h
  refine ⟨fun {it d} hit hd => ?_, fun {it d} hit hd => ?_, fun {it v} hit hv => ?_,
    fun {it} hit => ?_, fun {it d} hit hd => ?_⟩
  · have h1 := (h it hit).1.1.1.1
    simp only [closedB, List.all_eq_true, List.mem_range, Bool.and_eq_true, signVecB_iff,
      decide_eq_true_eq] at h1
    exact ⟨(h1 d hd).1.1, (h1 d hd).1.2, (h1 d hd).2⟩
  · have h1 := (h it hit).1.1.1.2
    simp only [injB, List.all_eq_true, List.mem_range, beq_iff_eq] at h1
    exact h1 d hd
  · have h1 := (h it hit).1.1.2
    simp only [surjB, List.all_eq_true, Bool.and_eq_true, decide_eq_true_eq, beq_iff_eq] at h1
    exact h1 v (mem_signVecs hv)
  · simpa only [selfB, Bool.and_eq_true, beq_iff_eq] using (h it hit).1.2
  · have h1 := (h it hit).2
    simp only [glueB, List.all_eq_true, List.mem_range, List.any_eq_true] at h1
    obtain ⟨c, hcn, hg⟩ := h1 d (by omega)
    simp only [glueAt, Bool.and_eq_true, bne_iff_ne, ne_eq, beq_iff_eq, List.all_eq_true,
      List.mem_range, Bool.or_eq_true] at hg
    exact ⟨c, hcn, hg.1.1.1, hg.1.1.2, hg.1.2, fun i hi hic => (hg.2 i hi).resolve_left hic⟩

section Sound
variable {n : Nat} (hc : UFacts n)
include hc

theorem getI_step_snd {s : St} (hs : validState n s) {d : Nat} (hd : d < 2^n) {i : Nat}
    (hi : i < n) : getI (step n s d).2 i = getI (U n s.it d) i * getI s.iw i := by
  have hU := (hc.closed hs.1 hd).1
  rw [step_eq, getI_zipWith (by rw [hU.1]; exact hi) (by rw [hs.2.1]; exact hi)]

theorem getI_step2_snd {s : St} (hs : validState n s) {d e : Nat} (hd : d < 2^n) (he : e < 2^n)
    {i : Nat} (hi : i < n) :
    getI (step n (step n s d).1 e).2 i = getI (X0 n s.it d e) i * getI s.iw i := by
  have hs' := (step_shape hs d).1
  rw [getI_step_snd hc hs' he hi]
  obtain ⟨_, hV, hT⟩ := hc.closed hs.1 hd
  have hU' := (hc.closed hT he).1
  have e1 : (step n s d).1.it = T n s.it d := rfl
  have e2 : (step n s d).1.iw = List.zipWith (fun w v => w * (-v)) s.iw (V n s.it d) := rfl
  rw [e1, e2, X0, getI_zipWith (by rw [hs.2.1]; exact hi) (by rw [hV.1]; exact hi),
    getI_zipWith (by rw [hU'.1]; exact hi) (by rw [hV.1]; exact hi)]
  rw [Int.mul_left_comm, Int.mul_comm]

theorem step2_self {s : St} (hs : validState n s) {e : Nat} (he : e < 2^n)
    (h : X0 n s.it e e = U n s.it e) : (step n (step n s e).1 e).2 = (step n s e).2 := by
  apply ext_getI (step_shape (step_shape hs e).1 e).2.1 (step_shape hs e).2.1
  intro i hi
  rw [getI_step2_snd hc hs he he hi, getI_step_snd hc hs he hi, h]

/-- `step` is equivariant under the coordinate-wise reflections, so the facts about `U`, `V`, `T` carry over
to every sign vector `iw` -/
theorem evFacts_of_uFacts : EvFacts n where
  closed := fun s d hs _ => step_shape hs d
  inj := by
    intro s d d' hs hd hd' he
    have hU := (hc.closed hs.1 hd).1
    have hU' := (hc.closed hs.1 hd').1
    rw [← hc.inj hs.1 hd, ← hc.inj hs.1 hd']
    congr 1
    apply ext_getI hU.1 hU'.1
    intro i hi
    have := congrArg (fun l => getI l i) he
    simp only [getI_step_snd hc hs hd hi, getI_step_snd hc hs hd' hi] at this
    exact (mul_sign_cancel (signVec_getI hs.2 hi)).1 this
  surj := by
    intro s o hs ho
    have hv : signVec n (List.zipWith (· * ·) o s.iw) :=
      signVec_zipWith (fun x y hx hy => sign_mul hx hy) ho hs.2
    obtain ⟨hd, hU⟩ := hc.surj hs.1 hv
    refine ⟨_, hd, ?_⟩
    apply ext_getI (step_shape hs _).2.1 ho.1
    intro i hi
    rw [getI_step_snd hc hs hd hi, hU,
      getI_zipWith (by rw [ho.1]; exact hi) (by rw [hs.2.1]; exact hi)]
    rcases signVec_getI hs.2 hi with h | h <;> rw [h] <;> omega
  self0 := fun s hs => step2_self hc hs (Nat.two_pow_pos n) (hc.self hs.1).1
  selfL := fun s hs =>
    step2_self hc hs (Nat.sub_lt (Nat.two_pow_pos n) Nat.one_pos) (hc.self hs.1).2
  glue := by
    intro s d hs hd
    have h0 : 0 < 2^n := Nat.two_pow_pos n
    have hL : 2^n - 1 < 2^n := Nat.sub_lt h0 Nat.one_pos
    have hd0 : d < 2^n := by omega
    obtain ⟨c, hcn, g1, g2, g3, g4⟩ := hc.glue hs.1 hd
    refine ⟨c, hcn, ?_, ?_, ?_, fun i hi hic => ⟨?_, ?_⟩⟩
    · rw [getI_step_snd hc hs hd0 hcn, getI_step_snd hc hs hd hcn]
      intro h; exact g1 ((mul_sign_cancel (signVec_getI hs.2 hcn)).1 h)
    · rw [getI_step2_snd hc hs hd0 hL hcn, getI_step_snd hc hs hd hcn, g2]
    · rw [getI_step2_snd hc hs hd h0 hcn, getI_step_snd hc hs hd0 hcn, g3]
    · rw [getI_step_snd hc hs hd0 hi, getI_step_snd hc hs hd hi, (g4 i hi hic).1]
    · rw [getI_step2_snd hc hs hd0 hL hi, getI_step2_snd hc hs hd h0 hi, (g4 i hi hic).2]

end Sound

theorem evFacts_of_cert {n : Nat} (h : EvCert n = true) : EvFacts n :=
  evFacts_of_uFacts (uFacts_of_cert h)

end Ev

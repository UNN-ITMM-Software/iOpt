import IOptProofs.GrishSound6
import Mathlib.Topology.Order.Compact
/-!
# Grishagin checker, soundness part 7: from `S = d1² + d2²` to the function `-√S` of the model, and the
three clauses of property C10
-/

namespace Grish
open Encl Finset

/-- property C10 for a function of two variables on `[0,1]²` with declared optimum point `(px, py)`,
declared optimum value `v`: value tolerance `1e-4`, global bound with tolerance `2e-3·max(1,|v|)`, and
every global minimiser (one exists) lies within `0.005` (0.5 % of the box side) of the declared point -/
structure GrishC10 (f : ℝ → ℝ → ℝ) (px py v : ℝ) : Prop where
  vneg : v < 0
  box : 0 ≤ px ∧ px ≤ 1 ∧ 0 ≤ py ∧ py ≤ 1
  V : |f px py - v| ≤ 1 / 10000
  G : ∀ x y, 0 ≤ x → x ≤ 1 → 0 ≤ y → y ≤ 1 → v - 2 / 1000 * max 1 |v| ≤ f x y
  Pex : ∃ x y, (0 ≤ x ∧ x ≤ 1 ∧ 0 ≤ y ∧ y ≤ 1) ∧
    ∀ x' y', 0 ≤ x' → x' ≤ 1 → 0 ≤ y' → y' ≤ 1 → f x y ≤ f x' y'
  Pall : ∀ x y, 0 ≤ x → x ≤ 1 → 0 ≤ y → y ≤ 1 →
    (∀ x' y', 0 ≤ x' → x' ≤ 1 → 0 ≤ y' → y' ≤ 1 → f x y ≤ f x' y') →
    |x - px| ≤ 5 / 1000 ∧ |y - py| ≤ 5 / 1000

theorem continuous_sn (i : ℕ) : Continuous (sn i) := by
  unfold sn; fun_prop
theorem continuous_cs (i : ℕ) : Continuous (cs i) := by
  unfold cs; fun_prop

theorem continuous_gen (K : Co) : Continuous fun p : ℝ × ℝ => gen K p.1 p.2 := by
  unfold gen
  refine continuous_finsetSum _ fun i _ => continuous_finsetSum _ fun j _ => ?_
  have sx : Continuous fun p : ℝ × ℝ => sn i p.1 := (continuous_sn i).comp continuous_fst
  have cx : Continuous fun p : ℝ × ℝ => cs i p.1 := (continuous_cs i).comp continuous_fst
  have sy : Continuous fun p : ℝ × ℝ => sn j p.2 := (continuous_sn j).comp continuous_snd
  have cy : Continuous fun p : ℝ × ℝ => cs j p.2 := (continuous_cs j).comp continuous_snd
  exact ((((continuous_const.mul sx).mul sy).add ((continuous_const.mul cx).mul cy)).add
    ((continuous_const.mul cx).mul sy)).add ((continuous_const.mul sx).mul cy)

theorem continuous_rowS (row : ℕ) : Continuous fun p : ℝ × ℝ => rowS row p.1 p.2 := by
  unfold rowS SS
  exact ((continuous_gen _).pow 2).add ((continuous_gen _).pow 2)

theorem rowS_nonneg (row : ℕ) (x y : ℝ) : 0 ≤ rowS row x y := by
  unfold rowS SS; positivity

theorem c10_of_S {S : ℝ → ℝ → ℝ} {px py v : ℝ} (hcS : Continuous fun p : ℝ × ℝ => S p.1 p.2)
    (hS0 : ∀ x y, 0 ≤ S x y) (h : SCert S px py v) :
    GrishC10 (fun x y => -Real.sqrt (S x y)) px py v := by
  have hvge := h.vge
  obtain ⟨w1, w2, wa, wb, wc, wd, hw⟩ := h.P
  have hvn : v < 0 := by linarith only [hvge]
  -- a minimiser exists by compactness
  obtain ⟨m, ⟨⟨m1a, m1b⟩, m2a, m2b⟩, hmin⟩ := (isCompact_Icc.prod isCompact_Icc).exists_isMinOn
    (⟨(0, 0), ⟨le_rfl, zero_le_one⟩, le_rfl, zero_le_one⟩ : (Set.Icc (0 : ℝ) 1 ×ˢ Set.Icc (0 : ℝ) 1).Nonempty)
    hcS.sqrt.neg.continuousOn
  refine
    { vneg := hvn, box := ⟨h.px0, h.px1, h.py0, h.py1⟩, V := ?V, G := ?G
      Pex := ⟨m.1, m.2, ⟨m1a, m1b, m2a, m2b⟩, fun x' y' a b c d =>
        hmin (show ((x', y') : ℝ × ℝ) ∈ Set.Icc (0 : ℝ) 1 ×ˢ Set.Icc (0 : ℝ) 1 from ⟨⟨a, b⟩, c, d⟩)⟩
      Pall := ?Pall }
  case V =>
    have l1 := Real.le_sqrt_of_sq_le h.V1
    have l2 := (Real.sqrt_le_left (by linarith only [hvge])).mpr h.V2
    exact abs_le.mpr ⟨by linarith only [l2], by linarith only [l1]⟩
  case G =>
    intro x y a b c d
    have := (Real.sqrt_le_left (by linarith only [hvge])).mpr (h.G x y a b c d)
    rw [abs_of_neg hvn, max_eq_right hvge]
    linarith only [this]
  case Pall =>
    -- a minimiser outside the neighbourhood would have `S` below `S w`
    intro x y a b c d hglob
    by_contra hcon
    have lt := Real.sqrt_lt_sqrt (hS0 x y)
      (hw x y a b c d fun hh => hcon ⟨by linarith only [hh.1], by linarith only [hh.2]⟩)
    have := hglob w1 w2 wa wb wc wd
    linarith only [lt, this]

noncomputable def rmat (m : List (List Dy)) : List (List ℝ) := m.map (List.map dyR)

/-- the Grishagin function number `k` (1..100) of the model, over `ℝ`, with the regenerated coefficient tables -/
noncomputable def grishFn (k : ℕ) (x y : ℝ) : ℝ :=
  Prob.grishagin (rmat (Gen.grishMat k 0)) (rmat (Gen.grishMat k 1)) (rmat (Gen.grishMat k 2))
    (rmat (Gen.grishMat k 3)) x y

theorem rmat_grishMat (k m : ℕ) : rmat (Gen.grishMat k m) = mat7 (cA (Gen.grishaginRows[k - 1]!) m) := by
  unfold rmat Gen.grishMat Dy.slice mat7 cA ent
  simp only [List.map_map]
  rfl

theorem gen_one_mul (A B : ℕ → ℕ → ℝ) (x y : ℝ) :
    gen (coAB A (fun i j => ((1 : ℤ) : ℝ) * B i j)) x y = gen ⟨A, B, 0, 0⟩ x y := by
  unfold coAB; simp

theorem gen_neg_one_mul (A B : ℕ → ℕ → ℝ) (x y : ℝ) :
    gen (coAB A (fun i j => ((-1 : ℤ) : ℝ) * B i j)) x y = gen ⟨A, fun i j => -B i j, 0, 0⟩ x y := by
  unfold coAB; simp

theorem grishFn_eq (k : ℕ) (x y : ℝ) :
    grishFn k x y = -Real.sqrt (rowS (Gen.grishaginRows[k - 1]!) x y) := by
  unfold grishFn
  rw [rmat_grishMat, rmat_grishMat, rmat_grishMat, rmat_grishMat, grishagin_eq]
  unfold rowS SS
  rw [gen_one_mul, gen_neg_one_mul]

theorem grishOptPoint_eq (k : ℕ) :
    Gen.grishOptPoint k = [Dy.get (Gen.grishaginRows[k - 1]!) 197, Dy.get (Gen.grishaginRows[k - 1]!) 198] := rfl

theorem grishOptValue_eq (k : ℕ) : Gen.grishOptValue k = Dy.get (Gen.grishaginRows[k - 1]!) 199 := rfl

/-- **soundness of the certificate checker**: an accepted row satisfies property C10 -/
theorem grishOK_sound {k : ℕ} (h : grishOK k = true) :
    ∃ p0 p1 : Dy, Gen.grishOptPoint k = [p0, p1] ∧
      GrishC10 (grishFn k) (dyR p0) (dyR p1) (dyR (Gen.grishOptValue k)) := by
  refine ⟨_, _, grishOptPoint_eq k, ?_⟩
  rw [grishOptValue_eq]
  have := c10_of_S (continuous_rowS _) (rowS_nonneg _) (rowOK_sound h)
  have e : grishFn k = fun x y => -Real.sqrt (rowS (Gen.grishaginRows[k - 1]!) x y) := by
    funext x y; exact grishFn_eq k x y
  rw [e]; exact this

end Grish

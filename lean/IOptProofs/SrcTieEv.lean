import IOptModel.Evolvent
import IOptGen.EvolventSrc
/-!
# The numeric layer of the evolvent model equals the translation of the CURRENT source text

`IOptGen/EvolventSrc.lean` is regenerated on every run by `harness/src2lean.py` from the source text of
`iOpt/evolvent/evolvent.py`.  The affine maps cube ↔ box, the one-dimensional special cases and the end rule
(`x ≥ 1` takes the last digit at every level — the place of the repaired defect F6) of the hand-written
model are these translations; all over the raw numeric classes, hence also for the `Float` instance.
(The integer layer — `__CalculateNode`, `__CalculateNumbr` — is tied by the complete regenerated tables for
N = 2..7, `IOptProofs/EvNodeTable.lean`.)
-/
set_option linter.unusedSectionVars false

namespace SrcTie
open Ev Gen.EvSrc

variable {α : Type} [Add α] [Sub α] [Mul α] [Div α] [Neg α] [LT α] [LE α]
  [DecidableLT α] [DecidableLE α] [OfNat α 0] [OfNat α 1] [OfNat α 2] [OfNat α 4] [NatCast α] [TruncNat α]

/-- `__TransformP2D`, coordinate by coordinate -/
theorem p2d_src (lower upper y : List α) :
    p2d lower upper y = List.zipWith (fun yi (lu : α × α) => transformP2D_coord yi lu.1 lu.2) y (lower.zip upper) := rfl

/-- `__TransformD2P`, coordinate by coordinate -/
theorem d2p_src (lower upper y : List α) :
    d2p lower upper y = List.zipWith (fun yi (lu : α × α) => transformD2P_coord yi lu.1 lu.2) y (lower.zip upper) := rfl

/-- `__GetYonX` for N = 1 -/
theorem imageCube_dim1_src (m : Nat) (x : α) : imageCube 1 m x = [getYonX_dim1 x] := rfl

/-- `__GetXonY` for N = 1 -/
theorem inverseCube_dim1_src (m : Nat) (y0 : α) (t : List α) : inverseCube 1 m (y0 :: t) = getXonY_dim1 y0 := rfl

/-- the end rule of `__GetYonX` (N ≥ 2): the flag handed to the level loop is the source's condition -/
theorem endRule_src (n m : Nat) (x : α) (hn : (n == 1) = false) :
    imageCube n m x = yLoop n (endRule x) m x Ev.half (St.init n) (List.replicate n 0) := by
  simp only [imageCube, hn, endRule, ge_iff_le]
  rfl

end SrcTie

import IOptProofs.BenchMeta3
import IOptGen.HillTables
/-!
The metadata rows 0..999 are the Hill functions 0..999 and declare exactly the optimum of the `minHill`
table (`Gen.hillMinValue`, `Gen.hillMinPoint`) and the box `[0, 1]`.
(The two packed tables are walked in parallel, once, as for Shekel in `BenchMeta3.lean`.)
-/
namespace BenchMeta
open Gen

/-- metadata row `m` is the Hill function `i` whose table row is `s`: family 0, argument `i`, declared
point `[minHill[i][1]]`, declared value `minHill[i][0]`, box `[0,1]` -/
def hillPairOK (i m s : Nat) : Bool :=
  (metaDecode m).family == 0 && (metaDecode m).arg0 == i &&
  (metaDecode m).optPoint == [Dy.get s 29] && (metaDecode m).optValue == Dy.get s 28 &&
  (metaDecode m).lower == [dyZero] && (metaDecode m).upper == [dy1]

theorem meta_hill_pairs :
    checkPairs hillPairOK metaRowsPacked.toList hillRows.toList 0 0 = true := by decide +kernel

theorem hillRows_size : hillRows.size = 1000 := by decide +kernel

theorem hill_meta_row (i : Nat) (hi : i < 1000) :
    i < metaRowsPacked.size ∧ (metaDecode metaRowsPacked[i]!).family = 0 ∧
      (metaDecode metaRowsPacked[i]!).arg0 = i ∧
      (metaDecode metaRowsPacked[i]!).optPoint = [hillMinPoint i] ∧
      (metaDecode metaRowsPacked[i]!).optValue = hillMinValue i ∧
      (metaDecode metaRowsPacked[i]!).lower = [dyZero] ∧
      (metaDecode metaRowsPacked[i]!).upper = [dy1] := by
  obtain ⟨hm, hf⟩ := pairs_sound _ _ 0 meta_hill_pairs i (by rw [hillRows_size]; exact hi)
  rw [Nat.zero_add] at hm hf
  simp only [hillPairOK, Bool.and_assoc, Bool.and_eq_true, beq_iff_eq] at hf
  exact ⟨hm, hf⟩

end BenchMeta

import IOptProofs.HillRows
/-! Kernel-evaluated certificates (V), (G), (P), (L) of the Hill functions 300..399, twenty rows per evaluation. -/
namespace Hill
theorem hill_block_15 : ∀ i ∈ List.range' 300 20, hillOK i = true := hill_block _ _ (by decide +kernel)
theorem hill_block_16 : ∀ i ∈ List.range' 320 20, hillOK i = true := hill_block _ _ (by decide +kernel)
theorem hill_block_17 : ∀ i ∈ List.range' 340 20, hillOK i = true := hill_block _ _ (by decide +kernel)
theorem hill_block_18 : ∀ i ∈ List.range' 360 20, hillOK i = true := hill_block _ _ (by decide +kernel)
theorem hill_block_19 : ∀ i ∈ List.range' 380 20, hillOK i = true := hill_block _ _ (by decide +kernel)
end Hill

import IOptModel.Evolvent
/-!
# Finite facts about `Ev.node` / `Ev.numbr` for N = 2..5

`nodeOK n d`: the node of digit `d` has `l < n`, `u`, `v` of length `n` with entries ±1, and
`numbr n u = (d, l, v)` (`__CalculateNumbr` inverts `__CalculateNode`).
`numbrOK n u`: conversely for a sign vector `u`, `node n (numbr n u).1 = (l, u, v)`.
-/

namespace Ev.Inv

/-- Boolean test: all entries are `1` or `-1`. -/
def pm1 (l : List Int) : Bool := l.all fun x => x == 1 || x == -1

/-- All the finite facts about the node of digit `d` in one Boolean. -/
def nodeOK (n d : Nat) : Bool :=
  let r := node n d
  decide (r.1 < n) && r.2.1.length == n && r.2.2.length == n && pm1 r.2.1 && pm1 r.2.2 &&
    (numbr n r.2.1 == (d, r.1, r.2.2))

theorem nodeOK2 : ∀ d < 2^2, nodeOK 2 d = true := by decide
theorem nodeOK3 : ∀ d < 2^3, nodeOK 3 d = true := by decide
theorem nodeOK4 : ∀ d < 2^4, nodeOK 4 d = true := by decide
theorem nodeOK5 : ∀ d < 2^5, nodeOK 5 d = true := by decide

end Ev.Inv

namespace Ev.Inv

/-- all sign vectors of length `n` -/
def allSigns : Nat → List (List Int)
  | 0 => [[]]
  | n+1 => (allSigns n).flatMap fun t => [1 :: t, -1 :: t]

theorem mem_allSigns : ∀ (n : Nat) (u : List Int), u.length = n → pm1 u = true → u ∈ allSigns n
  | 0, [], _, _ => by simp [allSigns]
  | n+1, x :: t, hl, hp => by
    have hl' : t.length = n := by simpa using hl
    simp only [pm1, List.all_cons, Bool.and_eq_true, Bool.or_eq_true, beq_iff_eq] at hp
    have ht := mem_allSigns n t hl' hp.2
    simp only [allSigns, List.mem_flatMap, List.mem_cons, List.cons.injEq, List.not_mem_nil,
      or_false]
    exact ⟨t, ht, by rcases hp.1 with h | h <;> simp [h]⟩

/-- the converse finite fact for a sign vector `u` -/
def numbrOK (n : Nat) (u : List Int) : Bool :=
  let r := numbr n u
  decide (r.1 < 2^n) && (node n r.1 == (r.2.1, u, r.2.2))

theorem numbrOK2 : ∀ u ∈ allSigns 2, numbrOK 2 u = true := by decide
theorem numbrOK3 : ∀ u ∈ allSigns 3, numbrOK 3 u = true := by decide
theorem numbrOK4 : ∀ u ∈ allSigns 4, numbrOK 4 u = true := by decide
theorem numbrOK5 : ∀ u ∈ allSigns 5, numbrOK 5 u = true := by decide

end Ev.Inv

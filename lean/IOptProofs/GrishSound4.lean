import IOptProofs.GrishSound3
/-!
# Grishagin checker, soundness part 4: the context of a table row represents its real coefficients (`ctxRep_mk`)
-/

namespace Grish
open Encl Finset

/-- an accepted coefficient: `scaled d = d·2^36` exactly and `|d| ≤ 1` -/
theorem coefOK_spec {d : Dy} (h : coefOK d = true) :
    ((scaled d : ℤ) : ℝ) = dyR d * 2 ^ 36 ∧ |dyR d| ≤ 1 := by
  unfold coefOK at h
  simp only [Bool.and_eq_true, beq_iff_eq, decide_eq_true_eq] at h
  obtain ⟨h1, h2⟩ := h
  have e : ((scaled d : ℤ) : ℝ) = dyR d * 2 ^ 36 := dyR_scaled h1
  refine ⟨e, ?_⟩
  have habs : |((scaled d : ℤ) : ℝ)| ≤ 2 ^ 36 := by
    rw [← natAbs_cast]
    exact (Nat.cast_le.mpr h2).trans_eq (by norm_num)
  rw [e, abs_mul, abs_of_pos (by positivity : (0 : ℝ) < 2 ^ 36)] at habs
  exact le_of_mul_le_mul_right (habs.trans_eq (one_mul _).symm) (by positivity)

theorem enc_cast {z : ℤ} (h : |(z : ℝ)| ≤ 2 ^ 40) : ((enc z : ℕ) : ℝ) = (z : ℝ) + 2 ^ 40 := by
  unfold enc
  rw [toNat_bias_cast (by rwa [BA_cast]), BA_cast]

theorem v7_get (f : ℕ → ℕ) (j : ℕ) (hj : j < 7) : (v7 f).get j = f j := by
  interval_cases j <;> rfl

theorem v7_rep {f : ℕ → ℕ} {v : ℕ → ℝ} (h : ∀ j < 7, (f j : ℝ) = v j * 2 ^ 36 + 2 ^ 40) :
    Rep (v7 f) (2 ^ 36) (2 ^ 40) v := fun j hj => by rw [v7_get f j hj]; exact h j hj

theorem mkMat_row (row ma mb : ℕ) (sg : ℤ) (i : ℕ) (hi : i < 7) :
    (mkMat row ma mb sg).row i = mkRow row ma mb sg i := by
  interval_cases i <;> rfl

theorem enc_scaled {d : Dy} (h : coefOK d = true) (c : ℤ) (hc : |(c : ℝ)| ≤ 7) :
    ((enc (c * scaled d) : ℕ) : ℝ) = (c : ℝ) * dyR d * 2 ^ 36 + 2 ^ 40 := by
  obtain ⟨e, hb⟩ := coefOK_spec h
  have : |((c * scaled d : ℤ) : ℝ)| ≤ 2 ^ 40 := by
    push_cast
    rw [e, abs_mul, abs_mul, abs_of_pos (by positivity : (0 : ℝ) < 2 ^ 36)]
    calc |(c : ℝ)| * (|dyR d| * 2 ^ 36) ≤ 7 * (1 * 2 ^ 36) :=
          mul_le_mul hc (mul_le_mul_of_nonneg_right hb (by positivity)) (by positivity) (by norm_num)
      _ ≤ 2 ^ 40 := by norm_num
  rw [enc_cast this]
  push_cast
  rw [e]; ring

theorem mkMat_rep (row ma mb : ℕ) (sg : ℤ) (hsg : |(sg : ℝ)| = 1)
    (hok : ∀ i < 7, ∀ j < 7, coefOK (ent row ma i j) = true ∧ coefOK (ent row mb i j) = true) :
    MatRep (mkMat row ma mb sg) (fun i j => dyR (ent row ma i j)) (fun i j => (sg : ℝ) * dyR (ent row mb i j)) := by
  have c1 : |((1 : ℤ) : ℝ)| ≤ 7 := by norm_num
  have csg : |(sg : ℝ)| ≤ 7 := by rw [hsg]; norm_num
  have cj : ∀ j < 7, |(((j + 1 : ℕ) : ℤ) : ℝ)| ≤ 7 := fun j hj => by
    push_cast
    rw [abs_of_nonneg (by positivity)]
    have : ((j : ℝ)) ≤ 6 := by exact_mod_cast (by omega : j ≤ 6)
    linarith
  have cjs : ∀ j < 7, |((((j + 1 : ℕ) : ℤ) * sg : ℤ) : ℝ)| ≤ 7 := fun j hj => by
    have := cj j hj
    push_cast at this ⊢
    rw [abs_mul, hsg, mul_one]; exact this
  constructor
  case al =>
    intro i hi
    rw [mkMat_row _ _ _ _ i hi]
    exact v7_rep fun j hj => by simpa using enc_scaled (hok i hi j hj).1 1 c1
  case be =>
    intro i hi
    rw [mkMat_row _ _ _ _ i hi]
    exact v7_rep fun j hj => enc_scaled (hok i hi j hj).2 sg csg
  case lal =>
    intro i hi
    rw [mkMat_row _ _ _ _ i hi]
    exact v7_rep fun j hj => by rw [enc_scaled (hok i hi j hj).1 ((j + 1 : ℕ) : ℤ) (cj j hj)]; push_cast; ring
  case lbe =>
    intro i hi
    rw [mkMat_row _ _ _ _ i hi]
    exact v7_rep fun j hj => by
      rw [← mul_assoc, enc_scaled (hok i hi j hj).2 (((j + 1 : ℕ) : ℤ) * sg) (cjs j hj)]; push_cast; ring
  case ha =>
    intro i hi j hj
    exact (coefOK_spec (hok i hi j hj).1).2
  case hb =>
    intro i hi j hj
    rw [abs_mul, hsg, one_mul]
    exact (coefOK_spec (hok i hi j hj).2).2

theorem foldl_range_add (f : ℕ → ℕ) (n a : ℕ) :
    (List.range n).foldl (fun acc i => acc + f i) a = a + ∑ i ∈ range n, f i := by
  induction n with
  | zero => simp
  | succ n ih => rw [List.range_succ, List.foldl_append, ih, sum_range_succ]; simp [Nat.add_assoc]

theorem wSum_eq (row ma mb : ℕ) :
    wSum row ma mb = ∑ i ∈ range 7, ∑ j ∈ range 7,
      (i + j + 2) * (i + j + 2) * ((scaled (ent row ma i j)).natAbs + (scaled (ent row mb i j)).natAbs) := by
  unfold wSum
  have inner : ∀ (i acc : ℕ), (List.range 7).foldl (fun acc j =>
      acc + (i + j + 2) * (i + j + 2) * ((scaled (ent row ma i j)).natAbs + (scaled (ent row mb i j)).natAbs)) acc
      = acc + ∑ j ∈ range 7,
        (i + j + 2) * (i + j + 2) * ((scaled (ent row ma i j)).natAbs + (scaled (ent row mb i j)).natAbs) :=
    fun i acc => foldl_range_add _ 7 acc
  simp only [inner]
  rw [foldl_range_add, Nat.zero_add]

/-- `wSum·2^127` is `2^164` times the second-derivative constant `wq` -/
theorem wSum_spec (row ma mb : ℕ) (sg : ℤ) (hsg : |(sg : ℝ)| = 1)
    (hok : ∀ i < 7, ∀ j < 7, coefOK (ent row ma i j) = true ∧ coefOK (ent row mb i j) = true) :
    wq (coAB (fun i j => dyR (ent row ma i j)) (fun i j => (sg : ℝ) * dyR (ent row mb i j)))
      = ((Nat.shiftLeft (wSum row ma mb) 127 : ℕ) : ℝ) / 2 ^ 164 := by
  rw [wq_eq, shl_cast, wSum_eq]
  simp only [div_eq_mul_inv, Nat.cast_sum, sum_mul]
  refine sum_congr rfl fun i hi => sum_congr rfl fun j hj => ?_
  obtain ⟨ha, hb⟩ := hok i (mem_range.mp hi) j (mem_range.mp hj)
  have na : ((scaled (ent row ma i j)).natAbs : ℝ) = |dyR (ent row ma i j)| * 2 ^ 36 := by
    rw [natAbs_cast, (coefOK_spec ha).1, abs_mul, abs_of_pos (by positivity : (0 : ℝ) < 2 ^ 36)]
  have nb : ((scaled (ent row mb i j)).natAbs : ℝ) = |dyR (ent row mb i j)| * 2 ^ 36 := by
    rw [natAbs_cast, (coefOK_spec hb).1, abs_mul, abs_of_pos (by positivity : (0 : ℝ) < 2 ^ 36)]
  push_cast
  rw [na, nb]
  simp only [coAB, Pi.zero_apply, abs_zero, abs_mul, hsg]
  ring

/-- entry `(i, j)` of the real coefficient matrix `mat` (0 = af, 1 = bf, 2 = cf, 3 = df) of a packed table row -/
noncomputable def cA (row mat : ℕ) (i j : ℕ) : ℝ := dyR (ent row mat i j)

theorem allCoefOK_spec {row : ℕ} (h : allCoefOK row = true) (mat i j : ℕ) (hm : mat < 4) (hi : i < 7) (hj : j < 7) :
    coefOK (ent row mat i j) = true := by
  unfold allCoefOK at h
  rw [List.all_eq_true] at h
  have := h (49 * mat + 7 * i + j) (List.mem_range.mpr (by omega))
  unfold ent
  have e : 1 + 49 * mat + 7 * i + j = 1 + (49 * mat + 7 * i + j) := by omega
  rw [e]; exact this

/-- the context of a row whose entries pass `allCoefOK` represents `d1 = Σ af ss + bf cc` and `d2 = Σ cf ss - df cc`; the
signs appear as the integer factors `1`, `-1` that `mkCtx` hands to `mkMat` -/
theorem ctxRep_mk {row : ℕ} (h : allCoefOK row = true) (wx wy : ℕ) :
    CtxRep (mkCtx row wx wy) (cA row 0) (fun i j => ((1 : ℤ) : ℝ) * cA row 1 i j)
      (cA row 2) (fun i j => ((-1 : ℤ) : ℝ) * cA row 3 i j) := by
  have ok01 : ∀ i < 7, ∀ j < 7, coefOK (ent row 0 i j) = true ∧ coefOK (ent row 1 i j) = true :=
    fun i hi j hj => ⟨allCoefOK_spec h 0 i j (by norm_num) hi hj, allCoefOK_spec h 1 i j (by norm_num) hi hj⟩
  have ok23 : ∀ i < 7, ∀ j < 7, coefOK (ent row 2 i j) = true ∧ coefOK (ent row 3 i j) = true :=
    fun i hi j hj => ⟨allCoefOK_spec h 2 i j (by norm_num) hi hj, allCoefOK_spec h 3 i j (by norm_num) hi hj⟩
  have s1 : |((1 : ℤ) : ℝ)| = 1 := by norm_num
  have s2 : |((-1 : ℤ) : ℝ)| = 1 := by norm_num
  exact ⟨mkMat_rep row 0 1 1 s1 ok01, mkMat_rep row 2 3 (-1) s2 ok23,
    (wSum_spec row 0 1 1 s1 ok01).le, (wSum_spec row 2 3 (-1) s2 ok23).le⟩

end Grish

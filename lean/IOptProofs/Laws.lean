import IOptModel.Arith
import Mathlib.Algebra.Order.Field.Basic
import Mathlib.Algebra.Order.AbsoluteValue.Basic
import Mathlib.Analysis.SpecialFunctions.Pow.Real
/-!
# Laws of the library functions (`Fns`) that proofs about the model may assume

The model is generic over a numeric type `α` with `[Fns α]`; the proofs reason over a linearly
ordered field and use only the laws collected in `FnsLaws` (all true of the real-number functions).
-/

structure FnsLaws (α : Type) [Field α] [LinearOrder α] [IsStrictOrderedRing α] [Fns α] : Prop where
  abs_eq : ∀ x : α, Fns.abs x = |x|
  powN_eq : ∀ (x : α) (n : Nat), Fns.powN x n = x ^ n
  root_nonneg : ∀ (x : α) (n : Nat), 0 ≤ x → 0 ≤ Fns.root x n
  root_pow : ∀ (x : α) (n : Nat), 0 < n → 0 ≤ x → (Fns.root x n) ^ n = x

namespace FnsLaws
variable {α : Type} [Field α] [LinearOrder α] [IsStrictOrderedRing α] [Fns α]

theorem root_pos (h : FnsLaws α) {x : α} {n : Nat} (hn : 0 < n) (hx : 0 < x) : 0 < Fns.root x n := by
  rcases (h.root_nonneg x n hx.le).lt_or_eq with h0 | h0
  · exact h0
  · exfalso
    have hp := h.root_pow x n hn hx.le
    rw [← h0, zero_pow (by omega)] at hp
    exact absurd hp hx.ne

theorem root_one (h : FnsLaws α) {x : α} (hx : 0 ≤ x) : Fns.root x 1 = x := by
  have := h.root_pow x 1 (by omega) hx
  simpa using this

end FnsLaws

/-- `big := 0` is a placeholder: ℝ has no largest number, and `FnsLaws` asks nothing of `big` because no proof needs
its value (it is the `z` of the two never-evaluated end points; these are never neighbours, and `calcR` of an
interval with one evaluated end reads the `z` of that end only). -/
@[reducible] noncomputable def Fns.real : Fns ℝ where
  abs x := |x|
  root x n := x ^ ((1 : ℝ) / n)
  powN x n := x ^ n
  big := 0

/-- Non-vacuity: the real-number functions satisfy all the laws. -/
theorem FnsLaws.real : @FnsLaws ℝ _ _ _ Fns.real :=
  letI := Fns.real
  { abs_eq := fun _ => rfl
    powN_eq := fun _ _ => rfl
    root_nonneg := fun x n hx => Real.rpow_nonneg hx _
    root_pow := fun x n hn hx => by
      show (x ^ ((1 : ℝ) / n)) ^ n = x
      rw [one_div]
      exact Real.rpow_inv_natCast_pow hx (by omega) }

/-- `root x _ := x` satisfies the laws for `n = 1` only; used for the executable non-vacuity examples, which
have `p.n = 1`. -/
@[reducible] def Fns.rat1 : Fns ℚ where
  abs x := |x|
  root x _ := x
  powN x n := x ^ n
  big := 0

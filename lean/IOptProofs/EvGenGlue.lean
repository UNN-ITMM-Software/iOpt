import IOptProofs.EvGenNode
/-!
# Evolvent for every dimension: the corners of consecutive cells (raw form, before the swap)

With `(l, u, v) = node n d` write `δ i j = if i = j then -1 else 1` and

* entry corner of child `d` : `v`,
* exit corner of child `d`  : `E_j = δ j l · v_j`.

Closed form (`n ≥ 2`, `corner_low`): the curve leaves child `d` towards child `d+1`, so the exit corner is determined by the
lowest ZERO bit of `d`, and the entry corner by the lowest ONE bit: with `c` the position of that bit, the corner is `u_j · F_j`,
`F_j = δ j c`, times `δ j (n-1)` unless `c = n-1`.  (For bits `p b (!b)^(k+1)`, where `l = c = |p|`, this is read off the closed form
of `node`: `corner_boundary`; what is left are last bits, with the two constant digits.)
Consecutive digits `d`, `d+1` have `u` vectors that differ exactly at the position `c` of the lowest zero bit of `d` (`gray_succ`),
which is the lowest one bit of `d+1`: exit corner of `d` and entry corner of `d+1` are `u(d)·F`, `u(d+1)·F` with the same `F`,
`F c = -1`.  Together: `raw_glue`.
-/

namespace Ev.All

def dl (i j : Nat) : Int := if i = j then -1 else 1

@[simp] theorem dl_self (i : Nat) : dl i i = -1 := by simp [dl]
theorem dl_ne {i j : Nat} (h : i ≠ j) : dl i j = 1 := by simp [dl, h]
theorem dl_sq (i j : Nat) : dl i j * dl i j = 1 := by unfold dl; split <;> rfl

theorem getI_mid (A B : List Int) (s : Int) : getI (A ++ s :: B) A.length = s := by
  simp [getI]

theorem getI_mid_ne (A B : List Int) (s t : Int) {j : Nat} (h : j ≠ A.length) :
    getI (A ++ s :: B) j = getI (A ++ t :: B) j := by
  unfold getI List.getD
  rcases Nat.lt_or_gt_of_ne h with h | h
  · rw [List.getElem?_append_left h, List.getElem?_append_left h]
  · rw [List.getElem?_append_right (Nat.le_of_lt h), List.getElem?_append_right (Nat.le_of_lt h)]
    obtain ⟨m, hm⟩ : ∃ m, j - A.length = m + 1 := ⟨j - A.length - 1, by omega⟩
    rw [hm]; rfl

theorem getI_set_set {a : List Int} {i j k : Nat} (x y : Int) (hj : j < a.length) (hk : k < a.length)
    (hjk : j ≠ k) :
    getI ((a.set j x).set k y) i = if i = k then y else if i = j then x else getI a i := by
  by_cases h1 : i = k
  · subst h1; rw [if_pos rfl, getI_set_eq _ (by simpa using hk)]
  · rw [if_neg h1, getI_set_ne _ h1]
    by_cases h2 : i = j
    · subst h2; rw [if_pos rfl, getI_set_eq _ hj]
    · rw [if_neg h2, getI_set_ne _ h2]

theorem boundary_last {p q : List Bool} {b c : Bool} {k : Nat}
    (h : p ++ b :: List.replicate (k+1) (!b) = q ++ [c]) : c = !b := by
  rw [List.replicate_succ', ← List.cons_append, ← List.append_assoc] at h
  have := (List.append_inj' h rfl).2
  simpa using this.symm

/-- bits `p b (!b)^(k+1)`: `l = |p|`; `v` is `u` reflected in the last coordinate and, if `b = 1`, in coordinate `l` -/
theorem corner_boundary {n d : Nat} (hd : d < 2^n) {p : List Bool} {b : Bool} {k : Nat}
    (hb : bitsM n d = p ++ b :: List.replicate (k+1) (!b)) {j : Nat} (hj : j < n) :
    (node n d).1 = p.length ∧ (if b then 1 else dl j p.length) * getI (node n d).2.2 j =
      getI (node n d).2.1 j * (dl j p.length * dl j (n-1)) := by
  obtain ⟨hnode, hlen, -, -⟩ := node_boundary hd hb
  have hgl : (gray (-1) (bitsM n d)).length = n := by rw [length_gray, length_bitsM]
  rw [hnode]; simp only
  rw [getI_set_set _ _ (by omega) (by omega) (by omega)]
  refine ⟨trivial, ?_⟩
  -- the two updates of `u` are at `p.length` (by `-sg b`) and at `n-1` (by `-1`)
  by_cases h1 : j = n - 1
  · subst h1; rw [if_pos rfl, dl_ne (by omega), dl_self]; cases b <;> simp
  · rw [if_neg h1, dl_ne h1]
    by_cases h2 : j = p.length
    · subst h2; rw [if_pos rfl, dl_self]; cases b <;> simp
    · rw [if_neg h2, dl_ne h2]; cases b <;> simp

/-- **the corners**: the exit corner of child `d` (`b = 0`) is determined by the lowest zero bit of `d`, the entry corner
(`b = 1`) by the lowest one bit: with `c` its position, the corner is `u` reflected in coordinate `c` and, unless `c = n-1`, in
the last coordinate -/
theorem corner_low {n d : Nat} (hn : 2 ≤ n) (hd : d < 2^n) {p : List Bool} {b : Bool} {k : Nat}
    (hb : bitsM n d = p ++ b :: List.replicate k (!b)) {j : Nat} (hj : j < n) :
    (if b then 1 else dl j (node n d).1) * getI (node n d).2.2 j =
      getI (node n d).2.1 j * (dl j p.length * if k = 0 then 1 else dl j (n-1)) := by
  cases k with
  | succ k =>
    obtain ⟨hl, h⟩ := corner_boundary hd hb hj
    rw [hl, if_neg (Nat.succ_ne_zero k)]; exact h
  | zero =>
    have hp : p.length = n - 1 := by
      have := congrArg List.length hb
      simp at this; omega
    rw [if_pos rfl, Int.mul_one, hp]
    rcases digit_cases hd with rfl | rfl | ⟨p', b', k', e⟩
    · have hc : b = false := by
        have : b ∈ List.replicate n false := by rw [← bitsM_zero, hb]; simp
        exact List.eq_of_mem_replicate this
      subst hc
      rw [node_zero]; simp only
      rw [getI_replicate hj, Int.mul_comm]; rfl
    · have hc : b = true := by
        have : b ∈ List.replicate n true := by rw [← bitsM_last, hb]; simp
        exact List.eq_of_mem_replicate this
      subst hc
      rw [node_last (by omega), if_pos rfl, Int.one_mul]; simp only
      by_cases h1 : j = n - 1
      · subst h1
        rw [getI_set_eq _ (by simp), dl_self]
        obtain ⟨m, rfl⟩ : ∃ m, n = m + 2 := ⟨n - 2, by omega⟩
        show (1 : Int) = getI ((1 : Int) :: List.replicate (m+1) (-1)) (m+1) * -1
        rw [getI_cons_succ, getI_replicate (by omega)]; rfl
      · rw [getI_set_ne _ h1, dl_ne h1, Int.mul_one]
    · -- the last bit is `!b'`: the other corner of the boundary form
      obtain ⟨hl, h⟩ := corner_boundary hd e hj
      have hc : b = !b' := boundary_last (e.symm.trans hb)
      subst hc
      rw [hl]
      have hsq := dl_sq j p'.length
      cases b'
      · simp only [Bool.not_false, Bool.false_eq_true, reduceIte, Int.one_mul] at h ⊢
        rw [← Int.one_mul (getI (node n d).2.2 j), ← hsq, Int.mul_assoc, h, Int.mul_left_comm,
          ← Int.mul_assoc (dl j p'.length), hsq, Int.one_mul]
      · simp only [Bool.not_true, Bool.false_eq_true, reduceIte, Int.one_mul] at h ⊢
        rw [h, Int.mul_left_comm, ← Int.mul_assoc (dl j p'.length), hsq, Int.one_mul]

theorem bitsM_succ {n d : Nat} {p : List Bool} {k : Nat}
    (hb : bitsM n d = p ++ false :: List.replicate k true) (hd : d + 1 < 2^n) :
    bitsM n (d+1) = p ++ true :: List.replicate k false := by
  have hlen : (p ++ true :: List.replicate k false).length = n := by
    have := congrArg List.length hb
    simp at this ⊢; omega
  rw [bitsM_eq_iff hd hlen, ← valM_succ, ← hb, valM_bitsM n d (by omega)]

/-- **gluing, raw form**: consecutive digits `d`, `d+1` differ in exactly one coordinate `c` of `u`; the exit
corner of `d` and the entry corner of `d+1` agree off `c` and point at each other on `c`. -/
theorem raw_glue {n d : Nat} (hn : 2 ≤ n) (hd : d + 1 < 2^n) : ∃ c, c < n ∧
    getI (node n d).2.1 c ≠ getI (node n (d+1)).2.1 c ∧
    dl c (node n d).1 * getI (node n d).2.2 c = getI (node n (d+1)).2.1 c ∧
    getI (node n (d+1)).2.2 c = getI (node n d).2.1 c ∧
    ∀ j, j < n → j ≠ c →
      getI (node n d).2.1 j = getI (node n (d+1)).2.1 j ∧
      dl j (node n d).1 * getI (node n d).2.2 j = getI (node n (d+1)).2.2 j := by
  have hd0 : d < 2^n := by omega
  have hlen := length_bitsM n d
  have hnt : bitsM n d ≠ List.replicate (bitsM n d).length true := by
    rw [hlen]; intro e
    have := (bitsM_eq_true_iff hd0).1 e; omega
  obtain ⟨p, k, hb⟩ : ∃ p k, bitsM n d = p ++ false :: List.replicate k true :=
    exists_last false _ hnt
  have hb1 := bitsM_succ hb hd
  have hn' : n = p.length + 1 + k := by
    have := congrArg List.length hb
    simp at this; omega
  -- `u` changes sign at `c = p.length` and nowhere else
  have hu : ∀ j, getI (node n (d+1)).2.1 j = dl j p.length * getI (node n d).2.1 j := by
    intro j
    obtain ⟨B, s, g0, g1⟩ := gray_succ p k
    rw [node_u (by omega) hd0, node_u (by omega) hd, hb, hb1, g0, g1, ← length_gray (-1) p]
    by_cases hj : j = (gray (-1) p).length
    · rw [hj, getI_mid, getI_mid, dl_self, Int.neg_one_mul]
    · rw [getI_mid_ne _ _ _ s hj, dl_ne hj, Int.one_mul]
  have hc : p.length < n := by omega
  have hs := signVec_getI (node_shape (Nat.le_of_succ_le hn) d).2.1 hc
  -- the exit corner of `d` is `u(d)·F` and the entry corner of `d+1` is `u(d+1)·F`, with the same `F` and `F c = -1`
  have hX := fun j (hj : j < n) => corner_low hn hd0 (b := false) hb hj
  have hE := fun j (hj : j < n) => corner_low hn hd (b := true) hb1 hj
  simp only [if_true, Bool.false_eq_true, if_false, Int.one_mul] at hX hE
  have hF : dl p.length p.length * (if k = 0 then 1 else dl p.length (n-1)) = -1 := by
    rw [dl_self]; split
    · rfl
    · rw [dl_ne (by omega)]; rfl
  refine ⟨p.length, hc, ?_, ?_, ?_, fun j hj hjc => ⟨?_, ?_⟩⟩
  · rw [hu, dl_self]; rcases hs with h | h <;> rw [h] <;> decide
  · rw [hX _ hc, hF, hu, dl_self, Int.mul_comm]
  · rw [hE _ hc, hF, hu, dl_self]; omega
  · rw [hu, dl_ne hjc, Int.one_mul]
  · rw [hX j hj, hE j hj, hu, dl_ne hjc, Int.one_mul, Int.one_mul]

theorem node_zero_u {n j : Nat} (hj : j < n) : getI (node n 0).2.1 j = -1 := by
  rw [node_zero]; exact getI_replicate hj

theorem node_zero_v {n j : Nat} (hj : j < n) : getI (node n 0).2.2 j = -1 := by
  rw [node_zero]; exact getI_replicate hj

theorem node_last_u {n j : Nat} (hn : 1 ≤ n) (hj : j < n) :
    getI (node n (2^n-1)).2.1 j = if j = 0 then 1 else -1 := by
  rw [node_last hn]; simp only
  cases j with
  | zero => rfl
  | succ j => rw [getI_cons_succ, getI_replicate (by omega), if_neg (by omega)]

/-- the last digit ends in its own corner `u`: `l = n-1` -/
theorem node_last_exit {n j : Nat} (hn : 2 ≤ n) (hj : j < n) :
    dl j (node n (2^n-1)).1 * getI (node n (2^n-1)).2.2 j = getI (node n (2^n-1)).2.1 j := by
  have hu := node_last_u (n := n) (j := n - 1) (by omega) (by omega)
  rw [node_last (by omega)] at hu ⊢
  simp only at hu ⊢
  by_cases h1 : j = n - 1
  · subst h1; rw [getI_set_eq _ (by simp), dl_self, hu, if_neg (by omega)]; rfl
  · rw [getI_set_ne _ h1, dl_ne h1, Int.one_mul]

end Ev.All

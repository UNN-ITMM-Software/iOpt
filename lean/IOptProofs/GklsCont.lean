import IOptProofs.GklsMain
import Mathlib.Topology.LocallyFinite
import Mathlib.Topology.Algebra.Order.Field
import Mathlib.Topology.Order.OrderClosed
/-!
# GKLS: points on the spheres, the quadratic bound at the centres, continuity of the ideal function

* `exists_on_sphere`: every sphere `‖x - M_i‖ = ρ_i` contains a point of the box (non-vacuity of the splice).
* `cubicVal_sub_le`: `|cubic - f_i| ≤ C_i ‖x - M_i‖²` in ball `i`, the centre included.
* `ideal_continuousOn`: the function with guard threshold `0` (`constsP 0`) is continuous on the box.
-/

namespace Gkls
open Prob

def segPt (c : ℝ) (m t : List ℝ) : List ℝ := List.zipWith (fun a b => a + c * (b - a)) m t

theorem sqDist_segPt (c : ℝ) (m t : List ℝ) : sqDist (segPt c m t) m = c ^ 2 * sqDist t m := by
  induction m generalizing t with
  | nil => simp [segPt]
  | cons a m ih =>
    cases t with
    | nil => simp [segPt]
    | cons b t =>
      have := ih t
      simp only [segPt] at this ⊢
      simp only [List.zipWith_cons_cons, sqDist_cons, this]
      ring

theorem segment_mem {c a b : ℝ} (hc0 : 0 ≤ c) (hc1 : c ≤ 1) (ha : -1 ≤ a ∧ a ≤ 1) (hb : -1 ≤ b ∧ b ≤ 1) :
    -1 ≤ a + c * (b - a) ∧ a + c * (b - a) ≤ 1 := by
  have h1 : 0 ≤ 1 - c := sub_nonneg.mpr hc1
  constructor
  · linarith [mul_le_mul_of_nonneg_left ha.1 h1, mul_le_mul_of_nonneg_left hb.1 hc0]
  · linarith [mul_le_mul_of_nonneg_left ha.2 h1, mul_le_mul_of_nonneg_left hb.2 hc0]

theorem segPt_inBox (c : ℝ) (hc0 : 0 ≤ c) (hc1 : c ≤ 1) (m t : List ℝ) (hm : InBox m) (ht : InBox t) :
    InBox (segPt c m t) := by
  intro z hz
  rw [segPt, ← List.map_uncurry_zip_eq_zipWith, List.mem_map] at hz
  obtain ⟨⟨a, b⟩, hab, rfl⟩ := hz
  obtain ⟨ha, hb⟩ := List.of_mem_zip hab
  exact segment_mem hc0 hc1 (hm a ha) (ht b hb)

/-- the point is taken on the segment from `M_i` towards `T` -/
theorem exists_on_sphere {D : GklsData ℝ} (hD : Good D) (i : Nat) (h1i : 1 ≤ i) (hi : i < 10) :
    ∃ x : List ℝ, x.length = D.dim ∧ InBox x ∧ dist x (Mi D i) = rhoi D i := by
  have hρ := hD.rho_pos i hi
  have hlt := vertex_outside hD i h1i hi
  have hd : 0 < dist (Mi D 0) (Mi D i) := lt_trans hρ hlt
  refine ⟨segPt (rhoi D i / dist (Mi D 0) (Mi D i)) (Mi D i) (Mi D 0), ?_, ?_, ?_⟩
  · simp [segPt, hD.len_M i hi, hD.len_M 0 (by omega)]
  · exact segPt_inBox _ (by positivity) ((div_le_one hd).mpr hlt.le) _ _ (Mi_inBox hD i hi)
      (Mi_inBox hD 0 (by omega))
  · unfold dist
    rw [sqDist_segPt, Real.sqrt_mul (sq_nonneg _), Real.sqrt_sq (by positivity)]
    exact div_mul_cancel₀ _ hd.ne'

theorem abs_convex_le {u P Q B : ℝ} (hu0 : 0 ≤ u) (hu1 : u ≤ 1) (hP : |P| ≤ B) (hQ : |Q| ≤ B) :
    |(1 - u) * P + u * Q| ≤ B := by
  have h1 : 0 ≤ 1 - u := sub_nonneg.mpr hu1
  calc |(1 - u) * P + u * Q| ≤ (1 - u) * |P| + u * |Q| := by
        refine (abs_add_le _ _).trans_eq ?_
        rw [abs_mul, abs_mul, abs_of_nonneg h1, abs_of_nonneg hu0]
    _ ≤ (1 - u) * B + u * B := add_le_add (mul_le_mul_of_nonneg_left hP h1) (mul_le_mul_of_nonneg_left hQ hu0)
    _ = B := by ring

/-- both brackets `P`, `Q` of `cubic_sub` are bounded by `ρ² + 4e + 3|a|` when `|x| ≤ e` -/
theorem brackets_abs_le (ρ a x e : ℝ) (hx : |x| ≤ e) :
    |ρ ^ 2 + 3 * a - 4 * x| ≤ ρ ^ 2 + 4 * e + 3 * |a| ∧ |ρ ^ 2 + a - 2 * x| ≤ ρ ^ 2 + 4 * e + 3 * |a| := by
  obtain ⟨hx1, hx2⟩ := abs_le.mp hx
  have ha1 := neg_abs_le a
  have ha2 := le_abs_self a
  have hρ := sq_nonneg ρ
  exact ⟨abs_le.mpr ⟨by linarith, by linarith⟩, abs_le.mpr ⟨by linarith, by linarith⟩⟩

theorem cubic_abs_le (ρ a s t d f : ℝ) (hρ : 0 < ρ) (ht : 0 < t) (htρ : t ≤ ρ) (hs : |s| ≤ t * d) :
    |cubic ρ a s t f - f| ≤ (ρ ^ 2 + 4 * d * ρ + 3 * |a|) / ρ ^ 2 * t ^ 2 := by
  obtain ⟨hP, hQ⟩ := brackets_abs_le ρ a (s / t * ρ) (d * ρ) (abs_quot_mul_le hρ ht hs)
  have hu : 0 ≤ t * t / (ρ * ρ) := (div_pos (mul_pos ht ht) (mul_pos hρ hρ)).le
  rw [cubic_sub ρ a s t f hρ ht, abs_mul, abs_of_nonneg hu]
  refine (mul_le_mul_of_nonneg_left
    (abs_convex_le (div_pos ht hρ).le ((div_le_one hρ).mpr htρ) hP hQ) hu).trans_eq ?_
  ring

noncomputable def quadC (D : GklsData ℝ) (i : Nat) : ℝ :=
  (rhoi D i ^ 2 + 4 * dist (Mi D 0) (Mi D i) * rhoi D i + 3 * |cubA D i|) / rhoi D i ^ 2

/-- the bound holds at the centre too: there the expression evaluates to `f_i` because `0/0 = 0` -/
theorem cubicVal_sub_le {D : GklsData ℝ} (hD : Good D) (x : List ℝ) (hx : x.length = D.dim) (i : Nat)
    (_h1i : 1 ≤ i) (hi : i < 10) (hin : dist x (Mi D i) ≤ rhoi D i) :
    |cubicVal D i x - fi D i| ≤ quadC D i * dist x (Mi D i) ^ 2 := by
  rcases (dist_nonneg x (Mi D i)).eq_or_lt with h0 | hpos
  · rw [cubicVal_eq, ← h0]
    simp [cubic]
  · rw [cubicVal_eq]
    exact cubic_abs_le (rhoi D i) (cubA D i) (dotFrom (Mi D i) x (Mi D 0)) (dist x (Mi D i))
      (dist (Mi D 0) (Mi D i)) (fi D i) (hD.rho_pos i hi) hpos hin (abs_scal_le hD x hx i hi)

section cont

theorem continuous_sqDist_ofFn {n : Nat} {m : List ℝ} (hm : m.length = n) :
    Continuous fun v : Fin n → ℝ => sqDist (List.ofFn v) m := by
  obtain ⟨w, rfl⟩ := exists_ofFn hm
  simp only [sqDist_ofFn]
  exact continuous_finsetSum _ fun j _ =>
    ((continuous_apply j).sub continuous_const).mul ((continuous_apply j).sub continuous_const)

theorem continuous_dist_ofFn {n : Nat} {m : List ℝ} (hm : m.length = n) :
    Continuous fun v : Fin n → ℝ => dist (List.ofFn v) m :=
  Real.continuous_sqrt.comp (continuous_sqDist_ofFn hm)

def boxSet (n : Nat) : Set (Fin n → ℝ) := {v | ∀ j, -1 ≤ v j ∧ v j ≤ 1}

theorem isClosed_boxSet (n : Nat) : IsClosed (boxSet n) := by
  unfold boxSet
  simp only [Set.ofPred_forall]
  exact isClosed_iInter fun j =>
    (isClosed_le continuous_const (continuous_apply j)).inter (isClosed_le (continuous_apply j) continuous_const)

theorem inBox_ofFn {n : Nat} {v : Fin n → ℝ} (hv : v ∈ boxSet n) : InBox (List.ofFn v) := by
  intro c hc
  rw [List.mem_ofFn] at hc
  obtain ⟨j, rfl⟩ := hc
  exact hv j

def outsideSet (D : GklsData ℝ) : Set (Fin D.dim → ℝ) :=
  boxSet D.dim ∩ {v | ∀ i, 1 ≤ i → i < 10 → rhoi D i ≤ dist (List.ofFn v) (Mi D i)}

def ballSet (D : GklsData ℝ) (i : Nat) : Set (Fin D.dim → ℝ) :=
  boxSet D.dim ∩ {v | dist (List.ofFn v) (Mi D i) ≤ rhoi D i}

variable {D : GklsData ℝ} (hD : Good D)
include hD

theorem isClosed_outsideSet : IsClosed (outsideSet D) := by
  refine (isClosed_boxSet _).inter ?_
  simp only [Set.ofPred_forall]
  exact isClosed_iInter fun i => isClosed_iInter fun _ => isClosed_iInter fun hi =>
    isClosed_le continuous_const (continuous_dist_ofFn (hD.len_M i hi))

theorem isClosed_ballSet (i : Nat) (hi : i < 10) : IsClosed (ballSet D i) :=
  (isClosed_boxSet _).inter (isClosed_le (continuous_dist_ofFn (hD.len_M i hi)) continuous_const)

theorem ideal_in_ball (x : List ℝ) (hx : x.length = D.dim) (hbox : InBox x) (i : Nat) (h1i : 1 ≤ i)
    (hi : i < 10) (hin : dist x (Mi D i) ≤ rhoi D i) : gkls (constsP 0) D x = cubicVal D i x := by
  rw [value_insideP hD 0 x hx (hbox.inDomainP le_rfl) i h1i hi hin, if_neg (not_lt.mpr (dist_nonneg _ _))]

/-- the ideal function is the paraboloid outside the open balls: on a sphere by the splice -/
theorem ideal_outside (x : List ℝ) (hx : x.length = D.dim) (hbox : InBox x)
    (hout : ∀ i, 1 ≤ i → i < 10 → rhoi D i ≤ dist x (Mi D i)) :
    gkls (constsP 0) D x = dist x (Mi D 0) ^ 2 + fi D 0 := by
  rcases in_ball_or_outside D x with ⟨i, h1i, hi, hin⟩ | hstrict
  · rw [ideal_in_ball hD x hx hbox i h1i hi hin]
    exact cubicVal_on_sphere hD x hx i hi (le_antisymm hin (hout i h1i hi))
  · exact paraboloid_outsideP hD 0 x (hbox.inDomainP le_rfl) hstrict

theorem continuous_scal_ofFn (i : Nat) (hi : i < 10) :
    Continuous fun v : Fin D.dim → ℝ => dotFrom (Mi D i) (List.ofFn v) (Mi D 0) := by
  obtain ⟨w, hw⟩ := exists_ofFn (hD.len_M i hi)
  obtain ⟨t, ht⟩ := exists_ofFn (hD.len_M 0 (by omega))
  simp only [hw, ht, dotFrom_ofFn]
  exact continuous_finsetSum _ fun j _ => ((continuous_apply j).sub continuous_const).mul continuous_const

/-- the cubic branch of ball `i` is continuous everywhere, the centre included (`cubic_eq_poly`) -/
theorem cubicVal_continuous (i : Nat) (hi : i < 10) :
    Continuous fun v : Fin D.dim → ℝ => cubicVal D i (List.ofFn v) := by
  have hs := continuous_scal_ofFn hD i hi
  have ht := continuous_dist_ofFn (hD.len_M i hi)
  simp only [cubicVal_eq, cubic_eq_poly]
  exact ((((((continuous_const.mul hs).mul (ht.pow 2)).div_const _).sub
    ((continuous_const.mul (ht.pow 3)).div_const _)).add (ht.pow 2)).sub
    (((continuous_const.mul hs).mul ht).div_const _)).add
    ((continuous_const.mul (ht.pow 2)).div_const _) |>.add continuous_const

/-- **Continuity of the ideal GKLS function** (guard threshold `0`) on the box `[-1,1]^n`: the box is covered by
ten closed pieces, on each of which the function is a continuous expression -/
theorem ideal_continuousOn :
    ContinuousOn (fun v : Fin D.dim → ℝ => gkls (constsP 0) D (List.ofFn v)) (boxSet D.dim) := by
  have hlen : ∀ v : Fin D.dim → ℝ, (List.ofFn v).length = D.dim := fun v => List.length_ofFn
  have hc0 : ContinuousOn (fun v : Fin D.dim → ℝ => gkls (constsP 0) D (List.ofFn v)) (outsideSet D) :=
    (((continuous_dist_ofFn (hD.len_M 0 (by omega))).pow 2).add continuous_const).continuousOn.congr
      fun v hv => ideal_outside hD _ (hlen v) (inBox_ofFn hv.1) hv.2
  have hcb : ∀ i : Set.Ico 1 10, ContinuousOn (fun v : Fin D.dim → ℝ => gkls (constsP 0) D (List.ofFn v))
      (ballSet D i) := fun i =>
    (cubicVal_continuous hD i i.2.2).continuousOn.congr
      fun v hv => ideal_in_ball hD _ (hlen v) (inBox_ofFn hv.1) i i.2.1 i.2.2 hv.2
  have hclb : ∀ i : Set.Ico 1 10, IsClosed (ballSet D i) := fun i => isClosed_ballSet hD i i.2.2
  have hall := hc0.union_of_isClosed
    (LocallyFinite.continuousOn_iUnion (locallyFinite_of_finite _) hclb hcb)
    (isClosed_outsideSet hD) (isClosed_iUnion_of_finite hclb)
  refine hall.mono fun v hv => ?_
  by_cases hout : ∀ i, 1 ≤ i → i < 10 → rhoi D i ≤ dist (List.ofFn v) (Mi D i)
  · exact Or.inl ⟨hv, hout⟩
  · push Not at hout
    obtain ⟨i, h1i, hi, hlt⟩ := hout
    exact Or.inr (Set.mem_iUnion.mpr ⟨⟨i, h1i, hi⟩, hv, hlt.le⟩)

end cont

end Gkls

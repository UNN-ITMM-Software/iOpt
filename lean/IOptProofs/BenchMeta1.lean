import IOptProofs.BenchMeta
import IOptProofs.RangeBlocks
import Mathlib.Tactic.IntervalCases
/-! The kernel-evaluated check `BenchMeta.rowOK` of every row of the metadata table, and what the table holds of the two
open families: which arguments occur, and that each such row is the constructor's metadata of its argument. -/
namespace BenchMeta
open Gen

/-- the 2604 = 28 · 93 rows, 93 to an evaluation: the cost of one evaluation grows faster than the number of rows in it -/
theorem rows_blocks : ∀ j < 28,
    CertBlocks.firstAll (fun k x => rowOK (tag k x)) 93 (CertBlocks.skip (93 * j) metaRowsPacked.toList) = true := by
  intro j hj
  interval_cases j <;> decide +kernel

theorem metaRows_size_le : metaRowsPacked.size ≤ 2604 := by decide +kernel

theorem rows_ok (i : Nat) (hi : i < metaRowsPacked.size) : rowOK metaRowsPacked[i]! = true :=
  Nat.forall_lt_of_blocks 93 28 (fun j hj => tagged_block _ (93 * j) 93 (rows_blocks j hj)) i
    (Nat.lt_of_lt_of_le hi metaRows_size_le)

theorem meta_rastrigin_args : famArgs 5 (metaRowsPacked.toList.drop 2503) 100 = List.range' 1 50 := by decide +kernel
theorem meta_xsquared_args : famArgs 6 (metaRowsPacked.toList.drop 2503) 100 = List.range' 1 50 := by decide +kernel

/-- every table row of family 5 / 6 is `rastriginMeta n` / `xsquaredMeta n` of its own argument `n ≥ 1` -/
theorem open_rows : ∀ i < metaRowsPacked.size,
    ((metaDecode metaRowsPacked[i]!).family = 5 →
      metaDecode metaRowsPacked[i]! = rastriginMeta (metaDecode metaRowsPacked[i]!).arg0 ∧
      1 ≤ (metaDecode metaRowsPacked[i]!).arg0) ∧
    ((metaDecode metaRowsPacked[i]!).family = 6 →
      metaDecode metaRowsPacked[i]! = xsquaredMeta (metaDecode metaRowsPacked[i]!).arg0 ∧
      1 ≤ (metaDecode metaRowsPacked[i]!).arg0) :=
  fun i hi => (rowOK_sound (rows_ok i hi)).2

end BenchMeta

import Lean.Meta.Tactic.Simp.RegisterCommand
/-! The simp sets with which the statement-tree interpreters are run symbolically, one per interpreter.
A simp attribute cannot be used in the module that declares it, hence this module. -/

/-- The equations of the interpreter of `IOptProofs/SDInterpDefs.lean` and the look-ups in its tables
(`IOptProofs/SDInterp.lean`): rewriting with this set executes a statement tree on a symbolic heap. -/
register_simp_attr sd_eqs

/-- The table look-ups of `IOptProofs/MethodInterp.lean` and the equations of the interpreter of
`IOptProofs/MethodInterpDefs.lean`: rewriting with this set executes a statement tree on a symbolic state. -/
register_simp_attr method_interp

/-- the defining equations of the console interpreter (`IOptProofs/ConsoleInterpDefs.lean`) and the few list and Boolean lemmas
that its table look-ups and membership tests reduce by: what `simp only` needs to run a statement tree symbolically -/
register_simp_attr console_exec

/-- the defining equations of the interpreter of the glue (`IOptProofs/WiringInterpDefs.lean`), for the runs on a world that is not
given concretely (any heap, any object): there `simp` executes the parsed statements symbolically -/
register_simp_attr wiring_exec

/-- what an updated interpreter state of `IOptProofs/EvLoopInterpDefs.lean` (`setNum`, `setInt`, `setArr`, `setDig`, `setY`) holds in
each of its fields; the lemmas are in `IOptProofs/EvLoopInterp.lean` -/
register_simp_attr evframe

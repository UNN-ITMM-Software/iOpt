import IOptProofs.S3SoundExp
import IOptProofs.BenchBox
import Mathlib.Algebra.Order.Ring.Abs
/-!
# StronginC3: soundness of the box bounds and of the branch-and-bound over ℝ
-/

namespace S3

def InBox (a1 b1 a2 b2 : Nat) (x1 x2 : ℝ) : Prop :=
  (a1 : ℝ) ≤ x1 * 2 ^ 26 ∧ x1 * 2 ^ 26 ≤ (b1 : ℝ) ∧ (a2 : ℝ) ≤ (x2 + 1) * 2 ^ 26 ∧ (x2 + 1) * 2 ^ 26 ≤ (b2 : ℝ)

def InRect (R : Rect) (x1 x2 : ℝ) : Prop := InBox R.r1 R.s1 R.r2 R.s2 x1 x2

theorem cast_tsub_le (a b : Nat) (t : ℝ) (h0 : 0 ≤ t) (h : (a : ℝ) - b ≤ t) : ((Nat.sub a b : Nat) : ℝ) ≤ t := by
  rw [Nat.sub_eq, cast_tsub]
  exact max_le h h0

theorem InBox.fst {a1 b1 a2 b2 : Nat} {x1 x2 : ℝ} (h : InBox a1 b1 a2 b2 x1 x2) : Within 26 a1 b1 x1 :=
  ⟨h.1, h.2.1⟩

theorem InBox.snd {a1 b1 a2 b2 : Nat} {x1 x2 : ℝ} (h : InBox a1 b1 a2 b2 x1 x2) : Within 26 a2 b2 (x2 + 1) :=
  ⟨h.2.2.1, h.2.2.2⟩

theorem within_U : Within 26 U U 1 := .of_eq (by rw [U_cast, one_mul])

theorem within_2U : Within 26 (Nat.mul 2 U) (Nat.mul 2 U) 2 :=
  .of_eq (by rw [cast_nat_mul, U_cast, Nat.cast_ofNat])

/-- on a box the exponent of `A` lies between the arguments handed to the two enclosures of `e^{-s}`; the second
coordinate of a box is shifted by one unit, and `4`, `81` are `1`, `81/4` in units of `2^-2` -/
theorem expoA_within {a1 b1 a2 b2 : Nat} {x1 x2 : ℝ} (h : InBox a1 b1 a2 b2 x1 x2) :
    Within 64 (sArg a1 (nearI (Nat.add a1 U) (Nat.add b1 U) a2 b2)) (sArg b1 (farI (Nat.add a1 U) (Nat.add b1 U) a2 b2))
      (x1 ^ 2 + 81 / 4 * (x1 - x2) ^ 2) := by
  have hd := (h.fst.add within_U).absSub h.snd
  have := (((.of_eq (by norm_num) : Within 2 4 4 1).mul (h.fst.mul h.fst)).add
    ((.of_eq (by norm_num) : Within 2 81 81 (81 / 4)).mul (hd.mul hd))).shl 10
  rwa [abs_mul_abs_self, show 1 * (x1 * x1) + 81 / 4 * ((x1 + 1 - (x2 + 1)) * (x1 + 1 - (x2 + 1)))
    = x1 ^ 2 + 81 / 4 * (x1 - x2) ^ 2 by ring] at this

theorem A_within {a1 b1 a2 b2 : Nat} {x1 x2 : ℝ} (h : InBox a1 b1 a2 b2 x1 x2) :
    Within 64 (lbA a1 b1 a2 b2) (aUp a1 b1 a2 b2) (A x1 x2) := by
  have := ((((.of_eq (by norm_num) : Within 1 3 3 (3 / 2)).mul (h.fst.mul h.fst)).mul within_e).mul
    (en_sound (expoA_within h))).shr 117
  -- `e·e^{-s} = e^{1-s}`: what is enclosed is `A` unfolded
  rwa [mul_assoc _ (Real.exp 1), ← Real.exp_add, ← sub_eq_add_neg, ← sub_sub, ← pow_two] at this

theorem t1_nonneg (x1 : ℝ) : 0 ≤ t1 x1 := by unfold t1; positivity
theorem t2_nonneg (x2 : ℝ) : 0 ≤ t2 x2 := by unfold t2; positivity

theorem B_nonneg (x1 x2 : ℝ) : 0 ≤ B x1 x2 :=
  mul_nonneg (mul_nonneg (t1_nonneg _) (t2_nonneg _)) (Real.exp_pos _).le

theorem t1_within {a1 b1 : Nat} {x1 : ℝ} (h : Within 26 a1 b1 x1) :
    Within 64 (t1Dn (nearI a1 b1 U U)) (t1Up (farI a1 b1 U U)) (t1 x1) := by
  have d := h.absSub within_U
  have := (((d.mul d).mul (d.mul d)).shr 44).scale 4
  rwa [abs_mul_abs_self, show (x1 - 1) * (x1 - 1) * ((x1 - 1) * (x1 - 1)) / 2 ^ 4 = t1 x1 by unfold t1; ring] at this

theorem t2_within {a2 b2 : Nat} {x2 : ℝ} (h : Within 26 a2 b2 (x2 + 1)) :
    Within 64 (t2Dn (nearI a2 b2 (Nat.mul 2 U) (Nat.mul 2 U))) (t2Up (farI a2 b2 (Nat.mul 2 U) (Nat.mul 2 U)))
      (t2 x2) := by
  have d := h.absSub within_2U
  have := ((d.mul d).mul (d.mul d)).shr 40
  rwa [abs_mul_abs_self, show (x2 + 1 - 2) * (x2 + 1 - 2) * ((x2 + 1 - 2) * (x2 + 1 - 2)) = t2 x2 by unfold t2; ring]
    at this

theorem bUp_sound (a1 b1 a2 b2 : Nat) (x1 x2 : ℝ) (h : InBox a1 b1 a2 b2 x1 x2) :
    B x1 x2 * 2 ^ 64 ≤ (bUp a1 b1 a2 b2 : ℝ) := by
  have u1 := t1_within h.fst
  have u2 := t2_within h.snd
  have := ((((u1.mul u2).mul within_e2).mul (en_sound (u1.add u2))).shr 192).2
  rwa [mul_assoc _ (Real.exp 2), ← Real.exp_add, ← sub_eq_add_neg, ← sub_sub] at this

theorem ub_sound (a1 b1 a2 b2 : Nat) (x1 x2 : ℝ) (h : InBox a1 b1 a2 b2 x1 x2) :
    (A x1 x2 + B x1 x2) * 2 ^ 64 ≤ (ub a1 b1 a2 b2 : ℝ) := by
  rw [ub, cast_nat_add, add_mul]
  exact add_le_add (A_within h).2 (bUp_sound a1 b1 a2 b2 x1 x2 h)

theorem C12_cast : ((C12 : Nat) : ℝ) = 5404319552844595 := by
  unfold C12; norm_num

theorem c12_eq : c12 = (C12 : ℝ) / 2 ^ 52 := by rw [C12_cast]; rfl

/-- inside the ellipse (there `g1 > 0`: the constraint is violated), in grid units: `F1 ≥ |x1 - 2|·2^26`,
`F2 ≥ |x2|·2^26`, and `1.2 = C/2^52`; the hypothesis is the inequality `((x1-2)/1.2)² + (x2/2)² < 1` multiplied by
`4·C²·2^52` -/
theorem g1_pos_of_grid (C F1 F2 x1 x2 : ℝ) (hC : 0 < C) (hP : |x1 * 2 ^ 26 - 2 * 2 ^ 26| ≤ F1)
    (hQ : |(x2 + 1) * 2 ^ 26 - 2 ^ 26| ≤ F2)
    (h : 4 * 2 ^ 104 * (F1 * F1) + C * C * (F2 * F2) < 4 * (C * C) * 2 ^ 52) :
    0 < 100 * (1 - ((x1 - 2) / (C / 2 ^ 52)) ^ 2 - (x2 / 2) ^ 2) := by
  have s1 := even_pow_le even_two hP
  have s2 := mul_le_mul_of_nonneg_left (even_pow_le even_two hQ) (mul_self_nonneg C)
  have hc : 0 < (C / 2 ^ 52) ^ 2 := by positivity
  have key : ((x1 - 2) / (C / 2 ^ 52)) ^ 2 + (x2 / 2) ^ 2 < 1 := by
    rw [div_pow, div_add' _ _ _ hc.ne', div_lt_one hc]
    linarith
  linarith

theorem g1pos_sound (a1 b1 a2 b2 : Nat) (x1 x2 : ℝ) (hg : g1pos a1 b1 a2 b2 = true)
    (h : InBox a1 b1 a2 b2 x1 x2) : 0 < g1 x1 x2 := by
  rw [g1pos, Nat.blt_eq] at hg
  rw [g1_eq, c12_eq]
  refine g1_pos_of_grid _ _ _ x1 x2 (by rw [C12_cast]; norm_num)
    (abs_le_tsub_add_tsub h.1 h.2.1 within_2U.1 within_2U.2)
    (abs_le_tsub_add_tsub h.2.2.1 h.2.2.2 U_cast.le U_cast.ge) ?_
  have := Nat.cast_lt (α := ℝ).2 hg
  simp only [cast_nat_add, cast_nat_mul, Nat.pow_eq, Nat.cast_pow, Nat.cast_ofNat] at this
  exact this

/-- what a certified box guarantees for each of its points -/
def Good (T : Nat) (R : Rect) (x1 x2 : ℝ) : Prop :=
  g1 x1 x2 ≤ 0 → InRect R x1 x2 ∨ (A x1 x2 + B x1 x2) * 2 ^ 64 < (T : ℝ)

theorem leaf_sound (T : Nat) (R : Rect) (a1 b1 a2 b2 : Nat) (x1 x2 : ℝ)
    (hl : leaf T R a1 b1 a2 b2 = true) (h : InBox a1 b1 a2 b2 x1 x2) : Good T R x1 x2 := by
  intro hg1
  unfold leaf at hl
  simp only [Bool.or_eq_true] at hl
  rcases hl with (hR | hg) | hu
  · left
    unfold inR at hR
    simp only [Bool.and_eq_true, Nat.ble_eq] at hR
    obtain ⟨⟨⟨r1, r2⟩, r3⟩, r4⟩ := hR
    obtain ⟨h1, h2, h3, h4⟩ := h
    exact ⟨(Nat.cast_le.2 r1).trans h1, h2.trans (Nat.cast_le.2 r2), (Nat.cast_le.2 r3).trans h3,
      h4.trans (Nat.cast_le.2 r4)⟩
  · exact absurd (g1pos_sound a1 b1 a2 b2 x1 x2 hg h) (not_lt.2 hg1)
  · right
    rw [Nat.blt_eq] at hu
    exact lt_of_le_of_lt (ub_sound a1 b1 a2 b2 x1 x2 h) (Nat.cast_lt.2 hu)

theorem mid_bounds (a b : Nat) : ((Nat.div (Nat.add a b) 2 : Nat) : ℝ) = (((a + b) / 2 : Nat) : ℝ) := rfl

theorem bnb_sound (T : Nat) (R : Rect) (fuel a1 b1 a2 b2 : Nat) (h : bnb T R fuel a1 b1 a2 b2 = true) (x1 x2 : ℝ)
    (hb : InBox a1 b1 a2 b2 x1 x2) : Good T R x1 x2 :=
  Bench.bisect_sound (fun (B : Nat × Nat × Nat × Nat) (x : ℝ × ℝ) => InBox B.1 B.2.1 B.2.2.1 B.2.2.2 x.1 x.2)
    (fun x => Good T R x.1 x.2) (fun fuel B => bnb T R fuel B.1 B.2.1 B.2.2.1 B.2.2.2 = true)
    (fun B h x => leaf_sound T R _ _ _ _ x.1 x.2 h)
    (fun fuel (a1, b1, a2, b2) h x hx => by
      rw [bnb, Bool.or_eq_true] at h
      refine h.imp (leaf_sound T R _ _ _ _ x.1 x.2 · hx) fun h => ?_
      obtain ⟨h1, h2, h3, h4⟩ := hx
      -- the longer side is cut at its midpoint
      cases hc : Nat.ble (Nat.sub b2 a2) (Nat.sub b1 a1) <;>
        simp only [hc, cond_false, cond_true, Bool.and_eq_true, forceNat_eq] at h
      · exact (Bench.cut_cover h3 h4 _).elim (fun c => ⟨(a1, b1, a2, _), h.2.1, h1, h2, c⟩)
          fun c => ⟨(a1, b1, _, b2), h.2.2, h1, h2, c⟩
      · exact (Bench.cut_cover h1 h2 _).elim (fun c => ⟨(a1, _, a2, b2), h.2.1, c.1, c.2, h3, h4⟩)
          fun c => ⟨(_, b1, a2, b2), h.2.2, c.1, c.2, h3, h4⟩)
    fuel (a1, b1, a2, b2) h (x1, x2) hb

end S3

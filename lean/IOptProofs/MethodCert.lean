import Mathlib.Algebra.Order.Field.Basic
import Mathlib.Algebra.Order.AbsoluteValue.Basic
import Mathlib.Tactic.Ring
import Mathlib.Tactic.Linarith
/-!
# Algebraic cores of the C01 certificate

With `m = r M`: a characteristic below `2 eps` together with the `(m/2)`-Hoelder minorant of an interval
bounds the objective from below by `z* - (m/2) eps` (`interior_cert`, `boundary_cert`, both instances of
`char_cert`); the characteristic of an interval is at most twice its length (`chosen_small`,
`chosen_small_boundary`); and a Hölder function has that minorant (`holder_minorant`).
-/

section Algebra
variable {α : Type} [Field α] [LinearOrder α] [IsStrictOrderedRing α]

/-- The common form of the two certificates: a characteristic `D - 4 (w - z*)/m` below `2 eps` and the
minorant `w - (m/4) D` (for an interior interval `D` is its length and `w` the mean of the end values,
for a boundary interval `D` is twice its length and `w` the value at the evaluated end). -/
theorem char_cert (m D w zs eps Fx : α) (hm : 0 < m) (hR : D - 4 * (w - zs) / m < 2 * eps)
    (hF : w - m / 4 * D ≤ Fx) : zs - m / 2 * eps < Fx := by
  rw [sub_lt_comm, lt_div_iff₀ hm] at hR
  linarith

theorem interior_cert (m Δ zl zr zs eps Fx : α) (hm : 0 < m) (hΔ : 0 < Δ)
    (hR : Δ + (zr - zl)^2 / (m^2 * Δ) - 2 * (zr + zl - 2 * zs) / m < 2 * eps)
    (hF : (zl + zr) / 2 - (m / 4) * Δ ≤ Fx) :
    zs - (m / 2) * eps < Fx := by
  refine char_cert m Δ ((zl + zr) / 2) zs eps Fx hm (lt_of_le_of_lt ?_ hR) hF
  -- the quadratic term of the characteristic is not negative
  have h1 : 0 ≤ (zr - zl)^2 / (m^2 * Δ) := div_nonneg (sq_nonneg _) (mul_pos (pow_pos hm 2) hΔ).le
  have h2 : 4 * ((zl + zr) / 2 - zs) / m = 2 * (zr + zl - 2 * zs) / m := by ring
  rw [h2]
  linarith

theorem boundary_cert (m Δ z zs eps Fx : α) (hm : 0 < m)
    (hR : 2 * Δ - 4 * (z - zs) / m < 2 * eps) (hF : z - (m / 2) * Δ ≤ Fx) :
    zs - (m / 2) * eps < Fx :=
  char_cert m (2 * Δ) z zs eps Fx hm hR (by linarith)

/-- `1 < r` makes the quadratic term of the characteristic smaller than the length. -/
theorem chosen_small (r M δ zl zr zs : α) (hr : 1 < r) (hM : 0 < M) (hδ : 0 < δ)
    (hslope : |zr - zl| ≤ M * δ) (hl : zs ≤ zl) (hrr : zs ≤ zr) :
    δ + (zr - zl)^2 / ((r*M)^2 * δ) - 2 * (zr + zl - 2 * zs) / (r*M) < 2 * δ := by
  have hrm : 0 < r * M := mul_pos (lt_trans one_pos hr) hM
  have h1 : (zr - zl)^2 / ((r*M)^2 * δ) < δ := by
    rw [div_lt_iff₀ (mul_pos (pow_pos hrm 2) hδ)]
    have hsq : (zr - zl)^2 ≤ (M*δ)^2 := by
      rw [← sq_abs]
      exact pow_le_pow_left₀ (abs_nonneg _) hslope 2
    have hlt : (M*δ)^2 < r^2 * (M*δ)^2 :=
      lt_mul_of_one_lt_left (pow_pos (mul_pos hM hδ) 2) (one_lt_pow₀ hr two_ne_zero)
    have e : δ * ((r*M)^2 * δ) = r^2 * (M*δ)^2 := by ring
    rw [e]
    exact lt_of_le_of_lt hsq hlt
  have h2 : 0 ≤ 2 * (zr + zl - 2 * zs) / (r*M) := div_nonneg (by linarith) hrm.le
  linarith

theorem chosen_small_boundary (r M δ z zs : α) (hr : 0 < r) (hM : 0 < M) (hz : zs ≤ z) :
    2 * δ - 4 * (z - zs) / (r * M) ≤ 2 * δ :=
  sub_le_self _ (div_nonneg (by linarith) (mul_pos hr hM).le)

/-- `F` is Hölder on `[0,1]` with exponent `1/n` and constant `C`, up to a slack `g`; root-free: `a` stands
for `|x₀ - x| ^ (1/n)`. -/
def HolderUpTo (n : Nat) (F : α → α) (C g : α) : Prop :=
  ∀ x x₀ a, 0 ≤ x → x ≤ 1 → 0 ≤ x₀ → x₀ ≤ 1 → 0 ≤ a → |x₀ - x| ≤ a ^ n → F x₀ - C * a - g ≤ F x

/-- The minorant of a Hölder function on one interval `[xl, xr] ⊆ [0,1]` of Hölder length `δ`. `c` stands for
`2 ^ (-1/n)`: `hconc` is the concavity of the `n`-th root, and `4 c C` is the reliability constant (`2 L` for
`n = 1`, `C = L`; `K_n L` along the evolvent, `C = 2 L √(n+3)`). -/
theorem holder_minorant {n : Nat} {F : α → α} {C g c : α} (hC : 0 ≤ C) (hH : HolderUpTo n F C g)
    (hroot : ∀ d : α, 0 ≤ d → ∃ a, 0 ≤ a ∧ a ^ n = d)
    (hconc : ∀ a b δ : α, 0 ≤ a → 0 ≤ b → 0 ≤ δ → a ^ n + b ^ n = δ ^ n → a + b ≤ 2 * c * δ)
    (hc : 1 / 2 ≤ c)
    {xl xr x δ M : α} (hl0 : 0 ≤ xl) (hr1 : xr ≤ 1) (hlx : xl ≤ x) (hxr : x ≤ xr) (hδ : 0 ≤ δ)
    (hδn : δ ^ n = xr - xl) (hM : 4 * c * C ≤ M) :
    (F xl + F xr) / 2 - M / 4 * δ - g ≤ F x ∧ F xl - M / 2 * δ - g ≤ F x ∧ F xr - M / 2 * δ - g ≤ F x := by
  have h0 : 0 ≤ x := hl0.trans hlx
  have h1 : x ≤ 1 := hxr.trans hr1
  have el : |xl - x| = x - xl := by rw [abs_sub_comm, abs_of_nonneg (sub_nonneg.2 hlx)]
  have er : |xr - x| = xr - x := abs_of_nonneg (sub_nonneg.2 hxr)
  have hMδ := mul_le_mul_of_nonneg_right hM hδ
  have hCδ := mul_le_mul_of_nonneg_right hc (mul_nonneg hC hδ)
  refine ⟨?_, ?_, ?_⟩
  · -- the two cones from the ends, with radii `a`, `b`: `a + b ≤ 2 c δ` by concavity
    obtain ⟨a, ha, han⟩ := hroot _ (sub_nonneg.2 hlx)
    obtain ⟨b, hb, hbn⟩ := hroot _ (sub_nonneg.2 hxr)
    have cA := hH x xl a h0 h1 hl0 (hlx.trans h1) ha (by rw [el, han])
    have cB := hH x xr b h0 h1 (h0.trans hxr) hr1 hb (by rw [er, hbn])
    have := mul_le_mul_of_nonneg_left (hconc a b δ ha hb hδ (by rw [han, hbn, hδn]; ring)) hC
    linarith only [cA, cB, this, hMδ]
  · -- the cone of radius `δ`, and `2 C ≤ 4 c C ≤ M`
    have := hH x xl δ h0 h1 hl0 (hlx.trans h1) hδ (by rw [el, hδn]; linarith only [hxr])
    linarith only [this, hMδ, hCδ]
  · have := hH x xr δ h0 h1 (h0.trans hxr) hr1 hδ (by rw [er, hδn]; linarith only [hlx])
    linarith only [this, hMδ, hCδ]

end Algebra

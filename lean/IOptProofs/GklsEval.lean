import IOptProofs.GklsDefs
/-!
# Evaluation of the GKLS model on well-formed data

Which branch `Prob.gkls` takes (`gklsFindBall`), and the closed form of every branch in terms of
`Gkls.dist`, `Gkls.dotFrom`.
-/

namespace Gkls
open Prob

/-- the constants of `GKLSFunction` with the PRECISION constant replaced by `p`
(`p = 10⁻¹⁰`: the code; `p = 0`: the ideal function without guard) -/
noncomputable def constsP (p : ℝ) : GklsConsts ℝ :=
  { maxValue := 1e100, precision := p, domainLeft := -1, domainRight := 1, three := 3, four := 4 }

theorem constsP_code : constsP 1e-10 = consts := rfl

def InDomainP (p : ℝ) (x : List ℝ) : Prop := ∀ c ∈ x, (-1 : ℝ) - p ≤ c ∧ c ≤ 1 + p
/-- `x` passes the domain check of `CalculateDFunction` (box `[-1,1]^n` with slack `10⁻¹⁰`) -/
def InDomain (x : List ℝ) : Prop := InDomainP 1e-10 x
def InBox (x : List ℝ) : Prop := ∀ c ∈ x, (-1 : ℝ) ≤ c ∧ c ≤ 1

theorem InBox.inDomainP {x : List ℝ} (h : InBox x) {p : ℝ} (hp : 0 ≤ p) : InDomainP p x := by
  intro c hc
  obtain ⟨h1, h2⟩ := h c hc
  constructor <;> linarith

theorem InBox.inDomain {x : List ℝ} (h : InBox x) : InDomain x := h.inDomainP (by norm_num)

/-- the list of balls scanned by the `while` loop: `(M_i, ρ_i, f_i)`, `i = 1..9` -/
def balls (D : GklsData ℝ) : List (List ℝ × ℝ × ℝ) := (List.zip D.localMin (List.zip D.rho D.f)).drop 1

noncomputable def cubicVal (D : GklsData ℝ) (i : Nat) (x : List ℝ) : ℝ :=
  (2 / rhoi D i / rhoi D i * dotFrom (Mi D i) x (Mi D 0) / dist x (Mi D i)
      - 2 * cubA D i / rhoi D i / rhoi D i / rhoi D i) * dist x (Mi D i) * dist x (Mi D i) * dist x (Mi D i)
    + (1 - 4 * dotFrom (Mi D i) x (Mi D 0) / dist x (Mi D i) / rhoi D i
        + 3 * cubA D i / rhoi D i / rhoi D i) * dist x (Mi D i) * dist x (Mi D i)
    + fi D i

theorem findBall_none (x : List ℝ) (L : List (List ℝ × ℝ × ℝ))
    (h : ∀ p ∈ L, p.2.1 < dist p.1 x) : gklsFindBall x L = none := by
  induction L with
  | nil => rfl
  | cons p L ih =>
    obtain ⟨m, rho, f⟩ := p
    have hp := h (m, rho, f) (List.mem_cons_self ..)
    simp only at hp
    unfold gklsFindBall
    rw [gklsNorm_eq, if_pos hp]
    exact ih (fun q hq => h q (List.mem_cons_of_mem _ hq))

theorem findBall_some (x : List ℝ) (L : List (List ℝ × ℝ × ℝ)) (b : List ℝ × ℝ × ℝ) (hb : b ∈ L)
    (hin : ¬ b.2.1 < dist b.1 x) (hother : ∀ q ∈ L, q ≠ b → q.2.1 < dist q.1 x) :
    gklsFindBall x L = some b := by
  induction L with
  | nil => cases hb
  | cons p L ih =>
    obtain ⟨m, rho, f⟩ := p
    unfold gklsFindBall
    rw [gklsNorm_eq]
    by_cases hp : (m, rho, f) = b
    · subst hp
      rw [if_neg hin]
    · rw [if_pos (hother _ (List.mem_cons_self ..) hp)]
      exact ih ((List.mem_cons.mp hb).resolve_left (Ne.symm hp))
        (fun q hq => hother q (List.mem_cons_of_mem _ hq))

section good
variable {D : GklsData ℝ} (hD : Good D)
include hD

theorem balls_length : (balls D).length = 9 := by
  unfold balls
  simp [hD.len_min, hD.len_rho, hD.len_f]

theorem balls_getElem (j : Nat) (hj : j < (balls D).length) :
    (balls D)[j] = (Mi D (j + 1), rhoi D (j + 1), fi D (j + 1)) := by
  have h9 := balls_length hD
  have h1 : j + 1 < D.localMin.length := by rw [hD.len_min]; omega
  have h2 : j + 1 < D.rho.length := by rw [hD.len_rho]; omega
  have h3 : j + 1 < D.f.length := by rw [hD.len_f]; omega
  unfold Mi rhoi fi
  rw [List.getD_eq_getElem _ _ h1, List.getD_eq_getElem _ _ h2,
    List.getD_eq_getElem _ _ h3]
  simp [balls]

theorem mem_balls {p : List ℝ × ℝ × ℝ} :
    p ∈ balls D ↔ ∃ j, 1 ≤ j ∧ j < 10 ∧ p = (Mi D j, rhoi D j, fi D j) := by
  have h9 := balls_length hD
  rw [List.mem_iff_getElem]
  constructor
  · rintro ⟨j, hj, rfl⟩
    exact ⟨j + 1, by omega, by omega, balls_getElem hD j hj⟩
  · rintro ⟨j, h1j, hj, rfl⟩
    refine ⟨j - 1, by omega, ?_⟩
    rw [balls_getElem hD, Nat.sub_add_cancel h1j]

theorem rho_add_lt_dist {i j : Nat} (hi : i < 10) (hj : j < 10) (h1i : 1 ≤ i) (h1j : 1 ≤ j)
    (hij : i ≠ j) : rhoi D i + rhoi D j < dist (Mi D i) (Mi D j) := by
  rcases Nat.lt_or_gt_of_ne hij with h | h
  · exact lt_dist_of_sq_lt (hD.disjoint i hi j hj h1i h)
  · rw [dist_comm, add_comm]
    exact lt_dist_of_sq_lt (hD.disjoint j hj i hi h1j h)

theorem findBall_outside (x : List ℝ)
    (hout : ∀ i, 1 ≤ i → i < 10 → rhoi D i < dist x (Mi D i)) : gklsFindBall x (balls D) = none := by
  apply findBall_none
  intro p hp
  obtain ⟨j, h1j, hj, rfl⟩ := (mem_balls hD).mp hp
  rw [dist_comm]
  exact hout j h1j hj

/-- by disjointness and the triangle inequality `x` is in no other ball -/
theorem findBall_inside (x : List ℝ) (hx : x.length = D.dim) (i : Nat) (h1i : 1 ≤ i) (hi : i < 10)
    (hin : dist x (Mi D i) ≤ rhoi D i) :
    gklsFindBall x (balls D) = some (Mi D i, rhoi D i, fi D i) := by
  apply findBall_some x _ _ ((mem_balls hD).mpr ⟨i, h1i, hi, rfl⟩)
  · rw [dist_comm]
    exact not_lt.mpr hin
  · intro q hq hne
    obtain ⟨j, h1j, hj, rfl⟩ := (mem_balls hD).mp hq
    have hij : i ≠ j := fun h => hne (by rw [h])
    have hlt := rho_add_lt_dist hD hi hj h1i h1j hij
    have htri := dist_triangle (hD.len_M i hi) (hD.len_M j hj) hx
    rw [dist_comm (Mi D i) x] at htri
    show rhoi D j < dist (Mi D j) x
    linarith

end good

theorem domain_check_false (p : ℝ) (x : List ℝ) (hx : InDomainP p x) :
    (x.any fun xi => decide (xi < (constsP p).domainLeft - (constsP p).precision ∨
      (constsP p).domainRight + (constsP p).precision < xi)) = false := by
  rw [List.any_eq_false]
  intro c hc
  obtain ⟨h1, h2⟩ := hx c hc
  rw [decide_eq_true_eq]
  simp only [constsP]
  intro h
  rcases h with h | h
  · linarith
  · linarith

theorem headD_localMin (D : GklsData ℝ) : D.localMin.headD [] = Mi D 0 := by
  unfold Mi; cases D.localMin <;> rfl
theorem headD_f (D : GklsData ℝ) : D.f.headD 0 = fi D 0 := by
  unfold fi; cases D.f <;> rfl

theorem gkls_of_noneP (p : ℝ) (D : GklsData ℝ) (x : List ℝ) (hx : InDomainP p x)
    (h : gklsFindBall x (balls D) = none) : gkls (constsP p) D x = dist x (Mi D 0) ^ 2 + fi D 0 := by
  unfold gkls
  rw [if_neg (by rw [domain_check_false p x hx]; simp)]
  simp only []
  rw [show (List.zip D.localMin (List.zip D.rho D.f)).drop 1 = balls D from rfl, h]
  simp only [gklsNorm_eq, headD_localMin, headD_f]
  rw [dist_comm, sq]

theorem gkls_of_someP (p : ℝ) (D : GklsData ℝ) (x : List ℝ) (hx : InDomainP p x) (i : Nat)
    (h : gklsFindBall x (balls D) = some (Mi D i, rhoi D i, fi D i)) :
    gkls (constsP p) D x = if dist x (Mi D i) < p then fi D i else cubicVal D i x := by
  unfold gkls
  rw [if_neg (by rw [domain_check_false p x hx]; simp)]
  simp only []
  rw [show (List.zip D.localMin (List.zip D.rho D.f)).drop 1 = balls D from rfl, h]
  simp only [gklsNorm_eq, headD_localMin, headD_f, scal_eq]
  unfold cubicVal cubA
  rw [dist_comm (Mi D i) x, dist_mul_self]
  rfl

end Gkls

import IOptModel.Evolvent
/-!
# Basic definitions and list lemmas for the integer layer of the evolvent model

Well-formedness predicates (`validDigits`, `validState`, `signVec`, decidable); `Ev.Yc n s ds i`, coordinate `i`
of the (scaled) cube point reached from level state `s` by the digit list `ds`, in head-recursive form, and its
connection to `Ev.cubeY` (`cubeY_getI_of_lengths`); positional numbers `indexOf` / `digitsOf`.

Only core Lean is used here (no Mathlib), so that every other proof file can import it.
-/

namespace Ev

def validDigits (n : Nat) (ds : List Nat) : Prop := ∀ d ∈ ds, d < 2^n

def signVec (n : Nat) (o : List Int) : Prop := o.length = n ∧ ∀ w ∈ o, w = 1 ∨ w = -1

def validState (n : Nat) (s : St) : Prop := s.it < n ∧ s.iw.length = n ∧ ∀ w ∈ s.iw, w = 1 ∨ w = -1

instance (n : Nat) (ds : List Nat) : Decidable (validDigits n ds) := by
  unfold validDigits; infer_instance
instance (n : Nat) (o : List Int) : Decidable (signVec n o) := by
  unfold signVec; infer_instance
instance (n : Nat) (s : St) : Decidable (validState n s) := by
  unfold validState; infer_instance

theorem validState_iff (n : Nat) (s : St) : validState n s ↔ s.it < n ∧ signVec n s.iw := Iff.rfl

theorem validDigits_nil (n : Nat) : validDigits n [] := by
  intro d hd; cases hd

theorem validDigits_cons {n d : Nat} {ds : List Nat} :
    validDigits n (d :: ds) ↔ d < 2^n ∧ validDigits n ds := List.forall_mem_cons

theorem validDigits_append {n : Nat} {p r : List Nat} :
    validDigits n (p ++ r) ↔ validDigits n p ∧ validDigits n r := List.forall_mem_append

theorem validDigits_take {n : Nat} {ds : List Nat} (h : validDigits n ds) (p : Nat) :
    validDigits n (ds.take p) := fun d hd => h d (List.mem_of_mem_take hd)

theorem validDigits_drop {n : Nat} {ds : List Nat} (h : validDigits n ds) (p : Nat) :
    validDigits n (ds.drop p) := fun d hd => h d (List.mem_of_mem_drop hd)

theorem validDigits_replicate {n k d : Nat} (h : d < 2^n) : validDigits n (List.replicate k d) := by
  intro x hx; rw [List.mem_replicate] at hx; omega

theorem validState_init {n : Nat} (hn : 0 < n) : validState n (St.init n) := by
  refine ⟨hn, List.length_replicate, ?_⟩
  intro w hw
  have hw' : w ∈ List.replicate n (1 : Int) := hw
  rw [List.mem_replicate] at hw'; exact Or.inl hw'.2

theorem getI_eq_getElem {l : List Int} {i : Nat} (h : i < l.length) : getI l i = l[i] := by
  simp [getI, List.getD_eq_getElem?_getD, List.getElem?_eq_getElem h]

theorem getI_of_le {l : List Int} {i : Nat} (h : l.length ≤ i) : getI l i = 0 := by
  simp [getI, List.getD_eq_getElem?_getD, List.getElem?_eq_none h]

theorem getI_mem {l : List Int} {i : Nat} (h : i < l.length) : getI l i ∈ l := by
  rw [getI_eq_getElem h]; exact List.getElem_mem h

theorem getI_zipWith {f : Int → Int → Int} {a b : List Int} {i : Nat}
    (ha : i < a.length) (hb : i < b.length) :
    getI (List.zipWith f a b) i = f (getI a i) (getI b i) := by
  have h : i < (List.zipWith f a b).length := by simp [List.length_zipWith]; omega
  rw [getI_eq_getElem h, getI_eq_getElem ha, getI_eq_getElem hb, List.getElem_zipWith]

theorem getI_map {f : Int → Int} {a : List Int} {i : Nat} (ha : i < a.length) :
    getI (a.map f) i = f (getI a i) := by
  have h : i < (a.map f).length := by simpa using ha
  rw [getI_eq_getElem h, getI_eq_getElem ha, List.getElem_map]

theorem getI_replicate {n i : Nat} {x : Int} (h : i < n) : getI (List.replicate n x) i = x := by
  have h' : i < (List.replicate n x).length := by simpa using h
  rw [getI_eq_getElem h', List.getElem_replicate]

theorem getI_cons_zero (x : Int) (l : List Int) : getI (x :: l) 0 = x := rfl
theorem getI_cons_succ (x : Int) (l : List Int) (i : Nat) : getI (x :: l) (i+1) = getI l i := rfl

theorem ext_getI {n : Nat} {a b : List Int} (ha : a.length = n) (hb : b.length = n)
    (h : ∀ i, i < n → getI a i = getI b i) : a = b := by
  apply List.ext_getElem (by omega)
  intro i h1 h2
  have := h i (by omega)
  rwa [getI_eq_getElem h1, getI_eq_getElem h2] at this

theorem forall_mem_iff_getI {P : Int → Prop} {l : List Int} :
    (∀ y ∈ l, P y) ↔ ∀ i, i < l.length → P (getI l i) := by
  constructor
  · intro h i hi; exact h _ (getI_mem hi)
  · intro h y hy
    obtain ⟨i, hi, rfl⟩ := List.getElem_of_mem hy
    have := h i hi
    rwa [getI_eq_getElem hi] at this

theorem signVec_getI {n : Nat} {o : List Int} (h : signVec n o) {i : Nat} (hi : i < n) :
    getI o i = 1 ∨ getI o i = -1 :=
  h.2 _ (getI_mem (by rw [h.1]; exact hi))

theorem signVec_of_getI {n : Nat} {o : List Int} (hl : o.length = n)
    (h : ∀ i, i < n → getI o i = 1 ∨ getI o i = -1) : signVec n o :=
  ⟨hl, forall_mem_iff_getI.2 (by rw [hl]; exact h)⟩

theorem map_getI_range {n : Nat} {a : List Int} (ha : a.length = n) :
    (List.range n).map (getI a) = a := by
  apply List.ext_getElem (by rw [List.length_map, List.length_range, ha])
  intro i h1 h2
  rw [List.getElem_map, List.getElem_range, getI_eq_getElem h2]

theorem length_swap0 (a : List Int) (it : Nat) : (swap0 a it).length = a.length := by
  simp [swap0]

theorem getI_set_eq {a : List Int} {j : Nat} (x : Int) (h : j < a.length) : getI (a.set j x) j = x := by
  simp [getI, h]

theorem getI_set_ne {a : List Int} {i j : Nat} (x : Int) (h : i ≠ j) :
    getI (a.set j x) i = getI a i := by
  simp [getI, List.getD, List.getElem?_set_ne (Ne.symm h)]

theorem set_getI_self {a : List Int} {j : Nat} (h : j < a.length) : a.set j (getI a j) = a := by
  rw [getI_eq_getElem h]; exact List.set_getElem_self h

theorem signVec_set {n : Nat} {l : List Int} (h : signVec n l) (j : Nat) {x : Int} (hx : x = 1 ∨ x = -1) :
    signVec n (l.set j x) :=
  ⟨by rw [List.length_set, h.1], fun y hy => (List.mem_or_eq_of_mem_set hy).elim (h.2 y) (· ▸ hx)⟩

theorem signVec_zipWith {n : Nat} {f : Int → Int → Int} {a b : List Int}
    (hf : ∀ x y, (x = 1 ∨ x = -1) → (y = 1 ∨ y = -1) → (f x y = 1 ∨ f x y = -1))
    (ha : signVec n a) (hb : signVec n b) : signVec n (List.zipWith f a b) := by
  apply signVec_of_getI
  · simp [List.length_zipWith, ha.1, hb.1]
  · intro i hi
    rw [getI_zipWith (by rw [ha.1]; exact hi) (by rw [hb.1]; exact hi)]
    exact hf _ _ (signVec_getI ha hi) (signVec_getI hb hi)

theorem sign_mul {x y : Int} (hx : x = 1 ∨ x = -1) (hy : y = 1 ∨ y = -1) :
    x * y = 1 ∨ x * y = -1 := by
  rcases hx with rfl | rfl <;> rcases hy with rfl | rfl <;> simp

theorem sign_mul_neg {x y : Int} (hx : x = 1 ∨ x = -1) (hy : y = 1 ∨ y = -1) :
    x * (-y) = 1 ∨ x * (-y) = -1 := by
  rcases hx with rfl | rfl <;> rcases hy with rfl | rfl <;> simp

theorem mul_sign_cancel {x y w : Int} (hw : w = 1 ∨ w = -1) : x * w = y * w ↔ x = y := by
  rcases hw with rfl | rfl <;> omega

@[simp] theorem signs_nil (n : Nat) (s : St) : signs n s [] = [] := rfl
@[simp] theorem signs_cons (n : Nat) (s : St) (d : Nat) (ds : List Nat) :
    signs n s (d :: ds) = (step n s d).2 :: signs n (step n s d).1 ds := rfl
@[simp] theorem stateAfter_nil (n : Nat) (s : St) : stateAfter n s [] = s := rfl
@[simp] theorem stateAfter_cons (n : Nat) (s : St) (d : Nat) (ds : List Nat) :
    stateAfter n s (d :: ds) = stateAfter n (step n s d).1 ds := rfl

theorem stateAfter_append (n : Nat) (s : St) (p r : List Nat) :
    stateAfter n s (p ++ r) = stateAfter n (stateAfter n s p) r := by
  induction p generalizing s with
  | nil => rfl
  | cons d p ih => simp only [List.cons_append, stateAfter_cons, ih]

theorem signs_length (n : Nat) (s : St) (ds : List Nat) : (signs n s ds).length = ds.length := by
  induction ds generalizing s with
  | nil => rfl
  | cons d ds ih => simp only [signs_cons, List.length_cons, ih]

/-- Coordinate `i` of the cube point (in units of `2^-(m+1)`, `m = ds.length`) reached from level
state `s`: `Σ_j 2^(m-1-j) · (s_j)_i`, head-recursive. -/
def Yc (n : Nat) : St → List Nat → Nat → Int
  | _, [], _ => 0
  | s, d :: ds, i => getI (step n s d).2 i * 2^ds.length + Yc n (step n s d).1 ds i

@[simp] theorem Yc_nil (n : Nat) (s : St) (i : Nat) : Yc n s [] i = 0 := rfl
@[simp] theorem Yc_cons (n : Nat) (s : St) (d : Nat) (ds : List Nat) (i : Nat) :
    Yc n s (d :: ds) i = getI (step n s d).2 i * 2^ds.length + Yc n (step n s d).1 ds i := rfl

theorem Yc_append (n : Nat) (s : St) (p r : List Nat) (i : Nat) :
    Yc n s (p ++ r) i = Yc n s p i * 2^r.length + Yc n (stateAfter n s p) r i := by
  induction p generalizing s with
  | nil => simp
  | cons d p ih =>
    simp only [List.cons_append, Yc_cons, stateAfter_cons, ih, List.length_append,
      Int.pow_add, Int.add_mul, Int.mul_assoc, Int.add_assoc]

theorem foldl_signs (n : Nat) (s : St) (ds : List Nat) (h : ∀ o ∈ signs n s ds, o.length = n)
    (k : Nat) (acc : List Int) (hacc : acc.length = n) :
    (((signs n s ds).zipIdx k).foldl
      (fun acc (p : List Int × Nat) =>
        List.zipWith (fun a s => a + s * (2 : Int)^(k + ds.length - 1 - p.2)) acc p.1) acc).length = n ∧
    ∀ i, i < n → getI (((signs n s ds).zipIdx k).foldl
      (fun acc (p : List Int × Nat) =>
        List.zipWith (fun a s => a + s * (2 : Int)^(k + ds.length - 1 - p.2)) acc p.1) acc) i
      = getI acc i + Yc n s ds i := by
  induction ds generalizing s k acc with
  | nil => exact ⟨hacc, fun i _ => (Int.add_zero _).symm⟩
  | cons d ds ih =>
    rw [signs_cons, List.forall_mem_cons] at h
    have e : k + (ds.length + 1) = k + 1 + ds.length := by omega
    have e' : k + 1 + ds.length - 1 - k = ds.length := by omega
    simp only [signs_cons, List.zipIdx_cons, List.foldl_cons, List.length_cons, e]
    have hl : (List.zipWith (fun a s => a + s * (2 : Int)^(k + 1 + ds.length - 1 - k)) acc
        (step n s d).2).length = n := by
      rw [List.length_zipWith, hacc, h.1, Nat.min_self]
    obtain ⟨h1, h2⟩ := ih _ h.2 (k+1) _ hl
    refine ⟨h1, fun i hi => ?_⟩
    rw [h2 i hi, getI_zipWith (by omega) (by omega), e', Yc_cons, Int.add_assoc]

theorem cubeY_getI_of_lengths (n : Nat) (ds : List Nat)
    (h : ∀ o ∈ signs n (St.init n) ds, o.length = n) :
    (cubeY n ds).length = n ∧ ∀ i, i < n → getI (cubeY n ds) i = Yc n (St.init n) ds i := by
  have := foldl_signs n (St.init n) ds h 0 (List.replicate n 0) List.length_replicate
  simp only [Nat.zero_add] at this
  refine ⟨this.1, fun i hi => ?_⟩
  rw [← Int.zero_add (Yc _ _ _ _), ← getI_replicate (x := 0) hi]
  exact this.2 i hi

theorem indexOf_nil (n : Nat) : indexOf n [] = 0 := rfl

theorem indexOf_append_singleton (n : Nat) (ds : List Nat) (d : Nat) :
    indexOf n (ds ++ [d]) = indexOf n ds * 2^n + d := by
  simp [indexOf, List.foldl_append]

theorem foldl_index (B : Nat) (ds : List Nat) (a : Nat) :
    ds.foldl (fun a d => a * B + d) a = a * B^ds.length + ds.foldl (fun a d => a * B + d) 0 := by
  induction ds generalizing a with
  | nil => simp
  | cons d ds ih =>
    simp only [List.foldl_cons, List.length_cons]
    rw [ih (a * B + d), ih (0 * B + d)]
    simp only [Nat.zero_mul, Nat.zero_add, Nat.pow_succ, Nat.add_mul, Nat.add_assoc]
    congr 1
    rw [Nat.mul_assoc, Nat.mul_comm B]

theorem indexOf_cons (n : Nat) (d : Nat) (ds : List Nat) :
    indexOf n (d :: ds) = d * (2^n)^ds.length + indexOf n ds := by
  simp only [indexOf, List.foldl_cons]
  rw [foldl_index]; simp

theorem indexOf_lt {n : Nat} {ds : List Nat} (h : validDigits n ds) :
    indexOf n ds < (2^n)^ds.length := by
  induction ds with
  | nil => simp [indexOf]
  | cons d ds ih =>
    rw [validDigits_cons] at h
    have := ih h.2
    rw [indexOf_cons, List.length_cons, Nat.pow_succ]
    have h1 : d + 1 ≤ 2^n := h.1
    calc d * (2^n)^ds.length + indexOf n ds < d * (2^n)^ds.length + (2^n)^ds.length := by omega
      _ = (d+1) * (2^n)^ds.length := by rw [Nat.add_mul, Nat.one_mul]
      _ ≤ 2^n * (2^n)^ds.length := Nat.mul_le_mul_right _ h1
      _ = (2^n)^ds.length * 2^n := Nat.mul_comm _ _

theorem digitsOf_length (n m i : Nat) : (digitsOf n m i).length = m := by
  simp [digitsOf]

theorem digitsOf_valid (n m i : Nat) : validDigits n (digitsOf n m i) := by
  intro d hd
  simp only [digitsOf, List.mem_map] at hd
  obtain ⟨j, _, rfl⟩ := hd
  exact Nat.mod_lt _ (Nat.two_pow_pos n)

theorem digitsOf_succ (n m i : Nat) :
    digitsOf n (m+1) i = (i / (2^n)^m % 2^n) :: digitsOf n m i := by
  simp only [digitsOf, List.range_succ_eq_map, List.map_cons, List.map_map]
  congr 1
  apply List.map_congr_left
  intro j hj
  simp only [Function.comp, Nat.add_sub_cancel]
  have e : m - (j+1) = m - 1 - j := by omega
  simp [Nat.succ_eq_add_one, e]

theorem indexOf_digitsOf_mod (n m i : Nat) : indexOf n (digitsOf n m i) = i % (2^n)^m := by
  induction m with
  | zero => simp [digitsOf, indexOf, Nat.mod_one]
  | succ m ih =>
    rw [digitsOf_succ, indexOf_cons, ih, digitsOf_length, Nat.mod_pow_succ]
    rw [Nat.add_comm, Nat.mul_comm]

theorem indexOf_digitsOf {n m i : Nat} (h : i < (2^n)^m) : indexOf n (digitsOf n m i) = i := by
  rw [indexOf_digitsOf_mod, Nat.mod_eq_of_lt h]

theorem mul_add_inj {Q a a' r r' : Nat} (hr : r < Q) (hr' : r' < Q) (h : a * Q + r = a' * Q + r') :
    a = a' ∧ r = r' := by
  have hQ : 0 < Q := by omega
  have ha : a = a' := by
    have := congrArg (· / Q) h
    simpa only [Nat.mul_comm _ Q, Nat.mul_add_div hQ, Nat.div_eq_of_lt hr, Nat.div_eq_of_lt hr',
      Nat.add_zero] using this
  subst ha
  exact ⟨rfl, by omega⟩

theorem indexOf_inj {n : Nat} {ds ds' : List Nat} (h : validDigits n ds) (h' : validDigits n ds')
    (hl : ds.length = ds'.length) (he : indexOf n ds = indexOf n ds') : ds = ds' := by
  induction ds generalizing ds' with
  | nil => exact (List.eq_nil_of_length_eq_zero hl.symm).symm
  | cons d ds ih =>
    obtain ⟨d', ds', rfl⟩ := List.exists_cons_of_length_eq_add_one hl.symm
    rw [validDigits_cons] at h h'
    simp only [List.length_cons, Nat.add_right_cancel_iff] at hl
    rw [indexOf_cons, indexOf_cons, ← hl] at he
    have b2 := indexOf_lt h'.2
    rw [← hl] at b2
    obtain ⟨rfl, e⟩ := mul_add_inj (indexOf_lt h.2) b2 he
    rw [ih h.2 h'.2 hl e]

theorem digitsOf_indexOf {n : Nat} {ds : List Nat} (h : validDigits n ds) :
    digitsOf n ds.length (indexOf n ds) = ds := by
  apply indexOf_inj (digitsOf_valid _ _ _) h (digitsOf_length _ _ _)
  exact indexOf_digitsOf (indexOf_lt h)

end Ev

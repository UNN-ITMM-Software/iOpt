import IOptProofs.HillSoundA
/-!
# Hill certificate, soundness part B: the five numbers that `ev` passes on enclose the function and two derivatives

`EvRep ctx L` says so for a context and a real coefficient list; `ev_spec` proves it for the context `mkCtx a b …` of a
table row, one use of `col_spec` per column pair.
-/

namespace Hill
open Encl

/-- the sums of `ev` are in units of `1/U` -/
noncomputable abbrev U : ℝ := 2 ^ 144

theorem U_pos : (0 : ℝ) < U := by positivity

theorem mul_EMAX_cast (n : ℕ) : ((n * EMAX : ℕ) : ℝ) = (n : ℝ) * 16777216 := by
  push_cast; norm_num [EMAX]

theorem colSum_comm (f g : Coef → ℕ) : ∀ cs : List Coef, colSum f g cs = colSum g f cs
  | [] => rfl
  | c :: l => by simp only [colSum]; rw [colSum_comm f g l, Nat.add_comm (f c)]

/-- one output column of `ev`: the accumulator of the column pair `(pa, pb)` at the point `num/2^k` plus `K`, minus the bias
terms `c` and `sc <<< 89`, truncated at `0`; `colN` is the opposite difference -/
def colP (cs : List Coef) (pa pb : Coef → ℕ) (K c num k : ℕ) : ℕ :=
  Nat.sub (Nat.add (goF pa pb cs (Nat.add ONE B) B (trigC num k) (trigS num k) 0) K)
    (Nat.add c (Nat.shiftLeft (goSC cs (Nat.add ONE B) B (trigC num k) (trigS num k) 0) 89))
def colN (cs : List Coef) (pa pb : Coef → ℕ) (K c num k : ℕ) : ℕ :=
  Nat.sub (Nat.add c (Nat.shiftLeft (goSC cs (Nat.add ONE B) B (trigC num k) (trigS num k) 0) 89))
    (Nat.add (goF pa pb cs (Nat.add ONE B) B (trigC num k) (trigS num k) 0) K)

theorem ev_eq {α : Type} (ctx : Ctx) (num k : ℕ) (cont : ℕ → ℕ → ℕ → ℕ → ℕ → α) :
    ev ctx num k cont = cont (colP ctx.coefs Coef.a0 Coef.b0 ctx.kF ctx.c0 num k)
      (colP ctx.coefs Coef.b1 Coef.a1 ctx.kG ctx.c1 num k) (colN ctx.coefs Coef.b1 Coef.a1 ctx.kG ctx.c1 num k)
      (colP ctx.coefs Coef.a2 Coef.b2 ctx.kG ctx.c2 num k) (colN ctx.coefs Coef.a2 Coef.b2 ctx.kG ctx.c2 num k) := by
  obtain ⟨h1, h2, h3, h4⟩ := evAcc_eq ctx.coefs num k
  unfold colP colN
  rw [← h1, ← h2, ← h3, ← h4]
  rfl

/-- a column whose pair stores `l` in units of `u`, with `K = e + 2n·2^154` and `c` the bias term of the pair: the biased
accumulator plus `K`, minus the bias terms, is `e` plus the exact fixed-point sum `fx`, so the two truncated differences are
the positive and the negative part of `e + fx`; and `fx` is within the static radius of `u·2^64` times the trigonometric sum
of `l` -/
theorem col_spec {pa pb : Coef → ℕ} {u : ℝ} {cs : List Coef} {l : List (ℝ × ℝ)} (h : ColRep pa pb BA u cs l)
    {num k : ℕ} (hn : num ≤ 2 ^ k) (hlen : cs.length ≤ 16) {K c : ℕ} (e : ℝ)
    (hK : (K : ℝ) = e + (Nat.shiftLeft (2 * cs.length) 154 : ℕ)) (hc : c = Nat.shiftLeft (colSum pa pb cs) 65) :
    ∃ fx : ℝ, |tsum l 0 (2 * Real.pi * (num / 2 ^ k)) * (u * 2 ^ 64) - fx| ≤ wsum 0 l 0 * |u| * 16777216 ∧
      |fx| ≤ 5 / 4 * 2 ^ 64 * (wsum 0 l 0 * |u|) ∧
      (colP cs pa pb K c num k : ℝ) - colN cs pa pb K c num k = e + fx ∧
      (colP cs pa pb K c num k : ℝ) + colN cs pa pb K c num k = |e + fx| := by
  obtain ⟨s, m⟩ := fixSum_err (trig_spec hn) h 0 _ _ (by omega) (start_spec _)
  refine ⟨_, s, m, tsub_parts ?_⟩
  -- `subst hc` instead of `rw` runs into the heartbeat limit (`whnf` of the shift by a literal)
  simp only [cast_nat_add]
  rw [hc, hK, shl_cast, shl_cast, shl_cast, goF_cast pa pb (BA : ℝ), BA_cast, B_cast]
  push_cast
  ring

/-- a value `g` known within `e` of `fx`, of which only the positive part `P` and the negative part `N` are
stored (`P - N = fx`, `P + N = |fx|`): bounds of `|g|` and of the two parts of `g` -/
theorem parts_spec {g fx e P N : ℝ} (h : P - N = fx ∧ P + N = |fx|) (he : |g - fx| ≤ e) :
    |g| ≤ P + N + e ∧ P + N - e ≤ |g| ∧ max g 0 ≤ P + e ∧ max (-g) 0 ≤ N + e := by
  obtain ⟨hd, hs⟩ := h
  have he' := abs_le.mp he
  have he0 : 0 ≤ e := (abs_nonneg _).trans he
  have f1 := le_abs_self fx
  have f2 := neg_abs_le fx
  have a1 := (abs_sub_abs_le_abs_sub g fx).trans he
  have a2 := (abs_sub_abs_le_abs_sub fx g).trans ((abs_sub_comm fx g).trans_le he)
  exact ⟨by linarith only [a1, hs], by linarith only [a2, hs],
    max_le (by linarith only [he'.2, hd, hs, f1]) (by linarith only [hd, hs, f2, he0]),
    max_le (by linarith only [he'.1, hd, hs, f2]) (by linarith only [hd, hs, f1, he0])⟩

theorem scale_abs {c : ℝ} (hc : 0 < c) (G : ℝ) : |c * G| / c * U = |G * U| := by
  rw [abs_mul, abs_mul, abs_of_pos hc, abs_of_pos U_pos, mul_div_cancel_left₀ _ hc.ne']

theorem scale_max {c : ℝ} (hc : 0 < c) (G : ℝ) : max (c * G) 0 / c * U = max (G * U) 0 := by
  rw [← max_div_div_right hc.le, max_mul_of_nonneg _ _ U_pos.le, mul_div_cancel_left₀ _ hc.ne', zero_div,
    zero_mul]

theorem part1 {G fx e P N c : ℝ} (hc : 0 < c) (h : P - N = fx ∧ P + N = |fx|) (he : |G * U - fx| ≤ e) :
    |c * G| / c * U ≤ P + N + e ∧ P + N - e ≤ |c * G| / c * U := by
  rw [scale_abs hc]
  have q := parts_spec h he
  exact ⟨q.1, q.2.1⟩

theorem part2 {G fx e P N c : ℝ} (hc : 0 < c) (h : P - N = fx ∧ P + N = |fx|) (he : |-G * U - fx| ≤ e) :
    max (-(c * G)) 0 / c * U ≤ P + e ∧ max (c * G) 0 / c * U ≤ N + e ∧ |c * G| / c * U ≤ P + N + e := by
  rw [← mul_neg, scale_max hc, scale_max hc, scale_abs hc]
  have q := parts_spec h he
  rw [neg_mul, neg_neg, abs_neg] at q
  rw [neg_mul]
  exact ⟨q.2.2.1, q.2.2.2, q.1⟩

/-- the structural checks of `rowOK` on the coefficient lists -/
structure RowHyp (a b : List Dy) : Prop where
  len : a.length = b.length
  le16 : a.length ≤ 16
  oka : allOK a = true
  okb : allOK b = true

theorem sumAbs0_le : ∀ (a b : List Dy) (i : ℕ), allOK a = true → allOK b = true →
    (sumAbs 0 i a b : ℝ) ≤ a.length * 2 ^ 82
  | [], _, _, _, _ => by simp [sumAbs]
  | _ :: _, [], _, _, _ => by simp only [sumAbs, Nat.cast_zero]; positivity
  | a :: as, b :: bs, i, ha, hb => by
    simp only [allOK, Bool.and_eq_true] at ha hb
    have ih := sumAbs0_le as bs (i + 1) ha.2 hb.2
    obtain ⟨_, h1⟩ := coefOK_spec a ha.1
    obtain ⟨_, h2⟩ := coefOK_spec b hb.1
    simp only [sumAbs, pow_zero, one_mul, List.length_cons]
    push_cast
    rw [natAbs_cast, natAbs_cast]
    linarith

/-- five numbers `F`, `P1`, `N1`, `P2`, `N2` (format `2^-144`) enclose `hf L`, `hf1 L / 2π` and `-hf2 L / 4π²` at `t`
with the static radii of `ctx`: `F` is the biased value, `P - N` the positive and negative parts of the other two -/
structure EvAt (ctx : Ctx) (L : List (ℝ × ℝ)) (t : ℝ) (F P1 N1 P2 N2 : ℕ) : Prop where
  val : |hf L t * U - ((F : ℝ) - BF)| ≤ ctx.e0
  d1_le : |hf1 L t| / (2 * Real.pi) * U ≤ (P1 : ℝ) + N1 + ctx.e1
  d1_ge : (P1 : ℝ) + N1 - ctx.e1 ≤ |hf1 L t| / (2 * Real.pi) * U
  d2_neg : max (-hf2 L t) 0 / (2 * Real.pi) ^ 2 * U ≤ (P2 : ℝ) + ctx.e2
  d2_pos : max (hf2 L t) 0 / (2 * Real.pi) ^ 2 * U ≤ (N2 : ℝ) + ctx.e2
  d2_abs : |hf2 L t| / (2 * Real.pi) ^ 2 * U ≤ (P2 : ℝ) + N2 + ctx.e2

/-- at every dyadic point of `[0,1]`, `ev ctx` passes on five numbers that enclose `hf L` and its derivatives there -/
def EvRep (ctx : Ctx) (L : List (ℝ × ℝ)) : Prop :=
  ∀ {num k : ℕ}, num ≤ 2 ^ k → ∃ F P1 N1 P2 N2 : ℕ,
    (∀ {α : Type} (cont : ℕ → ℕ → ℕ → ℕ → ℕ → α), ev ctx num k cont = cont F P1 N1 P2 N2) ∧
    EvAt ctx L (num / 2 ^ k) F P1 N1 P2 N2

/-- **the outputs of `ev`** for the context of a table row, against the real function `hf (rl a b)` -/
theorem ev_spec {a b : List Dy} (H : RowHyp a b) (vmin pmin vmax pmax lip : Dy) :
    EvRep (mkCtx a b vmin pmin vmax pmax lip) (rl a b) := by
  intro num k h
  set ctx := mkCtx a b vmin pmin vmax pmax lip
  have hl : (mkCoefs 0 a b).length = a.length := mkCoefs_length a b 0 H.len
  have hlen : (mkCoefs 0 a b).length ≤ 16 := hl ▸ H.le16
  obtain ⟨r0, r1, r2⟩ := mkCoefs_rep a b 0 (by have := H.le16; omega) H.oka H.okb
  have hS : (sumAbs 0 0 a b : ℝ) ≤ 16 * 2 ^ 82 :=
    (sumAbs0_le a b 0 H.oka H.okb).trans
      (mul_le_mul_of_nonneg_right (by exact_mod_cast H.le16) (by positivity))
  obtain ⟨fx0, s0, m0, eF⟩ := col_spec r0 h hlen (K := ctx.kF) (c := ctx.c0) (BF : ℝ)
    (by rw [hl]; exact Nat.cast_add _ _) rfl
  obtain ⟨fx1, s1, -, e1⟩ := col_spec r1 h hlen (K := ctx.kG) (c := ctx.c1) 0 (by rw [hl, zero_add]; rfl)
    (by rw [colSum_comm]; rfl)
  obtain ⟨fx2, s2, -, e2⟩ := col_spec r2 h hlen (K := ctx.kG) (c := ctx.c2) 0 (by rw [hl, zero_add]; rfl) rfl
  rw [zero_add] at e1 e2
  -- the error bounds are the constants `ctx.e0`, `ctx.e1`, `ctx.e2`
  have cv : ∀ p, wsum p (rl a b) 0 * |(2 : ℝ) ^ 80| * 16777216 = ((sumAbs p 0 a b * EMAX : ℕ) : ℝ) := fun p => by
    rw [abs_of_pos (by positivity), wsum_rl p a b 0 H.oka H.okb, mul_EMAX_cast]
  rw [← pow_add, cv] at s0
  rw [← pow_add, wsum_dcoef, cv] at s1
  rw [neg_mul, ← pow_add, mul_neg, ← neg_mul, abs_neg, wsum_dcoef, wsum_dcoef, cv] at s2
  rw [abs_of_pos (by positivity : (0 : ℝ) < 2 ^ 80), wsum_rl 0 a b 0 H.oka H.okb] at m0
  -- no truncation in `F`
  have hm : |fx0| ≤ 2 ^ 159 := by
    refine m0.trans ((mul_le_mul_of_nonneg_left hS (by positivity)).trans ?_)
    norm_num
  have eF' : (colP (mkCoefs 0 a b) Coef.a0 Coef.b0 ctx.kF ctx.c0 num k : ℝ) - BF = fx0 := by
    have := abs_of_nonneg (show (0 : ℝ) ≤ BF + fx0 by rw [BF_cast]; linarith only [(abs_le.mp hm).1])
    linarith only [eF.1, eF.2, this]
  have q1 := part1 (by positivity : 0 < 2 * Real.pi) e1 s1
  have q2 := part2 (c := (2 * Real.pi) ^ 2) (by positivity) e2 s2
  refine ⟨_, _, _, _, _, fun cont => ev_eq ctx num k cont, ?_⟩
  rw [show ctx.coefs = mkCoefs 0 a b from rfl]
  exact
    { val := by rw [eF']; exact s0
      d1_le := q1.1, d1_ge := q1.2, d2_neg := q2.1, d2_pos := q2.2.1, d2_abs := q2.2.2 }

end Hill

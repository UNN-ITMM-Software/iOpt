import IOptProofs.HillDefs
import IOptProofs.HillReal
import IOptProofs.EnclSoundSum
import IOptProofs.EnclDyadic
import Mathlib.Tactic.FieldSimp
import Mathlib.Tactic.Push
/-!
# Hill certificate, soundness part A: the coefficient encoding of a table row
-/

namespace Hill
open Encl

theorem coefOK_spec (d : Dy) (h : coefOK d = true) :
    dyR d = (scaled d : ℝ) / 2 ^ 80 ∧ |(scaled d : ℝ)| < 2 ^ 81 := by
  simp only [coefOK, Bool.and_eq_true, beq_iff_eq, decide_eq_true_eq] at h
  obtain ⟨h1, h2⟩ := h
  constructor
  · rw [show ((scaled d : ℤ) : ℝ) = dyR d * 2 ^ 80 from dyR_scaled h1, mul_div_cancel_right₀ _ (by positivity)]
  · rw [← natAbs_cast]
    have : ((scaled d).natAbs : ℝ) < (2417851639229258349412352 : ℕ) := by exact_mod_cast h2
    refine this.trans_le ?_
    norm_num

theorem BA_cast : (BA : ℝ) = 2 ^ 89 := by norm_num [BA]
theorem BF_cast : (BF : ℝ) = 2 ^ 160 := by norm_num [BF]

theorem encA_cast (z : Int) (h : |(z : ℝ)| ≤ 2 ^ 89) : ((encA z : ℕ) : ℝ) - (BA : ℝ) = z := by
  unfold encA
  rw [toNat_bias_cast (by rwa [BA_cast]), add_sub_cancel_right]

/-- the encoding of a multiple `c·a` of an accepted coefficient `a`, `|c| ≤ 256` -/
theorem encA_scaled {d : Dy} (h : coefOK d = true) (c : ℤ) (hc : |(c : ℝ)| ≤ 256) :
    ((encA (c * scaled d) : ℕ) : ℝ) - BA = c * dyR d * 2 ^ 80 := by
  obtain ⟨e, hb⟩ := coefOK_spec d h
  rw [encA_cast _ (by
    push_cast; rw [abs_mul]
    exact (mul_le_mul hc hb.le (abs_nonneg _) (by norm_num)).trans (by norm_num)), e]
  push_cast
  field_simp

/-- the real coefficient list of a table row -/
noncomputable def rl (a b : List Dy) : List (ℝ × ℝ) := List.zip (a.map dyR) (b.map dyR)

theorem mkCoefs_length : ∀ (a b : List Dy) (i : ℕ), a.length = b.length → (mkCoefs i a b).length = a.length
  | [], [], _, _ => rfl
  | [], _ :: _, _, h => by simp at h
  | _ :: _, [], _, h => by simp at h
  | _ :: as, _ :: bs, i, h => by
    simp only [mkCoefs, List.length_cons]
    rw [mkCoefs_length as bs (i + 1) (by simpa using h)]

theorem wsum_rl (p : ℕ) : ∀ (a b : List Dy) (i : ℕ), allOK a = true → allOK b = true →
    wsum p (rl a b) i * 2 ^ 80 = sumAbs p i a b
  | [], _, _, _, _ => by simp [rl, sumAbs, wsum]
  | _ :: _, [], _, _, _ => by simp [rl, sumAbs, wsum]
  | a :: as, b :: bs, i, ha, hb => by
    simp only [allOK, Bool.and_eq_true] at ha hb
    have rlc : rl (a :: as) (b :: bs) = (dyR a, dyR b) :: rl as bs := rfl
    simp only [rlc, wsum, sumAbs, add_mul]
    rw [wsum_rl p as bs (i + 1) ha.2 hb.2, (coefOK_spec a ha.1).1, (coefOK_spec b hb.1).1]
    push_cast
    rw [natAbs_cast, natAbs_cast, abs_div, abs_div, abs_of_pos (by positivity : (0:ℝ) < 2 ^ 80)]
    ring

/-- the three column pairs of the encoded coefficient list store the coefficients of `f`, of `f'/2π` and, in units of
`-2^80`, of `f''/4π²` -/
theorem mkCoefs_rep : ∀ (a b : List Dy) (i : ℕ), i + a.length ≤ 16 → allOK a = true → allOK b = true →
    ColRep Coef.a0 Coef.b0 BA (2 ^ 80) (mkCoefs i a b) (rl a b) ∧
    ColRep Coef.b1 Coef.a1 BA (2 ^ 80) (mkCoefs i a b) (dcoef (rl a b) i) ∧
    ColRep Coef.a2 Coef.b2 BA (-2 ^ 80) (mkCoefs i a b) (dcoef (dcoef (rl a b) i) i)
  | [], _, _, _, _, _ => ⟨.nil, .nil, .nil⟩
  | _ :: _, [], _, _, _, _ => ⟨.nil, .nil, .nil⟩
  | a :: as, b :: bs, i, hlen, ha, hb => by
    simp only [allOK, Bool.and_eq_true] at ha hb
    simp only [List.length_cons] at hlen
    obtain ⟨ih1, ih2, ih3⟩ := mkCoefs_rep as bs (i + 1) (by omega) ha.2 hb.2
    have hi : |((i : ℤ) : ℝ)| ≤ 16 := by
      rw [Int.cast_natCast, abs_of_nonneg (Nat.cast_nonneg i)]
      exact_mod_cast (by omega : i ≤ 16)
    have h1 : |((i : ℤ) : ℝ)| ≤ 256 := hi.trans (by norm_num)
    have h2 : |(((i : ℤ) * i : ℤ) : ℝ)| ≤ 256 := by
      push_cast; rw [abs_mul]
      exact (mul_le_mul hi hi (abs_nonneg _) (by norm_num)).trans (by norm_num)
    refine ⟨.cons ⟨?_, ?_⟩ ih1, .cons ⟨?_, ?_⟩ ih2, .cons ⟨?_, ?_⟩ ih3⟩
    · simpa [mkCoef] using encA_scaled ha.1 1 (by norm_num)
    · simpa [mkCoef] using encA_scaled hb.1 1 (by norm_num)
    · simpa [mkCoef] using encA_scaled hb.1 (-i) (by rwa [Int.cast_neg, abs_neg])
    · simpa [mkCoef] using encA_scaled ha.1 i h1
    · simpa [mkCoef, mul_assoc] using encA_scaled ha.1 ((i : ℤ) * i) h2
    · simpa [mkCoef, mul_assoc] using encA_scaled hb.1 ((i : ℤ) * i) h2

end Hill

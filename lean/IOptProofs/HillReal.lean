import IOptProofs.BenchReal
import Mathlib.Analysis.SpecialFunctions.Trigonometric.Deriv
import Mathlib.Tactic.Linarith
import Mathlib.Tactic.Ring
/-!
# Hill functions over `ℝ`: trigonometric sums, their derivatives, and the link to `Prob.hill`
-/

namespace Hill

/-- `Σ_j a_j sin((i+j)θ) + b_j cos((i+j)θ)` -/
noncomputable def tsum : List (ℝ × ℝ) → ℕ → ℝ → ℝ
  | [], _, _ => 0
  | p :: l, i, θ => p.1 * Real.sin (i * θ) + p.2 * Real.cos (i * θ) + tsum l (i + 1) θ

/-- coefficients of the derivative with respect to `θ` -/
def dcoef : List (ℝ × ℝ) → ℕ → List (ℝ × ℝ)
  | [], _ => []
  | p :: l, i => (-(i * p.2), i * p.1) :: dcoef l (i + 1)

theorem hasDerivAt_tsum (l : List (ℝ × ℝ)) : ∀ (i : ℕ) (θ : ℝ),
    HasDerivAt (tsum l i) (tsum (dcoef l i) i θ) θ := by
  induction l with
  | nil => intro i θ; simp only [tsum, dcoef]; exact hasDerivAt_const _ _
  | cons p l ih =>
    intro i θ
    have h1 : HasDerivAt (fun θ : ℝ => (i : ℝ) * θ) (i : ℝ) θ := by
      simpa using (hasDerivAt_id' θ).const_mul (i : ℝ)
    have hs : HasDerivAt (fun θ : ℝ => Real.sin (i * θ)) (Real.cos (i * θ) * i) θ :=
      (Real.hasDerivAt_sin _).comp θ h1
    have hc : HasDerivAt (fun θ : ℝ => Real.cos (i * θ)) (-Real.sin (i * θ) * i) θ :=
      (Real.hasDerivAt_cos _).comp θ h1
    have := ((hs.const_mul p.1).fun_add (hc.const_mul p.2)).fun_add (ih (i + 1) θ)
    simp only [dcoef]
    show HasDerivAt (fun θ => p.1 * Real.sin (i * θ) + p.2 * Real.cos (i * θ) + tsum l (i + 1) θ) _ θ
    refine this.congr_deriv ?_
    simp only [tsum]
    ring

/-- `Σ_j (i+j)^p (|a_j| + |b_j|)` -/
noncomputable def wsum (p : ℕ) : List (ℝ × ℝ) → ℕ → ℝ
  | [], _ => 0
  | q :: l, i => (i : ℝ) ^ p * (|q.1| + |q.2|) + wsum p l (i + 1)

theorem wsum_dcoef (p : ℕ) (l : List (ℝ × ℝ)) : ∀ i, wsum p (dcoef l i) i = wsum (p + 1) l i := by
  induction l with
  | nil => intro i; simp [wsum, dcoef]
  | cons q l ih =>
    intro i
    simp only [wsum, dcoef, ih]
    rw [abs_neg, abs_mul, abs_mul, abs_of_nonneg (Nat.cast_nonneg i)]
    ring

theorem abs_tsum_le (l : List (ℝ × ℝ)) : ∀ (i : ℕ) (θ : ℝ), |tsum l i θ| ≤ wsum 0 l i := by
  induction l with
  | nil => intro i θ; simp [tsum, wsum]
  | cons q l ih =>
    intro i θ
    simp only [tsum, wsum, pow_zero, one_mul]
    refine (abs_add_le _ _).trans ?_
    refine (add_le_add (abs_add_le _ _) (ih _ _)).trans ?_
    rw [abs_mul, abs_mul]
    have h1 : |q.1| * |Real.sin (i * θ)| ≤ |q.1| * 1 :=
      mul_le_mul_of_nonneg_left (Real.abs_sin_le_one _) (abs_nonneg _)
    have h2 : |q.2| * |Real.cos (i * θ)| ≤ |q.2| * 1 :=
      mul_le_mul_of_nonneg_left (Real.abs_cos_le_one _) (abs_nonneg _)
    linarith

noncomputable def hf (l : List (ℝ × ℝ)) (x : ℝ) : ℝ := tsum l 0 (2 * Real.pi * x)
noncomputable def hf1 (l : List (ℝ × ℝ)) (x : ℝ) : ℝ :=
  2 * Real.pi * tsum (dcoef l 0) 0 (2 * Real.pi * x)
noncomputable def hf2 (l : List (ℝ × ℝ)) (x : ℝ) : ℝ :=
  (2 * Real.pi) ^ 2 * tsum (dcoef (dcoef l 0) 0) 0 (2 * Real.pi * x)
noncomputable def hf3 (l : List (ℝ × ℝ)) (x : ℝ) : ℝ :=
  (2 * Real.pi) ^ 3 * tsum (dcoef (dcoef (dcoef l 0) 0) 0) 0 (2 * Real.pi * x)

theorem hasDerivAt_scaled (l : List (ℝ × ℝ)) (c : ℝ) (x : ℝ) :
    HasDerivAt (fun x => c * tsum l 0 (2 * Real.pi * x))
      (c * (2 * Real.pi) * tsum (dcoef l 0) 0 (2 * Real.pi * x)) x := by
  have h1 : HasDerivAt (fun x : ℝ => 2 * Real.pi * x) (2 * Real.pi) x := by
    simpa using (hasDerivAt_id' x).const_mul (2 * Real.pi)
  have := ((hasDerivAt_tsum l 0 (2 * Real.pi * x)).comp x h1).const_mul c
  refine this.congr_deriv ?_
  ring

theorem hasDerivAt_hf (l : List (ℝ × ℝ)) (x : ℝ) : HasDerivAt (hf l) (hf1 l x) x := by
  have := hasDerivAt_scaled l 1 x
  simp only [one_mul] at this
  exact this

theorem hasDerivAt_hf1 (l : List (ℝ × ℝ)) (x : ℝ) : HasDerivAt (hf1 l) (hf2 l x) x := by
  have := hasDerivAt_scaled (dcoef l 0) (2 * Real.pi) x
  refine this.congr_deriv ?_
  unfold hf2; ring

theorem hasDerivAt_hf2 (l : List (ℝ × ℝ)) (x : ℝ) : HasDerivAt (hf2 l) (hf3 l x) x := by
  have := hasDerivAt_scaled (dcoef (dcoef l 0) 0) ((2 * Real.pi) ^ 2) x
  refine this.congr_deriv ?_
  unfold hf3; ring

theorem abs_hf3_le (l : List (ℝ × ℝ)) (x : ℝ) : |hf3 l x| ≤ (2 * Real.pi) ^ 3 * wsum 3 l 0 := by
  unfold hf3
  have hp : 0 ≤ (2 * Real.pi) ^ 3 := by positivity
  rw [abs_mul, abs_of_nonneg hp]
  refine mul_le_mul_of_nonneg_left ?_ hp
  refine (abs_tsum_le _ _ _).trans ?_
  rw [wsum_dcoef, wsum_dcoef, wsum_dcoef]

theorem hill_eq_hf (a b : List ℝ) (x : ℝ) : Prob.hill a b x = hf (List.zip a b) x := by
  unfold Prob.hill hf
  have key : ∀ (l : List (ℝ × ℝ)) (k : ℕ) (acc : ℝ),
      (l.zipIdx k).foldl
        (fun res (p : (ℝ × ℝ) × ℕ) =>
          res + p.1.1 * MathFns.sin (Prob.nat (2 * p.2) * MathFns.pi * x)
            + p.1.2 * MathFns.cos (Prob.nat (2 * p.2) * MathFns.pi * x)) acc
        = acc + tsum l k (2 * Real.pi * x) := by
    intro l
    induction l with
    | nil => intro k acc; simp [tsum]
    | cons p l ih =>
      intro k acc
      rw [List.zipIdx_cons, List.foldl_cons, ih]
      simp only [tsum, BenchReal.sin_eq, BenchReal.cos_eq, BenchReal.pi_eq, BenchReal.nat_eq]
      have : ((2 * k : ℕ) : ℝ) * Real.pi * x = (k : ℝ) * (2 * Real.pi * x) := by push_cast; ring
      rw [this]; ring
  have := key (List.zip a b) 0 0
  rw [zero_add] at this
  exact this

end Hill

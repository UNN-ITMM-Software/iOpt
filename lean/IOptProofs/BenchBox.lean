import Mathlib.Order.Defs.LinearOrder
/-!
# Tests that are sound on boxes, and the bisection principle

Every branch-and-bound checker of the benchmark certificates (Shekel, Shekel4, the Shekel tables, StronginC3, Hill,
Grishagin) has the same shape: a Boolean test on boxes, and a search with fuel that accepts a box if the test does
or if it accepts sub-boxes that cover it.  What differs is the kind of box (`β`), what it means for a point to lie
in one (`In`), how a box is cut, and the property `Q` of points that an accepted box guarantees.
`bisect_sound` serves Shekel, Shekel4, the Shekel tables, StronginC3 and Grishagin (four quarters of a dyadic square).
Hill's `bnb` is not an instance: it returns a witness of `|f'|` collected from the leaves, so its soundness has an
existential half ("a witness found in a sub-interval lies in the interval") beside the pointwise one; splitting it in
two would need a lemma about the cases of the model function `Hill.bnb` that is as long as its one induction
(`Hill.bnb_sound`).
-/

namespace Bench

/-- the test `t` is sound for `Q`: `Q` holds at every point of every box that `t` accepts -/
def Sound {β X : Type} (In : β → X → Prop) (t : β → Prop) (Q : X → Prop) : Prop :=
  ∀ B, t B → ∀ x, In B x → Q x

/-- **The bisection principle.** A search accepts a box with fuel `n + 1` only if at each of its points `Q` holds
outright (the leaf test) or the point lies in a box accepted with fuel `n`; with no fuel it accepts only boxes on
which `Q` holds.  Then `Q` holds on every accepted box.  (Any number of sub-boxes, any way of cutting; side
conditions on boxes go into `acc`.) -/
theorem bisect_sound {β X : Type} (In : β → X → Prop) (Q : X → Prop) (acc : Nat → β → Prop)
    (h0 : Sound In (acc 0) Q)
    (hs : ∀ fuel B, acc (fuel + 1) B → ∀ x, In B x → Q x ∨ ∃ B', acc fuel B' ∧ In B' x) :
    ∀ fuel, Sound In (acc fuel) Q := by
  intro fuel
  induction fuel with
  | zero => exact h0
  | succ fuel ih => exact fun B h x hx => (hs fuel B h x hx).elim id fun ⟨B', hB', hx'⟩ => ih B' hB' x hx'

/-- cutting an interval at any point `m` covers it -/
theorem cut_cover {α : Type} [LinearOrder α] {lo hi y : α} (h1 : lo ≤ y) (h2 : y ≤ hi) (m : α) :
    (lo ≤ y ∧ y ≤ m) ∨ (m ≤ y ∧ y ≤ hi) :=
  (le_total y m).imp (fun hm => ⟨h1, hm⟩) (fun hm => ⟨hm, h2⟩)

end Bench

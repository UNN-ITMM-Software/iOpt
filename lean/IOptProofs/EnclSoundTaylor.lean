import IOptProofs.EnclDefs
import IOptProofs.EnclTrigReal
import IOptProofs.BenchDy
import Mathlib.Analysis.SpecialFunctions.Trigonometric.Bounds
import Mathlib.Tactic.Linarith
import Mathlib.Tactic.Ring
import Mathlib.Tactic.Positivity
import Mathlib.Tactic.NormNum
/-!
# Enclosure kit, soundness part 1: floor lemmas, the reduced angle `phi`, the Taylor stage `cosT`, `sinT`
-/

namespace Encl

noncomputable def dT (X : ℕ) : ℝ := ((X : ℝ) - (B : ℝ)) / 2 ^ 64

theorem ONE_cast : (ONE : ℝ) = 2 ^ 64 := by norm_num [ONE]
theorem B_cast : (B : ℝ) = 2 ^ 65 := by norm_num [B]

theorem shl_cast (n k : ℕ) : ((Nat.shiftLeft n k : ℕ) : ℝ) = (n : ℝ) * 2 ^ k := by
  rw [show Nat.shiftLeft n k = n * 2 ^ k from Nat.shiftLeft_eq n k]
  push_cast
  rfl

theorem mul_shr_floor (a b k : ℕ) :
    ((Nat.shiftRight (Nat.mul a b) k : ℕ) : ℝ) ≤ (a : ℝ) * b / 2 ^ k ∧
    (a : ℝ) * b / 2 ^ k < ((Nat.shiftRight (Nat.mul a b) k : ℕ) : ℝ) + 1 := by
  rw [← cast_nat_mul]
  exact ⟨shr_cast_le _ _, lt_shr_cast _ _⟩

/-- `phi num k` approximates `φ·2^64`, `φ = π·num/2^(k+4) = 2π·(num/2^k)/32`, within 2 units, and
`φ₀ = phi/2^64 ≤ 1/5` -/
theorem phi_spec {num k : ℕ} (h : num ≤ 2 ^ k) :
    |Real.pi * num / 2 ^ (k + 4) * 2 ^ 64 - (phi num k : ℝ)| ≤ 2 ∧
    (phi num k : ℝ) ≤ 2 ^ 64 / 5 := by
  obtain ⟨f1, f2⟩ : (phi num k : ℝ) ≤ (PI_N : ℝ) * num / 2 ^ (Nat.add k 10) ∧
      (PI_N : ℝ) * num / 2 ^ (Nat.add k 10) < (phi num k : ℝ) + 1 := mul_shr_floor _ _ _
  -- with `τ = num/2^k ∈ [0,1]` the unrounded value is `PI_N/2^10·τ`, the ideal one `π·2^60·τ`
  set τ : ℝ := (num : ℝ) / 2 ^ k with hτ
  have hτ0 : 0 ≤ τ := by positivity
  have hτ1 : τ ≤ 1 := by
    rw [hτ, div_le_one (by positivity)]; exact_mod_cast h
  have e1 : (PI_N : ℝ) * num / 2 ^ (Nat.add k 10) = 3708937962535486895300 / 2 ^ 10 * τ := by
    show (PI_N : ℝ) * num / 2 ^ (k + 10) = _
    rw [hτ, pow_add, show (PI_N : ℝ) = 3708937962535486895300 by norm_num [PI_N]]
    field_simp
  have e2 : Real.pi * num / 2 ^ (k + 4) * 2 ^ 64 = Real.pi * 2 ^ 60 * τ := by
    rw [hτ, pow_add]; field_simp
  rw [e1] at f1 f2
  rw [e2]
  have hp := abs_le.mp pi_approx
  have hd : |(Real.pi * 2 ^ 60 - 3708937962535486895300 / 2 ^ 10) * τ| ≤ 1 / 64 * 1 := by
    rw [abs_mul, abs_of_nonneg hτ0]
    exact mul_le_mul (abs_le.mpr ⟨by linarith only [hp.1], by linarith only [hp.2]⟩) hτ1 hτ0 (by norm_num)
  have hd' := abs_le.mp hd
  refine ⟨abs_le.mpr ⟨by linarith only [hd'.1, f1], by linarith only [hd'.2, f2]⟩, f1.trans ?_⟩
  exact (mul_le_of_le_one_right (by positivity) hτ1).trans (by norm_num)

/-- `u` stores the squared angle `u₀ ∈ [0, 1/25]` in units of `2^-64`, within one unit -/
structure IsUsq (u₀ : ℝ) (u : ℕ) : Prop where
  nonneg : 0 ≤ u₀
  le : u₀ ≤ 1 / 25
  err : |u₀ - (u : ℝ) / 2 ^ 64| ≤ 1 / 2 ^ 64
  cast_le : (u : ℝ) ≤ 2 ^ 64 / 25

/-- `w ≤ ONE` stores the value `W ∈ [0, 1]` of a Horner level in units of `2^-64`, within two units -/
structure IsLvl (W : ℝ) (w : ℕ) : Prop where
  nonneg : 0 ≤ W
  le_one : W ≤ 1
  cast_le : (w : ℝ) ≤ 2 ^ 64
  err : |W - (w : ℝ) / 2 ^ 64| ≤ 2 / 2 ^ 64

theorem usq_spec {p : ℕ} (hp : (p : ℝ) ≤ 2 ^ 64 / 5) : IsUsq (((p : ℝ) / 2 ^ 64) ^ 2) (usq p) := by
  have h64 : (0 : ℝ) < 2 ^ 64 := by positivity
  obtain ⟨h1, h2⟩ : (usq p : ℝ) ≤ (p : ℝ) * p / 2 ^ 64 ∧ (p : ℝ) * p / 2 ^ 64 < (usq p : ℝ) + 1 :=
    mul_shr_floor p p 64
  have hφ0 : 0 ≤ (p : ℝ) / 2 ^ 64 := by positivity
  have hφ : (p : ℝ) / 2 ^ 64 ≤ 1 / 5 := by rw [div_le_iff₀ h64]; linarith only [hp]
  have hb : ((p : ℝ) / 2 ^ 64) ^ 2 ≤ 1 / 25 := (pow_le_pow_left₀ hφ0 hφ 2).trans_eq (by norm_num)
  have hsq : ((p : ℝ) / 2 ^ 64) ^ 2 = (p : ℝ) * p / 2 ^ 64 / 2 ^ 64 := by rw [sq, div_mul_div_comm, div_div]
  refine ⟨sq_nonneg _, hb, ?_, ?_⟩
  · rw [hsq, ← sub_div, abs_div, abs_of_pos h64, div_le_div_iff_of_pos_right h64, abs_le]
    exact ⟨by linarith only [h1], by linarith only [h2]⟩
  · rw [hsq, div_le_iff₀ h64] at hb
    linarith only [hb, h1]

theorem IsLvl.one : IsLvl 1 ONE :=
  ⟨zero_le_one, le_rfl, ONE_cast.le, by rw [ONE_cast, div_self (by positivity), sub_self, abs_zero]; positivity⟩

/-- error of one Horner level in exact arithmetic: `uh`, `wh ∈ [0,1]` approximate `u₀ ∈ [0, 1/25]`, `W` within
`ε`, `2ε`, and `mh` is `uh·wh/d` (`d ≥ 2`) rounded down by less than `ε`; then `mh` approximates `u₀·W/d` within
`(ε + 2ε/25)/d + ε ≤ 2ε` -/
theorem horner_err {ε uh wh mh u₀ W d : ℝ} (hu0 : 0 ≤ u₀) (hu1 : u₀ ≤ 1 / 25) (hu : |u₀ - uh| ≤ ε)
    (hw0 : 0 ≤ wh) (hw1 : wh ≤ 1) (hW : |W - wh| ≤ 2 * ε) (hd : 2 ≤ d)
    (hm1 : mh ≤ uh * wh / d) (hm2 : uh * wh / d < mh + ε) : |u₀ * W / d - mh| ≤ 2 * ε := by
  have hε : 0 ≤ ε := (abs_nonneg _).trans hu
  have hd0 : 0 < d := two_pos.trans_le hd
  have h1 : |u₀ * W - uh * wh| ≤ ε * 1 + 1 / 25 * (2 * ε) := by
    rw [show u₀ * W - uh * wh = (u₀ - uh) * wh + u₀ * (W - wh) by ring]
    refine (abs_add_le _ _).trans (add_le_add ?_ ?_)
    · rw [abs_mul, abs_of_nonneg hw0]; exact mul_le_mul hu hw1 hw0 hε
    · rw [abs_mul, abs_of_nonneg hu0]; exact mul_le_mul hu1 hW (abs_nonneg _) (by norm_num)
  have h2 : |u₀ * W / d - uh * wh / d| ≤ ε := by
    rw [← sub_div, abs_div, abs_of_pos hd0, div_le_iff₀ hd0]
    have := mul_le_mul_of_nonneg_left hd hε
    linarith only [h1, this, hε]
  have h2' := abs_le.mp h2
  exact abs_le.mpr ⟨by linarith only [h2'.1, hm1, hε], by linarith only [h2'.2, hm2]⟩

/-- one Horner level: ideal value `1 - u₀·W/d`, computed value `lvl u w dd`, `dd = d·2^64` -/
theorem IsLvl.step {u w dd : ℕ} {u₀ W d : ℝ} (hw : IsLvl W w) (hu : IsUsq u₀ u)
    (hd : 2 ≤ d) (hdd : (dd : ℝ) = d * 2 ^ 64) : IsLvl (1 - u₀ * W / d) (lvl u w dd) := by
  have hd0 : 0 < d := two_pos.trans_le hd
  have h64 : (0 : ℝ) < 2 ^ 64 := by positivity
  have hddpos : 0 < dd := by
    have : (0 : ℝ) < dd := by rw [hdd]; positivity
    exact_mod_cast this
  set m : ℕ := Nat.div (Nat.mul u w) dd
  have huh : (u : ℝ) / 2 ^ 64 ≤ 1 := (div_le_one h64).mpr (hu.cast_le.trans (by norm_num))
  have hwh0 : 0 ≤ (w : ℝ) / 2 ^ 64 := by positivity
  have hwh1 : (w : ℝ) / 2 ^ 64 ≤ 1 := (div_le_one h64).mpr hw.cast_le
  -- the floor `m ≤ u·w/dd < m + 1` in units of `2^-64`
  have e : (u : ℝ) / 2 ^ 64 * (w / 2 ^ 64) / d = ((Nat.mul u w : ℕ) : ℝ) / dd / 2 ^ 64 := by
    rw [hdd, cast_nat_mul]; field_simp
  have hm1 : (m : ℝ) / 2 ^ 64 ≤ (u : ℝ) / 2 ^ 64 * (w / 2 ^ 64) / d := by
    rw [e]; exact div_le_div_of_nonneg_right Nat.cast_div_le h64.le
  have hm2 : (u : ℝ) / 2 ^ 64 * (w / 2 ^ 64) / d < (m : ℝ) / 2 ^ 64 + 1 / 2 ^ 64 := by
    rw [e, ← add_div]; exact div_lt_div_of_pos_right (lt_cast_div_succ _ _ hddpos) h64
  have herr := horner_err hu.nonneg hu.le hu.err hwh0 hwh1 (by rw [mul_one_div]; exact hw.err) hd hm1 hm2
  -- no truncation in `ONE - m`
  have hq : (u : ℝ) / 2 ^ 64 * (w / 2 ^ 64) / d ≤ 1 :=
    div_le_one_of_le₀ ((mul_le_one₀ huh hwh0 hwh1).trans (one_le_two.trans hd)) hd0.le
  have hmle : m ≤ ONE := by
    have : (m : ℝ) ≤ (ONE : ℝ) := by rw [ONE_cast, ← div_le_one h64]; exact hm1.trans hq
    exact_mod_cast this
  have hl : ((lvl u w dd : ℕ) : ℝ) = 2 ^ 64 - m := by
    show ((ONE - m : ℕ) : ℝ) = _
    rw [Nat.cast_sub hmle, ONE_cast]
  have hp1 : u₀ * W / d ≤ 1 :=
    div_le_one_of_le₀ ((mul_le_one₀ (hu.le.trans (by norm_num)) hw.nonneg hw.le_one).trans (one_le_two.trans hd)) hd0.le
  have hp0 : 0 ≤ u₀ * W / d := div_nonneg (mul_nonneg hu.nonneg hw.nonneg) hd0.le
  refine ⟨sub_nonneg.mpr hp1, sub_le_self 1 hp0, by rw [hl]; exact sub_le_self _ (Nat.cast_nonneg m), ?_⟩
  rw [hl, sub_div, div_self h64.ne', sub_sub_sub_cancel_left, abs_sub_comm]
  exact herr.trans_eq (mul_one_div _ _)

/-- the final multiplication of `sinT` by the angle `φ₀ = p/2^64 ≤ 1/5`: `2/5` units are inherited, less than
one is lost by the shift -/
theorem IsLvl.mul_angle {W : ℝ} {w p : ℕ} (hw : IsLvl W w) (hp : (p : ℝ) ≤ 2 ^ 64 / 5) :
    |(p : ℝ) / 2 ^ 64 * W - ((Nat.shiftRight (Nat.mul p w) 64 : ℕ) : ℝ) / 2 ^ 64| ≤ 2 / 2 ^ 64 := by
  have h64 : (0 : ℝ) < 2 ^ 64 := by positivity
  obtain ⟨s1, s2⟩ := mul_shr_floor p w 64
  set φ : ℝ := (p : ℝ) / 2 ^ 64 with hφ
  have hφ0 : 0 ≤ φ := by positivity
  have hφ1 : φ ≤ 1 / 5 := by rw [hφ, div_le_iff₀ h64]; linarith only [hp]
  have e : (p : ℝ) * w / 2 ^ 64 / 2 ^ 64 = φ * ((w : ℝ) / 2 ^ 64) := by rw [hφ, div_mul_div_comm, div_div]
  have k1 := div_le_div_of_nonneg_right s1 h64.le
  have k2 := div_lt_div_of_pos_right s2 h64
  rw [e] at k1 k2
  rw [add_div] at k2
  have hm : |φ * (W - (w : ℝ) / 2 ^ 64)| ≤ 1 / 5 * (2 / 2 ^ 64) := by
    rw [abs_mul, abs_of_nonneg hφ0]; exact mul_le_mul hφ1 hw.err (abs_nonneg _) (by norm_num)
  have hm' := abs_le.mp hm
  exact abs_le.mpr ⟨by linarith only [hm'.1, k1], by linarith only [hm'.2, k2]⟩

theorem C11_horner (φ : ℝ) :
    C11 φ = 1 - φ ^ 2 * (1 - φ ^ 2 * (1 - φ ^ 2 * (1 - φ ^ 2 * (1 - φ ^ 2 * 1 / 90) / 56) / 30) / 12) / 2 := by
  unfold C11; ring

theorem S11_horner (φ : ℝ) :
    S11 φ = φ * (1 - φ ^ 2 * (1 - φ ^ 2 * (1 - φ ^ 2 * (1 - φ ^ 2 * 1 / 72) / 42) / 20) / 6) := by
  unfold S11; ring

/-- the Taylor stage: `cosT`, `sinT` are within 2 units of `C11 φ₀·2^64`, `S11 φ₀·2^64`, `φ₀ = p/2^64` -/
theorem taylor_spec {p : ℕ} (hp : (p : ℝ) ≤ 2 ^ 64 / 5) :
    |C11 ((p : ℝ) / 2 ^ 64) - (cosT (usq p) : ℝ) / 2 ^ 64| ≤ 2 / 2 ^ 64 ∧
    |S11 ((p : ℝ) / 2 ^ 64) - (sinT p (usq p) : ℝ) / 2 ^ 64| ≤ 2 / 2 ^ 64 := by
  have hu := usq_spec hp
  constructor
  · have l1 := IsLvl.one.step hu (d := 90) (dd := 1660206966633859645440) (by norm_num) (by norm_num)
    have l2 := l1.step hu (d := 56) (dd := 1033017668127734890496) (by norm_num) (by norm_num)
    have l3 := l2.step hu (d := 30) (dd := 553402322211286548480) (by norm_num) (by norm_num)
    have l4 := l3.step hu (d := 12) (dd := 221360928884514619392) (by norm_num) (by norm_num)
    have l5 := l4.step hu (d := 2) (dd := 36893488147419103232) (by norm_num) (by norm_num)
    rw [C11_horner]
    exact l5.err
  · have l1 := IsLvl.one.step hu (d := 72) (dd := 1328165573307087716352) (by norm_num) (by norm_num)
    have l2 := l1.step hu (d := 42) (dd := 774763251095801167872) (by norm_num) (by norm_num)
    have l3 := l2.step hu (d := 20) (dd := 368934881474191032320) (by norm_num) (by norm_num)
    have l4 := l3.step hu (d := 6) (dd := 110680464442257309696) (by norm_num) (by norm_num)
    rw [S11_horner]
    exact l4.mul_angle hp

end Encl

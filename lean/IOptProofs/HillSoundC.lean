import IOptProofs.HillSoundB
import IOptProofs.EnclReal
/-!
# Hill certificate, soundness part C: the leaf enclosure (third-order Taylor form), for any represented context

From here on (parts C and D) no table row is mentioned: `CtxRep ctx L vmin … lip` says what the fields of a context stand
for, and the tests of the checker are proved sound for every context in that relation.
-/

namespace Hill
open Encl

theorem mulShr_ge (c x s : ℕ) : (c : ℝ) * x / 2 ^ s ≤ (mulShr c x s : ℝ) := by
  unfold mulShr
  rw [cast_nat_add, Nat.cast_one]
  linarith only [(mul_shr_floor c x s).2]

theorem TWOPI_HI_cast : (TWOPI_HI : ℝ) = 28976077832308491370 := by norm_num [TWOPI_HI]
theorem PISQ2_HI_cast : (PISQ2_HI : ℝ) = 22757758311956604325 := by norm_num [PISQ2_HI]

theorem mulShr_term {C s : ℕ} {κ : ℝ} (hκ0 : 0 ≤ κ) (hκ : κ ≤ (C : ℝ) / 2 ^ s) {z : ℝ} {A : ℕ}
    (hz : z ≤ A) (e : ℕ) : z * κ / 2 ^ e ≤ (mulShr C A (Nat.add e s) : ℝ) := by
  refine le_trans ?_ (mulShr_ge _ _ _)
  rw [show (2 : ℝ) ^ (Nat.add e s) = 2 ^ s * 2 ^ e by rw [mul_comm]; exact pow_add 2 e s, ← div_div,
    div_le_div_iff_of_pos_right (by positivity)]
  calc z * κ ≤ A * κ := mul_le_mul_of_nonneg_right hz hκ0
    _ ≤ A * (C / 2 ^ s) := mul_le_mul_of_nonneg_left hκ (Nat.cast_nonneg _)
    _ = C * A / 2 ^ s := by ring

/-- first-order term: `y ρ U ≤ mulShr TWOPI_HI A (h+62)` when `y/(2π)·U ≤ A`, `ρ = 2^-h` -/
theorem term1 (y : ℝ) (A h : ℕ) (hy : y / (2 * Real.pi) * U ≤ A) :
    y * (1 / 2 ^ h) * U ≤ (mulShr TWOPI_HI A (Nat.add h 62) : ℝ) := by
  have := mulShr_term (κ := 2 * Real.pi) (by positivity) (by rw [TWOPI_HI_cast]; exact two_pi_le) hy h
  rwa [show y / (2 * Real.pi) * U * (2 * Real.pi) / 2 ^ h = y * (1 / 2 ^ h) * U by field_simp] at this

/-- second-order term: `y ρ²/2 U ≤ mulShr PISQ2_HI Q (2h+60)` when `y/(2π)²·U ≤ Q` -/
theorem term2 (y : ℝ) (Q h : ℕ) (hy : y / (2 * Real.pi) ^ 2 * U ≤ Q) :
    y * (1 / 2 ^ h) ^ 2 / 2 * U ≤ (mulShr PISQ2_HI Q (Nat.add (Nat.mul 2 h) 60) : ℝ) := by
  have := mulShr_term (κ := 2 * Real.pi ^ 2) (by positivity) (by rw [PISQ2_HI_cast]; exact two_pi_sq_le) hy
    (Nat.mul 2 h)
  rwa [show y / (2 * Real.pi) ^ 2 * U * (2 * Real.pi ^ 2) / 2 ^ (Nat.mul 2 h) = y * (1 / 2 ^ h) ^ 2 / 2 * U by
    show _ / 2 ^ (2 * h) = _
    rw [pow_mul']; field_simp] at this

/-- remainder term: `z ρ^m ≤ 1 + (d >>> m·h)` when `z ≤ d` -/
theorem term3 (z : ℝ) (d h m : ℕ) (hz : z ≤ d) :
    z * (1 / 2 ^ h) ^ m ≤ 1 + ((Nat.shiftRight d (Nat.mul m h) : ℕ) : ℝ) := by
  have e : z * (1 / 2 ^ h) ^ m = z / 2 ^ (Nat.mul m h) := by
    show _ = z / 2 ^ (m * h)
    rw [one_div, inv_pow, ← pow_mul, mul_comm h m, div_eq_mul_inv]
  rw [e]
  have : z / 2 ^ (Nat.mul m h) ≤ (d : ℝ) / 2 ^ (Nat.mul m h) :=
    div_le_div_of_nonneg_right hz (by positivity)
  linarith only [this, lt_shr_cast d (Nat.mul m h)]

/-- the slack dominates the value error plus the first-, second- and third-order terms on a leaf of half-width
`ρ = 2^-h` -/
theorem slack_ge (ctx : Ctx) (h A1 Q2 : ℕ) {y1 y2 D6 : ℝ} (h1 : y1 / (2 * Real.pi) * U ≤ A1)
    (h2 : y2 / (2 * Real.pi) ^ 2 * U ≤ Q2) (h3 : D6 * U ≤ ctx.d3f) :
    (ctx.e0 : ℝ) + y1 * (1 / 2 ^ h) * U + y2 * (1 / 2 ^ h) ^ 2 / 2 * U + D6 * U * (1 / 2 ^ h) ^ 3
      ≤ (slack ctx h A1 Q2 : ℝ) := by
  unfold slack
  simp only [cast_nat_add, Nat.cast_one]
  exact add_le_add (add_le_add (add_le_add le_rfl (term1 _ _ _ h1)) (term2 _ _ _ h2)) (term3 _ _ _ 3 h3)

/-- `derivHi` dominates `A1` plus the first-order term and the remainder of the derivative -/
theorem derivHi_ge (ctx : Ctx) (h A1 A2 : ℕ) {y2 D2 : ℝ} (h2 : y2 / (2 * Real.pi) * U ≤ A2)
    (h3 : D2 * U ≤ ctx.d3g) :
    (A1 : ℝ) + y2 * (1 / 2 ^ h) * U + D2 * U * (1 / 2 ^ h) ^ 2 ≤ (derivHi ctx h A1 A2 : ℝ) := by
  unfold derivHi
  simp only [cast_nat_add, Nat.cast_one]
  exact add_le_add (add_le_add le_rfl (term1 _ _ _ h2)) (term3 _ _ _ 2 h3)

/-- what the fields of a context mean for the function `hf L` and the table entries `vmin … lip` (given as reals); the
tests of the checker are sound for ANY context in this relation, `mkCtx` of a table row is one (`ctxRep_mk`) -/
structure CtxRep (ctx : Ctx) (L : List (ℝ × ℝ)) (vmin pmin vmax pmax lip : ℝ) : Prop where
  ev : EvRep ctx L
  d3f : (2 * Real.pi) ^ 3 * wsum 3 L 0 / 6 * U ≤ ctx.d3f
  d3g : (2 * Real.pi) ^ 3 * wsum 3 L 0 / 2 / (2 * Real.pi) * U ≤ ctx.d3g
  vmin : (ctx.vminLo : ℝ) - BF ≤ vmin * U ∧ vmin * U < (ctx.vminLo : ℝ) - BF + 1
  vmax : (ctx.vmaxLo : ℝ) - BF ≤ vmax * U ∧ vmax * U < (ctx.vmaxLo : ℝ) - BF + 1
  pmin : ctx.pminN ≤ 2 ^ ctx.pminK ∧ pmin = ctx.pminN / 2 ^ ctx.pminK
  pmax : ctx.pmaxN ≤ 2 ^ ctx.pmaxK ∧ pmax = ctx.pmaxN / 2 ^ ctx.pmaxK
  tL : ∀ y : ℝ, y / (2 * Real.pi) * U ≤ ctx.tL → y ≤ 1.001 * lip

variable {ctx : Ctx} {L : List (ℝ × ℝ)} {vmin pmin vmax pmax lip : ℝ}

/-- the witness of a leaf bounds `|f'|/2π` at its centre from below -/
theorem EvAt.witness {c : ℝ} {F P1 N1 P2 N2 : ℕ} (E : EvAt ctx L c F P1 N1 P2 N2) :
    ((Nat.sub (Nat.add P1 N1) ctx.e1 : ℕ) : ℝ) ≤ |hf1 L c| / (2 * Real.pi) * U := by
  rw [Nat.sub_eq, cast_tsub, cast_nat_add]
  exact max_le E.d1_ge (by positivity)

/-- **the leaf enclosure**: on `|x - c| ≤ 2^-h` the five numbers computed at the centre `c`, with the slacks, enclose
`f` and bound `|f'|/2π` from above (third-order Taylor form about the centre) -/
theorem leaf_enclosure (hc : CtxRep ctx L vmin pmin vmax pmax lip) {c x : ℝ} {h F P1 N1 P2 N2 : ℕ}
    (E : EvAt ctx L c F P1 N1 P2 N2) (hx : |x - c| ≤ 1 / 2 ^ h) :
    ((F : ℝ) - BF - (slack ctx h (Nat.add (Nat.add P1 N1) ctx.e1) (Nat.add P2 ctx.e2) : ℝ) ≤ hf L x * U) ∧
    (hf L x * U ≤ (F : ℝ) - BF + (slack ctx h (Nat.add (Nat.add P1 N1) ctx.e1) (Nat.add N2 ctx.e2) : ℝ)) ∧
    (|hf1 L x| / (2 * Real.pi) * U
      ≤ (derivHi ctx h (Nat.add (Nat.add P1 N1) ctx.e1) (Nat.add (Nat.add P2 N2) ctx.e2) : ℝ)) := by
  set D : ℝ := (2 * Real.pi) ^ 3 * wsum 3 L 0 with hD
  have D1 : D / 6 * U ≤ (ctx.d3f : ℝ) := hc.d3f
  have D2 : D / 2 / (2 * Real.pi) * U ≤ (ctx.d3g : ℝ) := hc.d3g
  have hpi : 0 < 2 * Real.pi := by positivity
  obtain ⟨T1, T2, T3⟩ := taylor3_leaf (hasDerivAt_hf L) (hasDerivAt_hf1 L) (hasDerivAt_hf2 L)
    (abs_hf3_le L) hx
  rw [← hD] at T1 T2 T3
  -- the stored quantities dominate the centre values they stand for
  have hA1 : |hf1 L c| / (2 * Real.pi) * U ≤ ((Nat.add (Nat.add P1 N1) ctx.e1 : ℕ) : ℝ) := by
    simp only [cast_nat_add]; exact E.d1_le
  have hQlo : max (-hf2 L c) 0 / (2 * Real.pi) ^ 2 * U ≤ ((Nat.add P2 ctx.e2 : ℕ) : ℝ) := by
    rw [cast_nat_add]; exact E.d2_neg
  have hQhi : max (hf2 L c) 0 / (2 * Real.pi) ^ 2 * U ≤ ((Nat.add N2 ctx.e2 : ℕ) : ℝ) := by
    rw [cast_nat_add]; exact E.d2_pos
  have hA2 : |hf2 L c| / (2 * Real.pi) / (2 * Real.pi) * U ≤ ((Nat.add (Nat.add P2 N2) ctx.e2 : ℕ) : ℝ) := by
    rw [div_div, ← sq]; simp only [cast_nat_add]; exact E.d2_abs
  have E1' := abs_le.mp E.val
  -- each clause: the Taylor bound times `U`, the value error, and the slack
  refine ⟨?_, ?_, ?_⟩
  · have S := slack_ge ctx h _ _ hA1 hQlo D1
    have T := mul_le_mul_of_nonneg_right T1 U_pos.le
    linarith only [T, S, E1'.1]
  · have S := slack_ge ctx h _ _ hA1 hQhi D1
    have T := mul_le_mul_of_nonneg_right T2 U_pos.le
    linarith only [T, S, E1'.2]
  · have S := derivHi_ge ctx h (Nat.add (Nat.add P1 N1) ctx.e1) _ hA2 D2
    have T := mul_le_mul_of_nonneg_right (div_le_div_of_nonneg_right T3 hpi.le) U_pos.le
    rw [show (|hf1 L c| + |hf2 L c| * (1 / 2 ^ h) + D * (1 / 2 ^ h) ^ 2 / 2) / (2 * Real.pi) * U
        = |hf1 L c| / (2 * Real.pi) * U + |hf2 L c| / (2 * Real.pi) * (1 / 2 ^ h) * U
          + D / 2 / (2 * Real.pi) * U * (1 / 2 ^ h) ^ 2 by ring] at T
    linarith only [T, S, hA1]

end Hill

import IOptProofs.MethodFacts
import IOptProofs.ProcessOps
/-!
# Bridge: the states produced by `Proc.oneIteration` / `doGlobalIteration` / `solveLoop` are reachable

So every property proved for `AGP.Reach` (C02, C06, C04, C01) holds for the state held by a `Process`
after any number of successful iterations, with `log = ps.evals`; and the only exception the global
search can ever raise is the objective's own.
-/
set_option linter.unusedSectionVars false

namespace Proc
open AGP
variable {α : Type} [Field α] [LinearOrder α] [IsStrictOrderedRing α] [Fns α]
variable {p : Params α} {f : Nat → List α → Option α}

/-- The method state held by the process is reachable (`AGP.Reach`) with the process' records as its log: the bridge through which
everything proved of reachable method states (the invariant, C01, C02, C04, C06) applies to a solver after any operations. -/
def ProcOK (p : Params α) (ps : PState α) : Prop :=
  match ps.m with
  | none => ps.evals = []
  | some s => Reach p s ps.evals

theorem procOK_fresh (p : Params α) : ProcOK p ({} : PState α) := rfl

theorem ProcOK.reach {ps : PState α} {s : State α} (h : ProcOK p ps) (hm : ps.m = some s) : Reach p s ps.evals := by
  unfold ProcOK at h; rw [hm] at h; exact h

theorem procOK_of_core {ps ps' : PState α} (hc : ps'.core = ps.core) (h : ProcOK p ps) : ProcOK p ps' := by
  have C := PState.core_eq_iff.1 hc
  unfold ProcOK at h ⊢
  rw [C.m, C.evals]; exact h

theorem oneIteration_procOK {ps ps' : PState α} {id : Nat} (h : ProcOK p ps)
    (hok : oneIteration p f ps = .ok (ps', id)) : ProcOK p ps' := by
  obtain ⟨pt, z, P⟩ := oneIteration_ok hok
  rcases P.step with F | ⟨s, pr, N⟩
  · unfold ProcOK at h ⊢
    rw [F.m] at h
    rw [F.m', P.evals, show ps.evals = [] from h, F.pt]
    exact Reach.first p z
  · unfold ProcOK
    rw [N.m', P.evals, N.pt]
    exact Reach.step z (h.reach N.m) N.prep

/-- **The exceptions of `CalculateIterationPoint` are unreachable at process level**: an iteration
started from a reachable state can only fail because the objective raised. -/
theorem oneIteration_fails (hL : FnsLaws α) (hr : 1 < p.r) (hn : 0 < p.n)
    {ps ps' : PState α} {e : Raise} (h : ProcOK p ps)
    (herr : oneIteration p f ps = .error (ps', e)) : e = .objective ∧ ∃ i pt, f i pt = none := by
  rcases (oneIteration_error herr).cause with ⟨he, pt, O⟩ | ⟨s, s', S⟩
  · exact ⟨he, _, _, O.value⟩
  · obtain ⟨pr, hp, -⟩ := prepare_spec hL hr hn ((h.reach S.m).inv hL hr hn)
    have hpr := S.prep
    rw [hp] at hpr
    cases hpr

theorem iterN_procOK {k : Nat} {ps ps' : PState α} {ids : List Nat} (h : ProcOK p ps)
    (hk : iterN p f k ps = .ok (ps', ids)) : ProcOK p ps' := by
  revert h
  exact iterN_ok_induction hk (fun _ h => h) (fun h1 _ ih h => ih (oneIteration_procOK h h1))

/-- On reachable states the passes of an operation keep reachability if none raised, and only the objective can raise. -/
theorem Passes.procOK (hL : FnsLaws α) (hr : 1 < p.r) (hn : 0 < p.n) {ps Y : PState α} {j : Nat} {ids : List Nat}
    {r : Option Raise} (h : ProcOK p ps) (hp : Passes p f ps j ids r Y) :
    (r = none → ProcOK p Y) ∧ ∀ e, r = some e → e = .objective ∧ ∃ i pt, f i pt = none := by
  cases hp with
  | ok hj => exact ⟨fun _ => iterN_procOK h hj, nofun⟩
  | raise hj he => exact ⟨nofun, fun e h' => by cases h'; exact oneIteration_fails hL hr hn (iterN_procOK h hj) he⟩

theorem Passes.total (hL : FnsLaws α) (hr : 1 < p.r) (hn : 0 < p.n) (htot : ∀ i pt, f i pt ≠ none)
    {ps Y : PState α} {j : Nat} {ids : List Nat} {r : Option Raise} (h : ProcOK p ps) (hp : Passes p f ps j ids r Y) :
    r = none ∧ ProcOK p Y := by
  cases r with
  | none => exact ⟨rfl, (hp.procOK hL hr hn h).1 rfl⟩
  | some e => obtain ⟨-, i, pt, hf⟩ := (hp.procOK hL hr hn h).2 e rfl; exact absurd hf (htot i pt)

theorem iterN_total (hL : FnsLaws α) (hr : 1 < p.r) (hn : 0 < p.n) (htot : ∀ i pt, f i pt ≠ none)
    (k : Nat) {ps : PState α} (h : ProcOK p ps) : ∃ ps' ids, iterN p f k ps = .ok (ps', ids) := by
  cases hk : iterN p f k ps with
  | ok x => exact ⟨x.1, x.2, rfl⟩
  | error x =>
    obtain ⟨j, psj, ids, -, hj, he⟩ := iterN_error (pe := x.1) (e := x.2) hk
    cases (Passes.total hL hr hn htot h (.raise hj he)).1

theorem doGlobalIteration_procOK (k : Nat) {ps : PState α} {saved : List Nat} (h : ProcOK p ps)
    (hno : (doGlobalIteration p f k ps saved).raised = none) :
    ProcOK p (doGlobalIteration p f k ps saved).s := by
  obtain ⟨j, ids, r, Y, D⟩ := dgi_passes p f k ps saved
  rw [D.eq] at hno ⊢
  cases hno
  cases D.passes with
  | ok hj => exact iterN_procOK (ps' := Y) h hj

theorem doGlobalIteration_raise_objective (hL : FnsLaws α) (hr : 1 < p.r) (hn : 0 < p.n) (k : Nat)
    {ps : PState α} {saved : List Nat} {e : Raise} (h : ProcOK p ps)
    (hra : (doGlobalIteration p f k ps saved).raised = some e) : e = .objective := by
  obtain ⟨j, ids, r, Y, D⟩ := dgi_passes p f k ps saved
  rw [D.eq] at hra
  exact ((D.passes.procOK hL hr hn h).2 e hra).1

theorem doGlobalIteration_total (hL : FnsLaws α) (hr : 1 < p.r) (hn : 0 < p.n)
    (htot : ∀ i pt, f i pt ≠ none) (k : Nat) {ps : PState α} {saved : List Nat} (h : ProcOK p ps) :
    (doGlobalIteration p f k ps saved).raised = none := by
  obtain ⟨j, ids, r, Y, D⟩ := dgi_passes p f k ps saved
  rw [D.eq]
  exact (Passes.total hL hr hn htot h D.passes).1

/-- **With an objective that never raises, the loop of `Solve` never catches an exception and ends in
a reachable state** (so C02, C06, C04, C01 apply to the final state with `log = evals`). -/
theorem solveLoop_total (hL : FnsLaws α) (hr : 1 < p.r) (hn : 0 < p.n)
    (htot : ∀ i pt, f i pt ≠ none) {fuel : Nat} {ps : PState α} (hfuel : remaining p ps < fuel) (h : ProcOK p ps) :
    (solveLoop p f fuel ps).2 = false ∧ ProcOK p (solveLoop p f fuel ps).1 := by
  obtain ⟨j, psj, ids, r, Y, L⟩ := solveLoop_cases (f := f) hfuel
  obtain ⟨rfl, hY⟩ := Passes.total hL hr hn htot h L.passes
  rw [L.loop]
  exact ⟨rfl, hY⟩

end Proc

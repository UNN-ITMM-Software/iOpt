import IOptModel.Problems
import IOptProofs.BenchReal
import Mathlib.Algebra.Order.BigOperators.Group.List
import Mathlib.Analysis.SpecialFunctions.Sqrt
import Mathlib.Tactic.Ring
import Mathlib.Tactic.Linarith
import Mathlib.Tactic.Positivity
/-!
# Vectors as coordinate lists: squared distance, scalar product, Cauchy–Schwarz, triangle inequality

The GKLS model (`Prob.gklsNorm`, the `scal` loop of `Prob.gkls`) works on `List α` with `zip`/`foldl`.
Here the loops are rewritten as list sums and the few facts of Euclidean geometry that the structure
theorems need are proved for lists of a common length `n`: such a list is `List.ofFn u` with `u : Fin n → K`
(`exists_ofFn`), `zipWith` acts on these pointwise (`zipWith_ofFn`), so the list sums are sums over `Fin n`
(`sqDist_ofFn`, `dotFrom_ofFn`) and Mathlib's algebra of finite sums applies.
-/

namespace Gkls

section ring
variable {K : Type} [CommRing K]

def sqDist (x y : List K) : K := (List.zipWith (fun a b => (a - b) * (a - b)) x y).sum

/-- `Σ (x_i - m_i)(t_i - m_i)`: the scalar product `⟨x - m, t - m⟩` (the `scal` loop of the model) -/
def dotFrom (m x t : List K) : K :=
  ((List.zip x (List.zip t m)).map (fun p => (p.1 - p.2.2) * (p.2.1 - p.2.2))).sum

@[simp] theorem sqDist_nil_left (y : List K) : sqDist [] y = 0 := by simp [sqDist]
@[simp] theorem sqDist_nil_right (x : List K) : sqDist x [] = 0 := by simp [sqDist]
@[simp] theorem sqDist_cons (a b : K) (x y : List K) :
    sqDist (a :: x) (b :: y) = (a - b) * (a - b) + sqDist x y := by simp [sqDist]

@[simp] theorem dotFrom_nil_x (m t : List K) : dotFrom m [] t = 0 := by simp [dotFrom]
@[simp] theorem dotFrom_nil_t (m x : List K) : dotFrom m x [] = 0 := by simp [dotFrom]
@[simp] theorem dotFrom_nil_m (x t : List K) : dotFrom [] x t = 0 := by simp [dotFrom]
@[simp] theorem dotFrom_cons (c a b : K) (m x t : List K) :
    dotFrom (c :: m) (a :: x) (b :: t) = (a - c) * (b - c) + dotFrom m x t := by simp [dotFrom]

theorem sqDist_comm (x y : List K) : sqDist x y = sqDist y x := by
  rw [sqDist, List.zipWith_comm]
  congr 2
  funext a b
  ring

@[simp] theorem sqDist_self (x : List K) : sqDist x x = 0 := by
  induction x with
  | nil => simp
  | cons a x ih => simp [ih]

theorem exists_ofFn {α : Type} {n : Nat} {x : List α} (h : x.length = n) : ∃ u : Fin n → α, x = List.ofFn u := by
  subst h
  exact ⟨_, List.ofFn_getElem.symm⟩

theorem zipWith_ofFn {α β γ : Type} (f : α → β → γ) {n : Nat} (u : Fin n → α) (v : Fin n → β) :
    List.zipWith f (List.ofFn u) (List.ofFn v) = List.ofFn fun i => f (u i) (v i) := by
  induction n with
  | zero => simp
  | succ n ih => simp [List.ofFn_succ, ih]

variable {n : Nat}

theorem sqDist_ofFn (u v : Fin n → K) : sqDist (List.ofFn u) (List.ofFn v) = ∑ i, (u i - v i) * (u i - v i) := by
  rw [sqDist, zipWith_ofFn, List.sum_ofFn]

theorem dotFrom_ofFn (w u v : Fin n → K) :
    dotFrom (List.ofFn w) (List.ofFn u) (List.ofFn v) = ∑ i, (u i - w i) * (v i - w i) := by
  rw [dotFrom, List.zip_eq_zipWith, List.zip_eq_zipWith, zipWith_ofFn, zipWith_ofFn, List.map_ofFn, List.sum_ofFn]
  rfl

theorem sqDist_expand {x t m : List K} (hx : x.length = n) (ht : t.length = n) (hm : m.length = n) :
    sqDist x t = sqDist x m - 2 * dotFrom m x t + sqDist t m := by
  obtain ⟨u, rfl⟩ := exists_ofFn hx
  obtain ⟨v, rfl⟩ := exists_ofFn ht
  obtain ⟨w, rfl⟩ := exists_ofFn hm
  simp only [sqDist_ofFn, dotFrom_ofFn, Finset.mul_sum, ← Finset.sum_sub_distrib, ← Finset.sum_add_distrib]
  exact Finset.sum_congr rfl fun i _ => by ring

end ring

section ordered
variable {K : Type} [Field K] [LinearOrder K] [IsStrictOrderedRing K]

theorem sqDist_nonneg (x y : List K) : 0 ≤ sqDist x y := by
  rw [sqDist, ← List.map_uncurry_zip_eq_zipWith]
  refine List.sum_nonneg fun c hc => ?_
  obtain ⟨p, _, rfl⟩ := List.mem_map.mp hc
  exact mul_self_nonneg _

/-- Cauchy–Schwarz: `⟨x - m, t - m⟩² ≤ ‖x - m‖² ‖t - m‖²` -/
theorem dotFrom_sq_le {n : Nat} {x t m : List K} (hx : x.length = n) (ht : t.length = n) (hm : m.length = n) :
    dotFrom m x t ^ 2 ≤ sqDist x m * sqDist t m := by
  obtain ⟨u, rfl⟩ := exists_ofFn hx
  obtain ⟨v, rfl⟩ := exists_ofFn ht
  obtain ⟨w, rfl⟩ := exists_ofFn hm
  simp only [sqDist_ofFn, dotFrom_ofFn, ← sq]
  exact Finset.sum_mul_sq_le_sq_mul_sq _ _ _

end ordered

/-- Euclidean distance of two coordinate lists (`GKLS_norm`) -/
noncomputable def dist (x y : List ℝ) : ℝ := Real.sqrt (sqDist x y)

theorem gklsNorm_eq (x y : List ℝ) : Prob.gklsNorm x y = dist x y := by
  unfold Prob.gklsNorm dist sqDist
  show Real.sqrt _ = _
  congr 1
  exact (BenchReal.foldl_add_eq (fun p : ℝ × ℝ => (p.1 - p.2) * (p.1 - p.2)) _ 0).trans
    (by rw [zero_add, List.zip_eq_zipWith, List.map_zipWith])

theorem scal_eq (x t m : List ℝ) :
    (List.zip x (List.zip t m)).foldl (fun s (xi, ti, mi) => s + (xi - mi) * (ti - mi)) 0 = dotFrom m x t :=
  (BenchReal.foldl_add_eq (fun p : ℝ × ℝ × ℝ => (p.1 - p.2.2) * (p.2.1 - p.2.2)) _ 0).trans (zero_add _)

theorem dist_nonneg (x y : List ℝ) : 0 ≤ dist x y := Real.sqrt_nonneg _
theorem dist_comm (x y : List ℝ) : dist x y = dist y x := by unfold dist; rw [sqDist_comm]
@[simp] theorem dist_self (x : List ℝ) : dist x x = 0 := by unfold dist; simp
theorem dist_mul_self (x y : List ℝ) : dist x y * dist x y = sqDist x y :=
  Real.mul_self_sqrt (sqDist_nonneg x y)
theorem dist_sq (x y : List ℝ) : dist x y ^ 2 = sqDist x y := Real.sq_sqrt (sqDist_nonneg x y)

theorem lt_dist_of_sq_lt {x y : List ℝ} {r : ℝ} (h : r ^ 2 < sqDist x y) : r < dist x y :=
  Real.lt_sqrt_of_sq_lt h

section length
variable {n : Nat} {x t m : List ℝ} (hx : x.length = n) (ht : t.length = n) (hm : m.length = n)
include hx ht hm

theorem abs_dotFrom_le : |dotFrom m x t| ≤ dist x m * dist t m := by
  have h := dotFrom_sq_le hx ht hm
  rw [← dist_sq x m, ← dist_sq t m, ← mul_pow] at h
  exact abs_le_of_sq_le_sq h (mul_nonneg (dist_nonneg _ _) (dist_nonneg _ _))

/-- triangle inequality through the point `m`: `‖x - t‖² = ‖x - m‖² - 2⟨x - m, t - m⟩ + ‖t - m‖²
≤ (‖x - m‖ + ‖t - m‖)²` by Cauchy–Schwarz -/
theorem dist_triangle : dist x t ≤ dist x m + dist t m := by
  refine le_of_abs_le (abs_le_of_sq_le_sq ?_ (add_nonneg (dist_nonneg x m) (dist_nonneg t m)))
  rw [dist_sq, sqDist_expand hx ht hm, add_sq, dist_sq, dist_sq]
  linarith [(abs_le.mp (abs_dotFrom_le hx ht hm)).1]

end length

end Gkls

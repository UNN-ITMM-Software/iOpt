import IOptProofs.GrishSound1
/-!
# Grishagin checker, soundness part 2: the integer arithmetic of the centre evaluation is exact

The numbers `valPos - valNeg`, `gxPos - gxNeg`, `gyPos - gyNeg` are `2^164` times the bilinear forms
`genH K`, `genH (dxOp K)`, `genH (dyOp K)` in the fixed-point trigonometric values.
-/

namespace Grish
open Encl Finset

theorem BA_cast : (BA : ℝ) = 2 ^ 40 := by norm_num [BA]
theorem BI_cast : (BI : ℝ) = 2 ^ 106 := by norm_num [BI]
theorem K1_cast : (K1 : ℝ) = 7 * 2 ^ 40 * 2 ^ 65 + 2 ^ 106 := by norm_num [K1]
theorem C14_cast : (C14 : ℝ) = 14 * 2 ^ 106 * 2 ^ 65 := by norm_num [C14]

theorem sum_range7 (f : ℕ → ℝ) : ∑ j ∈ range 7, f j = f 0 + f 1 + f 2 + f 3 + f 4 + f 5 + f 6 := by
  simp only [sum_range_succ, sum_range_zero, zero_add]

theorem dot7_cast (p q : V7) : ((dot7 p q : ℕ) : ℝ) = ∑ j ∈ range 7, (p.get j : ℝ) * (q.get j : ℝ) := by
  rw [sum_range7]
  simp only [dot7, Nat.add_eq, Nat.mul_eq, Nat.cast_add, Nat.cast_mul]
  rfl

theorem sum7_cast (p : V7) : ((sum7 p : ℕ) : ℝ) = ∑ j ∈ range 7, (p.get j : ℝ) := by
  rw [sum_range7]
  simp only [sum7, Nat.add_eq, Nat.cast_add]
  rfl

theorem mw7_get (p : V7) (j : ℕ) (hj : j < 7) : (mw7 p).get j = (j + 1) * p.get j := by
  interval_cases j <;> simp [mw7, V7.get]

/-- the components of `p` are the biased fixed-point numbers `v j · unit + bias` -/
def Rep (p : V7) (unit bias : ℝ) (v : ℕ → ℝ) : Prop := ∀ j < 7, (p.get j : ℝ) = v j * unit + bias

theorem rep_trig (v : V7) : Rep v (2 ^ 64) (2 ^ 65) fun j => dT (v.get j) := fun _ _ => cast_eq_dT _

/-- weighted dot product of two biased vectors: the product of the represented values, and what the biases add -/
theorem cdot (w : ℕ → ℝ) {P U : V7} {k1 b1 k2 b2 : ℝ} {p u : ℕ → ℝ} (hP : Rep P k1 b1 p) (hU : Rep U k2 b2 u) :
    ∑ m ∈ range 7, w m * (P.get m : ℝ) * (U.get m : ℝ)
      = k1 * k2 * ∑ m ∈ range 7, w m * p m * u m + b2 * ∑ m ∈ range 7, w m * (P.get m : ℝ)
        + b1 * ∑ m ∈ range 7, w m * (U.get m : ℝ) - (∑ m ∈ range 7, w m) * b1 * b2 := by
  rw [mul_sum, mul_sum, mul_sum, sum_mul, sum_mul, ← sum_add_distrib, ← sum_add_distrib, ← sum_sub_distrib]
  exact sum_congr rfl fun m hm => by rw [hP m (mem_range.mp hm), hU m (mem_range.mp hm)]; ring

theorem cdot_one {P U : V7} {k1 b1 k2 b2 : ℝ} {p u : ℕ → ℝ} (hP : Rep P k1 b1 p) (hU : Rep U k2 b2 u) :
    ∑ m ∈ range 7, (P.get m : ℝ) * (U.get m : ℝ)
      = k1 * k2 * ∑ m ∈ range 7, p m * u m + b2 * ∑ m ∈ range 7, (P.get m : ℝ)
        + b1 * ∑ m ∈ range 7, (U.get m : ℝ) - 7 * b1 * b2 := by
  simpa only [one_mul, sum_const, card_range, nsmul_eq_mul, mul_one, Nat.cast_ofNat] using cdot (fun _ => 1) hP hU

/-- exactness of an inner sum: coefficients `κ_j·2^36 + 2^40` with `|κ_j| ≤ 7`, trigonometric values of
modulus `≤ 5/4` -/
theorem inner_spec (co v : V7) (κ : ℕ → ℝ) (hco : Rep co (2 ^ 36) (2 ^ 40) κ) (hκ : ∀ j < 7, |κ j| ≤ 7)
    (hv : ∀ j < 7, |dT (v.get j)| ≤ 5 / 4) :
    ((inner co v : ℕ) : ℝ) = (∑ j ∈ range 7, κ j * dT (v.get j)) * 2 ^ 100 + 2 ^ 106 := by
  -- the real value of the minuend minus the subtrahend
  have key : (K1 : ℝ) + (dot7 co v : ℕ) - ((B : ℝ) * (sum7 co : ℕ) + (BA : ℝ) * (sum7 v : ℕ))
      = (∑ j ∈ range 7, κ j * dT (v.get j)) * 2 ^ 100 + 2 ^ 106 := by
    rw [dot7_cast, sum7_cast, sum7_cast, K1_cast, B_cast, BA_cast, cdot_one hco (rep_trig v)]
    ring
  have bound : |∑ j ∈ range 7, κ j * dT (v.get j)| ≤ 62 := by
    refine (abs_sum_le_sum_abs _ _).trans ?_
    have : ∀ j ∈ range 7, |κ j * dT (v.get j)| ≤ 7 * (5 / 4) := fun j hj => by
      rw [abs_mul]
      exact mul_le_mul (hκ j (mem_range.mp hj)) (hv j (mem_range.mp hj)) (abs_nonneg _) (by norm_num)
    refine (sum_le_sum this).trans ?_
    simp only [sum_const, card_range]; norm_num
  -- the truncated subtraction does not truncate: its real value is `≥ (-62)·2^100 + 2^106 > 0`
  unfold inner
  rw [Nat.sub_eq, cast_tsub]
  simp only [Nat.add_eq, Nat.mul_eq]
  push_cast
  rw [key]
  exact max_eq_left (by linarith only [(abs_le.mp bound).1])

/-- row `i` (0-based) of a coefficient matrix -/
def Mat.row (M : Mat) : ℕ → Row
  | 0 => M.r1
  | 1 => M.r2
  | 2 => M.r3
  | 3 => M.r4
  | 4 => M.r5
  | 5 => M.r6
  | _ => M.r7

/-- the biased matrix `M` represents the real coefficients `α`, `β` (of modulus `≤ 1`) -/
structure MatRep (M : Mat) (α β : ℕ → ℕ → ℝ) : Prop where
  al : ∀ i < 7, Rep (M.row i).al (2 ^ 36) (2 ^ 40) (α i)
  be : ∀ i < 7, Rep (M.row i).be (2 ^ 36) (2 ^ 40) (β i)
  lal : ∀ i < 7, Rep (M.row i).lal (2 ^ 36) (2 ^ 40) fun j => ((j + 1 : ℕ) : ℝ) * α i j
  lbe : ∀ i < 7, Rep (M.row i).lbe (2 ^ 36) (2 ^ 40) fun j => ((j + 1 : ℕ) : ℝ) * β i j
  ha : ∀ i < 7, ∀ j < 7, |α i j| ≤ 1
  hb : ∀ i < 7, ∀ j < 7, |β i j| ≤ 1

/-- fixed-point sine / cosine values of a `TD` -/
noncomputable def sH (t : TD) (i : ℕ) : ℝ := dT (t.s.get i)
noncomputable def cH (t : TD) (i : ℕ) : ℝ := dT (t.c.get i)

theorem rep_s (t : TD) : Rep t.s (2 ^ 64) (2 ^ 65) (sH t) := rep_trig _
theorem rep_c (t : TD) : Rep t.c (2 ^ 64) (2 ^ 65) (cH t) := rep_trig _

def TDok (t : TD) : Prop := ∀ i < 7, |sH t i| ≤ 5 / 4 ∧ |cH t i| ≤ 5 / 4

theorem yStage_get (M : Mat) (t : TD) (i : ℕ) (hi : i < 7) :
    (yStage M t).P.get i = inner (M.row i).al t.s ∧ (yStage M t).Q.get i = inner (M.row i).be t.c ∧
    (yStage M t).dP.get i = inner (M.row i).lal t.c ∧ (yStage M t).dQ.get i = inner (M.row i).lbe t.s := by
  interval_cases i <;> exact ⟨rfl, rfl, rfl, rfl⟩

theorem abs_weighted_le {j : ℕ} (hj : j < 7) {a : ℝ} (ha : |a| ≤ 1) : |((j + 1 : ℕ) : ℝ) * a| ≤ 7 := by
  rw [abs_mul, abs_of_nonneg (Nat.cast_nonneg _)]
  have : ((j + 1 : ℕ) : ℝ) ≤ 7 := by exact_mod_cast (by omega : j + 1 ≤ 7)
  calc ((j + 1 : ℕ) : ℝ) * |a| ≤ 7 * 1 := mul_le_mul this ha (abs_nonneg _) (by norm_num)
    _ = 7 := by ring

theorem yStage_rep {M : Mat} {α β : ℕ → ℕ → ℝ} (hM : MatRep M α β) {t : TD} (ht : TDok t) :
    Rep (yStage M t).P (2 ^ 100) (2 ^ 106) (fun i => ∑ j ∈ range 7, α i j * sH t j) ∧
    Rep (yStage M t).Q (2 ^ 100) (2 ^ 106) (fun i => ∑ j ∈ range 7, β i j * cH t j) ∧
    Rep (yStage M t).dP (2 ^ 100) (2 ^ 106) (fun i => ∑ j ∈ range 7, ((j + 1 : ℕ) : ℝ) * α i j * cH t j) ∧
    Rep (yStage M t).dQ (2 ^ 100) (2 ^ 106) (fun i => ∑ j ∈ range 7, ((j + 1 : ℕ) : ℝ) * β i j * sH t j) := by
  have one7 : ∀ a : ℝ, |a| ≤ 1 → |a| ≤ 7 := fun a h => h.trans (by norm_num)
  refine ⟨fun i hi => ?_, fun i hi => ?_, fun i hi => ?_, fun i hi => ?_⟩
  · rw [(yStage_get M t i hi).1]
    exact inner_spec _ _ _ (hM.al i hi) (fun j hj => one7 _ (hM.ha i hi j hj)) (fun j hj => (ht j hj).1)
  · rw [(yStage_get M t i hi).2.1]
    exact inner_spec _ _ _ (hM.be i hi) (fun j hj => one7 _ (hM.hb i hi j hj)) (fun j hj => (ht j hj).2)
  · rw [(yStage_get M t i hi).2.2.1]
    exact inner_spec _ _ _ (hM.lal i hi) (fun j hj => abs_weighted_le hj (hM.ha i hi j hj)) (fun j hj => (ht j hj).2)
  · rw [(yStage_get M t i hi).2.2.2]
    exact inner_spec _ _ _ (hM.lbe i hi) (fun j hj => abs_weighted_le hj (hM.hb i hi j hj)) (fun j hj => (ht j hj).1)

/-- the coefficient quadruple of `d = Σ α ss + β cc` -/
def coAB (α β : ℕ → ℕ → ℝ) : Co := ⟨α, β, 0, 0⟩

/-- the form `K` at the fixed-point trigonometric values of `xs` (functions of `x`) and `ty` (functions of `y`) -/
noncomputable def genH (K : Co) (xs ty : TD) : ℝ := genV K (sH xs) (cH xs) (sH ty) (cH ty)

theorem val_spec {M : Mat} {α β : ℕ → ℕ → ℝ} (hM : MatRep M α β) {ty : TD} (hty : TDok ty) (xs : TD) :
    ((valPos (yStage M ty) xs : ℕ) : ℝ) - ((valNeg (yStage M ty) xs : ℕ) : ℝ)
      = 2 ^ 164 * genH (coAB α β) xs ty := by
  obtain ⟨hP, hQ, -, -⟩ := yStage_rep hM hty
  have g : genH (coAB α β) xs ty
      = ∑ m ∈ range 7, (∑ j ∈ range 7, α m j * sH ty j) * sH xs m
        + ∑ m ∈ range 7, (∑ j ∈ range 7, β m j * cH ty j) * cH xs m := by
    unfold genH genV coAB
    rw [← sum_add_distrib]
    refine sum_congr rfl fun m _ => ?_
    rw [sum_mul, sum_mul, ← sum_add_distrib]
    refine sum_congr rfl fun j _ => ?_
    simp only [Pi.zero_apply]; ring
  unfold valPos valNeg
  simp only [Nat.add_eq, Nat.mul_eq]
  push_cast
  rw [dot7_cast, dot7_cast, sum7_cast, sum7_cast, sum7_cast, sum7_cast, C14_cast, B_cast, BI_cast, g]
  linear_combination cdot_one hP (rep_s xs) + cdot_one hQ (rep_c xs)

theorem dot7_mw7_cast (p q : V7) :
    ((dot7 (mw7 p) q : ℕ) : ℝ) = ∑ m ∈ range 7, ((m + 1 : ℕ) : ℝ) * (p.get m : ℝ) * (q.get m : ℝ) := by
  rw [dot7_cast]
  exact sum_congr rfl fun m hm => by rw [mw7_get p m (mem_range.mp hm)]; push_cast; ring

theorem sum7_mw7_cast (p : V7) :
    ((sum7 (mw7 p) : ℕ) : ℝ) = ∑ m ∈ range 7, ((m + 1 : ℕ) : ℝ) * (p.get m : ℝ) := by
  rw [sum7_cast]
  exact sum_congr rfl fun m hm => by rw [mw7_get p m (mem_range.mp hm)]; push_cast; ring

theorem gx_spec {M : Mat} {α β : ℕ → ℕ → ℝ} (hM : MatRep M α β) {ty : TD} (hty : TDok ty) (xs : TD) :
    ((gxPos (yStage M ty) xs : ℕ) : ℝ) - ((gxNeg (yStage M ty) xs : ℕ) : ℝ)
      = 2 ^ 164 * genH (dxOp (coAB α β)) xs ty := by
  obtain ⟨hP, hQ, -, -⟩ := yStage_rep hM hty
  have g : genH (dxOp (coAB α β)) xs ty
      = ∑ m ∈ range 7, ((m + 1 : ℕ) : ℝ) * (∑ j ∈ range 7, α m j * sH ty j) * cH xs m
        - ∑ m ∈ range 7, ((m + 1 : ℕ) : ℝ) * (∑ j ∈ range 7, β m j * cH ty j) * sH xs m := by
    unfold genH genV coAB dxOp
    rw [← sum_sub_distrib]
    refine sum_congr rfl fun m _ => ?_
    rw [mul_sum, mul_sum, sum_mul, sum_mul, ← sum_sub_distrib]
    refine sum_congr rfl fun j _ => ?_
    simp only [Pi.zero_apply]; ring
  unfold gxPos gxNeg
  simp only [Nat.add_eq, Nat.mul_eq]
  push_cast
  rw [dot7_mw7_cast, dot7_mw7_cast, sum7_mw7_cast, sum7_mw7_cast, sum7_mw7_cast, sum7_mw7_cast, B_cast, BI_cast, g]
  linear_combination cdot (fun m => ((m + 1 : ℕ) : ℝ)) hP (rep_c xs) - cdot (fun m => ((m + 1 : ℕ) : ℝ)) hQ (rep_s xs)

theorem gy_spec {M : Mat} {α β : ℕ → ℕ → ℝ} (hM : MatRep M α β) {ty : TD} (hty : TDok ty) (xs : TD) :
    ((gyPos (yStage M ty) xs : ℕ) : ℝ) - ((gyNeg (yStage M ty) xs : ℕ) : ℝ)
      = 2 ^ 164 * genH (dyOp (coAB α β)) xs ty := by
  obtain ⟨-, -, hP, hQ⟩ := yStage_rep hM hty
  have g : genH (dyOp (coAB α β)) xs ty
      = ∑ m ∈ range 7, (∑ j ∈ range 7, ((j + 1 : ℕ) : ℝ) * α m j * cH ty j) * sH xs m
        - ∑ m ∈ range 7, (∑ j ∈ range 7, ((j + 1 : ℕ) : ℝ) * β m j * sH ty j) * cH xs m := by
    unfold genH genV coAB dyOp
    rw [← sum_sub_distrib]
    refine sum_congr rfl fun m _ => ?_
    rw [sum_mul, sum_mul, ← sum_sub_distrib]
    refine sum_congr rfl fun j _ => ?_
    simp only [Pi.zero_apply]; ring
  unfold gyPos gyNeg
  simp only [Nat.add_eq, Nat.mul_eq]
  push_cast
  rw [dot7_cast, dot7_cast, sum7_cast, sum7_cast, sum7_cast, sum7_cast, B_cast, BI_cast, g]
  linear_combination cdot_one hP (rep_s xs) - cdot_one hQ (rep_c xs)

end Grish

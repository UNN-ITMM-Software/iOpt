import IOptProofs.HillSound
import IOptProofs.BenchExtrema
import Mathlib.Topology.Order.DenselyOrdered
/-!
# Hill functions: consequences of the table claims in the words of properties C10 and C18
(existence of the true extrema by compactness, localisation of all global extremisers, the Lipschitz
constant as the maximum of `|f'|`)
-/

namespace Hill
open Set Filter Topology

theorem hillF'_eq (a b : List Dy) : hillF' a b = hf1 (rl a b) := rfl

theorem hillF_continuous (a b : List Dy) : Continuous (hillF a b) := by
  rw [hillF_eq]
  exact continuous_iff_continuousAt.2 fun x => (hasDerivAt_hf _ x).continuousAt

theorem hillF'_continuous (a b : List Dy) : Continuous (hillF' a b) := by
  rw [hillF'_eq]
  exact continuous_iff_continuousAt.2 fun x => (hasDerivAt_hf1 _ x).continuousAt

/-- a function that is `K`-Lipschitz on `[0,1]` has `|f'| ≤ K` on `(0,1)` (the converse of the mean value inequality)
and, `f'` being continuous, at the two end points -/
theorem abs_deriv_le_of_lipschitz {f f' : ℝ → ℝ} {K : ℝ} (hd : ∀ x, HasDerivAt f (f' x) x) (hc : Continuous f')
    (hK : ∀ x y, 0 ≤ x → x ≤ 1 → 0 ≤ y → y ≤ 1 → |f x - f y| ≤ K * |x - y|) {w : ℝ} (h0 : 0 ≤ w) (h1 : w ≤ 1) :
    |f' w| ≤ K := by
  have hK0 : 0 ≤ K := by simpa using (abs_nonneg _).trans (hK 1 0 zero_le_one le_rfl le_rfl zero_le_one)
  have hin : Ioo (0 : ℝ) 1 ⊆ {x | |f' x| ≤ K} := fun x hx =>
    (hd x).le_of_lip' hK0 (by
      filter_upwards [Icc_mem_nhds hx.1 hx.2] with y hy using hK y x hy.1 hy.2 hx.1.le hx.2.le)
  exact closure_minimal hin (isClosed_le hc.abs continuous_const) (closure_Ioo (zero_ne_one (α := ℝ)) ▸ ⟨h0, h1⟩)

/-- the three clauses of C10 for a function on `[0,1]` with declared minimum value `v` at `p`:
the location clause says that every point farther than `1e-4` from `p` has a strictly larger value than `p` -/
structure HillC10 (f : ℝ → ℝ) (v p : ℝ) : Prop where
  point_in_box : 0 ≤ p ∧ p ≤ 1
  value : |f p - v| ≤ 1e-4
  global : ∀ x, 0 ≤ x → x ≤ 1 → v - 2e-3 * max 1 |v| ≤ f x
  location : ∀ x, 0 ≤ x → x ≤ 1 → 1e-4 < |x - p| → f p < f x

theorem HillClaims.c10 {a b : List Dy} {vmin pmin vmax pmax lip : Dy}
    (h : HillClaims a b vmin pmin vmax pmax lip) : HillC10 (hillF a b) (dyR vmin) (dyR pmin) := by
  have hv := abs_le.mp h.value_min
  refine ⟨h.pmin_mem, ?_, fun x h0 h1 => ?_, fun x h0 h1 hfar => ?_⟩
  · refine h.value_min.trans (by norm_num)
  · have hg := (h.global x h0 h1).1
    have : (2e-3 : ℝ) * 1 ≤ 2e-3 * max 1 |dyR vmin| :=
      mul_le_mul_of_nonneg_left (le_max_left _ _) (by norm_num)
    linarith only [hg, this]
  · by_contra hle
    have := h.loc18_min x h0 h1 (by linarith only [not_lt.1 hle, hv.2])
    linarith only [this, hfar]

/-- there IS a global minimiser on `[0,1]`, and every global minimiser lies within `1e-4` of the declared point -/
theorem HillC10.minimiser {f : ℝ → ℝ} {v p : ℝ} (h : HillC10 f v p) (hf : Continuous f) :
    (∃ xs, 0 ≤ xs ∧ xs ≤ 1 ∧ ∀ x, 0 ≤ x → x ≤ 1 → f xs ≤ f x) ∧
    (∀ xs, 0 ≤ xs → xs ≤ 1 → (∀ x, 0 ≤ x → x ≤ 1 → f xs ≤ f x) → |xs - p| ≤ 1e-4) :=
  Bench.minimiser_Icc hf h.point_in_box fun x h0 h1 hn => h.location x h0 h1 (not_le.1 hn)

/-- the table claims of C18 for one row, in words: the true minimum and maximum over `[0,1]` exist and are
within `1e-4` of the tabulated values; every global minimiser / maximiser is within `1e-4` of the tabulated
point; `1.001·lip` is a Lipschitz constant of `f` on `[0,1]`, no constant below `0.999·lip` is, and the
maximum of `|f'|` over `[0,1]` (which exists) is within 0.1 % of `lip` -/
structure HillC18 (f f' : ℝ → ℝ) (vmin pmin vmax pmax lip : ℝ) : Prop where
  min_exists : ∃ xs, 0 ≤ xs ∧ xs ≤ 1 ∧ (∀ x, 0 ≤ x → x ≤ 1 → f xs ≤ f x) ∧ |f xs - vmin| ≤ 1e-4
  max_exists : ∃ xs, 0 ≤ xs ∧ xs ≤ 1 ∧ (∀ x, 0 ≤ x → x ≤ 1 → f x ≤ f xs) ∧ |f xs - vmax| ≤ 1e-4
  min_loc : ∀ xs, 0 ≤ xs → xs ≤ 1 → (∀ x, 0 ≤ x → x ≤ 1 → f xs ≤ f x) → |xs - pmin| ≤ 1e-4
  max_loc : ∀ xs, 0 ≤ xs → xs ≤ 1 → (∀ x, 0 ≤ x → x ≤ 1 → f x ≤ f xs) → |xs - pmax| ≤ 1e-4
  points_in_box : (0 ≤ pmin ∧ pmin ≤ 1) ∧ (0 ≤ pmax ∧ pmax ≤ 1)
  deriv : ∀ x, HasDerivAt f (f' x) x
  lipschitz : ∀ x y, 0 ≤ x → x ≤ 1 → 0 ≤ y → y ≤ 1 → |f x - f y| ≤ 1.001 * lip * |x - y|
  lip_sharp : ∀ K, (∀ x y, 0 ≤ x → x ≤ 1 → 0 ≤ y → y ≤ 1 → |f x - f y| ≤ K * |x - y|) → 0.999 * lip ≤ K
  deriv_max : ∃ w, 0 ≤ w ∧ w ≤ 1 ∧ (∀ x, 0 ≤ x → x ≤ 1 → |f' x| ≤ |f' w|) ∧
    0.999 * lip ≤ |f' w| ∧ |f' w| ≤ 1.001 * lip

theorem HillClaims.c18 {a b : List Dy} {vmin pmin vmax pmax lip : Dy}
    (h : HillClaims a b vmin pmin vmax pmax lip) :
    HillC18 (hillF a b) (hillF' a b) (dyR vmin) (dyR pmin) (dyR vmax) (dyR pmax) (dyR lip) := by
  have hc := hillF_continuous a b
  have hvmin := abs_le.mp h.value_min
  have hvmax := abs_le.mp h.value_max
  refine
    { min_exists := ?_
      max_exists := ?_
      min_loc := fun xs h0 h1 hmin => ?_
      max_loc := fun xs h0 h1 hmax => ?_
      points_in_box := ⟨h.pmin_mem, h.pmax_mem⟩
      deriv := h.deriv
      lipschitz := fun x y hx0 hx1 hy0 hy1 => ?_
      lip_sharp := fun K hK => ?_
      deriv_max := ?_ }
  · obtain ⟨xs, x0, x1, hmin⟩ := Bench.exists_min_Icc zero_le_one hc
    have h1 := (h.global xs x0 x1).1
    have h2 := hmin (dyR pmin) h.pmin_mem.1 h.pmin_mem.2
    exact ⟨xs, x0, x1, hmin, abs_le.mpr ⟨by linarith only [h1], by linarith only [h2, hvmin.2]⟩⟩
  · obtain ⟨xs, x0, x1, hmax⟩ := Bench.exists_max_Icc zero_le_one hc
    have h1 := (h.global xs x0 x1).2
    have h2 := hmax (dyR pmax) h.pmax_mem.1 h.pmax_mem.2
    exact ⟨xs, x0, x1, hmax, abs_le.mpr ⟨by linarith only [h2, hvmax.1], by linarith only [h1]⟩⟩
  · have := hmin (dyR pmin) h.pmin_mem.1 h.pmin_mem.2
    exact h.loc18_min xs h0 h1 (by linarith only [this, hvmin.2])
  · have := hmax (dyR pmax) h.pmax_mem.1 h.pmax_mem.2
    exact h.loc18_max xs h0 h1 (by linarith only [this, hvmax.1])
  · exact Bench.lipschitz_of_abs_deriv_le h.deriv h.lip_upper x y hx0 hx1 hy0 hy1
  · obtain ⟨w, w0, w1, hw⟩ := h.lip_lower
    exact hw.trans (abs_deriv_le_of_lipschitz h.deriv (hillF'_continuous a b) hK w0 w1)
  · obtain ⟨w, w0, w1, hmax⟩ := Bench.exists_max_Icc zero_le_one (continuous_abs.comp (hillF'_continuous a b))
    obtain ⟨u, u0, u1, hu⟩ := h.lip_lower
    exact ⟨w, w0, w1, hmax, hu.trans (hmax u u0 u1), h.lip_upper w w0 w1⟩

/-- the Hill function `i` of the shipped tables, over `ℝ`: the model function `Prob.hill` applied to the exact
values of the table doubles -/
noncomputable def hillFn (i : Nat) : ℝ → ℝ := hillF (Gen.hillA i) (Gen.hillB i)

noncomputable def hillFn' (i : Nat) : ℝ → ℝ := hillF' (Gen.hillA i) (Gen.hillB i)

theorem hillFn_def (i : Nat) :
    hillFn i = Prob.hill ((Gen.hillA i).map dyR) ((Gen.hillB i).map dyR) := rfl

theorem hillFn'_def (i : Nat) :
    hillFn' i = hf1 (List.zip ((Gen.hillA i).map dyR) ((Gen.hillB i).map dyR)) := rfl

end Hill

import IOptProofs.GklsClass
import IOptProofs.GklsCert2a
import IOptProofs.GklsCert2b
import IOptProofs.GklsCert3a
import IOptProofs.GklsCert3b
import IOptProofs.GklsCert4a
import IOptProofs.GklsCert4b
import IOptProofs.GklsCert5a
import IOptProofs.GklsCert5b
import IOptProofs.RangeBlocks
import Mathlib.Tactic.IntervalCases
/-!
# All 400 regenerated GKLS data sets pass the certificates
-/

namespace Gkls

/-- all 400 data sets (dimension 2..5 × function number 1..100) pass the full certificate -/
theorem cert_all : ∀ d ∈ [2, 3, 4, 5], ∀ k ∈ List.range' 1 100, Cert d k = true := by
  intro d hd
  refine List.forall_mem_range'_of_blocks 1 50 2 fun b hb => ?_
  simp only [List.mem_cons, List.not_mem_nil, or_false] at hd
  rcases hd with rfl | rfl | rfl | rfl <;> interval_cases b
  exacts [cert2a, cert2b, cert3a, cert3b, cert4a, cert4b, cert5a, cert5b]

/-- all 400 data sets are well-formed -/
theorem wf_all : ∀ d ∈ [2, 3, 4, 5], ∀ k ∈ List.range' 1 100, Gkls.WF (Gen.gkls d k) = true :=
  fun d hd k hk => Cert.wf (cert_all d hd k hk)

/-- all 400 data sets satisfy the class clauses -/
theorem classOK_all : ∀ d ∈ [2, 3, 4, 5], ∀ k ∈ List.range' 1 100, Gkls.ClassOK (Gen.gkls d k) = true :=
  fun d hd k hk => Cert.classOK (cert_all d hd k hk)

end Gkls

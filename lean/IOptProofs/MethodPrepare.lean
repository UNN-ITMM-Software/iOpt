import IOptProofs.MethodInv
/-!
# `prepare` never raises under the invariant, and what it returns
-/
set_option linter.unusedSectionVars false

namespace AGP
variable {α : Type} [Field α] [LinearOrder α] [IsStrictOrderedRing α] [Fns α]

/-- What `prepare` returns under the invariant: `pr.s` still satisfies `InvItems` and is `s` up to the characteristics, the queue and `minDelta`, `pr.old` is an
interval of largest characteristic, popped from the queue, with left neighbour `pr.left`, and the new point lies strictly inside it. `commit_inv`
needs nothing else of the selection. -/
structure PrepSpec (p : Params α) (s : State α) (pr : Prep α) : Prop where
  inv : InvItems p pr.s
  recalc_false : pr.s.recalc = false
  M_eq : pr.s.M = s.M
  Z_eq : pr.s.Z = s.Z
  best_eq : pr.s.best = s.best
  nextId_eq : pr.s.nextId = s.nextId
  iters_eq : pr.s.iters = s.iters
  nTrials_eq : pr.s.nTrials = s.nTrials
  items_eq : pr.s.items.map eraseR = s.items.map eraseR
  minDelta_eq : pr.s.minDelta = some (minOpt pr.old.delta s.minDelta)
  decomp : ∃ pre post, pr.s.items = pre ++ pr.left :: pr.old :: post ∧
    QueueOK (pre ++ pr.left :: post) pr.s.queue
  argmax : ∀ it ∈ pr.s.items, keyLe it.R pr.old.R = true
  x_eq : pr.x = nextX p pr.s.M pr.left pr.old
  inside : pr.left.x < pr.x ∧ pr.x < pr.old.x
  point_eq : pr.point = p.image pr.x

theorem PrepSpec.neighbours {p : Params α} {s : State α} {pr : Prep α} (h : PrepSpec p s pr) :
    Neighbours pr.s.items pr.left pr.old := by
  obtain ⟨pre, post, e, _⟩ := h.decomp
  exact ⟨pre, post, e⟩

theorem mid_add_inside {xl xr e : α} (he : |e| < (xr - xl) / 2) :
    xl < (xl + xr) / 2 + e ∧ (xl + xr) / 2 + e < xr := by
  obtain ⟨h1, h2⟩ := abs_lt.1 he
  constructor <;> linarith

/-- the shift `t / (2 r)` of the new point from the midpoint is below half the width `w` when
`t ≤ w` (`t` stands for `(|Δz| / M) ^ N`) -/
theorem shift_lt {t w r : α} (hr : 1 < r) (hw : 0 < w) (ht0 : 0 ≤ t) (ht : t ≤ w) :
    |t / 2 / r| < w / 2 := by
  have hr0 : 0 < r := lt_trans one_pos hr
  rw [abs_of_nonneg (div_nonneg (div_nonneg ht0 zero_le_two) hr0.le)]
  exact lt_of_le_of_lt (div_le_div_of_nonneg_right (div_le_div_of_nonneg_right ht zero_le_two) hr0.le)
    (div_lt_self (half_pos hw) hr)

theorem nextX_inside (hL : FnsLaws α) {p : Params α} {s : State α} (hr : 1 < p.r) (hn : 0 < p.n)
    (h : InvItems p s) {a b : Item α} (hab : Neighbours s.items a b) :
    a.x < nextX p s.M a b ∧ nextX p s.M a b < b.x := by
  have hw : 0 < b.x - a.x := sub_pos.2 (h.nb_lt hab)
  by_cases hev : a.ev = b.ev
  · have hab' : a.ev = true ∧ b.ev = true := by
      rcases h.nb_ev hab with h1 | h1
      · exact ⟨h1, hev ▸ h1⟩
      · exact ⟨hev.symm ▸ h1, h1⟩
    -- `M` dominates the slope, so `|Δz| / M ≤ delta`, and `delta ^ N` is the width
    have hle : |b.z - a.z| / s.M ≤ b.delta := by
      rw [div_le_iff₀ h.M_pos, mul_comm, ← div_le_iff₀ (h.nb_delta_pos hL hn hab)]
      exact h.nb_slope hab hab'.1 hab'.2
    have h0 : 0 ≤ |b.z - a.z| / s.M := div_nonneg (abs_nonneg _) h.M_pos.le
    have ht : (|b.z - a.z| / s.M) ^ p.n ≤ b.x - a.x := by
      rw [← h.nb_delta_pow hL hn hab]; exact pow_le_pow_left₀ h0 hle _
    have hq := shift_lt hr hw (pow_nonneg h0 _) ht
    rw [nextX_of_eq hL p s.M hev]
    split
    · rw [sub_eq_add_neg]; exact mid_add_inside (by rwa [abs_neg])
    · exact mid_add_inside hq
  · rw [nextX_of_ne p s.M hev, ← add_zero ((a.x + b.x) / 2)]
    exact mid_add_inside (by rw [abs_zero]; exact half_pos hw)

theorem prepare_spec (hL : FnsLaws α) {p : Params α} {s : State α} (hr : 1 < p.r) (hn : 0 < p.n)
    (h : Inv p s) : ∃ pr, prepare p s = .ok pr ∧ PrepSpec p s pr := by
  obtain ⟨I1, hrc⟩ := selState_inv h
  have K := Ctl.selState_fields p s
  have F := I1.fresh hrc
  have Q := I1.queue hrc
  have hI := I1.toInvItems
  -- there is an evaluated item, and its characteristic is `some _`; so the largest key is `some _`
  -- too, and the item that carries it is not the head (whose key is `none`): it has a left neighbour
  obtain ⟨bi, hbi, _, hbe, _⟩ := hI.best
  have hbx := (hI.ev_iff bi hbi).1 hbe
  obtain ⟨a', ha'⟩ := hI.exists_left hbi hbx.1.ne'
  have hbiR := isChain_iff_neighbours.1 F.chainR a' bi ha'
  cases hq : (Ctl.selState p s).queue with
  | nil =>
    have := Q.perm.length_eq
    rw [hq] at this
    simp only [List.length_nil, List.length_map] at this
    exact absurd (List.length_eq_zero_iff.1 this.symm) hI.items_ne_nil
  | cons e q =>
    obtain ⟨k, oid⟩ := e
    rw [hq] at Q
    obtain ⟨b, hb, hbk, hmax⟩ := Q.head_max
    have hbR : b.R = k := congrArg Prod.fst hbk
    have hbid : b.id = oid := congrArg Prod.snd hbk
    obtain ⟨kv, hkv⟩ : ∃ kv, k = some kv := by
      have := hmax bi hbi
      rw [hbiR] at this
      cases k with
      | none => simp at this
      | some kv => exact ⟨kv, rfl⟩
    obtain ⟨f, t, el, -, -⟩ := hI.head_tail
    have hbt : b ∈ t := by
      rw [el] at hb
      rcases List.mem_cons.1 hb with rfl | ht
      · rw [F.headR b (by rw [el]; rfl), hkv] at hbR; cases hbR
      · exact ht
    obtain ⟨a, hab⟩ := exists_neighbour_of_mem el hbt
    obtain ⟨pre, post, e⟩ := hab
    have hnd := hI.ids_nodup
    have h2 : findItem (Ctl.selState p s).items oid = some b := hbid ▸ findItem_of_mem hnd hb
    rw [e] at hnd
    have h3 : leftOf (Ctl.selState p s).items oid = some a := by
      rw [e, ← hbid]; exact leftOf_nb hnd
    have h4 := nextX_inside hL hr hn hI ⟨pre, post, e⟩
    refine ⟨_, (Ctl.prepare_eq p s).trans (by
      simp only [hq, h2, h3]
      exact if_neg (not_or.2 ⟨not_le.2 h4.1, not_le.2 h4.2⟩)), ?_⟩
    have hQ' : QueueOK (pre ++ a :: post) q := by
      rw [e, List.append_cons, ← hbk] at Q
      rw [List.append_cons]
      exact Q.pop
    exact {
      inv := hI.of_erase_eq rfl hI.fresh
      recalc_false := hrc
      M_eq := K.M
      Z_eq := K.Z
      best_eq := K.best
      nextId_eq := K.nextId
      iters_eq := K.iters
      nTrials_eq := K.nTrials
      items_eq := K.items ▸ recalcAll_items_erase p s
      minDelta_eq := congrArg (fun m => some (minOpt b.delta m)) (Ctl.selState_minDelta p s)
      decomp := ⟨pre, post, e, hQ'⟩
      argmax := fun it hit => by
        show keyLe it.R b.R = true
        rw [hbR]; exact hmax it hit
      x_eq := rfl
      inside := h4
      point_eq := rfl }

/-- `prepare_spec` for a result already in hand (after a case split on `prepare p s`) -/
theorem prepare_spec' {p : Params α} (hL : FnsLaws α) (hr : 1 < p.r) (hn : 0 < p.n) {s : State α} {pr : Prep α}
    (h : Inv p s) (hp : prepare p s = .ok pr) : PrepSpec p s pr := by
  obtain ⟨pr', hp', hs⟩ := prepare_spec hL hr hn h
  rw [hp] at hp'
  cases hp'
  exact hs

end AGP

import IOptModel.Problems
import IOptGen.ProblemsSrc
/-!
# The hand-written models of the benchmark families equal the translation of the CURRENT source text

`IOptGen/ProblemsSrc.lean` is regenerated on every run by `harness/src2lean.py` from the source text of the
`Calculate` methods under `iOpt/problems` (symbolic execution of the Python AST): the initial values, the loop
bodies and the closing formulas; the translator refuses (`Untranslatable`) when a loop header, the statements around
a loop or the value finally stored differ from the shape the model iterates.  The theorems below state that the
functions of `IOptModel/Problems.lean` — the ones the theorems of C10, C14, C15 and C18 are about and the driver
executes — are folds of exactly these bodies.  All hold over the raw numeric classes, hence also for the `Float`
instance: the expression trees are identical.
-/
set_option linter.unusedSectionVars false

namespace SrcTie
open Gen.PSrc

section
variable {α : Type} [Add α] [Sub α] [Mul α] [Div α] [Neg α] [LT α] [LE α]
  [DecidableLT α] [DecidableLE α] [OfNat α 0] [OfNat α 1] [OfNat α 2] [OfNat α 4] [NatCast α] [MathFns α]

/-- the flag written by the translator: `true` iff it could follow every function; in Lean this is `true = true`,
the content is in the generator -/
theorem problems_translated : Gen.PSrc.translated = true := rfl

/-- `Rastrigin.Calculate` -/
theorem rastrigin_src (x : List α) : Prob.rastrigin x = x.foldl rastriginStep rastriginInit := rfl

/-- `XSquared.Calculate` -/
theorem xsquared_src (x : List α) : Prob.xsquared x = x.foldl xsquaredStep xsquaredInit := rfl

/-- `Hill.Calculate` -/
theorem hill_src (a b : List α) (x : α) :
    Prob.hill a b x = (List.zip a b).zipIdx.foldl (fun res (p : (α × α) × Nat) => hillStep res p.1.1 p.1.2 x p.2) hillInit := rfl

/-- `Shekel.Calculate` -/
theorem shekel_src (k a c : List α) (x : α) :
    Prob.shekel k a c x
      = (List.zip k (List.zip a c)).foldl (fun res (p : α × α × α) => shekelStep res p.1 p.2.1 p.2.2 x) shekelInit := rfl

/-- `Shekel4.Calculate` -/
theorem shekel4_src (a : List (List α)) (c : List α) (x : List α) :
    Prob.shekel4 a c x
      = (List.zip a c).foldl
          (fun res (p : List α × α) =>
            shekel4Step res ((List.zip x p.1).foldl (fun den (q : α × α) => shekel4DenStep den q.1 q.2) shekel4DenInit) p.2)
          shekel4Init := rfl

/-- the recurrence loop `for i in range(0, 6)` with the source's loop body: `(snx, csx)` in index order -/
def grishTrigGo (s1 c1 : α) : Nat → α → α → List α → List α → List α × List α
  | 0, _, _, sn, cs => (sn.reverse, cs.reverse)
  | k + 1, s, c, sn, cs =>
    grishTrigGo s1 c1 k (grishRecS s c s1 c1) (grishRecC s c s1 c1) (grishRecS s c s1 c1 :: sn) (grishRecC s c s1 c1 :: cs)

theorem grishTrig_go_src (s1 c1 : α) (k : Nat) (s c : α) (sn cs : List α) :
    Prob.grishTrig.go s1 c1 k s c sn cs = grishTrigGo s1 c1 k s c sn cs := by
  induction k generalizing s c sn cs with
  | zero => rfl
  | succ k ih => simp only [Prob.grishTrig.go, grishTrigGo, grishRecS, grishRecC]; exact ih _ _ _ _

/-- the sines and cosines of `GrishaginFunction.Calculate`: first entries and six recurrence steps of the source -/
theorem grishTrig_src (t : α) :
    Prob.grishTrig t = grishTrigGo (grishSin1 t) (grishCos1 t) 6 (grishSin1 t) (grishCos1 t) [grishSin1 t] [grishCos1 t] := by
  simp only [Prob.grishTrig, grishTrig_go_src]; rfl

/-- `GrishaginFunction.Calculate`: the double accumulation loop and the returned value -/
theorem grishagin_src (af bf cf df : List (List α)) (x0 x1 : α) :
    Prob.grishagin af bf cf df x0 x1
      = (let tx := Prob.grishTrig x0
         let ty := Prob.grishTrig x1
         let rows := List.zip (List.zip af bf) (List.zip cf df) |>.zip (List.zip tx.1 tx.2)
         let d := rows.foldl
           (fun (acc : α × α) (row : ((List α × List α) × (List α × List α)) × (α × α)) =>
             (List.zip (List.zip row.1.1.1 row.1.1.2) (List.zip row.1.2.1 row.1.2.2) |>.zip (List.zip ty.1 ty.2)).foldl
               (fun (acc : α × α) (e : ((α × α) × (α × α)) × (α × α)) =>
                 (grishAcc1 acc.1 e.1.1.1 e.1.1.2 row.2.1 e.2.1 row.2.2 e.2.2,
                  grishAcc2 acc.2 e.1.2.1 e.1.2.2 row.2.1 e.2.1 row.2.2 e.2.2)) acc)
           (grishD1Init, grishD2Init)
         grishFinal d.1 d.2) := rfl

/-- `GKLS_norm` -/
theorem gklsNorm_src (x1 x2 : List α) :
    Prob.gklsNorm x1 x2 = gklsNormFinal ((List.zip x1 x2).foldl (fun n (p : α × α) => gklsNormStep n p.1 p.2) gklsNormInit) := rfl

/-- the `while` search of `CalculateDFunction`: a ball is skipped exactly when the source's loop condition holds -/
theorem gklsFindBall_src (x : List α) (m : List α) (rho f : α) (t : List (List α × α × α)) :
    Prob.gklsFindBall x ((m, rho, f) :: t)
      = if gklsBallMiss (Prob.gklsNorm m x) rho = true then Prob.gklsFindBall x t else some (m, rho, f) := by
  simp only [Prob.gklsFindBall, gklsBallMiss, decide_eq_true_eq, GT.gt]

/-- `CalculateDFunction` (with `isArgSet`), assembled from the source's pieces; `lit` are the float literals of the cubic
that the numeric class has no name for (`3.0`), the constants record of the model must carry the same values -/
theorem gkls_src (k : Prob.GklsConsts α) (d : Prob.GklsData α) (x : List α) (lit : Nat → α)
    (h3 : k.three = lit 0) (h4 : k.four = 4) :
    Prob.gkls k d x
      = if x.any (fun xi => gklsOutside xi k.domainLeft k.domainRight k.precision) then k.maxValue
        else
          match Prob.gklsFindBall x ((List.zip d.localMin (List.zip d.rho d.f)).drop 1) with
          | none => gklsParaboloid (Prob.gklsNorm (d.localMin.headD []) x) (d.f.headD 0)
          | some (m, rho, fi) =>
            if gklsCoincide (Prob.gklsNorm x m) k.precision = true then fi
            else
              gklsCubic lit rho
                ((List.zip x (List.zip (d.localMin.headD []) m)).foldl
                  (fun s (p : α × α × α) => gklsScalStep s p.1 p.2.1 p.2.2) gklsScalInit)
                (Prob.gklsNorm m x)
                (gklsA (Prob.gklsNorm (d.localMin.headD []) m) (d.f.headD 0) fi) fi := by
  simp only [Prob.gkls, gklsOutside, gklsCoincide, gklsParaboloid, gklsCubic, gklsA, gklsScalStep, gklsScalInit,
    decide_eq_true_eq, GT.gt, h3, h4]
  rfl

end

/-- the one float literal of the cubic that the translator hands over as `lit 0` is the double `3.0` -/
theorem gklsCubicLits_eq : Gen.PSrc.gklsCubicLits = [0x4008000000000000] := rfl

/-! non-vacuity: the hypotheses of `gkls_src` hold for a constants record with `three = 3`, `four = 4` (stand-in library
functions on `Int`, as in `IOptProps/C15.lean`) and the model's `gkls` evaluates to a non-trivial number there; for
Rastrigin both sides of `rastrigin_src` evaluate to the same number -/
section examples
local instance intFns : MathFns Int where
  sin := id
  cos := fun x => x + 1
  exp := id
  sqrt := id
  pi := 3
  pow := fun x _ => x * x

private def kInt : Prob.GklsConsts Int :=
  { maxValue := 1000000, precision := 0, domainLeft := -10, domainRight := 10, three := 3, four := 4 }

example : kInt.three = (fun _ : Nat => (3 : Int)) 0 ∧ kInt.four = 4 := ⟨rfl, rfl⟩

example :
    Prob.gkls kInt { dim := 2, localMin := [[0, 0], [4, 4], [-5, 2]], rho := [0, 30, 2], f := [0, -7, -1] } [4, 2] = 57 := by
  decide

example : Prob.rastrigin ([1, 2] : List Int) = List.foldl rastriginStep rastriginInit [1, 2] ∧
    Prob.rastrigin ([1, 2] : List Int) = -175 := by decide

example : Prob.hill ([1, 2, 3] : List Int) [4, 5, 6] 2 = 315 := by decide
end examples

end SrcTie

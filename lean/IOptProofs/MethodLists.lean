import IOptModel.Method
import IOptProofs.Laws
import Mathlib.Data.List.Chain
import Mathlib.Data.List.Basic
import Mathlib.Order.WithBot
import IOptProofs.SDQueue
/-!
# List-level lemmas about the containers used by the AGP model

`insertBefore`, `findItem`, `leftOf`, the order `keyLe` on queue keys, and the sorted queue (`qinsert`,
`refillQueue`): `keyLe` is the Boolean `≤` of `WithBot α`, so the queue facts are those of `SDQueue`.
-/

namespace AGP

def Neighbours {β : Type} (l : List β) (a b : β) : Prop := ∃ l₁ l₂, l = l₁ ++ a :: b :: l₂

theorem isChain_iff_neighbours {β : Type} {R : β → β → Prop} {l : List β} :
    l.IsChain R ↔ ∀ a b, Neighbours l a b → R a b := by
  rw [List.isChain_iff_forall_rel_of_append_cons_cons]
  constructor
  · rintro h a b ⟨l₁, l₂, e⟩; exact h e
  · intro h a b l₁ l₂ e; exact h a b ⟨l₁, l₂, e⟩

theorem Neighbours.mem_left {β : Type} {l : List β} {a b : β} (h : Neighbours l a b) : a ∈ l := by
  obtain ⟨l₁, l₂, rfl⟩ := h; simp

theorem Neighbours.mem_right {β : Type} {l : List β} {a b : β} (h : Neighbours l a b) : b ∈ l := by
  obtain ⟨l₁, l₂, rfl⟩ := h; simp

theorem Neighbours.outside {β : Type} {r : β → β → Prop} {l : List β} {a b c : β} (hab : Neighbours l a b)
    (hpw : l.Pairwise r) (hc : c ∈ l) : r c a ∨ c = a ∨ c = b ∨ r b c := by
  obtain ⟨l₁, l₂, rfl⟩ := hab
  rw [List.pairwise_append, List.pairwise_cons, List.pairwise_cons] at hpw
  simp only [List.mem_append, List.mem_cons] at hc
  rcases hc with hc | rfl | rfl | hc
  · exact Or.inl (hpw.2.2 c hc a List.mem_cons_self)
  · exact Or.inr (Or.inl rfl)
  · exact Or.inr (Or.inr (Or.inl rfl))
  · exact Or.inr (Or.inr (Or.inr (hpw.2.1.2.1 c hc)))

section Ins
variable {β : Type} {l l' pre post : List β} {a b n b' : β}
  (e : l = pre ++ a :: b :: post) (e' : l' = pre ++ a :: n :: b' :: post)
include e e'

theorem isChain_ins {R : β → β → Prop} (h : l.IsChain R) (h1 : R a n) (h2 : R n b')
    (h3 : ∀ z, R b z → R b' z) : l'.IsChain R := by
  subst e e'
  rw [List.isChain_append_cons_cons] at h ⊢
  refine ⟨h.1, h1, ?_⟩
  rw [List.isChain_cons_cons]
  exact ⟨h2, h.2.2.imp_head (fun {z} => h3 z)⟩

theorem forall_ins {P : β → Prop} (h : ∀ it ∈ l, P it) (hn : P n) (hb : P b → P b') :
    ∀ it ∈ l', P it := by
  subst e e'
  intro it hit
  simp only [List.mem_append, List.mem_cons] at hit h
  rcases hit with hit | rfl | rfl | rfl | hit
  · exact h it (Or.inl hit)
  · exact h it (Or.inr (Or.inl rfl))
  · exact hn
  · exact hb (h b (Or.inr (Or.inr (Or.inl rfl))))
  · exact h it (Or.inr (Or.inr (Or.inr hit)))

theorem exists_ins {P : β → Prop} (h : ∃ it ∈ l, P it) (hb : P b → P b') : ∃ it ∈ l', P it := by
  subst e e'
  obtain ⟨it, hit, hP⟩ := h
  simp only [List.mem_append, List.mem_cons] at hit ⊢
  rcases hit with hit | rfl | rfl | hit
  · exact ⟨it, Or.inl hit, hP⟩
  · exact ⟨it, Or.inr (Or.inl rfl), hP⟩
  · exact ⟨b', Or.inr (Or.inr (Or.inr (Or.inl rfl))), hb hP⟩
  · exact ⟨it, Or.inr (Or.inr (Or.inr (Or.inr hit))), hP⟩

theorem head?_ins : l'.head? = l.head? := by
  subst e e'
  cases pre <;> rfl

theorem last_ins {P : β → Prop} (h : ∀ x ∈ l.getLast?, P x) (hb : P b → P b') :
    ∀ x ∈ l'.getLast?, P x := by
  subst e e'
  intro x hx
  rw [List.getLast?_append] at hx h
  cases post with
  | nil =>
    simp at hx h
    subst hx; exact hb h
  | cons c t =>
    simp only [List.getLast?_cons_cons] at hx h
    exact h x hx

theorem map_ins_perm {γ : Type} (f : β → γ) (hf : f b' = f b) : (l'.map f).Perm (f n :: l.map f) := by
  subst e e'
  have := @List.perm_middle _ (f n) (pre.map f ++ [f a]) (f b :: post.map f)
  simpa [hf] using this

theorem length_ins : l'.length = l.length + 1 := by
  subst e e'
  simp only [List.length_append, List.length_cons]
  omega

end Ins

theorem exists_neighbour_of_mem {β : Type} {l : List β} {f b : β} {t : List β} (hl : l = f :: t)
    (hb : b ∈ t) : ∃ a, Neighbours l a b := by
  subst hl
  obtain ⟨s, u, rfl⟩ := List.append_of_mem hb
  rcases List.eq_nil_or_concat s with rfl | ⟨s', a, rfl⟩
  · exact ⟨f, [], u, by simp⟩
  · exact ⟨a, f :: s', u, by simp⟩

section Items
variable {α : Type}

theorem insertBefore_append (new old' b : Item α) (l₁ post : List (Item α))
    (hid : old'.id = b.id) (hpre : ∀ c ∈ l₁, c.id ≠ b.id) :
    insertBefore new old' (l₁ ++ b :: post) = l₁ ++ new :: old' :: post := by
  induction l₁ with
  | nil => simp [insertBefore, hid]
  | cons c t ih =>
    have hc : c.id ≠ old'.id := by rw [hid]; exact hpre c (by simp)
    simp only [List.cons_append, insertBefore, beq_iff_eq, hc, if_false]
    rw [ih (fun c hc => hpre c (by simp [hc]))]

theorem findItem_eq_some_iff_append {l : List (Item α)} {id : Nat} {b : Item α} :
    findItem l id = some b ↔ b.id = id ∧ ∃ pre post, l = pre ++ b :: post ∧ ∀ c ∈ pre, c.id ≠ id := by
  simp only [findItem, List.find?_eq_some_iff_append, beq_iff_eq, Bool.not_eq_eq_eq_not, Bool.not_true, beq_eq_false_iff_ne, ne_eq]

theorem findItem_append (b : Item α) (l₁ post : List (Item α)) (hpre : ∀ c ∈ l₁, c.id ≠ b.id) :
    findItem (l₁ ++ b :: post) b.id = some b :=
  findItem_eq_some_iff_append.2 ⟨rfl, l₁, post, rfl, hpre⟩

theorem leftOf_none_of_tail {t : List (Item α)} {id : Nat} (h : ∀ a ∈ t, a.id ≠ id) (x : Item α) :
    leftOf (x :: t) id = none := by
  induction t generalizing x with
  | nil => rfl
  | cons b t ih =>
    have hb : (b.id == id) = false := by simpa using h b (by simp)
    simp only [leftOf, hb, Bool.false_eq_true, ↓reduceIte]
    exact ih (fun a ha => h a (by simp [ha])) b

/-- `ht`: when `it` is the head, `leftOf` goes on searching `t` for the id, so no later item may have it. -/
theorem leftOf_append {pre t : List (Item α)} {it : Item α} (hpre : ∀ a ∈ pre, a.id ≠ it.id)
    (ht : pre = [] → ∀ a ∈ t, a.id ≠ it.id) : leftOf (pre ++ it :: t) it.id = pre.getLast? := by
  induction pre with
  | nil => exact leftOf_none_of_tail (ht rfl) it
  | cons a pre ih =>
    cases pre with
    | nil => simp [leftOf]
    | cons b pre =>
      have hb : (b.id == it.id) = false := by simpa using hpre b (by simp)
      simp only [List.cons_append, leftOf, hb, Bool.false_eq_true, ↓reduceIte, List.getLast?_cons_cons]
      exact ih (fun x hx => hpre x (by simp [hx])) nofun

theorem ids_ne_of_nodup {l₁ post : List (Item α)} {b : Item α}
    (h : ((l₁ ++ b :: post).map (·.id)).Nodup) : ∀ c ∈ l₁, c.id ≠ b.id := by
  intro c hc e
  rw [List.map_append, List.map_cons] at h
  have := (List.nodup_append.1 h).2.2 c.id (List.mem_map_of_mem hc) b.id (by simp)
  exact this e

theorem findItem_of_mem {l : List (Item α)} {b : Item α} (hnd : (l.map (·.id)).Nodup) (hb : b ∈ l) :
    findItem l b.id = some b := by
  obtain ⟨l₁, l₂, rfl⟩ := List.append_of_mem hb
  exact findItem_append b l₁ l₂ (ids_ne_of_nodup hnd)

theorem findItem_some {l : List (Item α)} {id : Nat} {b : Item α} (h : findItem l id = some b) :
    b ∈ l ∧ b.id = id :=
  ⟨List.mem_of_find?_eq_some h, by simpa using List.find?_some h⟩

theorem findItem_iff_mem {l : List (Item α)} (hnd : (l.map (·.id)).Nodup) {id : Nat} {a : Item α} :
    findItem l id = some a ↔ a ∈ l ∧ a.id = id := by
  constructor
  · intro h; exact findItem_some h
  · rintro ⟨h, rfl⟩; exact findItem_of_mem hnd h

theorem findItem_isSome_iff (l : List (Item α)) (id : Nat) : (findItem l id).isSome ↔ ∃ a ∈ l, a.id = id := by
  unfold findItem
  rw [List.find?_isSome]
  simp only [beq_iff_eq]

theorem leftOf_some {l : List (Item α)} {id : Nat} {a : Item α} (h : leftOf l id = some a) :
    ∃ pre b post, l = pre ++ a :: b :: post ∧ b.id = id := by
  induction l with
  | nil => simp [leftOf] at h
  | cons c t ih =>
    cases t with
    | nil => simp [leftOf] at h
    | cons d t' =>
      rw [leftOf] at h
      by_cases hd : d.id = id
      · rw [if_pos (by simpa using hd), Option.some.injEq] at h
        subst h
        exact ⟨[], d, t', rfl, hd⟩
      · rw [if_neg (by simpa using hd)] at h
        obtain ⟨pre, b, post, e, hbid⟩ := ih h
        exact ⟨c :: pre, b, post, by rw [e]; rfl, hbid⟩

theorem leftOf_mem (l : List (Item α)) (id : Nat) (a : Item α) (h : leftOf l id = some a) : a ∈ l := by
  obtain ⟨pre, b, post, rfl, -⟩ := leftOf_some h
  simp

/-- the converse of `findItem_of_mem` and `leftOf_nb` below -/
theorem nb_of_findItem_leftOf {l : List (Item α)} (hnd : (l.map (·.id)).Nodup) {id : Nat} {old left : Item α}
    (hf : findItem l id = some old) (hl : leftOf l id = some left) :
    ∃ pre post, l = pre ++ left :: old :: post ∧ old.id = id := by
  obtain ⟨pre, b, post, e, hb⟩ := leftOf_some hl
  cases hf.symm.trans ((findItem_iff_mem hnd).2 ⟨by rw [e]; simp, hb⟩)
  exact ⟨pre, post, e, hb⟩

section Nb
variable {pre post : List (Item α)} {a b : Item α}
  (hnd : ((pre ++ a :: b :: post).map (·.id)).Nodup)
include hnd

theorem ids_ne_of_nodup_nb : ∀ c ∈ pre ++ [a], c.id ≠ b.id :=
  ids_ne_of_nodup (post := post) (by rwa [List.append_assoc, List.singleton_append])

theorem leftOf_nb : leftOf (pre ++ a :: b :: post) b.id = some a := by
  have := leftOf_append (t := post) (ids_ne_of_nodup_nb hnd) (by simp)
  rwa [List.append_assoc, List.singleton_append, List.getLast?_concat] at this

theorem insertBefore_nb (new : Item α) {old' : Item α} (hid : old'.id = b.id) :
    insertBefore new old' (pre ++ a :: b :: post) = pre ++ a :: new :: old' :: post := by
  have := insertBefore_append new old' b (pre ++ [a]) post hid (ids_ne_of_nodup_nb hnd)
  rwa [List.append_assoc, List.append_assoc, List.singleton_append, List.singleton_append] at this

end Nb

end Items

section Keys
variable {α : Type} [LinearOrder α]

theorem keyLe_refl (a : Option α) : keyLe a a = true := by
  cases a <;> simp [keyLe]

@[simp] theorem keyLe_some_some (a b : α) : (keyLe (some a) (some b) = true) ↔ a ≤ b := by
  simp [keyLe]

@[simp] theorem keyLe_some_none (a : α) : keyLe (some a) none = false := rfl

@[simp] theorem keyLe_none (a : Option α) : keyLe none a = true := by cases a <;> rfl

def QSorted (q : List (Option α × Nat)) : Prop := q.Pairwise (fun a b => keyLe b.1 a.1 = true)

theorem keyLe_eq_leB (a b : WithBot α) :
    keyLe (α := α) a b = SD.leB a b := by
  induction a using WithBot.recBotCoe with
  | bot => exact (decide_eq_true (bot_le : (⊥ : WithBot α) ≤ b)).symm
  | coe a =>
    induction b using WithBot.recBotCoe with
    | bot => exact (decide_eq_false (WithBot.not_coe_le_bot a)).symm
    | coe b => exact decide_eq_decide.2 WithBot.coe_le_coe.symm

theorem keyLe_fun_eq_leB :
    (keyLe : Option α → Option α → Bool) = @SD.leB (WithBot α) _ := by
  funext a b; exact keyLe_eq_leB a b

theorem qsorted_iff (q : List (Option α × Nat)) :
    QSorted q ↔ SD.QSorted (κ := WithBot α) q := by
  unfold QSorted SD.QSorted
  refine ⟨fun h => h.imp ?_, fun h => h.imp ?_⟩
  · intro a b hab
    have := keyLe_eq_leB (α := α) b.1 a.1
    rw [hab] at this
    simpa using this.symm
  · intro a b hab
    have := keyLe_eq_leB (α := α) b.1 a.1
    exact this.trans (by simpa using hab)

theorem qinsert_perm (q : List (Option α × Nat)) (k : Option α) (v : Nat) :
    (qinsert q k v).Perm ((k, v) :: q) :=
  SD.qinsertRaw_perm k v q

/-- the order facts of `SDQueue` are stated for the Boolean `≤` of a linear order; they reach `keyLe` through
`keyLe_fun_eq_leB` and `qsorted_iff` -/
theorem qinsert_sorted (q : List (Option α × Nat)) (k : Option α) (v : Nat) (hq : QSorted q) :
    QSorted (qinsert q k v) := by
  unfold qinsert; rw [keyLe_fun_eq_leB]
  exact (qsorted_iff _).2 (SD.qinsertRaw_sorted (κ := WithBot α) k v ((qsorted_iff q).1 hq))

def qkey (it : Item α) : Option α × Nat := (it.R, it.id)

theorem refillQueue_eq_qsortAll (l : List (Item α)) :
    refillQueue l = SD.qsortAll (κ := WithBot α) (l.map qkey) := by
  unfold refillQueue SD.qsortAll SD.qinsertAll qinsert
  rw [keyLe_fun_eq_leB]
  exact (List.foldl_map (f := qkey) (g := fun q (e : WithBot α × Nat) => SD.qinsert SD.leB none e.1 e.2 q)).symm

theorem refillQueue_perm (l : List (Item α)) : (refillQueue l).Perm (l.map qkey) := by
  rw [refillQueue_eq_qsortAll]; exact SD.qsortAll_perm _

theorem refillQueue_sorted (l : List (Item α)) : QSorted (refillQueue l) := by
  rw [refillQueue_eq_qsortAll]; exact (qsorted_iff _).2 (SD.qsortAll_sorted _)

end Keys

end AGP

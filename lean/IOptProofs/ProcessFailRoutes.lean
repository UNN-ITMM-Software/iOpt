import IOptProofs.ProcessFail
import IOptProofs.ProcessRefine
/-!
# An objective that raises during `Solve`, on every route to the failing evaluation

`IOptProofs/ProcessFail.lean` proves failure containment for a `Solve` that starts in ANY state in which the failing
evaluation is not the first iteration ever (`fail_contained_of_run`); the case of a fresh solver is `IOptProps/C16.lean`.  Here are the other
routes to such a state: batches of `DoGlobalIteration` calls, or an earlier `Solve` whose parameters were then changed in
place.  For contrast, the same failure inside a `DoGlobalIteration` call made by the user is NOT contained (`dgi_fail_from`).

Before the failing call index the run with the raising objective `f` is the run with any `g` that agrees with `f` elsewhere: the
operations read the oracle only at the indices of the calls they make (`runOps_batches_congr`, `solve_normal_oracle_congr`).  Each route
lemma (`fail_after_batches`, `fail_in_resumed_solve`, `fail_dgi_after_batches`) states the final state explicitly, for every refinement;
the clause lists of `IOptProps/C16routes.lean` are read off that equation.
-/

set_option linter.unusedSectionVars false

section
variable {α : Type} [Add α] [Sub α] [Mul α] [Div α] [Neg α] [LT α] [LE α]
  [DecidableLT α] [DecidableLE α] [OfNat α 0] [OfNat α 1] [OfNat α 2] [OfNat α 4] [Fns α]

namespace Proc
open AGP AGP.Ctl

theorem doGlobalIteration_oracle_congr {p : Params α} {f g : Nat → List α → Option α} {n : Nat} {ps : PState α}
    (h : ∀ j pt, ps.calls ≤ j → j < ps.calls + n → f j pt = g j pt) (saved : List Nat) :
    doGlobalIteration p f n ps saved = doGlobalIteration p g n ps saved := by
  rw [doGlobalIteration_eq, doGlobalIteration_eq, iterN_oracle_congr h]

theorem runOps_batches_congr {p : Params α} {f g : Nat → List α → Option α}
    {r r' : PState α → Option (LocalResult α)} (bs : List Nat) {ps ps' : PState α} {ids : List Nat}
    (h0 : iterN p g bs.sum ps = .ok (ps', ids))
    (h : ∀ j pt, ps.calls ≤ j → j < ps.calls + bs.sum → f j pt = g j pt) :
    runOps p f r (bs.map Op.iter) ps = runOps p g r' (bs.map Op.iter) ps := by
  induction bs generalizing ps ps' ids with
  | nil => rfl
  | cons b bs ih =>
    rw [List.sum_cons] at h0
    obtain ⟨ps1, ids1, ids2, h1, h2, -⟩ := iterN_add_ok h0
    rw [List.sum_cons] at h
    simp only [List.map_cons, runOps, runOp]
    rw [doGlobalIteration_oracle_congr (f := f) (g := g) (fun j pt a b => h j pt a (by omega))]
    rw [doGlobalIteration_eq, h1]
    simp only [List.nil_append]
    obtain ⟨ps2', h2', -⟩ := iterN_congr_ok (ps := ps1) (ps' := ps1.appendLog [Event.endIteration ids1])
      (PState.appendLog_core _ _).symm h2
    have hc1 : ps1.calls = ps.calls + b := (iterN_eff h1).calls
    refine ih (ps := ps1.appendLog [Event.endIteration ids1]) h2' (fun j pt a b => h j pt ?_ ?_)
    · simp only [PState.appendLog_calls] at a; omega
    · simp only [PState.appendLog_calls] at b; omega

/-- what is read off a state `X` that is state `n` of the canonical sequence from a fresh solver (`ps0`) up to the event log -/
structure BatchFacts (n : Nat) (ps0 X : PState α) : Prop where
  core : X.core = ps0.core
  calls : X.calls = n
  nTrials : X.nTrials = n
  nLocal : X.nLocal = 0
  nextId : X.nextId = n + 2
  m : 1 ≤ n → X.m ≠ none
  refined : X.refined = none

theorem batches_fields {p : Params α} {f : Nat → List α → Option α} {r : PState α → Option (LocalResult α)}
    (bs : List Nat) {ps0 : PState α} {ids0 : List Nat} (h0 : iterN p f bs.sum {} = .ok (ps0, ids0)) :
    BatchFacts bs.sum ps0 (runOps p f r (bs.map Op.iter) {}) := by
  have hc := batches_sum (refine := r) bs h0
  have C := PState.core_eq_iff.1 hc
  have e := iterN_eff h0
  exact {
    core := hc
    calls := C.calls.trans e.calls_fresh
    nTrials := (PState.nTrials_congr hc).trans e.nTrials_fresh
    nLocal := C.nLocal.trans e.nLocal
    nextId := by
      simp only [PState.nextId, C.m]
      have : ps0.nextId = 2 + bs.sum := e.nextId
      simp only [PState.nextId] at this
      omega
    m := fun h1 => by rw [C.m]; exact e.m_ne_none (.inr h1)
    refined := C.refined.trans e.refined }

theorem batches_below_fail {p : Params α} {f g : Nat → List α → Option α} {n : Nat}
    (hg : ∀ j pt, j ≠ n → g j pt = f j pt) (bs : List Nat) (hjk : bs.sum ≤ n)
    {ps0 : PState α} {ids0 : List Nat} (h0 : iterN p g bs.sum {} = .ok (ps0, ids0))
    (r r' : PState α → Option (LocalResult α)) :
    runOps p f r (bs.map Op.iter) {} = runOps p g r' (bs.map Op.iter) {} := by
  refine runOps_batches_congr bs h0 (fun j pt _ h2 => ?_)
  have h0c : ({} : PState α).calls = 0 := rfl
  rw [h0c] at h2
  exact (hg j pt (by omega)).symm

theorem canonical_of_batches {p : Params α} {g : Nat → List α → Option α} {r : PState α → Option (LocalResult α)}
    (bs : List Nat) {ps0 : PState α} {ids0 : List Nat} (h0 : iterN p g bs.sum {} = .ok (ps0, ids0))
    {i : Nat} {psi : PState α} {ids : List Nat}
    (hi : iterN p g i (runOps p g r (bs.map Op.iter) {}) = .ok (psi, ids)) :
    ∃ psk, iterN p g (bs.sum + i) {} = .ok (psk, List.range' 2 (bs.sum + i)) ∧ psk.core = psi.core ∧
      ids = List.range' (bs.sum + 2) i := by
  have B := batches_fields (r := r) bs h0
  obtain ⟨psk, hrun, hck⟩ := iterN_shift h0 B.core hi
  have hids : ids0 ++ ids = List.range' 2 (bs.sum + i) := (iterN_eff hrun).ids
  rw [hids] at hrun
  exact ⟨psk, hrun, hck, by rw [(iterN_eff hi).ids, B.nextId]⟩

theorem solve_normal_oracle_congr {p : Params α} {f g : Nat → List α → Option α} {ps : PState α}
    (hnr : (solveLoop p f (p.itersLimit + 1) ps).2 = false) (refine : PState α → Option (LocalResult α))
    (hg : ∀ j pt, ps.calls ≤ j → j < ps.calls + ((solve p f refine ps).nTrials - ps.nTrials) → g j pt = f j pt) :
    ∃ K psK ids, iterN p g K ps = .ok (psK, ids) ∧ stopNow p psK = true ∧
      (solve p f refine ps).nTrials = ps.nTrials + K ∧
      solve p g refine ps = solve p f refine ps ∧
      solve p f refine ps = (refineStep refine (psK.appendLog (endEach ids))).appendLog [Event.methodStop true] := by
  obtain ⟨K, psK, ids, r, Y, L⟩ := solve_passes p f ps
  have hpre := L.pre
  have hsl := L.loop
  rw [hsl] at hnr
  cases L.loopEnd with
  | raise _ _ => cases hnr
  | stop hst =>
    simp only [excOf, List.append_nil] at hsl
    have hsolve : solve p f refine ps = (refineStep refine (psK.appendLog (endEach ids))).appendLog [Event.methodStop true] := by
      rw [solve_of_loop hsl, stopNow_appendLog, hst]
    have hnt : (solve p f refine ps).nTrials = ps.nTrials + K := by
      rw [hsolve, PState.appendLog_nTrials, refineStep_nTrials, PState.appendLog_nTrials]
      exact (iterN_eff hpre.run).nTrials
    have hpreg : RunPrefix p g ps K psK ids := by
      refine hpre.oracle_congr (fun j pt h1 h2 => hg j pt h1 ?_)
      rw [hnt]; omega
    have hle : K ≤ p.itersLimit := by
      rcases Nat.eq_zero_or_pos K with rfl | h
      · exact Nat.zero_le _
      · have := hpre.iters_le h
        omega
    refine ⟨K, psK, ids, hpreg.run, hst, hnt, ?_, hsolve⟩
    have hg' := (solveLoop_of_end hpreg (.stop hst) (p.itersLimit - K)).1
    rw [show K + (p.itersLimit - K + 1) = p.itersLimit + 1 by omega] at hg'
    simp only [excOf, List.append_nil] at hg'
    rw [hsolve, solve_of_loop hg', stopNow_appendLog, hst]

/-- **Failure containment after batches.**  On a fresh solver the batches `DoGlobalIteration(b)`, `b ∈ bs`, make
`1 ≤ Σ b ≤ k - 1` trials without raising; then `Solve` is called; `f` raises exactly at call index `k - 1`; the `g`-run of the
same operations makes at least `k` trials.  `psk` (method state `s`) is state `k - 1` of the canonical sequence of `g` from a
fresh solver, `pr` the selection of its `k`-th pass. -/
theorem fail_after_batches {p : Params α} {f g : Nat → List α → Option α} {k : Nat}
    (hf : ∀ j pt, f j pt = none ↔ j = k - 1) (hg : ∀ j pt, j ≠ k - 1 → g j pt = f j pt)
    (bs : List Nat) (hj1 : 1 ≤ bs.sum) (hjk : bs.sum ≤ k - 1)
    {ps0 : PState α} {ids0 : List Nat} (h0 : iterN p g bs.sum {} = .ok (ps0, ids0))
    {refine' : PState α → Option (LocalResult α)}
    (hK : k ≤ (runOps p g refine' (bs.map Op.iter ++ [Op.solve]) {}).nTrials) :
    ∃ psk s pr, iterN p g (k - 1) {} = .ok (psk, List.range' 2 (k - 1)) ∧ psk.m = some s ∧ prepare p s = .ok pr ∧
      stopNow p psk = false ∧
      ∀ refine : PState α → Option (LocalResult α),
        runOps p f refine (bs.map Op.iter ++ [Op.solve]) {} =
          (refineStep refine
            { m := some pr.s,
              log := (runOps p f (fun _ => none) (bs.map Op.iter) {}).log ++
                endEach (List.range' (bs.sum + 2) (k - 1 - bs.sum)) ++ [Event.exceptionPrinted],
              evals := psk.evals, nLocal := 0, calls := k }).appendLog
          [Event.methodStop (stopCond p pr.s)] := by
  have hcong := batches_below_fail (p := p) hg bs hjk h0
  have hB : ∀ r, runOps p f r (bs.map Op.iter) {} = runOps p f (fun _ => none) (bs.map Op.iter) {} :=
    fun r => (hcong r (fun _ => none)).trans (hcong (fun _ => none) (fun _ => none)).symm
  have B := batches_fields (r := fun _ => none) bs h0
  rw [← hcong (fun _ => none) (fun _ => none)] at B
  have hK' : (runOps p f (fun _ => none) (bs.map Op.iter) {}).nTrials + (k - 1 - bs.sum) + 1 ≤
      (solve p g refine' (runOps p f (fun _ => none) (bs.map Op.iter) {})).nTrials := by
    rw [runOps_append] at hK
    simp only [runOps, runOp] at hK
    rw [← hcong (fun _ => none) refine'] at hK
    rw [B.nTrials]; omega
  obtain ⟨psi, ids, s, pr, hi, hms, hpr, hst, hsolve⟩ :=
    fail_contained_of_run (p := p) (f := f) (g := g) (ps := runOps p f (fun _ => none) (bs.map Op.iter) {})
      (i := k - 1 - bs.sum) (.inl (B.m hj1))
      (fun pt => (hf _ pt).2 (by rw [B.calls]; omega))
      (fun j pt h1 h2 => hg j pt (by rw [B.calls] at h2; omega)) hK'
  rw [hcong (fun _ => none) (fun _ => none)] at hi
  obtain ⟨psk, hrun, hck, hids⟩ := canonical_of_batches bs h0 hi
  rw [show bs.sum + (k - 1 - bs.sum) = k - 1 by omega] at hrun
  have C := PState.core_eq_iff.1 hck
  refine ⟨psk, s, pr, hrun, by rw [C.m]; exact hms, hpr, by rw [stopNow_congr hck]; exact hst, fun refine => ?_⟩
  rw [runOps_append]
  simp only [runOps, runOp]
  rw [hB refine, hsolve refine, C.evals, B.nLocal, B.calls, B.refined, ← hids, firstMark_of_some (B.m hj1), List.append_nil,
    show bs.sum + (k - 1 - bs.sum) + 1 = k by omega]

/-- **Failure containment in a resumed `Solve`.**  A first `Solve` (parameters `p1`) on a fresh solver ends normally after
`k - 1` trials; `Solve` is called again with parameters `p2`; `f` raises exactly at call index `k - 1`, which is the first
evaluation of the second `Solve`; the `g`-run of the same two calls makes at least `k` trials. -/
theorem fail_in_resumed_solve {p1 p2 : Params α} {f g : Nat → List α → Option α} {k : Nat} (hk : 2 ≤ k)
    (hf : ∀ j pt, f j pt = none ↔ j = k - 1) (hg : ∀ j pt, j ≠ k - 1 → g j pt = f j pt)
    {refine1 : PState α → Option (LocalResult α)}
    (hnr1 : (solveLoop p1 f (p1.itersLimit + 1) {}).2 = false)
    (hK1 : (solve p1 f refine1 {}).nTrials = k - 1)
    {refine2' : PState α → Option (LocalResult α)}
    (hK : k ≤ (solve p2 g refine2' (solve p1 g refine1 {})).nTrials) :
    ∃ psk s pr, iterN p1 g (k - 1) {} = .ok (psk, List.range' 2 (k - 1)) ∧
      stopNow p1 psk = true ∧ psk.log = [Event.beforeStart] ∧ psk.evals.length = k - 1 ∧
      solve p1 g refine1 {} = solve p1 f refine1 {} ∧
      solve p1 f refine1 {} =
        (refineStep refine1 (psk.appendLog (endEach (List.range' 2 (k - 1))))).appendLog [Event.methodStop true] ∧
      (solve p1 f refine1 {}).m = some s ∧ prepare p2 s = .ok pr ∧
      stopNow p2 (solve p1 f refine1 {}) = false ∧ (solve p1 f refine1 {}).evals = psk.evals ∧
      ∀ refine2 : PState α → Option (LocalResult α),
        solve p2 f refine2 (solve p1 f refine1 {}) =
          (refineStep refine2
            { m := some pr.s, log := (solve p1 f refine1 {}).log ++ [Event.exceptionPrinted],
              evals := psk.evals, nLocal := (solve p1 f refine1 {}).nLocal, calls := k,
              refined := (solve p1 f refine1 {}).refined }).appendLog
          [Event.methodStop (stopCond p2 pr.s)] := by
  have h0c : ({} : PState α).calls = 0 := rfl
  have h0n : ({} : PState α).nTrials = 0 := rfl
  obtain ⟨K, psK, ids, hrun, hst, hnt, hgf, hS1⟩ :=
    solve_normal_oracle_congr (p := p1) (f := f) (g := g) (ps := {}) hnr1 refine1
      (fun j pt _ h2 => hg j pt (by rw [h0c, h0n, hK1] at h2; omega))
  have hKk : K = k - 1 := by rw [hK1, h0n] at hnt; omega
  subst hKk
  have e := iterN_eff hrun
  cases e.ids
  have hlogk : psK.log = [Event.beforeStart] := by
    rw [e.log, firstMark_of_none rfl (by show 0 < k - 1 + 0; omega)]; rfl
  have hm1 : (solve p1 f refine1 {}).m ≠ none := by
    rw [hS1, PState.appendLog_m]
    exact fun h => e.m_ne_none (.inr (by omega)) ((refineStep_m_eq_none refine1 (ps := psK.appendLog _)).1 h)
  have hcalls : (solve p1 f refine1 {}).calls = k - 1 := by
    rw [hS1, PState.appendLog_calls, refineStep_calls, PState.appendLog_calls, e.calls_fresh]
  have hevals : (solve p1 f refine1 {}).evals = psK.evals := by
    rw [hS1, PState.appendLog_evals, refineStep_evals, PState.appendLog_evals]
  have hK' : (solve p1 f refine1 {}).nTrials + 0 + 1 ≤ (solve p2 g refine2' (solve p1 f refine1 {})).nTrials := by
    rw [hgf] at hK
    rw [hK1]; omega
  obtain ⟨psi, ids', s, pr, h00, hms, hpr, hst2, hsolve⟩ :=
    fail_contained_of_run (p := p2) (f := f) (g := g) (ps := solve p1 f refine1 {}) (i := 0) (.inl hm1)
      (fun pt => (hf _ pt).2 (by rw [hcalls]; omega)) (fun j pt h1 h2 => by omega) hK'
  simp only [iterN, Except.ok.injEq, Prod.mk.injEq] at h00
  obtain ⟨rfl, rfl⟩ := h00
  refine ⟨psK, s, pr, hrun, hst, hlogk, e.evals_length_fresh, hgf, hS1, hms, hpr, hst2, hevals,
    fun refine2 => ?_⟩
  rw [hsolve refine2, hcalls, hevals, firstMark_of_some hm1]
  have : k - 1 + 0 + 1 = k := by omega
  rw [this]
  simp [endEach]

/-- **No containment outside `Solve`.**  `DoGlobalIteration(n)` is called in a state `ps`; the objective `f` raises at call
index `ps.calls + i`, `i < n` (the `(i+1)`-th evaluation of this call, not the first iteration ever); `g` agrees with
`f` at the `i` indices before and the canonical sequence of `g` makes `i + 1` passes from `ps`.  Then the call returns the
exception of the objective; the state left behind is that after the `i` completed passes (`psi`: their trials are recorded),
with the selection of the failed pass applied (`pr.s`) and one more call; nothing is appended to the event log but
`BeforeMethodStart` if this call made the first iteration ever (`firstMark`) — in particular no `OnEndIteration` for this
call, so the `i` new trials are reported by no notification. -/
theorem dgi_fail_from {p : Params α} {f g : Nat → List α → Option α} {ps ps' : PState α} {n i : Nat} {ids' : List Nat}
    (hm : ps.m ≠ none ∨ 0 < i) (hi : i < n) (hf : ∀ pt, f (ps.calls + i) pt = none)
    (hg : ∀ j pt, ps.calls ≤ j → j < ps.calls + i → g j pt = f j pt)
    (hrun : iterN p g (i + 1) ps = .ok (ps', ids')) (saved : List Nat) :
    ∃ psi ids s pr, iterN p g i ps = .ok (psi, ids) ∧ psi.m = some s ∧ prepare p s = .ok pr ∧
      doGlobalIteration p f n ps saved =
        { s := { m := some pr.s, log := ps.log ++ firstMark ps i, evals := psi.evals, nLocal := ps.nLocal,
                 calls := ps.calls + i + 1, refined := ps.refined },
          raised := some .objective } := by
  obtain ⟨psi, ids, id, hgi, hog, -⟩ := iterN_succ_ok hrun
  have hfi : iterN p f i ps = .ok (psi, ids) := by
    rw [iterN_oracle_congr (f := f) (g := g) (fun j pt h1 h2 => (hg j pt h1 h2).symm)]; exact hgi
  have e := iterN_eff hgi
  have c3 : psi.calls = ps.calls + i := e.calls
  have c6 := e.nLocal
  have hrf := e.refined
  have hmi : psi.m ≠ none := e.m_ne_none hm
  have hlog : psi.log = ps.log ++ firstMark ps i := e.log
  obtain ⟨pt, z, P⟩ := oneIteration_ok hog
  rcases P.step with F | ⟨s, pr, N⟩
  · exact absurd F.m hmi
  have hms := N.m
  have hpr := N.prep
  have hfail : f psi.calls pr.point = none := by rw [c3]; exact hf _
  refine ⟨psi, ids, s, pr, hgi, hms, hpr, ?_⟩
  have hn : n = i + ((n - i - 1) + 1) := by omega
  rw [doGlobalIteration_eq, hn, iterN_add, hfi]
  simp only []
  rw [iterN, oneIteration_eq]
  simp only [hms, hpr, hfail]
  cases psi with
  | mk m log evals nLocal calls refined =>
    simp only at hlog c3 c6 hrf
    simp [hlog, c3, c6, hrf]

/-- **The failure propagates out of a `DoGlobalIteration` call made after batches.**  On a fresh solver the batches
`DoGlobalIteration(b)`, `b ∈ bs`, make `Σ b ≤ k - 1` trials (possibly none); then `DoGlobalIteration(n)` is called with
`k ≤ Σ b + n`, so that the `k`-th evaluation, at which `f` raises, is made inside this call; the canonical sequence of `g`
makes `k` passes. -/
theorem fail_dgi_after_batches {p : Params α} {f g : Nat → List α → Option α} {k : Nat} (hk : 2 ≤ k)
    (hf : ∀ j pt, f j pt = none ↔ j = k - 1) (hg : ∀ j pt, j ≠ k - 1 → g j pt = f j pt)
    (bs : List Nat) (n : Nat) (hjk : bs.sum ≤ k - 1) (hn : k ≤ bs.sum + n)
    {psk' : PState α} {ids' : List Nat} (hrun : iterN p g k {} = .ok (psk', ids')) (saved : List Nat) :
    ∃ psk s pr, iterN p g (k - 1) {} = .ok (psk, List.range' 2 (k - 1)) ∧ psk.m = some s ∧ prepare p s = .ok pr ∧
      doGlobalIteration p f n (runOps p f (fun _ => none) (bs.map Op.iter) {}) saved =
        { s := { m := some pr.s,
                 log := (runOps p f (fun _ => none) (bs.map Op.iter) {}).log ++ (if bs.sum = 0 then [Event.beforeStart] else []),
                 evals := psk.evals, nLocal := 0, calls := k },
          raised := some .objective } := by
  -- the run of `g`: the batches, then the passes of the call that raises with `f`
  rw [show k = bs.sum + ((k - 1 - bs.sum) + 1) by omega] at hrun
  obtain ⟨ps0, ids0, ids1, h0, h1, -⟩ := iterN_add_ok hrun
  have hcong := batches_below_fail (p := p) hg bs hjk h0
  have B := batches_fields (r := fun _ => none) bs h0
  obtain ⟨ps1', h1', -⟩ := iterN_congr_ok B.core.symm h1
  rw [← hcong (fun _ => none) (fun _ => none)] at B h1'
  have hm : (runOps p f (fun _ => none) (bs.map Op.iter) {}).m ≠ none ∨ 0 < k - 1 - bs.sum := by
    rcases Nat.eq_zero_or_pos bs.sum with h | h
    · right; omega
    · left; exact B.m h
  obtain ⟨psi, ids, s, pr, hgi, hms, hpr, hdgi⟩ :=
    dgi_fail_from (p := p) (f := f) (g := g) (ps := runOps p f (fun _ => none) (bs.map Op.iter) {}) (n := n)
      (i := k - 1 - bs.sum) hm (by omega)
      (fun pt => (hf _ pt).2 (by rw [B.calls]; omega))
      (fun j pt h1 h2 => hg j pt (by rw [B.calls] at h2; omega)) h1' saved
  -- the failing pass starts in state `k - 1` of the canonical sequence
  rw [hcong (fun _ => none) (fun _ => none)] at hgi
  obtain ⟨psk, hrunk, hck, -⟩ := canonical_of_batches bs h0 hgi
  rw [show bs.sum + (k - 1 - bs.sum) = k - 1 by omega] at hrunk
  have C := PState.core_eq_iff.1 hck
  have hmk : psk.m = some s := by rw [C.m]; exact hms
  have hfm : firstMark (runOps p f (fun _ => none) (bs.map Op.iter) {}) (k - 1 - bs.sum) =
      if bs.sum = 0 then [Event.beforeStart] else [] := by
    rcases Nat.eq_zero_or_pos bs.sum with h | h
    · rw [if_pos h]
      refine firstMark_of_none ?_ (by omega)
      rw [h] at h0
      simp only [iterN, Except.ok.injEq, Prod.mk.injEq] at h0
      rw [(PState.core_eq_iff.1 B.core).m, ← h0.1]
    · rw [if_neg (by omega)]; exact firstMark_of_some (B.m h)
  refine ⟨psk, s, pr, hrunk, hmk, hpr, ?_⟩
  rw [hdgi, C.evals, B.nLocal, B.calls, hfm, B.refined, show bs.sum + (k - 1 - bs.sum) + 1 = k by omega]

/-- `GetResults` reads the two candidate trials through their value holders only -/
theorem reportedId_of_some_hv {ps : PState α} (s : State α) {r : Nat} (h : ps.refined = some r) :
    reportedId ps s =
      match (findItem s.items r).map (·.hv), (findItem s.items s.best).map (·.hv) with
      | some a, some b => if r ≠ s.best ∧ a < b then r else s.best
      | _, _ => s.best := by
  rw [reportedId_of_some s h]
  cases findItem s.items r <;> cases findItem s.items s.best <;> rfl

theorem reportedId_congr_eraseR {ps ps' : PState α} {s s' : State α} (hr : ps'.refined = ps.refined)
    (hi : s'.items.map Ctl.eraseR = s.items.map Ctl.eraseR) (hb : s'.best = s.best) :
    reportedId ps' s' = reportedId ps s := by
  have hv : ∀ id, (findItem s'.items id).map (·.hv) = (findItem s.items id).map (·.hv) := fun id => by
    have := congrArg (Option.map (·.hv)) (findItem_transfer hi (fun _ => rfl) id)
    rwa [Option.map_map, Option.map_map] at this
  cases h : ps.refined with
  | none => rw [reportedId_of_none s h, reportedId_of_none s' (hr.trans h), hb]
  | some r => rw [reportedId_of_some_hv s h, reportedId_of_some_hv s' (hr.trans h), hb, hv, hv]

end Proc
end


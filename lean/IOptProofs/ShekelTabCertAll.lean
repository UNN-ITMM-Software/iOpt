import IOptProofs.ShekelTabCert0
import IOptProofs.ShekelTabCert1
import IOptProofs.ShekelTabCert2
import IOptProofs.ShekelTabCert3
import IOptProofs.ShekelTabCert4
import IOptProofs.ShekelTabCert5
import IOptProofs.ShekelTabCert6
import IOptProofs.ShekelTabCert7
import IOptProofs.ShekelTabCert8
import IOptProofs.ShekelTabCert9
import IOptProofs.RangeBlocks
import Mathlib.Tactic.IntervalCases

/-! The C18 table certificates of all 1000 Shekel functions (`Shk.shekel_tab_all`): the two hundred kernel-evaluated blocks
of five table rows (`ShekelTabCert0`–`9`), put end to end by `Nat.forall_lt_of_blocks`. -/
namespace Shk
theorem shekel_tab_all : ∀ i < 1000, shekelTabOK i = true :=
  Nat.forall_lt_of_blocks 5 200 fun j hj => by
    interval_cases j
    exacts [
      shekel_tab_block_0, shekel_tab_block_1, shekel_tab_block_2, shekel_tab_block_3, shekel_tab_block_4, shekel_tab_block_5, shekel_tab_block_6, shekel_tab_block_7, shekel_tab_block_8, shekel_tab_block_9,
      shekel_tab_block_10, shekel_tab_block_11, shekel_tab_block_12, shekel_tab_block_13, shekel_tab_block_14, shekel_tab_block_15, shekel_tab_block_16, shekel_tab_block_17, shekel_tab_block_18, shekel_tab_block_19,
      shekel_tab_block_20, shekel_tab_block_21, shekel_tab_block_22, shekel_tab_block_23, shekel_tab_block_24, shekel_tab_block_25, shekel_tab_block_26, shekel_tab_block_27, shekel_tab_block_28, shekel_tab_block_29,
      shekel_tab_block_30, shekel_tab_block_31, shekel_tab_block_32, shekel_tab_block_33, shekel_tab_block_34, shekel_tab_block_35, shekel_tab_block_36, shekel_tab_block_37, shekel_tab_block_38, shekel_tab_block_39,
      shekel_tab_block_40, shekel_tab_block_41, shekel_tab_block_42, shekel_tab_block_43, shekel_tab_block_44, shekel_tab_block_45, shekel_tab_block_46, shekel_tab_block_47, shekel_tab_block_48, shekel_tab_block_49,
      shekel_tab_block_50, shekel_tab_block_51, shekel_tab_block_52, shekel_tab_block_53, shekel_tab_block_54, shekel_tab_block_55, shekel_tab_block_56, shekel_tab_block_57, shekel_tab_block_58, shekel_tab_block_59,
      shekel_tab_block_60, shekel_tab_block_61, shekel_tab_block_62, shekel_tab_block_63, shekel_tab_block_64, shekel_tab_block_65, shekel_tab_block_66, shekel_tab_block_67, shekel_tab_block_68, shekel_tab_block_69,
      shekel_tab_block_70, shekel_tab_block_71, shekel_tab_block_72, shekel_tab_block_73, shekel_tab_block_74, shekel_tab_block_75, shekel_tab_block_76, shekel_tab_block_77, shekel_tab_block_78, shekel_tab_block_79,
      shekel_tab_block_80, shekel_tab_block_81, shekel_tab_block_82, shekel_tab_block_83, shekel_tab_block_84, shekel_tab_block_85, shekel_tab_block_86, shekel_tab_block_87, shekel_tab_block_88, shekel_tab_block_89,
      shekel_tab_block_90, shekel_tab_block_91, shekel_tab_block_92, shekel_tab_block_93, shekel_tab_block_94, shekel_tab_block_95, shekel_tab_block_96, shekel_tab_block_97, shekel_tab_block_98, shekel_tab_block_99,
      shekel_tab_block_100, shekel_tab_block_101, shekel_tab_block_102, shekel_tab_block_103, shekel_tab_block_104, shekel_tab_block_105, shekel_tab_block_106, shekel_tab_block_107, shekel_tab_block_108, shekel_tab_block_109,
      shekel_tab_block_110, shekel_tab_block_111, shekel_tab_block_112, shekel_tab_block_113, shekel_tab_block_114, shekel_tab_block_115, shekel_tab_block_116, shekel_tab_block_117, shekel_tab_block_118, shekel_tab_block_119,
      shekel_tab_block_120, shekel_tab_block_121, shekel_tab_block_122, shekel_tab_block_123, shekel_tab_block_124, shekel_tab_block_125, shekel_tab_block_126, shekel_tab_block_127, shekel_tab_block_128, shekel_tab_block_129,
      shekel_tab_block_130, shekel_tab_block_131, shekel_tab_block_132, shekel_tab_block_133, shekel_tab_block_134, shekel_tab_block_135, shekel_tab_block_136, shekel_tab_block_137, shekel_tab_block_138, shekel_tab_block_139,
      shekel_tab_block_140, shekel_tab_block_141, shekel_tab_block_142, shekel_tab_block_143, shekel_tab_block_144, shekel_tab_block_145, shekel_tab_block_146, shekel_tab_block_147, shekel_tab_block_148, shekel_tab_block_149,
      shekel_tab_block_150, shekel_tab_block_151, shekel_tab_block_152, shekel_tab_block_153, shekel_tab_block_154, shekel_tab_block_155, shekel_tab_block_156, shekel_tab_block_157, shekel_tab_block_158, shekel_tab_block_159,
      shekel_tab_block_160, shekel_tab_block_161, shekel_tab_block_162, shekel_tab_block_163, shekel_tab_block_164, shekel_tab_block_165, shekel_tab_block_166, shekel_tab_block_167, shekel_tab_block_168, shekel_tab_block_169,
      shekel_tab_block_170, shekel_tab_block_171, shekel_tab_block_172, shekel_tab_block_173, shekel_tab_block_174, shekel_tab_block_175, shekel_tab_block_176, shekel_tab_block_177, shekel_tab_block_178, shekel_tab_block_179,
      shekel_tab_block_180, shekel_tab_block_181, shekel_tab_block_182, shekel_tab_block_183, shekel_tab_block_184, shekel_tab_block_185, shekel_tab_block_186, shekel_tab_block_187, shekel_tab_block_188, shekel_tab_block_189,
      shekel_tab_block_190, shekel_tab_block_191, shekel_tab_block_192, shekel_tab_block_193, shekel_tab_block_194, shekel_tab_block_195, shekel_tab_block_196, shekel_tab_block_197, shekel_tab_block_198, shekel_tab_block_199]
end Shk

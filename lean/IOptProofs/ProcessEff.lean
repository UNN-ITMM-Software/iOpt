import IOptProofs.Process
/-!
# What the passes of an operation do

`Passes p f ps j ids r Y`: from `ps`, `j` successful passes of the canonical sequence and then nothing or one pass that raises; `Eff` is what
that does to everything the proofs read but the method state, proved once (`Passes.eff`) and used through its fields.  Every operation is its
passes followed by notifications: `dgi_passes`, `solveLoop_cases` / `solveLoop_of_end` (elimination, with the record `LoopRun`, / introduction),
`solve_passes` (ProcessOps).
-/

set_option linter.unusedSectionVars false

section
variable {α : Type} [Add α] [Sub α] [Mul α] [Div α] [Neg α] [LT α] [LE α]
  [DecidableLT α] [DecidableLE α] [OfNat α 0] [OfNat α 1] [OfNat α 2] [OfNat α 4] [Fns α]

namespace Proc
open AGP AGP.Ctl

/-- `len(_allTrials)`: the id the next trial will get (2 before the first iteration: ids 0, 1 are the end points) -/
def PState.nextId (ps : PState α) : Nat := match ps.m with | none => 2 | some s => s.nextId

/-- the number of failed calls of the objective in one operation -/
def isObjective : Option Raise → Nat
  | some .objective => 1
  | _ => 0

theorem isObjective_le_one (r : Option Raise) : isObjective r ≤ 1 := by
  unfold isObjective; split <;> omega

theorem isObjective_some (e : Raise) : isObjective (some e) = if e = .objective then 1 else 0 := by
  cases e <;> rfl

/-- `BeforeMethodStart` is notified by the first pass ever made -/
def firstMark (ps : PState α) (k : Nat) : List Event :=
  if ps.m.isNone && decide (0 < k) then [Event.beforeStart] else []

theorem firstMark_cases (ps : PState α) (k : Nat) : firstMark ps k = [] ∨ firstMark ps k = [Event.beforeStart] := by
  unfold firstMark; split <;> simp

theorem firstMark_congr {ps ps' : PState α} (h : ps.core = ps'.core) (k : Nat) : firstMark ps k = firstMark ps' k := by
  unfold firstMark; rw [(PState.core_eq_iff.1 h).m]

theorem firstMark_of_none {ps : PState α} {a : Nat} (hm : ps.m = none) (ha : 0 < a) : firstMark ps a = [Event.beforeStart] := by
  simp [firstMark, hm, ha]

theorem firstMark_of_some {ps : PState α} {a : Nat} (hm : ps.m ≠ none) : firstMark ps a = [] := by
  cases h : ps.m with
  | none => exact absurd h hm
  | some s => simp [firstMark, h]

theorem firstMark_zero (ps : PState α) : firstMark ps 0 = [] := by simp [firstMark]

theorem firstMark_pos (ps : PState α) {a : Nat} (ha : 0 < a) : firstMark ps a = firstMark ps 1 := by
  simp [firstMark, ha]

/-- What every operation does before it notifies anyone: from `ps`, `j` passes that return (new trials `ids`), then nothing (`r = none`)
or one more pass that raises `e` (`r = some e`); `Y` is the state this leaves. `Passes.eff` says what that does to the counters and records,
`StepInv.passes` carries an invariant across, `dgi_passes` / `solve_passes` present the operations this way. -/
inductive Passes (p : Params α) (f : Nat → List α → Option α) (ps : PState α) : Nat → List Nat → Option Raise → PState α → Prop
  | ok {j ids Y} : iterN p f j ps = .ok (Y, ids) → Passes p f ps j ids none Y
  | raise {j ids psj Y e} : iterN p f j ps = .ok (psj, ids) → oneIteration p f psj = .error (Y, e) →
      Passes p f ps j ids (some e) Y

/-- What `j` successful passes from `ps` and then perhaps a raising one (`r`) do to everything but the method state:
`j` trials with the next `j` ids, their records in call order, one more call if it was the objective that raised. -/
structure Eff (f : Nat → List α → Option α) (ps : PState α) (j : Nat) (ids : List Nat) (r : Option Raise) (Y : PState α) : Prop where
  nTrials : Y.nTrials = ps.nTrials + j
  iters : Y.iters = ps.iters + j
  nextId : Y.nextId = ps.nextId + j
  ids : ids = List.range' ps.nextId j
  evals : ∃ new : List (List α × α), Y.evals = ps.evals ++ new ∧ new.length = j ∧
    ∀ i pt z, new[i]? = some (pt, z) → f (ps.calls + i) pt = some z
  calls : Y.calls = ps.calls + j + isObjective r
  failed : isObjective r = 1 → ∃ pt, f (ps.calls + j) pt = none
  nLocal : Y.nLocal = ps.nLocal
  refined : Y.refined = ps.refined
  /-- `j + r.toList.length` is the number of passes started: the raising one counts -/
  log : Y.log = ps.log ++ firstMark ps (j + r.toList.length)
  m : Y.m = none ↔ ps.m = none ∧ j = 0
  /-- the first pass ever calls the objective before anything else can raise -/
  first : ps.m = none → j = 0 → ∀ e, r = some e → e = .objective

variable {p : Params α} {f : Nat → List α → Option α} {ps ps1 Y : PState α} {j : Nat} {ids : List Nat} {r : Option Raise}

theorem Eff.zero (f : Nat → List α → Option α) (ps : PState α) : Eff f ps 0 [] none ps where
  nTrials := rfl
  iters := rfl
  nextId := rfl
  ids := rfl
  evals := ⟨[], (List.append_nil _).symm, rfl, fun _ _ _ h => by cases h⟩
  calls := rfl
  failed := nofun
  nLocal := rfl
  refined := rfl
  log := by simp [firstMark]
  m := ⟨fun h => ⟨h, rfl⟩, fun h => h.1⟩
  first := fun _ _ _ h => by cases h

theorem Eff.raise {e : Raise} (h : oneIteration p f ps = .error (Y, e)) : Eff f ps 0 [] (some e) Y := by
  have E := oneIteration_error h
  have hev : ∃ new : List (List α × α), Y.evals = ps.evals ++ new ∧ new.length = 0 ∧
      ∀ i pt z, new[i]? = some (pt, z) → f (ps.calls + i) pt = some z :=
    ⟨[], by rw [E.evals, List.append_nil], rfl, fun _ _ _ h => by cases h⟩
  rcases E.cause with ⟨rfl, pt, O⟩ | ⟨s, s', S⟩
  · -- the objective raised: what the pass left of the counters, in the first iteration and after a selection
    have key : Y.nTrials = ps.nTrials ∧ Y.iters = ps.iters ∧ Y.nextId = ps.nextId ∧ Y.log = ps.log ++ firstMark ps 1 ∧
        (Y.m = none ↔ ps.m = none) := by
      rcases O.step with F | ⟨s, pr, N⟩
      · simp [PState.nTrials, PState.iters, PState.nextId, firstMark, F.m, F.m', F.log]
      · have hp := prepare_ok_fields N.prep
        simp [PState.nTrials, PState.iters, PState.nextId, firstMark, N.m, N.m', N.log, hp.nTrials, hp.iters, hp.nextId]
    obtain ⟨hnT, hit, hnx, hlog, hm⟩ := key
    exact {
      nTrials := hnT
      iters := hit
      nextId := hnx
      ids := rfl
      evals := hev
      calls := O.calls
      failed := fun _ => ⟨pt, O.value⟩
      nLocal := E.nLocal
      refined := E.refined
      log := hlog
      m := by simp [hm]
      first := fun _ _ _ h => by cases h; rfl }
  · -- the selection raised: no call
    have hp := prepare_error_fields S.prep
    exact {
      nTrials := by simp [PState.nTrials, S.m, S.m', hp.nTrials]
      iters := by simp [PState.iters, S.m, S.m', hp.iters]
      nextId := by simp [PState.nextId, S.m, S.m', hp.nextId]
      ids := rfl
      evals := hev
      calls := by simp [S.calls, isObjective_some, S.ne]
      failed := fun h1 => by rw [isObjective_some, if_neg S.ne] at h1; cases h1
      nLocal := E.nLocal
      refined := E.refined
      log := by rw [S.log]; simp [firstMark, S.m]
      m := by simp [S.m, S.m']
      first := fun h0 => by rw [S.m] at h0; cases h0 }

theorem Eff.cons {id : Nat} (h1 : oneIteration p f ps = .ok (ps1, id)) (h : Eff f ps1 j ids r Y) :
    Eff f ps (j + 1) (id :: ids) r Y := by
  obtain ⟨pt, z, P⟩ := oneIteration_ok h1
  obtain ⟨new, hnew, hlen, hor⟩ := h.evals
  have key : ps1.nTrials = ps.nTrials + 1 ∧ ps1.iters = ps.iters + 1 ∧ ps1.nextId = ps.nextId + 1 ∧ id = ps.nextId ∧
      ps1.m ≠ none ∧ ps1.log = ps.log ++ firstMark ps 1 := by
    rcases P.step with F | ⟨s, pr, N⟩
    · simp [PState.nTrials, PState.iters, PState.nextId, firstMark, F.m, F.m', F.log, firstIteration_nTrials, firstIteration_iters,
        firstIteration_nextId, P.id_first F.m]
    · have hp := prepare_ok_fields N.prep
      simp [PState.nTrials, PState.iters, PState.nextId, firstMark, N.m, N.m', N.log, commit_nTrials, commit_iters, commit_nextId,
        hp.nTrials, hp.iters, hp.nextId, P.id_next s N.m]
  obtain ⟨hnT, hit, hnx, hid, hm1, hlog1⟩ := key
  exact {
    nTrials := by rw [h.nTrials, hnT]; omega
    iters := by rw [h.iters, hit]; omega
    nextId := by rw [h.nextId, hnx]; omega
    ids := by rw [h.ids, hnx, hid]; rfl
    evals := ⟨(pt, z) :: new, by rw [hnew, P.evals, List.append_assoc]; rfl, congrArg (· + 1) hlen, fun i pt' z' hi => by
      cases i with
      | zero => cases hi; exact P.value
      | succ i => rw [← hor i pt' z' hi, P.calls, Nat.add_right_comm, Nat.add_assoc]⟩
    calls := by rw [h.calls, P.calls]; omega
    failed := fun hr => by
      obtain ⟨pt', h'⟩ := h.failed hr
      exact ⟨pt', by rw [← h', P.calls]; congr 1; omega⟩
    nLocal := h.nLocal.trans P.nLocal
    refined := h.refined.trans P.refined
    log := by
      rw [h.log, hlog1, firstMark_of_some hm1, List.append_nil, firstMark_pos ps (Nat.succ_pos _),
        firstMark_pos ps (a := j + 1 + _) (by omega)]
    m := ⟨fun h0 => absurd (h.m.1 h0).1 hm1, fun h0 => absurd h0.2 (Nat.succ_ne_zero j)⟩
    first := fun _ h0 => absurd h0 (Nat.succ_ne_zero j) }

theorem Passes.eff (h : Passes p f ps j ids r Y) : Eff f ps j ids r Y := by
  have main : ∀ {psj}, iterN p f j ps = .ok (psj, ids) → Eff f psj 0 [] r Y → Eff f ps j ids r Y := by
    intro psj hrun
    exact iterN_ok_induction hrun (fun _ h => h) (fun h1 _ ih h => (ih h).cons h1)
  cases h with
  | ok h => exact main h (Eff.zero f Y)
  | raise h he => exact main h (Eff.raise he)

theorem Passes.one {id : Nat} (h : oneIteration p f ps = .ok (ps1, id)) : Passes p f ps 1 [id] none ps1 :=
  .ok (iterN_cons h rfl)

theorem Passes.err {e : Raise} (h : oneIteration p f ps = .error (Y, e)) : Passes p f ps 0 [] (some e) Y :=
  .raise rfl h

theorem iterN_eff {k : Nat} (h : iterN p f k ps = .ok (Y, ids)) : Eff f ps k ids none Y := (Passes.ok h).eff

theorem Eff.evals_length (h : Eff f ps j ids r Y) : Y.evals.length = ps.evals.length + j := by
  obtain ⟨new, hnew, hlen, -⟩ := h.evals
  rw [hnew, List.length_append, hlen]

theorem Eff.m_ne_none (h : Eff f ps j ids r Y) (hm : ps.m ≠ none ∨ 0 < j) : Y.m ≠ none := fun h0 =>
  hm.elim (fun hm => hm (h.m.1 h0).1) (fun hj => Nat.ne_of_gt hj (h.m.1 h0).2)

/-- an objective that never raises is not what raised -/
theorem Eff.isObjective_total (h : Eff f ps j ids r Y) (hf : ∀ i pt, f i pt ≠ none) : isObjective r = 0 := by
  have := isObjective_le_one r
  rcases Nat.lt_or_ge (isObjective r) 1 with h1 | h1
  · omega
  · obtain ⟨pt, hpt⟩ := h.failed (by omega)
    exact absurd hpt (hf _ _)

/-! from a fresh solver the counters are the number of passes -/
theorem Eff.nTrials_fresh (h : Eff f ({} : PState α) j ids r Y) : Y.nTrials = j := h.nTrials.trans (Nat.zero_add j)
theorem Eff.iters_fresh (h : Eff f ({} : PState α) j ids r Y) : Y.iters = j := h.iters.trans (Nat.zero_add j)
theorem Eff.evals_length_fresh (h : Eff f ({} : PState α) j ids r Y) : Y.evals.length = j := h.evals_length.trans (Nat.zero_add j)
theorem Eff.calls_fresh (h : Eff f ({} : PState α) j ids none Y) : Y.calls = j := h.calls.trans (Nat.zero_add j)

/-- a state that is state `n` of the canonical sequence from `ps` up to the log continues that sequence -/
theorem iterN_shift {ps0 : PState α} {n : Nat} {ids0 : List Nat} (h0 : iterN p f n ps = .ok (ps0, ids0))
    (hc : ps1.core = ps0.core) (h : iterN p f j ps1 = .ok (Y, ids)) :
    ∃ Y', iterN p f (n + j) ps = .ok (Y', ids0 ++ ids) ∧ Y'.core = Y.core := by
  obtain ⟨Y', h', hc'⟩ := iterN_congr_ok hc h
  exact ⟨Y', by rw [iterN_add_of_ok h0, h'], hc'⟩

theorem oneIteration_oracle_congr {p : Params α} {f g : Nat → List α → Option α} {ps : PState α}
    (h : ∀ pt, f ps.calls pt = g ps.calls pt) : oneIteration p f ps = oneIteration p g ps := by
  have : f ps.calls = g ps.calls := funext h
  rw [oneIteration_eq, oneIteration_eq, this]

theorem iterN_oracle_congr {p : Params α} {f g : Nat → List α → Option α} {n : Nat} {ps : PState α}
    (h : ∀ j pt, ps.calls ≤ j → j < ps.calls + n → f j pt = g j pt) : iterN p f n ps = iterN p g n ps := by
  induction n generalizing ps with
  | zero => rfl
  | succ n ih =>
    rw [iterN, iterN, oneIteration_oracle_congr (f := f) (g := g) (fun pt => h _ pt (Nat.le_refl _) (by omega))]
    cases h1 : oneIteration p g ps with
    | error x => rfl
    | ok x =>
      obtain ⟨ps1, id⟩ := x
      simp only []
      have hc : ps1.calls = ps.calls + 1 := (Passes.one h1).eff.calls
      rw [ih (fun j pt h1 h2 => h j pt (by omega) (by omega))]

def PureObjective (f : Nat → List α → Option α) : Prop := ∀ i j pt, f i pt = f j pt

theorem oneIteration_pure {p : Params α} {f : Nat → List α → Option α} (hf : PureObjective f) (ps : PState α) (c : Nat) :
    oneIteration p f { ps with calls := c } =
    match oneIteration p f ps with
    | .ok (ps', id) => .ok ({ ps' with calls := c + 1 }, id)
    | .error (ps', e) => .error ({ ps' with calls := c + (ps'.calls - ps.calls) }, e) := by
  rw [oneIteration_eq, oneIteration_eq]
  cases hm : ps.m with
  | none =>
    simp only []
    rw [hf c ps.calls]
    cases f ps.calls (firstPoint p) <;> simp
  | some s =>
    simp only []
    cases prepare p s with
    | error x => obtain ⟨s', e⟩ := x; simp
    | ok pr =>
      simp only []
      rw [hf c ps.calls]
      cases f ps.calls pr.point <;> simp

theorem iterN_pure {p : Params α} {f : Nat → List α → Option α} (hf : PureObjective f) {k : Nat} {ps ps' : PState α}
    {ids : List Nat} (c : Nat) (h : iterN p f k ps = .ok (ps', ids)) :
    iterN p f k { ps with calls := c } = .ok ({ ps' with calls := c + k }, ids) := by
  revert c
  refine iterN_ok_induction h (fun _ _ => rfl) (fun h1 _ ih c => ?_)
  rw [iterN, oneIteration_pure hf, h1]
  simp only []
  rw [ih (c + 1), Nat.add_assoc, Nat.add_comm 1]

/-- what `Solve` prints when its `try` caught something -/
def excOf : Option Raise → List Event
  | none => []
  | some _ => [Event.exceptionPrinted]

/-- How `DoGlobalIteration(k)` from `ps` went: its passes, all `k` of them unless one raised, and then, unless one raised, the one
`OnEndIteration` that reports the new trials. -/
structure DgiRun (p : Params α) (f : Nat → List α → Option α) (k : Nat) (ps : PState α) (saved : List Nat) (j : Nat)
    (ids : List Nat) (r : Option Raise) (Y : PState α) : Prop where
  passes : Passes p f ps j ids r Y
  full : r = none → j = k
  eq : doGlobalIteration p f k ps saved =
    { s := Y.appendLog (match (generalizing := false) r with | none => [Event.endIteration (saved ++ ids)] | some _ => []),
      raised := r }

/-- **`DoGlobalIteration(k)`** makes the passes and, unless one raised, reports the new trials at once. -/
theorem dgi_passes (p : Params α) (f : Nat → List α → Option α) (k : Nat) (ps : PState α) (saved : List Nat) :
    ∃ j ids r Y, DgiRun p f k ps saved j ids r Y := by
  cases h : iterN p f k ps with
  | ok x =>
    obtain ⟨Y, ids⟩ := x
    exact ⟨k, ids, none, Y, { passes := .ok h, full := fun _ => rfl, eq := by rw [doGlobalIteration_eq, h]; rfl }⟩
  | error x =>
    obtain ⟨pe, e⟩ := x
    obtain ⟨j, psj, ids, -, hr, he⟩ := iterN_error h
    exact ⟨j, ids, some e, pe, { passes := .raise hr he, full := nofun,
                                  eq := by rw [doGlobalIteration_eq, h]; simp [PState.appendLog] }⟩

/-! ### The loop of `Solve` -/

theorem RunPrefix.uncons {p : Params α} {f : Nat → List α → Option α} {ps psj : PState α} {j : Nat} {ids : List Nat}
    (h : RunPrefix p f ps (j + 1) psj ids) :
    ∃ ps1 id ids', stopNow p ps = false ∧ oneIteration p f ps = .ok (ps1, id) ∧ ids = id :: ids' ∧
      RunPrefix p f ps1 j psj ids' := by
  obtain ⟨ps0, ids0, h0, hs0⟩ := h.notStop 0 j.succ_pos
  cases h0
  obtain ⟨ps1, id, ids', h1, hj, rfl⟩ := iterN_cons_ok h.run
  refine ⟨ps1, id, ids', hs0, h1, rfl, hj, fun i hi => ?_⟩
  obtain ⟨psi, idsi, hri, hst⟩ := h.notStop (i + 1) (Nat.succ_lt_succ hi)
  obtain ⟨ps1', id', idsi', h1', hri', -⟩ := iterN_cons_ok hri
  cases h1.symm.trans h1'
  exact ⟨psi, idsi', hri', hst⟩

/-- the loop follows a run prefix, one `OnEndIteration` per pass, whatever fuel is left -/
theorem loop_skip (fuel : Nat) :
    ∀ (j : Nat) (ps psj : PState α) (ids : List Nat), RunPrefix p f ps j psj ids →
      solveLoop p f (j + fuel) ps = solveLoop p f fuel (psj.appendLog (endEach ids)) ∧
      solveRaise p f (j + fuel) ps = solveRaise p f fuel (psj.appendLog (endEach ids)) := by
  intro j
  induction j with
  | zero =>
    intro ps psj ids h
    cases h.run
    simp [endEach, PState.appendLog]
  | succ j ih =>
    intro ps psj ids h
    obtain ⟨ps1, id, ids', hs, h1, rfl, hpre⟩ := h.uncons
    have hm1 : ps1.m ≠ none := (Passes.one h1).eff.m_ne_none (.inr Nat.one_pos)
    obtain ⟨psj', hpre', hcj⟩ := hpre.congr (ps' := ps1.appendLog [Event.endIteration [id]]) (PState.appendLog_core _ _).symm
    -- after the first pass the passes no longer write: the notification commutes with them
    have hE : psj'.appendLog (endEach ids') = psj.appendLog (endEach (id :: ids')) := by
      apply PState.ext_core_log
      · simpa using hcj
      · have l1 := (iterN_eff hpre.run).log
        have l2 := (iterN_eff hpre'.run).log
        rw [firstMark_of_some hm1] at l1
        rw [firstMark_of_some (ps := ps1.appendLog _) hm1] at l2
        simp [l1, l2, endEach]
    obtain ⟨i1, i2⟩ := ih _ _ _ hpre'
    rw [show j + 1 + fuel = (j + fuel) + 1 by omega, solveLoop_succ, solveRaise, hs, h1]
    simp only [Bool.false_eq_true, if_false]
    rw [i1, i2, hE]
    exact ⟨rfl, rfl⟩

/-- The two ways in which the `while` loop of `Solve` ends once a `RunPrefix` has led it to `psj`: the criterion holds (`r = none`, the
final state is `psj`), or the next pass raises `e` and leaves `Y`. -/
inductive LoopEnd (p : Params α) (f : Nat → List α → Option α) (psj : PState α) : Option Raise → PState α → Prop
  | stop : stopNow p psj = true → LoopEnd p f psj none psj
  | raise {Y e} : stopNow p psj = false → oneIteration p f psj = .error (Y, e) → LoopEnd p f psj (some e) Y

theorem LoopEnd.passes {psj : PState α} (hpre : RunPrefix p f ps j psj ids) (h : LoopEnd p f psj r Y) : Passes p f ps j ids r Y := by
  cases h with
  | stop _ => exact .ok hpre.run
  | raise _ he => exact .raise hpre.run he

theorem LoopEnd.stopNow {psj : PState α} (h : LoopEnd p f psj r Y) : stopNow p psj = r.isNone := by
  cases h with
  | stop hs => exact hs
  | raise hs _ => exact hs

theorem remaining_step {id : Nat} (hs : stopNow p ps = false) (h : oneIteration p f ps = .ok (ps1, id)) :
    remaining p ps1 + 1 = remaining p ps := by
  have h1 := (Passes.one h).eff.iters
  have := iters_lt_of_not_stop hs
  unfold remaining; omega

/-- within the budget the canonical sequence reaches a state in which the loop ends -/
theorem exists_loopEnd (p : Params α) (f : Nat → List α → Option α) :
    ∀ (n : Nat) (ps : PState α), remaining p ps ≤ n →
      ∃ j psj ids r Y, j ≤ n ∧ RunPrefix p f ps j psj ids ∧ LoopEnd p f psj r Y := by
  intro n
  induction n with
  | zero =>
    intro ps h
    exact ⟨0, ps, [], none, ps, Nat.le_refl _, .zero p f ps, .stop (stopNow_of_remaining_zero (Nat.le_zero.1 h))⟩
  | succ n ih =>
    intro ps h
    cases hs : stopNow p ps with
    | true => exact ⟨0, ps, [], none, ps, Nat.zero_le _, .zero p f ps, .stop hs⟩
    | false =>
      cases h1 : oneIteration p f ps with
      | error x => exact ⟨0, ps, [], some x.2, x.1, Nat.zero_le _, .zero p f ps, .raise hs h1⟩
      | ok x =>
        obtain ⟨ps1, id⟩ := x
        obtain ⟨j, psj, ids, r, Y, hj, hpre, hend⟩ := ih ps1 (by have := remaining_step hs h1; omega)
        exact ⟨j + 1, psj, id :: ids, r, Y, Nat.succ_le_succ hj, hpre.cons hs h1, hend⟩

/-- **The loop of `Solve`, introduction**: if the canonical sequence from `ps` makes `j` passes without the criterion and the loop
ends there, `solveLoop` with more than `j` fuel returns that end. -/
theorem solveLoop_of_end {psj : PState α} (hpre : RunPrefix p f ps j psj ids) (hend : LoopEnd p f psj r Y) (fuel : Nat) :
    solveLoop p f (j + (fuel + 1)) ps = (Y.appendLog (endEach ids ++ excOf r), r.isSome) ∧
    solveRaise p f (j + (fuel + 1)) ps = r := by
  obtain ⟨e1, e2⟩ := loop_skip (fuel + 1) _ _ _ _ hpre
  rw [e1, e2, solveLoop_succ, solveRaise, show stopNow p (psj.appendLog (endEach ids)) = r.isNone from hend.stopNow]
  cases hend with
  | stop hs => simp [excOf]
  | raise hs he =>
    obtain ⟨Y', he', hc⟩ := oneIteration_congr_error (ps' := psj.appendLog (endEach ids)) (PState.appendLog_core _ _).symm he
    simp only [Option.isNone_some, Bool.false_eq_true, if_false, he', excOf, Option.isSome_some, and_true]
    congr 1
    refine PState.ext_core_log hc ?_
    have l1 := (Passes.err he).eff.log
    have l2 := (Passes.err he').eff.log
    rw [firstMark_congr (PState.appendLog_core psj _)] at l2
    -- the pass writes `BeforeMethodStart` only if it is the first ever, and then nothing was reported before it
    rcases Nat.eq_zero_or_pos j with rfl | hj
    · cases hpre.run; simp [l1, l2, endEach]
    · simp [l1, l2, firstMark_of_some ((iterN_eff hpre.run).m_ne_none (.inr hj))]

/-- How the loop of `Solve`, started in `ps` with `fuel`, went: `j` passes of the canonical sequence, before each of which the criterion
did not hold, lead to `psj`, and there it ended (`LoopEnd`) with the state `Y` and the exception `r`. `solveLoop_cases` says that this is
how every loop with enough fuel goes; the operations are read off the fields. -/
structure LoopRun (p : Params α) (f : Nat → List α → Option α) (fuel : Nat) (ps : PState α) (j : Nat) (psj : PState α)
    (ids : List Nat) (r : Option Raise) (Y : PState α) : Prop where
  pre : RunPrefix p f ps j psj ids
  loopEnd : LoopEnd p f psj r Y
  loop : solveLoop p f fuel ps = (Y.appendLog (endEach ids ++ excOf r), r.isSome)
  raise : solveRaise p f fuel ps = r

theorem LoopRun.passes {fuel : Nat} {psj : PState α} (h : LoopRun p f fuel ps j psj ids r Y) : Passes p f ps j ids r Y :=
  h.loopEnd.passes h.pre

theorem LoopRun.stopNow_eq {fuel : Nat} {psj : PState α} (h : LoopRun p f fuel ps j psj ids r Y) : stopNow p psj = r.isNone :=
  h.loopEnd.stopNow

/-- **The loop of `Solve`, elimination.** -/
theorem solveLoop_cases {fuel : Nat} (hfuel : remaining p ps < fuel) : ∃ j psj ids r Y, LoopRun p f fuel ps j psj ids r Y := by
  obtain ⟨j, psj, ids, r, Y, hj, hpre, hend⟩ := exists_loopEnd p f _ ps (Nat.le_refl _)
  obtain ⟨d, rfl⟩ : ∃ d, fuel = j + (d + 1) := ⟨fuel - j - 1, by omega⟩
  obtain ⟨h1, h2⟩ := solveLoop_of_end hpre hend d
  exact ⟨j, psj, ids, r, Y, hpre, hend, h1, h2⟩

theorem solveLoop_fuel (p : Params α) (f : Nat → List α → Option α) (fuel1 fuel2 : Nat) (ps : PState α)
    (h1 : remaining p ps < fuel1) (h2 : remaining p ps < fuel2) : solveLoop p f fuel1 ps = solveLoop p f fuel2 ps := by
  obtain ⟨j, psj, ids, r, Y, hj, hpre, hend⟩ := exists_loopEnd p f _ ps (Nat.le_refl _)
  obtain ⟨d1, rfl⟩ : ∃ d, fuel1 = j + (d + 1) := ⟨fuel1 - j - 1, by omega⟩
  obtain ⟨d2, rfl⟩ : ∃ d, fuel2 = j + (d + 1) := ⟨fuel2 - j - 1, by omega⟩
  rw [(solveLoop_of_end hpre hend d1).1, (solveLoop_of_end hpre hend d2).1]

/-- the loop never ends because the fuel ran out -/
theorem solveLoop_end (p : Params α) (f : Nat → List α → Option α) (fuel : Nat) (ps : PState α)
    (h : remaining p ps < fuel) :
    (solveLoop p f fuel ps).2 = true ∨ stopNow p (solveLoop p f fuel ps).1 = true := by
  obtain ⟨j, psj, ids, r, Y, L⟩ := solveLoop_cases (f := f) h
  rw [L.loop]
  cases L.loopEnd with
  | stop hs => exact .inr hs
  | raise _ _ => exact .inl rfl

theorem solveLoop_raised (p : Params α) (f : Nat → List α → Option α) {fuel : Nat} {ps : PState α}
    (h : remaining p ps < fuel) : (solveLoop p f fuel ps).2 = (solveRaise p f fuel ps).isSome := by
  obtain ⟨j, psj, ids, r, Y, L⟩ := solveLoop_cases (f := f) h
  rw [L.loop, L.raise]

end Proc
end

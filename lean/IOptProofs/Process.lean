import IOptModel.Process
import IOptProofs.MethodCtl
/-!
# One pass of the loop body, the canonical sequence `iterN`, the event log as a write-only part of the state

`oneIteration_ok` / `oneIteration_error` invert one pass into the records `PassOK` / `PassErr`; the case "first iteration or
selection" inside them is `FirstPass` / `SelPass`. Everything here is generic in the numeric type: no arithmetic law is used.
-/

set_option linter.unusedSectionVars false

section
variable {α : Type} [Add α] [Sub α] [Mul α] [Div α] [Neg α] [LT α] [LE α]
  [DecidableLT α] [DecidableLE α] [OfNat α 0] [OfNat α 1] [OfNat α 2] [OfNat α 4] [Fns α]

namespace Proc
open AGP AGP.Ctl

/-- `method.iterationsCount` (0 before the first iteration) -/
def PState.iters (ps : PState α) : Nat := match ps.m with | none => 0 | some s => s.iters
/-- `solution.numberOfGlobalTrials` -/
def PState.nTrials (ps : PState α) : Nat := match ps.m with | none => 0 | some s => s.nTrials
/-- `solution.solutionAccuracy` = `method.min_delta` (`none` = `inf`) -/
def PState.minDelta (ps : PState α) : Option α := match ps.m with | none => none | some s => s.minDelta
def PState.core (ps : PState α) : PState α := { ps with log := [] }
/-- PREPENDS `l` to the log: puts back the history that `core` strips, so that an operation run on `ps.core` gives the operation on `ps`
(`oneIteration_of_core`, `iterN_of_core`). What an operation writes goes to the other end: `appendLog`. -/
def PState.addLog (l : List Event) (ps : PState α) : PState α := { ps with log := l ++ ps.log }

@[simp] theorem PState.addLog_m (l : List Event) (ps : PState α) : (ps.addLog l).m = ps.m := rfl
@[simp] theorem PState.addLog_evals (l : List Event) (ps : PState α) : (ps.addLog l).evals = ps.evals := rfl
@[simp] theorem PState.addLog_calls (l : List Event) (ps : PState α) : (ps.addLog l).calls = ps.calls := rfl
@[simp] theorem PState.addLog_nLocal (l : List Event) (ps : PState α) : (ps.addLog l).nLocal = ps.nLocal := rfl
@[simp] theorem PState.addLog_refined (l : List Event) (ps : PState α) : (ps.addLog l).refined = ps.refined := rfl
@[simp] theorem PState.addLog_log (l : List Event) (ps : PState α) : (ps.addLog l).log = l ++ ps.log := rfl
@[simp] theorem PState.core_m (ps : PState α) : ps.core.m = ps.m := rfl
@[simp] theorem PState.core_evals (ps : PState α) : ps.core.evals = ps.evals := rfl
@[simp] theorem PState.core_calls (ps : PState α) : ps.core.calls = ps.calls := rfl
@[simp] theorem PState.core_nLocal (ps : PState α) : ps.core.nLocal = ps.nLocal := rfl
@[simp] theorem PState.core_refined (ps : PState α) : ps.core.refined = ps.refined := rfl
@[simp] theorem PState.core_log (ps : PState α) : ps.core.log = [] := rfl
@[simp] theorem PState.core_addLog (l : List Event) (ps : PState α) : (ps.addLog l).core = ps.core := rfl
@[simp] theorem PState.core_core (ps : PState α) : ps.core.core = ps.core := rfl
theorem PState.addLog_core (ps : PState α) : ps.core.addLog ps.log = ps := by
  cases ps; simp [PState.addLog, PState.core]
theorem PState.addLog_addLog (l l' : List Event) (ps : PState α) :
    (ps.addLog l).addLog l' = ps.addLog (l' ++ l) := by
  simp [PState.addLog]
@[simp] theorem PState.addLog_nil (ps : PState α) : ps.addLog [] = ps := by
  simp [PState.addLog]

/-- what two states that are equal up to the event log (`ps.core = ps'.core`) agree on -/
structure SameCore (ps ps' : PState α) : Prop where
  m : ps.m = ps'.m
  evals : ps.evals = ps'.evals
  nLocal : ps.nLocal = ps'.nLocal
  calls : ps.calls = ps'.calls
  refined : ps.refined = ps'.refined

theorem PState.core_eq_iff {ps ps' : PState α} : ps.core = ps'.core ↔ SameCore ps ps' := by
  cases ps
  cases ps'
  simp only [PState.core, PState.mk.injEq, true_and]
  exact ⟨fun ⟨a, b, c, d, e⟩ => { m := a, evals := b, nLocal := c, calls := d, refined := e },
    fun h => ⟨h.m, h.evals, h.nLocal, h.calls, h.refined⟩⟩

theorem PState.ext_core_log {ps ps' : PState α} (h : ps.core = ps'.core) (hl : ps.log = ps'.log) : ps = ps' := by
  rw [← PState.addLog_core ps, ← PState.addLog_core ps', h, hl]

@[simp] theorem PState.iters_addLog (l : List Event) (ps : PState α) : (ps.addLog l).iters = ps.iters := rfl
@[simp] theorem PState.nTrials_addLog (l : List Event) (ps : PState α) : (ps.addLog l).nTrials = ps.nTrials := rfl
@[simp] theorem PState.minDelta_addLog (l : List Event) (ps : PState α) : (ps.addLog l).minDelta = ps.minDelta := rfl

theorem oneIteration_eq (p : Params α) (f : Nat → List α → Option α) (ps : PState α) :
    oneIteration p f ps =
    match ps.m with
    | none =>
      match f ps.calls (firstPoint p) with
      | none => .error ({ ps with log := ps.log ++ [Event.beforeStart], calls := ps.calls + 1 }, .objective)
      | some z => .ok ({ ps with log := ps.log ++ [Event.beforeStart], calls := ps.calls + 1,
                                 m := some (firstIteration p z), evals := ps.evals ++ [(firstPoint p, z)] }, 2)
    | some s =>
      match prepare p s with
      | .error (s', e) => .error ({ ps with m := some s' }, e)
      | .ok pr =>
        match f ps.calls pr.point with
        | none => .error ({ ps with calls := ps.calls + 1, m := some pr.s }, .objective)
        | some z => .ok ({ ps with calls := ps.calls + 1, m := some (commit p pr z),
                                   evals := ps.evals ++ [(pr.point, z)] }, pr.s.nextId) := by
  rfl

def liftLog {β : Type} (l : List Event) :
    Except (PState α × Raise) (PState α × β) → Except (PState α × Raise) (PState α × β)
  | .ok (ps, b) => .ok (ps.addLog l, b)
  | .error (ps, e) => .error (ps.addLog l, e)

/-- frame rule: the event log is write-only for `oneIteration` -/
theorem oneIteration_addLog (p : Params α) (f : Nat → List α → Option α) (l : List Event) (ps : PState α) :
    oneIteration p f (ps.addLog l) = liftLog l (oneIteration p f ps) := by
  rw [oneIteration_eq, oneIteration_eq]
  simp only [PState.addLog_m, PState.addLog_calls]
  cases hm : ps.m with
  | none =>
    simp only []
    cases f ps.calls (firstPoint p) <;> simp only [liftLog, PState.addLog, List.append_assoc]
  | some s =>
    simp only []
    cases prepare p s with
    | error e => rfl
    | ok pr =>
      simp only []
      cases f ps.calls pr.point <;> rfl

/-- the pass is the first iteration: at `firstPoint p`, from no method state to `m'`, and `BeforeMethodStart` is notified -/
structure FirstPass (p : Params α) (ps ps' : PState α) (pt : List α) (m' : Option (State α)) : Prop where
  m : ps.m = none
  pt : pt = firstPoint p
  m' : ps'.m = m'
  log : ps'.log = ps.log ++ [Event.beforeStart]

/-- the pass selects in the method state `s` with the result `pr`, at whose point the objective is called, and leaves `m'` -/
structure SelPass (p : Params α) (ps ps' : PState α) (pt : List α) (s : State α) (pr : Prep α) (m' : Option (State α)) : Prop where
  m : ps.m = some s
  prep : prepare p s = .ok pr
  pt : pt = pr.point
  m' : ps'.m = m'
  log : ps'.log = ps.log

/-- What a pass that returned did: one call, at `pt` with the value `z`, one record, and the first iteration or a selection committed. -/
structure PassOK (p : Params α) (f : Nat → List α → Option α) (ps ps' : PState α) (id : Nat) (pt : List α) (z : α) : Prop where
  calls : ps'.calls = ps.calls + 1
  nLocal : ps'.nLocal = ps.nLocal
  /-- the global search never touches `__refinedTrial` -/
  refined : ps'.refined = ps.refined
  /-- the new trial gets the next free id: 0 and 1 are the end points -/
  id_first : ps.m = none → id = 2
  id_next : ∀ s, ps.m = some s → id = s.nextId
  value : f ps.calls pt = some z
  evals : ps'.evals = ps.evals ++ [(pt, z)]
  step : FirstPass p ps ps' pt (some (firstIteration p z)) ∨ ∃ s pr, SelPass p ps ps' pt s pr (some (commit p pr z))

theorem oneIteration_ok {p : Params α} {f : Nat → List α → Option α} {ps ps' : PState α} {id : Nat}
    (h : oneIteration p f ps = .ok (ps', id)) : ∃ pt z, PassOK p f ps ps' id pt z := by
  rw [oneIteration_eq] at h
  split at h
  · next hm =>
    split at h
    · cases h
    · next z hz =>
      cases h
      exact ⟨_, z, {
        calls := rfl
        nLocal := rfl
        refined := rfl
        id_first := fun _ => rfl
        id_next := fun s hs => by rw [hm] at hs; cases hs
        value := hz
        evals := rfl
        step := .inl { m := hm, pt := rfl, m' := rfl, log := rfl } }⟩
  · next s hm =>
    split at h
    · cases h
    · next pr hpr =>
      split at h
      · cases h
      · next z hz =>
        cases h
        exact ⟨_, z, {
          calls := rfl
          nLocal := rfl
          refined := rfl
          id_first := fun h0 => by rw [hm] at h0; cases h0
          id_next := fun s' hs => by rw [hm] at hs; cases hs; exact (prepare_ok_fields hpr).nextId
          value := hz
          evals := rfl
          step := .inr ⟨s, pr, { m := hm, prep := hpr, pt := rfl, m' := rfl, log := rfl }⟩ }⟩

/-- the objective raised at `pt`: one more call, in the first iteration (which is then still to be made) or after a selection (which stays) -/
structure ObjRaised (p : Params α) (f : Nat → List α → Option α) (ps ps' : PState α) (pt : List α) : Prop where
  calls : ps'.calls = ps.calls + 1
  value : f ps.calls pt = none
  step : FirstPass p ps ps' pt none ∨ ∃ s pr, SelPass p ps ps' pt s pr (some pr.s)

/-- `CalculateIterationPoint` raised `e` in the method state `s` and left `s'`: no call, nothing notified -/
structure SelRaised (p : Params α) (ps ps' : PState α) (e : Raise) (s s' : State α) : Prop where
  ne : e ≠ .objective
  calls : ps'.calls = ps.calls
  log : ps'.log = ps.log
  m : ps.m = some s
  prep : prepare p s = .error (s', e)
  m' : ps'.m = some s'

/-- What a pass that raised did: no new record, and either the objective raised or `CalculateIterationPoint` did. -/
structure PassErr (p : Params α) (f : Nat → List α → Option α) (ps ps' : PState α) (e : Raise) : Prop where
  evals : ps'.evals = ps.evals
  nLocal : ps'.nLocal = ps.nLocal
  refined : ps'.refined = ps.refined
  cause : (e = .objective ∧ ∃ pt, ObjRaised p f ps ps' pt) ∨ ∃ s s', SelRaised p ps ps' e s s'

theorem oneIteration_error {p : Params α} {f : Nat → List α → Option α} {ps ps' : PState α} {e : Raise}
    (h : oneIteration p f ps = .error (ps', e)) : PassErr p f ps ps' e := by
  rw [oneIteration_eq] at h
  split at h
  · next hm =>
    split at h
    · next hz =>
      cases h
      exact { evals := rfl, nLocal := rfl, refined := rfl,
              cause := .inl ⟨rfl, _, { calls := rfl, value := hz, step := .inl { m := hm, pt := rfl, m' := hm, log := rfl } }⟩ }
    · cases h
  · next s hm =>
    split at h
    · next s' e' hpr =>
      cases h
      exact { evals := rfl, nLocal := rfl, refined := rfl,
              cause := .inr ⟨s, s', { ne := (prepare_error_fields hpr).ne_objective, calls := rfl, log := rfl, m := hm, prep := hpr, m' := rfl }⟩ }
    · next pr hpr =>
      split at h
      · next hz =>
        cases h
        exact { evals := rfl, nLocal := rfl, refined := rfl,
                cause := .inl ⟨rfl, _, { calls := rfl, value := hz,
                                         step := .inr ⟨s, pr, { m := hm, prep := hpr, pt := rfl, m' := rfl, log := rfl }⟩ }⟩ }
      · cases h

theorem oneIteration_ok_refined {p : Params α} {f : Nat → List α → Option α} {ps ps' : PState α} {id : Nat}
    (h : oneIteration p f ps = .ok (ps', id)) : ps'.refined = ps.refined := by
  obtain ⟨pt, z, P⟩ := oneIteration_ok h
  exact P.refined

theorem oneIteration_error_refined {p : Params α} {f : Nat → List α → Option α} {ps ps' : PState α} {e : Raise}
    (h : oneIteration p f ps = .error (ps', e)) : ps'.refined = ps.refined :=
  (oneIteration_error h).refined

/-- `k` passes of the loop body, stopping at the first raise; returns the ids of the new trials. The states `iterN p f j ps`,
`j = 0, 1, …`, as long as no pass raises, are THE CANONICAL SEQUENCE from `ps`: every operation (`DoGlobalIteration(k)`, `Solve`, any
succession of them) walks along it up to the event log, and differs only in where it stops and what it notifies. -/
def iterN (p : Params α) (f : Nat → List α → Option α) : Nat → PState α → Except (PState α × Raise) (PState α × List Nat)
  | 0, ps => .ok (ps, [])
  | k+1, ps =>
    match oneIteration p f ps with
    | .error e => .error e
    | .ok (ps', id) =>
      match iterN p f k ps' with
      | .error e => .error e
      | .ok (ps'', ids) => .ok (ps'', id :: ids)

theorem iterN_cons_ok {p : Params α} {f : Nat → List α → Option α} {k : Nat} {ps ps' : PState α} {ids : List Nat}
    (h : iterN p f (k + 1) ps = .ok (ps', ids)) :
    ∃ ps1 id ids', oneIteration p f ps = .ok (ps1, id) ∧ iterN p f k ps1 = .ok (ps', ids') ∧ ids = id :: ids' := by
  rw [iterN] at h
  split at h
  · cases h
  · next ps1 id h1 =>
    split at h
    · cases h
    · next ps2 ids2 h2 => cases h; exact ⟨ps1, id, ids2, h1, h2, rfl⟩

@[elab_as_elim]
theorem iterN_ok_induction {p : Params α} {f : Nat → List α → Option α}
    {motive : Nat → PState α → PState α → List Nat → Prop}
    {k : Nat} {ps ps' : PState α} {ids : List Nat} (h : iterN p f k ps = .ok (ps', ids))
    (zero : ∀ ps, motive 0 ps ps [])
    (succ : ∀ {k ps ps1 ps' id ids}, oneIteration p f ps = .ok (ps1, id) → iterN p f k ps1 = .ok (ps', ids) →
      motive k ps1 ps' ids → motive (k + 1) ps ps' (id :: ids)) : motive k ps ps' ids := by
  induction k generalizing ps ids with
  | zero => cases h; exact zero _
  | succ k ih =>
    obtain ⟨ps1, id, ids', h1, h2, rfl⟩ := iterN_cons_ok h
    exact succ h1 h2 (ih h2)

theorem iterN_cons {p : Params α} {f : Nat → List α → Option α} {k : Nat} {ps ps1 ps' : PState α} {id : Nat} {ids : List Nat}
    (h1 : oneIteration p f ps = .ok (ps1, id)) (h : iterN p f k ps1 = .ok (ps', ids)) :
    iterN p f (k + 1) ps = .ok (ps', id :: ids) := by
  rw [iterN, h1]; simp only []; rw [h]

theorem iterN_error {p : Params α} {f : Nat → List α → Option α} {k : Nat} {ps pe : PState α} {e : Raise}
    (h : iterN p f k ps = .error (pe, e)) :
    ∃ j psj ids, j < k ∧ iterN p f j ps = .ok (psj, ids) ∧ oneIteration p f psj = .error (pe, e) := by
  induction k generalizing ps with
  | zero => cases h
  | succ k ih =>
    rw [iterN] at h
    split at h
    · next x h1 => cases h; exact ⟨0, ps, [], k.succ_pos, rfl, h1⟩
    · next ps1 id h1 =>
      split at h
      · next x h2 =>
        cases h
        obtain ⟨j, psj, ids, hj, hr, he⟩ := ih h2
        exact ⟨j + 1, psj, id :: ids, Nat.succ_lt_succ hj, iterN_cons h1 hr, he⟩
      · cases h

theorem doGlobalIteration_eq (p : Params α) (f : Nat → List α → Option α) (k : Nat) (ps : PState α) (saved : List Nat) :
    doGlobalIteration p f k ps saved =
    match iterN p f k ps with
    | .ok (ps', ids) => { s := { ps' with log := ps'.log ++ [Event.endIteration (saved ++ ids)] }, raised := none }
    | .error (ps', e) => { s := ps', raised := some e } := by
  induction k generalizing ps saved with
  | zero => simp [doGlobalIteration, iterN]
  | succ k ih =>
    rw [doGlobalIteration, iterN]
    cases h1 : oneIteration p f ps with
    | error e => rfl
    | ok r =>
      obtain ⟨ps', id⟩ := r
      simp only []
      rw [ih]
      cases iterN p f k ps' with
      | error e => rfl
      | ok r' => simp

theorem iterN_add (p : Params α) (f : Nat → List α → Option α) (a b : Nat) (ps : PState α) :
    iterN p f (a + b) ps =
    match iterN p f a ps with
    | .error e => .error e
    | .ok (ps1, ids1) =>
      match iterN p f b ps1 with
      | .error e => .error e
      | .ok (ps2, ids2) => .ok (ps2, ids1 ++ ids2) := by
  induction a generalizing ps with
  | zero =>
    simp only [Nat.zero_add, iterN]
    cases iterN p f b ps with
    | error e => rfl
    | ok r => simp
  | succ a ih =>
    rw [Nat.succ_add, iterN, iterN]
    cases oneIteration p f ps with
    | error e => rfl
    | ok r =>
      obtain ⟨ps', id⟩ := r
      simp only []
      rw [ih]
      cases iterN p f a ps' with
      | error e => rfl
      | ok r1 =>
        obtain ⟨ps1, ids1⟩ := r1
        simp only []
        cases iterN p f b ps1 with
        | error e => rfl
        | ok r2 => simp

theorem iterN_add_of_ok {p : Params α} {f : Nat → List α → Option α} {a : Nat} {ps ps1 : PState α} {ids1 : List Nat}
    (h1 : iterN p f a ps = .ok (ps1, ids1)) (b : Nat) :
    iterN p f (a + b) ps =
      match iterN p f b ps1 with
      | .error e => .error e
      | .ok (ps2, ids2) => .ok (ps2, ids1 ++ ids2) := by
  rw [iterN_add, h1]

theorem iterN_add_ok {p : Params α} {f : Nat → List α → Option α} {a b : Nat} {ps ps' : PState α} {ids : List Nat}
    (h : iterN p f (a + b) ps = .ok (ps', ids)) :
    ∃ ps1 ids1 ids2, iterN p f a ps = .ok (ps1, ids1) ∧ iterN p f b ps1 = .ok (ps', ids2) ∧ ids = ids1 ++ ids2 := by
  rw [iterN_add] at h
  split at h
  · cases h
  · next ps1 ids1 h1 =>
    split at h
    · cases h
    · next ps2 ids2 h2 => cases h; exact ⟨ps1, ids1, ids2, h1, h2, rfl⟩

theorem iterN_succ_ok {p : Params α} {f : Nat → List α → Option α} {k : Nat} {ps ps' : PState α} {ids : List Nat}
    (h : iterN p f (k + 1) ps = .ok (ps', ids)) :
    ∃ psk idsk id, iterN p f k ps = .ok (psk, idsk) ∧ oneIteration p f psk = .ok (ps', id) ∧
      ids = idsk ++ [id] := by
  obtain ⟨psk, idsk, ids2, hk, h1, rfl⟩ := iterN_add_ok h
  obtain ⟨ps1, id, ids', ho, h0, rfl⟩ := iterN_cons_ok h1
  cases h0
  exact ⟨psk, idsk, id, hk, ho, rfl⟩

theorem iterN_addLog (p : Params α) (f : Nat → List α → Option α) (l : List Event) (k : Nat) (ps : PState α) :
    iterN p f k (ps.addLog l) = liftLog l (iterN p f k ps) := by
  induction k generalizing ps with
  | zero => rfl
  | succ k ih =>
    rw [iterN, iterN, oneIteration_addLog]
    cases oneIteration p f ps with
    | error e => rfl
    | ok r =>
      obtain ⟨ps', id⟩ := r
      simp only [liftLog]
      rw [ih]
      cases iterN p f k ps' with
      | error e => rfl
      | ok r' => rfl

theorem oneIteration_of_core (p : Params α) (f : Nat → List α → Option α) (ps : PState α) :
    oneIteration p f ps = liftLog ps.log (oneIteration p f ps.core) := by
  rw [← oneIteration_addLog, PState.addLog_core]

theorem iterN_of_core (p : Params α) (f : Nat → List α → Option α) (k : Nat) (ps : PState α) :
    iterN p f k ps = liftLog ps.log (iterN p f k ps.core) := by
  rw [← iterN_addLog, PState.addLog_core]

theorem liftLog_congr_ok {β : Type} {F : PState α → Except (PState α × Raise) (PState α × β)}
    (hF : ∀ ps, F ps = liftLog ps.log (F ps.core)) {ps ps' a : PState α} {b : β}
    (hc : ps.core = ps'.core) (h : F ps = .ok (a, b)) : ∃ a', F ps' = .ok (a', b) ∧ a'.core = a.core := by
  rw [hF] at h
  rw [hF ps', ← hc]
  cases hr : F ps.core with
  | error x => rw [hr] at h; cases h
  | ok x => rw [hr] at h; cases h; exact ⟨_, rfl, rfl⟩

theorem liftLog_congr_error {β : Type} {F : PState α → Except (PState α × Raise) (PState α × β)}
    (hF : ∀ ps, F ps = liftLog ps.log (F ps.core)) {ps ps' a : PState α} {e : Raise}
    (hc : ps.core = ps'.core) (h : F ps = .error (a, e)) : ∃ a', F ps' = .error (a', e) ∧ a'.core = a.core := by
  rw [hF] at h
  rw [hF ps', ← hc]
  cases hr : F ps.core with
  | error x => rw [hr] at h; cases h; exact ⟨_, rfl, rfl⟩
  | ok x => rw [hr] at h; cases h

theorem oneIteration_congr_ok {p : Params α} {f : Nat → List α → Option α} {ps ps' a : PState α} {id : Nat}
    (hc : ps.core = ps'.core) (h : oneIteration p f ps = .ok (a, id)) :
    ∃ a', oneIteration p f ps' = .ok (a', id) ∧ a'.core = a.core :=
  liftLog_congr_ok (oneIteration_of_core p f) hc h

theorem oneIteration_congr_error {p : Params α} {f : Nat → List α → Option α} {ps ps' a : PState α} {e : Raise}
    (hc : ps.core = ps'.core) (h : oneIteration p f ps = .error (a, e)) :
    ∃ a', oneIteration p f ps' = .error (a', e) ∧ a'.core = a.core :=
  liftLog_congr_error (oneIteration_of_core p f) hc h

theorem iterN_congr_ok {p : Params α} {f : Nat → List α → Option α} {k : Nat} {ps ps' a : PState α} {ids : List Nat}
    (hc : ps.core = ps'.core) (h : iterN p f k ps = .ok (a, ids)) :
    ∃ a', iterN p f k ps' = .ok (a', ids) ∧ a'.core = a.core :=
  liftLog_congr_ok (iterN_of_core p f k) hc h

/-- `CheckStopCondition` in terms of the reported quantities -/
theorem stopNow_iff (p : Params α) (ps : PState α) :
    stopNow p ps = true ↔ (∃ d, ps.minDelta = some d ∧ d < p.eps) ∨ p.itersLimit ≤ ps.iters := by
  unfold stopNow PState.minDelta PState.iters
  cases ps.m with
  | none => simp
  | some s =>
    simp only [stopCond]
    cases s.minDelta <;> simp

theorem stopNow_congr {p : Params α} {ps ps' : PState α} (h : ps.core = ps'.core) : stopNow p ps = stopNow p ps' := by
  have : ps.m = ps'.m := (PState.core_eq_iff.1 h).m
  unfold stopNow; rw [this]

/-- APPENDS `l` to the log: the notifications an operation issues after its passes. (`addLog` writes at the other end, for the frame rule.) -/
def PState.appendLog (ps : PState α) (l : List Event) : PState α := { ps with log := ps.log ++ l }

@[simp] theorem PState.appendLog_core (ps : PState α) (l : List Event) : (ps.appendLog l).core = ps.core := rfl
@[simp] theorem PState.appendLog_log (ps : PState α) (l : List Event) : (ps.appendLog l).log = ps.log ++ l := rfl
@[simp] theorem PState.appendLog_m (ps : PState α) (l : List Event) : (ps.appendLog l).m = ps.m := rfl
@[simp] theorem PState.appendLog_evals (ps : PState α) (l : List Event) : (ps.appendLog l).evals = ps.evals := rfl
@[simp] theorem PState.appendLog_calls (ps : PState α) (l : List Event) : (ps.appendLog l).calls = ps.calls := rfl
@[simp] theorem PState.appendLog_nLocal (ps : PState α) (l : List Event) : (ps.appendLog l).nLocal = ps.nLocal := rfl
@[simp] theorem PState.appendLog_refined (ps : PState α) (l : List Event) : (ps.appendLog l).refined = ps.refined := rfl
@[simp] theorem PState.appendLog_iters (ps : PState α) (l : List Event) : (ps.appendLog l).iters = ps.iters := rfl
@[simp] theorem PState.appendLog_nTrials (ps : PState α) (l : List Event) : (ps.appendLog l).nTrials = ps.nTrials := rfl
@[simp] theorem PState.appendLog_minDelta (ps : PState α) (l : List Event) : (ps.appendLog l).minDelta = ps.minDelta := rfl
@[simp] theorem stopNow_appendLog (p : Params α) (ps : PState α) (l : List Event) : stopNow p (ps.appendLog l) = stopNow p ps := rfl

theorem solveLoop_succ (p : Params α) (f : Nat → List α → Option α) (fuel : Nat) (ps : PState α) :
    solveLoop p f (fuel + 1) ps =
    if stopNow p ps then (ps, false) else
    match oneIteration p f ps with
    | .error (ps', _) => (ps'.appendLog [Event.exceptionPrinted], true)
    | .ok (ps', id) => solveLoop p f fuel (ps'.appendLog [Event.endIteration [id]]) := by
  rw [solveLoop]
  split
  · rfl
  · rw [doGlobalIteration]
    cases oneIteration p f ps with
    | error e => rfl
    | ok r => rfl

theorem solveLoop_of_stop {p : Params α} {f : Nat → List α → Option α} {ps : PState α} (fuel : Nat)
    (h : stopNow p ps = true) : solveLoop p f (fuel + 1) ps = (ps, false) := by
  rw [solveLoop_succ, h]; rfl

/-- the exception caught by the `try` of `Solve`, if any (`solveLoop` only records that there was one) -/
def solveRaise (p : Params α) (f : Nat → List α → Option α) : Nat → PState α → Option Raise
  | 0, _ => none
  | fuel+1, ps =>
    if stopNow p ps then none else
    match oneIteration p f ps with
    | .error (_, e) => some e
    | .ok (ps', id) => solveRaise p f fuel (ps'.appendLog [Event.endIteration [id]])

/-- the termination measure of the `while` loop of `Solve` -/
def remaining (p : Params α) (ps : PState α) : Nat := p.itersLimit - ps.iters

theorem stopNow_of_remaining_zero {p : Params α} {ps : PState α} (h : remaining p ps = 0) : stopNow p ps = true := by
  rw [stopNow_iff]; right; unfold remaining at h; omega

theorem iters_lt_of_not_stop {p : Params α} {ps : PState α} (hs : stopNow p ps = false) : ps.iters < p.itersLimit :=
  Nat.lt_of_not_le fun hle => by rw [(stopNow_iff p ps).2 (.inr hle)] at hs; cases hs

theorem remaining_le (p : Params α) (ps : PState α) : remaining p ps ≤ p.itersLimit := Nat.sub_le _ _

/-- the `OnEndIteration` notifications of a sequence of single-iteration calls, one per id -/
def endEach (ids : List Nat) : List Event := ids.map fun i => Event.endIteration [i]

/-- The canonical sequence from `ps` makes `j` passes without raising and the stop criterion holds in none of
the states before the `j`-th (numbered `0 … j-1`): the part of the sequence that the `while` loop of `Solve` is sure to walk
(`loop_skip`). Together with how it ends in `psj` (`LoopEnd`) this determines the loop (`solveLoop_of_end`, `solveLoop_cases`). -/
structure RunPrefix (p : Params α) (f : Nat → List α → Option α) (ps : PState α) (j : Nat) (psj : PState α) (ids : List Nat) : Prop where
  run : iterN p f j ps = .ok (psj, ids)
  notStop : ∀ i, i < j → ∃ psi idsi, iterN p f i ps = .ok (psi, idsi) ∧ stopNow p psi = false

theorem RunPrefix.zero (p : Params α) (f : Nat → List α → Option α) (ps : PState α) : RunPrefix p f ps 0 ps [] :=
  ⟨rfl, fun i hi => absurd hi (Nat.not_lt_zero i)⟩

theorem RunPrefix.cons {p : Params α} {f : Nat → List α → Option α} {ps ps1 psj : PState α} {id j : Nat} {ids : List Nat}
    (hs : stopNow p ps = false) (h1 : oneIteration p f ps = .ok (ps1, id)) (h : RunPrefix p f ps1 j psj ids) :
    RunPrefix p f ps (j + 1) psj (id :: ids) := by
  refine ⟨iterN_cons h1 h.run, fun i hi => ?_⟩
  cases i with
  | zero => exact ⟨ps, [], rfl, hs⟩
  | succ i =>
    obtain ⟨psi, idsi, hr, hst⟩ := h.notStop i (Nat.lt_of_succ_lt_succ hi)
    exact ⟨psi, id :: idsi, iterN_cons h1 hr, hst⟩

theorem RunPrefix.congr {p : Params α} {f : Nat → List α → Option α} {ps ps' psj : PState α} {j : Nat} {ids : List Nat}
    (hc : ps.core = ps'.core) (h : RunPrefix p f ps j psj ids) :
    ∃ psj', RunPrefix p f ps' j psj' ids ∧ psj'.core = psj.core := by
  obtain ⟨psj', hr, hcj⟩ := iterN_congr_ok hc h.run
  refine ⟨psj', ⟨hr, ?_⟩, hcj⟩
  intro i hi
  obtain ⟨psi, idsi, hri, hst⟩ := h.notStop i hi
  obtain ⟨psi', hri', hci⟩ := iterN_congr_ok hc hri
  exact ⟨psi', idsi, hri', by rw [stopNow_congr hci]; exact hst⟩

end Proc
end

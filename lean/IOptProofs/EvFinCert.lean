import IOptProofs.EvFin
/-!
# Kernel evaluation of the certificates `EvCert n`, n = 2..5, and the resulting `EvFacts n`

(`n = 6, 7`: `EvFinCert6.lean`, `EvFinCert7.lean`; the dispatch on `n`: `EvFinCertAll.lean`.)

`decide +kernel`: the kernel evaluates the Boolean certificate (no extra axioms, no `native_decide`).
Thanks to the reflection-equivariance used in `EvFin.lean` the certificate has only `n · 2^n` rows,
so no chunking is needed (all four take a few seconds together).
-/

namespace Ev

theorem evCert2 : EvCert 2 = true := by decide +kernel
theorem evCert3 : EvCert 3 = true := by decide +kernel
theorem evCert4 : EvCert 4 = true := by decide +kernel
theorem evCert5 : EvCert 5 = true := by decide +kernel

theorem evFacts2 : EvFacts 2 := evFacts_of_cert evCert2
theorem evFacts3 : EvFacts 3 := evFacts_of_cert evCert3
theorem evFacts4 : EvFacts 4 := evFacts_of_cert evCert4
theorem evFacts5 : EvFacts 5 := evFacts_of_cert evCert5

end Ev

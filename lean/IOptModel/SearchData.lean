/-!
# Model of `iOpt/method/search_data.py` at pointer level

`SearchData` is modelled as the code builds it: `trials` = `_allTrials` (insertion order; the index
of an item in it is its identity), each item with its coordinate, its two neighbour links and its
characteristics; `first` = `__firstDataItem`; the queues are lists kept in descending key order.

`CharacteristicsQueue` wraps the third-party `depq.DEPQ`; its contract (recorded in the trusted
base and checked against the real DEPQ on every correspondence run): `insert` puts the entry after
all entries whose key is `≥` the new key, `popfirst` removes the head, and when `maxlen` is
exceeded the last entry is dropped.

Keys and coordinates live in arbitrary types with Boolean comparison functions, so the same
definitions run on doubles in the driver and are reasoned about over any linear order.
-/

namespace SD

/-! ## The bounded priority queue -/

/-- DEPQ.insert: after all entries with key ≥ k (`le k k'` reads `k ≤ k'`). -/
def qinsertRaw {κ β : Type} (le : κ → κ → Bool) (k : κ) (v : β) : List (κ × β) → List (κ × β)
  | [] => [(k, v)]
  | (k', v') :: t => if le k k' then (k', v') :: qinsertRaw le k v t else (k, v) :: (k', v') :: t

/-- insert followed by the `maxlen` eviction (`_poplast`) -/
def qinsert {κ β : Type} (le : κ → κ → Bool) (maxlen : Option Nat) (k : κ) (v : β)
    (q : List (κ × β)) : List (κ × β) :=
  let q' := qinsertRaw le k v q
  match maxlen with
  | some n => if n < q'.length then q'.dropLast else q'
  | none => q'

/-! ## Items and the container -/

structure Item (χ κ : Type) where
  x : χ
  left : Option Nat := none
  right : Option Nat := none
  globalR : κ
  localR : κ
deriving Repr

structure State (χ κ : Type) where
  trials : Array (Item χ κ) := #[]
  first : Option Nat := none
  gq : List (κ × Nat) := []
  lq : List (κ × Nat) := []
  maxlen : Option Nat := none
  dual : Bool := false

inductive Err where
  | attributeError   -- Python raises AttributeError ('NoneType' object has no attribute ...)
  | indexError       -- DEPQ is already empty
deriving Repr, DecidableEq

variable {χ κ : Type}

def setLeft (s : State χ κ) (i : Nat) (l : Option Nat) : State χ κ :=
  { s with trials := s.trials.modify i fun it => { it with left := l } }

def setRight (s : State χ κ) (i : Nat) (r : Option Nat) : State χ κ :=
  { s with trials := s.trials.modify i fun it => { it with right := r } }

/-- `for item in self` : follow `right` from `first` (fuel = number of items: the walk of a
well-formed container visits every item once and needs exactly that much) -/
def walk (s : State χ κ) : Nat → Option Nat → List Nat
  | 0, _ => []
  | _, none => []
  | fuel+1, some i => i :: walk s fuel (s.trials[i]?.bind (·.right))

def traversal (s : State χ κ) : List Nat := walk s s.trials.size s.first

/-- `FindDataItemByOneDimensionalPoint`: first item in traversal order with `X > x` -/
def find (lt : χ → χ → Bool) (s : State χ κ) (x : χ) : Option Nat :=
  (traversal s).find? fun i => match s.trials[i]? with
    | some it => lt x it.x
    | none => false

def qIns (le : κ → κ → Bool) (s : State χ κ) (q : List (κ × Nat)) (k : κ) (i : Nat) : List (κ × Nat) :=
  qinsert le s.maxlen k i q

/-- `InsertFirstDataItem(left, right)` with fresh items -/
def insertFirst (s : State χ κ) (l r : Item χ κ) : State χ κ :=
  let li := s.trials.size
  let ri := li + 1
  { s with trials := (s.trials.push { l with right := some ri }).push { r with left := some li },
           first := some li }

/-- `InsertDataItem(new, right)`; `hint = none` is the call without a right neighbour. The four
pointer writes are in the code's order; `AttributeError` where Python would dereference `None`. -/
def insert (lt : χ → χ → Bool) (le : κ → κ → Bool) (s : State χ κ) (new : Item χ κ) (hint : Option Nat) :
    Except Err (State χ κ) :=
  let flag := hint.isSome
  let rightOpt := match hint with
    | some h => some h
    | none => find lt s new.x
  match rightOpt with
  | none => .error .attributeError           -- rightDataItem.GetLeft() on None
  | some r =>
    match s.trials[r]? with
    | none => .error .attributeError
    | some rit =>
      let ni := s.trials.size
      let newL := rit.left                    -- newDataItem.SetLeft(rightDataItem.GetLeft())
      let s1 : State χ κ := { s with trials := s.trials.push { new with left := newL, right := some r } }
      let s2 := setLeft s1 r (some ni)        -- rightDataItem.SetLeft(newDataItem)
      match newL with
      | none => .error .attributeError        -- newDataItem.GetLeft().SetRight(...) on None
      | some l =>
        let s3 := setRight s2 l (some ni)
        let gq := qIns le s3 s3.gq new.globalR ni
        let lq := if s.dual then qIns le s3 s3.lq new.localR ni else s3.lq
        let (gq, lq) := if flag then
            (qIns le s3 gq rit.globalR r, if s.dual then qIns le s3 lq rit.localR r else lq)
          else (gq, lq)
        .ok { s3 with gq := gq, lq := lq }

def clearQueue (s : State χ κ) : State χ κ := { s with gq := [], lq := [] }

/-- `RefillQueue` -/
def refill (le : κ → κ → Bool) (s : State χ κ) : State χ κ :=
  let s0 := clearQueue s
  (traversal s).foldl (fun acc i => match acc.trials[i]? with
    | some it => { acc with gq := qIns le acc acc.gq it.globalR i,
                            lq := if acc.dual then qIns le acc acc.lq it.localR i else acc.lq }
    | none => acc) s0

/-- base-class `GetDataItemWithMaxGlobalR`: refill if empty, pop the head -/
def popMaxGlobal (le : κ → κ → Bool) (s : State χ κ) : Except Err (State χ κ × Nat × κ) :=
  let s := if s.gq.isEmpty then refill le s else s
  match s.gq with
  | [] => .error .indexError
  | (k, i) :: t => .ok ({ s with gq := t }, i, k)

/-- dual-queue `GetDataItemWithMax{Global,Local}R`: pop until the queued key equals the item's
current characteristic, refilling when the queue runs empty. Structural recursion on `fuel`
(callers pass queue length + number of items + 2, enough when keys are comparable with `ne`). -/
def popCurrent (le : κ → κ → Bool) (ne : κ → κ → Bool) (glob : Bool) :
    Nat → State χ κ → Except Err (State χ κ × Nat × κ)
  | 0, _ => .error .indexError
  | fuel+1, s =>
    let q := if glob then s.gq else s.lq
    let s := if q.isEmpty then refill le s else s
    let q := if glob then s.gq else s.lq
    match q with
    | [] => .error .indexError
    | (k, i) :: t =>
      let s' : State χ κ := if glob then { s with gq := t } else { s with lq := t }
      match s'.trials[i]? with
      | none => .error .attributeError
      | some it =>
        let cur := if glob then it.globalR else it.localR
        if ne k cur then popCurrent le ne glob fuel s' else .ok (s', i, k)

def setGlobalR (s : State χ κ) (i : Nat) (k : κ) : State χ κ :=
  { s with trials := s.trials.modify i fun it => { it with globalR := k } }

def setLocalR (s : State χ κ) (i : Nat) (k : κ) : State χ κ :=
  { s with trials := s.trials.modify i fun it => { it with localR := k } }

end SD

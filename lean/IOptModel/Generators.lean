import IOptModel.Proto
/-!
# The coefficient generators of the benchmark families, in exact integer arithmetic

* **Grishagin** (`GrishaginFunction.SetFunctionNumber`, `rndm20`, `gen` in
  `iOpt/problems/grishagin_function/grishagin_function.py`): a 45-entry register `icnf` of 0/1 values,
  seeded from a row of `matcon`, is advanced by `rndm20`; the double returned by `rndm20` is
  `Σ_{i<36} k[i+9]·2^-(i+1) = q / 2^36` with the 36-bit numerator `q` (every partial sum has at most 36
  significant bits, so the floating-point sum is exact) and a coefficient is `2·(q/2^36) − 1`.
* **GKLS / Knuth** (`GKLSRandomGenerator.Initialize` = Knuth's `ranf_start`, `GenerateNextNumbers` =
  `ranf_array`, `mod_sum` in `iOpt/problems/GKLS_function/gkls_random.py`): every number handled is a
  multiple of `ulp = 2^-52` in `[0, 1)` and every operation of the code on such numbers is exact in
  binary64, so a number `x` is represented by the natural number `x / ulp < 2^52`; the array `ul`
  (entries `0.0` or `ulp`) is represented by 0/1.

Arrays are `List Nat`, read with `getD · 0` and written with `List.set`; every Python loop is a fold over
the list of its index values, in the code's order.  No floating point is involved except in the
conversion functions `coeff` / `unit` used by the driver hook to print doubles.
-/

namespace Gens

/-- `[hi, hi-1, …, lo]` (empty if `hi < lo`): the index values of `range(hi, lo - 1, -1)` -/
def downTo (hi lo : Nat) : List Nat := (List.range (hi + 1 - lo)).map fun i => hi - i

/-- `[hi, hi-2, …]` down to the last value `> lo`: the index values of `range(hi, lo, -2)` -/
def downBy2 (hi lo : Nat) : List Nat := (List.range ((hi - lo + 1) / 2)).map fun i => hi - 2 * i

/-! ## Grishagin -/

/-- `abs(a - b)` on non-negative integers -/
def absDiff (a b : Nat) : Nat := if b ≤ a then a - b else b - a

/-- One carry pass of `gen` over a segment (most significant position first; the Python loop runs from the
last position of the segment to the first): `j = int((k[i] + k1[i] + jct) / 2); k[i] = k[i] + k1[i] + jct - j*2;
jct = j`.  A missing entry of `k1` counts as `0`.  Returns the new segment and the carry out. -/
def addPass : List Nat → List Nat → Nat → List Nat × Nat
  | [], _, c => ([], c)
  | a :: as, bs, c =>
    let r := addPass as bs.tail c
    let s := a + bs.headD 0 + r.2
    ((s - s / 2 * 2) :: r.1, s / 2)

/-- `gen(k, k1, kap1, kap2)`: add `k1` into `k` on positions `kap1..kap2` (carry runs from `kap2` down to
`kap1`); if a carry comes out, a second pass adds it in again at position `kap2` (end-around carry; the
carry out of the second pass is dropped). -/
def gen (k k1 : List Nat) (kap1 kap2 : Nat) : List Nat :=
  let n := kap2 + 1 - kap1
  let r := addPass ((k.drop kap1).take n) ((k1.drop kap1).take n) 0
  let seg := if r.2 != 0 then (addPass r.1 [] r.2).1 else r.1
  k.take kap1 ++ seg ++ k.drop (kap2 + 1)

/-- numerator over `2^36` of `Σ_{i<36} bits[i]·2^-(i+1)` -/
def numer (bits : List Nat) : Nat := bits.foldl (fun acc b => 2 * acc + b) 0

/-- `rndm20(k)`: new register and the numerator `q` of the returned double `q / 2^36`. -/
def rndm20 (k : List Nat) : List Nat × Nat :=
  let k1 := (k.drop 7).take 38 ++ List.replicate 7 0        -- k1[i] = k[i+7] (i < 38), 0 (38 ≤ i < 45)
  let k := List.zipWith absDiff k k1                           -- k[i] = abs(k[i] - k1[i])
  let k1 := List.replicate 27 0 ++ k.take 18                  -- k1[i] = k[i-27] (27 ≤ i < 45), 0 (i < 27)
  let k := gen k k1 9 44
  let k := gen k k1 0 8
  (k, numer ((k.drop 9).take 36))

/-- `n` successive calls of `rndm20`: final register and the numerators in call order -/
def draw : Nat → List Nat → List Nat × List Nat
  | 0, k => (k, [])
  | n + 1, k =>
    let r := rndm20 k
    let r' := draw n r.1
    (r'.1, r.2 :: r'.2)

/-- the register after `n` calls of `rndm20` whose results are discarded -/
def skip : Nat → List Nat → List Nat
  | 0, k => k
  | n + 1, k => skip n (rndm20 k).1

/-- The two matrices filled by one double loop `for j in 0..6: for i in 0..6: A[i][j] = next; C[i][j] = next`
from the 98 numbers `qs` (in call order): row-major `7×7` lists. -/
def matA (qs : List Nat) : List (List Nat) :=
  (List.range 7).map fun i => (List.range 7).map fun j => qs.getD (2 * (7 * j + i)) 0
def matC (qs : List Nat) : List (List Nat) :=
  (List.range 7).map fun i => (List.range 7).map fun j => qs.getD (2 * (7 * j + i) + 1) 0

/-- state of a `GrishaginFunction` object: the function number, the four coefficient matrices as numerators
`q` (the coefficient is `2·(q/2^36) − 1`) and the register `icnf` -/
structure Grish where
  fn : Nat
  af : List (List Nat) := []
  bf : List (List Nat) := []
  cf : List (List Nat) := []
  df : List (List Nat) := []
  icnf : List Nat := List.replicate 45 0
deriving DecidableEq, Repr

/-- `SetFunctionNumber()` on an object, with the seed table `matcon` (10 rows of 45 bits). -/
def setFunctionNumber (matcon : List (List Nat)) (g : Grish) : Grish :=
  let i1 := (g.fn - 1) / 10
  let i2 := i1 * 10
  -- for j in range(len(matcon[i1])): icnf[j] = matcon[i1][j]
  let row := matcon.getD i1 []
  let icnf := row ++ g.icnf.drop row.length
  let icnf := if i2 != g.fn - 1 then
      let i3 := g.fn - 1 - i2
      -- for j in 1..i3: for i in 0..195: rndm20(icnf)
      (List.range i3).foldl (fun k _ => skip 196 k) icnf
    else icnf
  let r1 := draw 98 icnf
  let r2 := draw 98 r1.1
  { g with af := matA r1.2, cf := matC r1.2, bf := matA r2.2, df := matC r2.2, icnf := r2.1 }

/-- the constructor's clamp: `if function_number < 1 or function_number > 100: function_number = 1` -/
def clampFn (fn : Nat) : Nat := if fn < 1 ∨ fn > 100 then 1 else fn

/-- `GrishaginFunction(function_number)`: clamp, then `SetFunctionNumber()` -/
def grishNew (matcon : List (List Nat)) (functionNumber : Nat) : Grish :=
  setFunctionNumber matcon { fn := clampFn functionNumber }

/-- the function object of the problem `Grishagin(function_number)`: its constructor builds
`GrishaginFunction(function_number)` and then calls `SetFunctionNumber()` once more -/
def grishProblem (matcon : List (List Nat)) (functionNumber : Nat) : Grish :=
  setFunctionNumber matcon (grishNew matcon functionNumber)

/-- a coefficient `2·(q/2^36) − 1` in any numeric type -/
def coeff {α : Type} [NatCast α] [Mul α] [Div α] [Sub α] [OfNat α 2] [OfNat α 1] (q : Nat) : α :=
  2 * ((q : α) / ((2 ^ 36 : Nat) : α)) - 1

/-! ## Knuth's `ranf_start` / `ranf_array` (GKLS) -/

def KK : Nat := 100
def LL : Nat := 37
def TT : Nat := 70
def NUM_RND : Nat := 1009
/-- `1.0` in units of `ulp = 2^-52` -/
def ONE : Nat := 2 ^ 52

/-- `mod_sum(x, y) = (x + y) - int(x + y)` on numerators -/
def modSum (x y : Nat) : Nat := (x + y) % ONE

/-- bootstrap loop: `u[j] = ss; ss += ss; if ss >= 1.0: ss -= 1.0 - 2*ulp`; returns `u[0..n-1]` -/
def bootstrap : Nat → Nat → List Nat
  | 0, _ => []
  | n + 1, ss =>
    let s2 := ss + ss
    ss :: bootstrap n (if s2 ≥ ONE then s2 - (ONE - 2) else s2)

/-- the two working arrays of `Initialize` (length `KK + KK - 1`) -/
structure UU where
  u : List Nat
  ul : List Nat
deriving DecidableEq, Repr

/-- `for j in range(KK-1, 0, -1): ul[j+j] = ul[j]; u[j+j] = u[j]` ("square") -/
def square (a : UU) : UU :=
  (downTo (KK - 1) 1).foldl (fun a j =>
    let ul := a.ul.set (j + j) (a.ul.getD j 0)
    let u := a.u.set (j + j) (a.u.getD j 0)
    { u := u, ul := ul }) a

/-- `for j in range(KK+KK-2, KK-LL, -2): ul[KK+KK-1-j] = 0.0; u[KK+KK-1-j] = u[j] - ul[j]` -/
def oddFill (a : UU) : UU :=
  (downBy2 (KK + KK - 2) (KK - LL)).foldl (fun a j =>
    let ul := a.ul.set (KK + KK - 1 - j) 0
    let u := a.u.set (KK + KK - 1 - j) (a.u.getD j 0 - ul.getD j 0)
    { u := u, ul := ul }) a

/-- `for j in range(KK+KK-2, KK-1, -1): if ul[j] != 0: …` (reduction of the upper half) -/
def reduce (a : UU) : UU :=
  (downTo (KK + KK - 2) KK).foldl (fun a j =>
    if a.ul.getD j 0 != 0 then
      let ul := a.ul.set (j - (KK - LL)) (1 - a.ul.getD (j - (KK - LL)) 0)
      let u := a.u.set (j - (KK - LL)) (modSum (a.u.getD (j - (KK - LL)) 0) (a.u.getD j 0))
      let ul := ul.set (j - KK) (1 - ul.getD (j - KK) 0)
      let u := u.set (j - KK) (modSum (u.getD (j - KK) 0) (u.getD j 0))
      { u := u, ul := ul }
    else a) a

/-- the body of `if is_odd(s)` ("multiply by z") -/
def mulZ (a : UU) : UU :=
  let a := (downTo KK 1).foldl (fun a j =>
    let ul := a.ul.set j (a.ul.getD (j - 1) 0)
    let u := a.u.set j (a.u.getD (j - 1) 0)
    ({ u := u, ul := ul } : UU)) a
  let ul := a.ul.set 0 (a.ul.getD KK 0)
  let u := a.u.set 0 (a.u.getD KK 0)
  if ul.getD KK 0 != 0 then
    let ul := ul.set LL (1 - ul.getD LL 0)
    let u := u.set LL (modSum (u.getD LL 0) (u.getD KK 0))
    { u := u, ul := ul }
  else { u := u, ul := ul }

/-- one pass of the body of `while (t > 0)`, up to the update of `s` and `t` -/
def pass (odd : Bool) (a : UU) : UU :=
  let a := reduce (oddFill (square a))
  if odd then mulZ a else a

/-- `while (t > 0): pass; if s: s >>= 1 else: t = t - 1`, with `fuel` bounding the number of passes
(`s < 2^30` is shifted down to `0` in at most 30 passes, after which `t = 69` is counted down: 99 passes suffice.
No theorem states this.) -/
def mainLoop : Nat → Nat → Nat → UU → UU
  | 0, _, _, a => a
  | fuel + 1, s, t, a =>
    if t > 0 then
      let a := pass (s % 2 == 1) a
      if s != 0 then mainLoop fuel (s >>> 1) t a else mainLoop fuel s (t - 1) a
    else a

/-- the arrays before the `while` loop -/
def startArrays (seed : Nat) : UU :=
  let ss := 2 * ((seed &&& 0x3fffffff) + 2)
  let u := bootstrap KK ss ++ List.replicate (KK - 1) 0
  let ul := List.replicate (KK + KK - 1) 0
  let u := u.set 1 (u.getD 1 0 + 1)
  let ul := ul.set 1 1
  { u := u, ul := ul }

/-- index of a numpy array of length `n` addressed with `j - d` (negative indices count from the end) -/
def wrapIdx (n j d : Nat) : Nat := if d ≤ j then j - d else j + n - d

/-- `Initialize(seed, …)` = `ranf_start(seed)`: the generator state `ran_u` (length `KK`) -/
def ranfStart (seed : Nat) : List Nat :=
  let a := mainLoop (30 + TT) (seed &&& 0x3fffffff) (TT - 1) (startArrays seed)
  let ranU := List.replicate KK 0
  let ranU := (List.range LL).foldl (fun r j => r.set (j + KK - LL) (a.u.getD j 0)) ranU
  (List.range KK).foldl (fun r j => r.set (wrapIdx KK j LL) (a.u.getD j 0)) ranU

/-- `GenerateNextNumbers()` = `ranf_array(rnd_num, NUM_RND)`: returns `(rnd_num, new ran_u)` -/
def ranfArray (ranU : List Nat) : List Nat × List Nat :=
  -- for j in range(KK): rnd_num[j] = ran_u[j]
  let aa := (List.range KK).map fun j => ranU.getD j 0
  -- for j in range(KK, n): rnd_num[j] = mod_sum(rnd_num[j-KK], rnd_num[j-LL])
  let aa := (List.range (NUM_RND - KK)).foldl (fun aa i =>
    let j := KK + i
    aa ++ [modSum (aa.getD (j - KK) 0) (aa.getD (j - LL) 0)]) aa
  -- j = n; for i in range(LL): ran_u[i] = mod_sum(rnd_num[j-KK], rnd_num[j-LL]); j += 1
  let ranU := (List.range LL).foldl (fun r i =>
    let j := NUM_RND + i
    r.set i (modSum (aa.getD (j - KK) 0) (aa.getD (j - LL) 0))) ranU
  -- for i in range(LL, KK): ran_u[i] = mod_sum(rnd_num[j-KK], ran_u[i-LL]); j += 1
  let ranU := (List.range (KK - LL)).foldl (fun r i' =>
    let i := LL + i'
    let j := NUM_RND + i
    r.set i (modSum (aa.getD (j - KK) 0) (r.getD (i - LL) 0))) ranU
  (aa, ranU)

/-- the `b`-th batch (`b = 0` is the first call of `GenerateNextNumbers` after `Initialize(seed)`) -/
def batch (seed : Nat) : Nat → List Nat × List Nat
  | 0 => ranfArray (ranfStart seed)
  | b + 1 => ranfArray (batch seed b).2

/-- `GKLS_initialize_rnd`: `seed = (nf - 1) + (nmin - 1) * 100 + dim * 1000000` -/
def gklsSeed (dim nmin nf : Nat) : Nat := (nf - 1) + (nmin - 1) * 100 + dim * 1000000

/-- a number `k·2^-52` in any numeric type -/
def unit {α : Type} [NatCast α] [Div α] (k : Nat) : α := (k : α) / ((2 ^ 52 : Nat) : α)

/-- `local_min[0][i] = domain_left + rnd * (domain_right - domain_left)` with the box `[-1, 1]`: the
paraboloid vertex of GKLS(dim, nf) with `nmin` minima, as numerators `k` of `rnd = k·2^-52` -/
def gklsVertexNumer (dim nmin nf : Nat) : List Nat := (batch (gklsSeed dim nmin nf) 0).1.take dim

/-! ## Driver hook (`gn.` commands) -/

structure Ctx where
  /-- the seed table sent by `gn.matcon` -/
  matcon : List (List Nat) := []
  /-- memo of the last Knuth seed: `(seed, ranfStart seed, [batch seed 0, batch seed 1, …])` (speed only) -/
  memo : Option (Nat × List Nat × List (List Nat × List Nat)) := none

/-- `ranfStart seed` through the memo -/
def startM (c : Ctx) (seed : Nat) : Ctx × List Nat :=
  match c.memo with
  | some (s, st, _) => if s == seed then (c, st) else
      let st := ranfStart seed; ({ c with memo := some (seed, st, []) }, st)
  | none => let st := ranfStart seed; ({ c with memo := some (seed, st, []) }, st)

/-- `batch seed b` through the memo: extends the list of batches of `seed` up to index `b` -/
def batchM (c : Ctx) (seed b : Nat) : Ctx × (List Nat × List Nat) :=
  let (c, st) := startM c seed
  let bs : List (List Nat × List Nat) := match c.memo with | some (_, _, bs) => bs | none => []
  let bs := (List.range (b + 1 - bs.length)).foldl (fun bs _ =>
    bs ++ [ranfArray (match bs.getLast? with | some l => l.2 | none => st)]) bs
  ({ c with memo := some (seed, st, bs) }, bs.getD b ([], []))

def fCoeff (q : Nat) : F := coeff q
def fUnit (k : Nat) : F := unit k

def parseBits (l : List String) : Option (List Nat) :=
  l.mapM fun s => match s.toNat? with
    | some b => if b ≤ 1 then some b else none
    | none => none

def fmtGrish (g : Grish) : String :=
  hxs ((g.af ++ g.bf ++ g.cf ++ g.df).flatten.map fCoeff)

/--
* `gn.matcon <rows> <rows·45 bits>`: sets the seed table `matcon`.
* `gn.grish <fn> <calls>`: the 4×49 coefficients (af, bf, cf, df, each row-major) of `GrishaginFunction(fn)`
  (`calls = 1`) or of the function object of the problem `Grishagin(fn)` (`calls = 2`: `SetFunctionNumber` ran twice).
* `gn.grishreg <fn> <calls>`: the register `icnf` of the same object.
* `gn.rndm <n> <45 bits>`: `n` calls of `rndm20`: the `n` doubles, then `|`, then the register.
* `gn.knuth <seed> <count>` / `gn.knuth2 <seed> <count>`: the first `count` numbers of the first / second
  batch of `GenerateNextNumbers()` after `Initialize(seed)`.
* `gn.state <seed> <b>`: the state `ran_u` after `Initialize(seed)` and `b` batches.
* `gn.gkls <dim> <nmin> <nf> <count>`: `GKLS_initialize_rnd(dim, nmin, nf)`, then the first `count` numbers of
  the first batch.
* `gn.vertex <dim> <nmin> <nf>`: `local_min[0]` of the generated GKLS function, `-1 + rnd·2`.
-/
def stepCmd (c : Ctx) (toks : List String) : Option (Ctx × String) :=
  match toks with
  | "gn.matcon" :: rows :: bits =>
    match rows.toNat?, parseBits bits with
    | some rows, some bs =>
      if bs.length != rows * 45 then some (c, "bad-op") else
      some ({ c with matcon := (List.range rows).map fun i => (bs.drop (45 * i)).take 45 }, "ok")
    | _, _ => some (c, "bad-op")
  | ["gn.grish", fn, calls] =>
    match fn.toNat?, calls.toNat? with
    | some fn, some 1 => some (c, fmtGrish (grishNew c.matcon fn))
    | some fn, some 2 => some (c, fmtGrish (grishProblem c.matcon fn))
    | _, _ => some (c, "bad-op")
  | ["gn.grishreg", fn, calls] =>
    match fn.toNat?, calls.toNat? with
    | some fn, some 1 => some (c, nats (grishNew c.matcon fn).icnf)
    | some fn, some 2 => some (c, nats (grishProblem c.matcon fn).icnf)
    | _, _ => some (c, "bad-op")
  | "gn.rndm" :: n :: bits =>
    match n.toNat?, parseBits bits with
    | some n, some row =>
      if row.length != 45 then some (c, "bad-op") else
      let r := draw n row
      some (c, hxs (r.2.map fun q => (unit (q * 2 ^ 16) : F)) ++ " | " ++ nats r.1)
    | _, _ => some (c, "bad-op")
  | ["gn.knuth", seed, count] =>
    match seed.toNat?, count.toNat? with
    | some seed, some count =>
      let (c, r) := batchM c seed 0
      some (c, hxs ((r.1.take count).map fUnit))
    | _, _ => some (c, "bad-op")
  | ["gn.knuth2", seed, count] =>
    match seed.toNat?, count.toNat? with
    | some seed, some count =>
      let (c, r) := batchM c seed 1
      some (c, hxs ((r.1.take count).map fUnit))
    | _, _ => some (c, "bad-op")
  | ["gn.state", seed, b] =>
    match seed.toNat?, b.toNat? with
    | some seed, some b =>
      match b with
      | 0 => let (c, st) := startM c seed; some (c, hxs (st.map fUnit))
      | b + 1 => let (c, r) := batchM c seed b; some (c, hxs (r.2.map fUnit))
    | _, _ => some (c, "bad-op")
  | ["gn.gkls", dim, nmin, nf, count] =>
    match dim.toNat?, nmin.toNat?, nf.toNat?, count.toNat? with
    | some dim, some nmin, some nf, some count =>
      let (c, r) := batchM c (gklsSeed dim nmin nf) 0
      some (c, hxs ((r.1.take count).map fUnit))
    | _, _, _, _ => some (c, "bad-op")
  | ["gn.vertex", dim, nmin, nf] =>
    match dim.toNat?, nmin.toNat?, nf.toNat? with
    | some dim, some nmin, some nf =>
      some (c, hxs ((gklsVertexNumer dim nmin nf).map fun k => (-1.0 : F) + fUnit k * (1.0 - (-1.0))))
    | _, _, _ => some (c, "bad-op")
  | _ => none

end Gens

import IOptModel.Arith
import IOptModel.SearchData
/-!
# Model of `iOpt/method/method.py` (the AGP iteration)

The search information is held as the list of items in traversal order (increasing curve
coordinate); identity of an item is its index in `_allTrials` (`id`).  The pointer-level container
is modelled separately in `SearchData.lean`; `IOptProps/C19.lean` says what its operations do to the
stored list under the hint precondition of `InsertDataItem`.  That the iteration meets this
precondition is `AGP.C02_prepare_ok` (the new point lies strictly inside the chosen interval) and
`AGP.C06_hint_correct`; that the same iteration run on the container goes through exactly these list
operations is `C06_links_refine` (`IOptProps/C06links.lean`).

The objective is not part of the state: an iteration is split into `prepare` (everything up to the
call of `Problem.Calculate`: recalculation, selection, the new coordinate and its image) and
`commit` (everything after it, given the value returned).  `iterate` composes them with an oracle
that may fail; the model of `Process` (`IOptModel/Process.lean`) composes them itself in
`Proc.oneIteration`, and that is what the containment property C16 is proved about.

All arithmetic is written in the association order of the Python source, so that the `Float`
instance reproduces the implementation bit for bit.
-/

section
variable {α : Type} [Add α] [Sub α] [Mul α] [Div α] [Neg α] [LT α] [LE α]
  [DecidableLT α] [DecidableLE α] [OfNat α 0] [OfNat α 1] [OfNat α 2] [OfNat α 4] [Fns α]

namespace AGP

/-- An element of the search information: the interval `(left.x, x]` with its right end. -/
structure Item (α : Type) where
  id : Nat
  x : α
  /-- image of `x` on the box -/
  point : List α
  /-- `GetZ()`; `Fns.big` for the never-evaluated end points -/
  z : α
  /-- `functionValues[0].value`: the content of the item's value holder (what a `Solution` reports);
  equals `z` for evaluated items until a local refinement overwrites it; `0.0` for end points -/
  hv : α
  /-- `GetIndex() == 0` (evaluated) as opposed to `-2` -/
  ev : Bool
  delta : α
  /-- `globalR`; `none` is `-inf` (the first item, which has no left neighbour) -/
  R : Option α

/-- Order on queue keys: `none` (= `-inf`) is below everything. `keyLe a b` reads `a ≤ b`. -/
def keyLe : Option α → Option α → Bool
  | none, _ => true
  | some _, none => false
  | some a, some b => decide (a ≤ b)

structure Params (α : Type) where
  n : Nat
  r : α
  eps : α
  itersLimit : Nat
  /-- `evolvent.GetImage` -/
  image : α → List α

/-- State of `Method` + `SearchData` + the `Solution` fields after the first iteration. -/
structure State (α : Type) where
  /-- traversal order -/
  items : List (Item α)
  /-- `_RGlobalQueue`: (key, item id), head = best -/
  queue : List (Option α × Nat)
  M : α
  Z : α
  /-- id of `Method.best` = `solution.bestTrials[0]` -/
  best : Nat
  recalc : Bool
  iters : Nat
  /-- `solution.solutionAccuracy`; `none` = `inf` -/
  minDelta : Option α
  /-- `solution.numberOfGlobalTrials` -/
  nTrials : Nat
  /-- `len(_allTrials)` -/
  nextId : Nat

inductive Raise where
  | leftIsNone          -- "CalculateNextPointCoordinate: Left point is NONE"
  | outsideInterval     -- "CalculateNextPointCoordinate: x is outside of interval"
  | objective           -- the objective raised
  | emptyQueue
deriving Repr, DecidableEq

def half : α := 1 / 2

/-- `Method.CalculateDelta` -/
def calcDelta (n : Nat) (lx rx : α) : α := Fns.root (rx - lx) n

/-- `Method.CalculateGlobalR(curr, left)` for `left ≠ None`. -/
def calcR (r M Z : α) (left cur : Item α) : α :=
  let zl := left.z
  let zr := cur.z
  let d := cur.delta
  if left.ev == cur.ev then
    d + (zr - zl) * (zr - zl) / (d * M * M * r * r) - 2 * (zr + zl - 2 * Z) / (r * M)
  else if !left.ev && cur.ev then
    2 * d - 4 * (zr - Z) / (r * M)
  else
    2 * d - 4 * (zl - Z) / (r * M)

/-- `for item in searchData: CalculateGlobalR(item, item.GetLeft())` -/
def recalcItems (r M Z : α) : Option (Item α) → List (Item α) → List (Item α)
  | _, [] => []
  | none, it :: t => let it' := { it with R := none }; it' :: recalcItems r M Z (some it') t
  | some l, it :: t => let it' := { it with R := some (calcR r M Z l it) }; it' :: recalcItems r M Z (some it') t

def qinsert (q : List (Option α × Nat)) (k : Option α) (i : Nat) : List (Option α × Nat) :=
  SD.qinsertRaw keyLe k i q

/-- `RefillQueue` -/
def refillQueue (items : List (Item α)) : List (Option α × Nat) :=
  items.foldl (fun q it => qinsert q it.R it.id) []

/-- `RecalcAllCharacteristics` (when `recalc` is set) -/
def recalcAll (p : Params α) (s : State α) : State α :=
  if s.recalc then
    let items := recalcItems p.r s.M s.Z none s.items
    { s with items := items, queue := refillQueue items, recalc := false }
  else s

def findItem (items : List (Item α)) (id : Nat) : Option (Item α) := items.find? (·.id == id)

/-- left neighbour in traversal order of the item with this id -/
def leftOf : List (Item α) → Nat → Option (Item α)
  | a :: b :: t, id => if b.id == id then some a else leftOf (b :: t) id
  | _, _ => none

/-- `Method.CalculateNextPointCoordinate` (without the final range test) -/
def nextX (p : Params α) (M : α) (left cur : Item α) : α :=
  let xl := left.x
  let xr := cur.x
  if left.ev == cur.ev then
    let dif := cur.z - left.z
    let q := half * Fns.powN (Fns.abs dif / M) p.n / p.r
    if 0 < dif then half * (xl + xr) - q else half * (xl + xr) + q
  else half * (xl + xr)

def minOpt (a : α) : Option α → α
  | none => a
  | some b => if b < a then b else a     -- Python `min(a, b)`: `b` only if `b < a`

/-- What `CalculateIterationPoint` hands to the evaluation. -/
structure Prep (α : Type) where
  s : State α          -- state after recalculation, pop and the `min_delta` update
  old : Item α
  left : Item α
  x : α
  point : List α

/-- `Method.CalculateIterationPoint`. On a raise the partially updated state is returned. -/
def prepare (p : Params α) (s : State α) : Except (State α × Raise) (Prep α) :=
  let s := recalcAll p s
  let s := if s.queue.isEmpty then { s with queue := refillQueue s.items } else s
  match s.queue with
  | [] => .error (s, .emptyQueue)
  | (_, oid) :: q =>
    let s := { s with queue := q }
    match findItem s.items oid with
    | none => .error (s, .emptyQueue)
    | some old =>
      let s := { s with minDelta := some (minOpt old.delta s.minDelta) }
      match leftOf s.items oid with
      | none => .error (s, .leftIsNone)
      | some left =>
        let x := nextX p s.M left old
        if x ≤ left.x ∨ old.x ≤ x then .error (s, .outsideInterval)
        else .ok { s := s, old := old, left := left, x := x, point := p.image x }

/-- `Method.CalculateM(curr, left)` -/
def calcM (M : α) (recalc : Bool) (left cur : Item α) : α × Bool :=
  if left.ev == cur.ev then
    let m := Fns.abs (left.z - cur.z) / cur.delta
    if M < m then (m, true) else (M, recalc)
  else (M, recalc)

/-- insert `new` immediately before the item with id `old'.id`, replacing that item by `old'` -/
def insertBefore (new old' : Item α) : List (Item α) → List (Item α)
  | [] => []
  | it :: t => if it.id == old'.id then new :: old' :: t else it :: insertBefore new old' t

/-- `CalculateFunctionals` + `UpdateOptimum` + `RenewSearchData` + `FinalizeIteration`
for the value `z` returned by the objective. -/
def commit (p : Params α) (pr : Prep α) (z : α) : State α :=
  let s := pr.s
  let new0 : Item α := { id := s.nextId, x := pr.x, point := pr.point, z := z, hv := z, ev := true,
                         delta := 0, R := none }
  -- UpdateOptimum
  let bestZ := (findItem s.items s.best).map (·.z)
  let better := match bestZ with
    | some bz => decide (z < bz)
    | none => true
  let (best, recalc, Z) := if better then (new0.id, true, z) else (s.best, s.recalc, s.Z)
  -- RenewSearchData
  let old1 := { pr.old with delta := calcDelta p.n pr.x pr.old.x }
  let new1 := { new0 with delta := calcDelta p.n pr.left.x pr.x }
  let (M, recalc) := calcM s.M recalc pr.left new1
  let (M, recalc) := calcM M recalc new1 old1
  let new2 := { new1 with R := some (calcR p.r M Z pr.left new1) }
  let old2 := { old1 with R := some (calcR p.r M Z new2 old1) }
  let items := insertBefore new2 old2 s.items
  let q := qinsert s.queue new2.R new2.id
  let q := qinsert q old2.R old2.id
  { s with items := items, queue := q, M := M, Z := Z, best := best, recalc := recalc,
           iters := s.iters + 1, nTrials := s.nTrials + 1, nextId := s.nextId + 1 }

/-- `Method.FirstIteration` for the value `z` of the objective at `image 0.5`. -/
def firstIteration (p : Params α) (z : α) : State α :=
  let x : α := half
  let left : Item α := { id := 0, x := 0, point := p.image 0, z := Fns.big, hv := 0, ev := false, delta := 0, R := none }
  let middle0 : Item α := { id := 2, x := x, point := p.image x, z := z, hv := z, ev := true,
                            delta := calcDelta p.n 0 x, R := none }
  let right0 : Item α := { id := 1, x := 1, point := p.image 1, z := Fns.big, hv := 0, ev := false,
                           delta := calcDelta p.n x 1, R := none }
  let M : α := 1
  let Z := z
  let middle := { middle0 with R := some (calcR p.r M Z left middle0) }
  let right := { right0 with R := some (calcR p.r M Z middle right0) }
  let q := qinsert [] middle.R middle.id
  let q := qinsert q right.R right.id
  { items := [left, middle, right], queue := q, M := M, Z := Z, best := 2, recalc := true,
    iters := 1, minDelta := none, nTrials := 1, nextId := 3 }

/-- the point of the first trial -/
def firstPoint (p : Params α) : List α := p.image half

/-- `Method.CheckStopCondition` -/
def stopCond (p : Params α) (s : State α) : Bool :=
  (match s.minDelta with
   | some d => decide (d < p.eps)
   | none => false) || decide (p.itersLimit ≤ s.iters)

/-- One global iteration (not the first) with an objective that may fail. -/
def iterate (p : Params α) (f : List α → Option α) (s : State α) : Except (State α × Raise) (State α) :=
  match prepare p s with
  | .error e => .error e
  | .ok pr =>
    match f pr.point with
    | none => .error (pr.s, .objective)
    | some z => .ok (commit p pr z)

end AGP
end

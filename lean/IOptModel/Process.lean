import IOptModel.Method
/-!
# Model of `Process` (`iOpt/method/process.py`): `DoGlobalIteration`, `Solve`,
`DoLocalRefinement`, `GetResults`, and the listener notifications as an event log.
-/

section
variable {α : Type} [Add α] [Sub α] [Mul α] [Div α] [Neg α] [LT α] [LE α]
  [DecidableLT α] [DecidableLE α] [OfNat α 0] [OfNat α 1] [OfNat α 2] [OfNat α 4] [Fns α]

namespace Proc
open AGP

/-- What the listeners are told (each attached listener receives every event). -/
inductive Event where
  /-- `BeforeMethodStart(method)` -/
  | beforeStart
  /-- `OnEndIteration(savedNewPoints, solution)`: ids of the new trials of this call, in order -/
  | endIteration (newIds : List Nat)
  /-- `OnMethodStop(searchData, solution, status)` -/
  | methodStop (status : Bool)
  /-- the line `Exception was thrown` printed by `Solve` -/
  | exceptionPrinted
deriving Repr, DecidableEq

structure PState (α : Type) where
  /-- `none` while `__first_iteration` is still `True` -/
  m : Option (State α) := none
  /-- events in order of emission -/
  log : List Event := []
  /-- every point handed to `Problem.Calculate` by the global search, with the value returned -/
  evals : List (List α × α) := []
  /-- `solution.numberOfLocalTrials` -/
  nLocal : Nat := 0
  /-- number of calls of `Problem.Calculate` made by the global search so far (failed ones included) -/
  calls : Nat := 0
  /-- the id of the trial improved by the last local refinement (`Process.__refinedTrial`) -/
  refined : Option Nat := none

/-- result of an operation that may propagate a Python exception to the caller -/
structure Res (α : Type) where
  s : PState α
  raised : Option Raise := none

/-- one pass of the `for _ in range(number)` body of `DoGlobalIteration`; returns the id of the new trial -/
def oneIteration (p : Params α) (f : Nat → List α → Option α) (ps : PState α) : Except (PState α × Raise) (PState α × Nat) :=
  match ps.m with
  | none =>
    -- listeners: BeforeMethodStart, then FirstIteration
    let ps := { ps with log := ps.log ++ [Event.beforeStart] }
    let pt := firstPoint p
    let ps := { ps with calls := ps.calls + 1 }
    match f (ps.calls - 1) pt with
    | none => .error (ps, .objective)
    | some z =>
      let s := firstIteration p z
      .ok ({ ps with m := some s, evals := ps.evals ++ [(pt, z)] }, 2)
  | some s =>
    match prepare p s with
    | .error (s', e) => .error ({ ps with m := some s' }, e)
    | .ok pr =>
      let ps := { ps with calls := ps.calls + 1 }
      match f (ps.calls - 1) pr.point with
      | none => .error ({ ps with m := some pr.s }, .objective)
      | some z =>
        let s' := commit p pr z
        .ok ({ ps with m := some s', evals := ps.evals ++ [(pr.point, z)] }, pr.s.nextId)

/-- `DoGlobalIteration(number)` -/
def doGlobalIteration (p : Params α) (f : Nat → List α → Option α) : (number : Nat) → PState α → List Nat → Res α
  | 0, ps, saved => { s := { ps with log := ps.log ++ [Event.endIteration saved] } }
  | k+1, ps, saved =>
    match oneIteration p f ps with
    | .error (ps', e) => { s := ps', raised := some e }
    | .ok (ps', id) => doGlobalIteration p f k ps' (saved ++ [id])

def stopNow (p : Params α) (ps : PState α) : Bool :=
  match ps.m with
  | none => decide (p.itersLimit ≤ 0)        -- min_delta = inf, iterationsCount = 0
  | some s => stopCond p s

/-- the `while not CheckStopCondition(): DoGlobalIteration()` loop inside `try` -/
def solveLoop (p : Params α) (f : Nat → List α → Option α) : (fuel : Nat) → PState α → PState α × Bool
  | 0, ps => (ps, false)
  | fuel+1, ps =>
    if stopNow p ps then (ps, false)
    else
      let r := doGlobalIteration p f 1 ps []
      match r.raised with
      | some _ => ({ r.s with log := r.s.log ++ [Event.exceptionPrinted] }, true)
      | none => solveLoop p f fuel r.s

/-- Result of `scipy.optimize.minimize(..., method='Nelder-Mead', bounds=...)` as seen by
`DoLocalRefinement`: the returned point, the value the objective returns there, and `nfev`. -/
structure LocalResult (α : Type) where
  x : List α
  fx : α
  nfev : Nat

/-- the trial that `GetResults()` reports: the refined one while it is another trial than the method's best and its value holder is strictly
smaller than the best's, else the method's best -/
def reportedId (ps : PState α) (s : State α) : Nat :=
  match ps.refined with
  | none => s.best
  | some r =>
    match findItem s.items r, findItem s.items s.best with
    | some ri, some bi => if r ≠ s.best ∧ ri.hv < bi.hv then r else s.best
    | _, _ => s.best

/-- `DoLocalRefinement`: overwrite point and value holder of the reported trial (`GetResults().bestTrials[0]`) in place
and remember it as `__refinedTrial`. -/
def doLocalRefinement (ps : PState α) (lr : LocalResult α) : PState α :=
  match ps.m with
  | none => ps
  | some s =>
    let rid := reportedId ps s
    let items := s.items.map fun it => if it.id == rid then { it with point := lr.x, hv := lr.fx } else it
    { ps with m := some { s with items := items }, nLocal := lr.nfev, refined := some rid }

/-- `Solve`: the loop, then the local refinement (`doLocalRefinement`) if `refine` returns a result for the
state the loop ends in, then `OnMethodStop`.  Fuel `itersLimit + 1` always suffices (`IOptProps/C03.lean`). -/
def solve (p : Params α) (f : Nat → List α → Option α) (refine : PState α → Option (LocalResult α)) (ps : PState α) : PState α :=
  let (ps, _) := solveLoop p f (p.itersLimit + 1) ps
  let ps := match refine ps with
    | some lr => doLocalRefinement ps lr
    | none => ps
  { ps with log := ps.log ++ [Event.methodStop (stopNow p ps)] }

end Proc
end

import IOptModel.Evolvent
/-!
# The `Evolvent` object with its scratch array (`self.yValues`) — model for property C17

Python aliasing is made explicit by a small heap of arrays: `Ref` = index into `Heap.cells`.
Arrays owned by the caller (arguments, previously returned results) and the object's scratch array
live in the same heap, so "a later query changes an array returned earlier" is expressible — and is
what the theorems of `IOptProps/C17.lean` exclude.  Every operation reports the refs it wrote.

Statement-level correspondence with `evolvent.py`:
* `GetImage(x)`:  N = 1: `self.yValues[0] = x - 0.5` IN PLACE;  N ≥ 2: `self.yValues = np.zeros(N)` (fresh),
  accumulation in place;  then `__TransformP2D` in place;  `return np.copy(self.yValues)` (fresh).
* `GetInverseImage(y)` / `GetPreimages(y)`: `self.yValues = np.array(y, dtype=np.double)` (fresh), `__TransformD2P` in place,
  `__GetXonY` (N ≥ 2 consumes the scratch array in place), returns a number.
* `SetBounds(lo, hi)`: `np.copy` of both arguments.
-/

structure Heap (α : Type) where
  cells : Array (List α) := #[]

namespace Heap
variable {α : Type}
def alloc (h : Heap α) (v : List α) : Heap α × Nat := ({ cells := h.cells.push v }, h.cells.size)
def read (h : Heap α) (r : Nat) : List α := h.cells[r]?.getD []
def write (h : Heap α) (r : Nat) (v : List α) : Heap α := { cells := h.cells.setIfInBounds r v }
end Heap

section
variable {α : Type} [Add α] [Sub α] [Mul α] [Div α] [Neg α] [LT α] [LE α]
  [DecidableLT α] [DecidableLE α] [OfNat α 0] [OfNat α 1] [OfNat α 2] [NatCast α] [TruncNat α]

namespace EvObj

structure Obj (α : Type) where
  n : Nat
  m : Nat
  /-- private copies made by `__init__` / `SetBounds` -/
  lower : List α
  upper : List α
  /-- `self.yValues` -/
  scratch : Nat

inductive Op (α : Type) where
  | image (x : α)
  | inverse (arg : Nat)
  | preimages (arg : Nat)
  | setBounds (lo hi : Nat)

inductive Out (α : Type) where
  | array (ref : Nat)
  | number (x : α)
  | unit

structure StepResult (α : Type) where
  heap : Heap α
  obj : Obj α
  out : Out α
  /-- refs written (in place) or allocated by this call -/
  wrote : List Nat
  allocated : List Nat

/-- `Evolvent.__init__`: copies the bounds, allocates the scratch array -/
def init (h : Heap α) (n m : Nat) (lo hi : Nat) : Heap α × Obj α :=
  let (h, s) := h.alloc (List.replicate n 0)
  (h, { n := n, m := m, lower := h.read lo, upper := h.read hi, scratch := s })

def step (h : Heap α) (o : Obj α) : Op α → StepResult α
  | .image x =>
    if o.n == 1 then
      -- in place on the existing scratch array
      let y0 := (h.read o.scratch).set 0 (x - Ev.half)
      let h1 := h.write o.scratch y0
      let h2 := h1.write o.scratch (Ev.p2d o.lower o.upper y0)
      let (h3, r) := h2.alloc (h2.read o.scratch)
      { heap := h3, obj := o, out := .array r, wrote := [o.scratch], allocated := [r] }
    else
      let (h1, s) := h.alloc (List.replicate o.n 0)
      let cube := Ev.imageCube o.n o.m x
      let h2 := h1.write s cube
      let h3 := h2.write s (Ev.p2d o.lower o.upper cube)
      let (h4, r) := h3.alloc (h3.read s)
      { heap := h4, obj := { o with scratch := s }, out := .array r, wrote := [s], allocated := [s, r] }
  | .inverse arg | .preimages arg =>
    let (h1, s) := h.alloc (h.read arg)
    let cube := Ev.d2p o.lower o.upper (h1.read s)
    let h2 := h1.write s cube
    let x := Ev.inverseCube o.n o.m cube
    -- N ≥ 2: `__GetXonY` leaves the residuals in the scratch array; their values are never read again
    { heap := h2, obj := { o with scratch := s }, out := .number x, wrote := [s], allocated := [s] }
  | .setBounds lo hi =>
    { heap := h, obj := { o with lower := h.read lo, upper := h.read hi }, out := .unit, wrote := [], allocated := [] }

end EvObj
end

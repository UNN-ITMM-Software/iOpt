-- root of the helper-lemma library; one import per file
import IOptProofs.RangeBlocks
import IOptProofs.CertBlocks
import IOptProofs.EnclRec
import IOptProofs.GrishRows
import IOptProofs.HillRows
import IOptProofs.Lookup
import IOptProofs.Frontier
import IOptProofs.Laws
import IOptProofs.EvBasic
import IOptProofs.EvShape
import IOptProofs.EvFin
import IOptProofs.EvFinCert
import IOptProofs.EvInv
import IOptProofs.EvInvFin
import IOptProofs.EvNum
import IOptProofs.EvFwd
import IOptProofs.EvNumInv
import IOptProofs.EvNumPt
import IOptProofs.SDQueue
import IOptProofs.SDLinks
import IOptProofs.EvNumFwd
import IOptProofs.MethodLists
import IOptProofs.MethodCtl
import IOptProofs.MethodDefs
import IOptProofs.MethodInv
import IOptProofs.MethodPrepare
import IOptProofs.MethodCommit
import IOptProofs.Process
import IOptProofs.ProcessEff
import IOptProofs.ProcessOps
import IOptProofs.ProcessStop
import IOptProofs.ProcessToy
import IOptProofs.MethodRun
import IOptProofs.BenchReal
import IOptProofs.MethodFacts
import IOptProofs.EvNodeTable
import IOptProofs.ProcessFail
import IOptProofs.MethodCert
import IOptProofs.HolderIdx
import IOptProofs.HolderSq
import IOptProofs.HolderRoot
import IOptProofs.HolderCover
import IOptProofs.HolderMinorant
import IOptProofs.ProcessEvents
import IOptProofs.MethodProc
import IOptProofs.ProcessRefine
import IOptProofs.EvObj
import IOptProofs.HolderEuc
import IOptProofs.ProcessField
import IOptProofs.ComposeInv
import IOptProofs.World
import IOptProofs.WorldLocal
import IOptProofs.WorldRun
import IOptProofs.ProbWorld
import IOptProofs.ComposeCert
import IOptProofs.WorldShape
import IOptProofs.GklsVec
import IOptProofs.GklsCheck
import IOptProofs.GklsDefs
import IOptProofs.BenchSym
import IOptProofs.BenchDy
import IOptProofs.BenchBox
import IOptProofs.BenchExtrema
import IOptProofs.BenchMeta
import IOptProofs.BenchMeta1
import IOptProofs.GklsEval
import IOptProofs.GklsMain
import IOptProofs.GklsClass
import IOptProofs.GklsCertAll
import IOptProofs.GklsCont
import IOptProofs.GklsCert2a
import IOptProofs.GklsCert2b
import IOptProofs.GklsCert3a
import IOptProofs.GklsCert3b
import IOptProofs.GklsCert4a
import IOptProofs.GklsCert4b
import IOptProofs.GklsCert5a
import IOptProofs.GklsCert5b
import IOptProofs.BenchMeta3
import IOptProofs.ShekelRows
import IOptProofs.BenchShekel
import IOptProofs.BenchShekelDefs
import IOptProofs.ShekelCert0
import IOptProofs.ShekelCert1
import IOptProofs.ShekelCert2
import IOptProofs.ShekelCert3
import IOptProofs.ShekelCert4
import IOptProofs.ShekelCertAll
import IOptProofs.BenchShekel4
import IOptProofs.BenchShekel4Defs
import IOptProofs.ShekelCertS4
import IOptProofs.RefineDefs
import IOptProofs.RefineSim
import IOptProofs.EnclDefs
import IOptProofs.EnclDyadic
import IOptProofs.EnclReal
import IOptProofs.EnclTrigReal
import IOptProofs.EnclSoundTaylor
import IOptProofs.EnclSoundMul
import IOptProofs.EnclSoundSum
import IOptProofs.HillDefs
import IOptProofs.HillReal
import IOptProofs.HillCert0
import IOptProofs.HillCert1
import IOptProofs.HillCert2
import IOptProofs.HillCert3
import IOptProofs.HillCert4
import IOptProofs.HillCert5
import IOptProofs.HillCert6
import IOptProofs.HillCert7
import IOptProofs.HillCert8
import IOptProofs.HillCert9
import IOptProofs.HillCertAll
import IOptProofs.SrcTie
import IOptProofs.SrcTieEv
import IOptProofs.SrcTieProb
import IOptProofs.S3Defs
import IOptProofs.S3Real
import IOptProofs.S3Cert
import IOptProofs.S3SoundExp
import IOptProofs.S3SoundBox
import IOptProofs.S3SoundMain
import IOptProofs.S3SoundFeas
import IOptProofs.HillSoundA
import IOptProofs.HillSoundB
import IOptProofs.HillSoundC
import IOptProofs.HillSoundD
import IOptProofs.HillSound
import IOptProofs.HillSoundProps
import IOptProofs.HillSoundMeta
import IOptProofs.GrishDefs
import IOptProofs.GrishReal
import IOptProofs.GrishSound1
import IOptProofs.GrishSound2
import IOptProofs.GrishSound3
import IOptProofs.GrishSound4
import IOptProofs.GrishSound5
import IOptProofs.GrishSound6
import IOptProofs.GrishSound7
import IOptProofs.GrishSoundMeta
import IOptProofs.GrishCert0
import IOptProofs.GrishCert1
import IOptProofs.GrishCert2
import IOptProofs.GrishCert3
import IOptProofs.GrishCert4
import IOptProofs.GrishCert5
import IOptProofs.GrishCert6
import IOptProofs.GrishCert7
import IOptProofs.GrishCert8
import IOptProofs.GrishCert9
import IOptProofs.GrishCertAll
import IOptProofs.EvDims
import IOptProofs.EvFinCert6
import IOptProofs.EvFinCert7
import IOptProofs.EvFinCertAll
import IOptProofs.EvInvFin6
import IOptProofs.EvInvFin7
import IOptProofs.EvDimFacts
import IOptProofs.ShekelTabDefs
import IOptProofs.ShekelTabDeriv
import IOptProofs.ShekelTabBnb
import IOptProofs.ShekelTab
import IOptProofs.ShekelTabCor
import IOptProofs.ShekelTabCert0
import IOptProofs.ShekelTabCert1
import IOptProofs.ShekelTabCert2
import IOptProofs.ShekelTabCert3
import IOptProofs.ShekelTabCert4
import IOptProofs.ShekelTabCert5
import IOptProofs.ShekelTabCert6
import IOptProofs.ShekelTabCert7
import IOptProofs.ShekelTabCert8
import IOptProofs.ShekelTabCert9
import IOptProofs.ShekelTabCertAll
import IOptProofs.ShekelTabRemark
import IOptProofs.EvGenBits
import IOptProofs.EvGenNode
import IOptProofs.EvGenGlue
import IOptProofs.EvGenCert
import IOptProofs.ProcessSameMethod
import IOptProofs.ProcessForget
import IOptProofs.ProcessResume
import IOptProofs.ProcessFailRoutes
import IOptProofs.ProcInterpDefs
import IOptProofs.ProcInterp
import IOptProofs.SDInterpDefs
import IOptProofs.SDInterp
import IOptProofs.MethodInterpDefs
import IOptProofs.InterpAttr
import IOptProofs.MethodInterp
import IOptProofs.EvInterpDefs
import IOptProofs.EvInterp
import IOptProofs.ProcessReported
import IOptProofs.EvLoopInterpDefs
import IOptProofs.EvLoopInterp
import IOptProofs.ReportInterpDefs
import IOptProofs.ReportInterp
import IOptProofs.KernelRfl
import IOptProofs.WiringInterpDefs
import IOptProofs.WiringInterp
import IOptProofs.ConsoleInterpDefs
import IOptProofs.ConsoleInterp
import IOptProofs.ProblemCtorInterpDefs
import IOptProofs.ProblemCtorInterp

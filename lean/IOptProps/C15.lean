import IOptProofs.ProbWorld
/-!
# Property C15 — benchmark evaluation is a pure function of the point

"For every shipped problem, evaluating at a point returns the same value no matter how many evaluations
were made before, in which order, or which other problem instances were created or evaluated in between;
the evaluation does not modify the point and it returns the supplied value holder with the value stored
in it."

Model: `IOptModel/ProbWorld.lean` — a heap of cells (module tables, per-instance tables, caller arrays,
holders) and the operations `construct`, `point`, `setPoint`, `holder`, `calculate`; a history is a list of
operations run from `World.init mod` (`mod` = content of the module-level tables).  All statements are for
EVERY history, any number of instances, any numeric type.
-/

namespace ProbWorld

section
variable {α : Type} [Add α] [Sub α] [Mul α] [Div α] [Neg α] [LT α]
  [DecidableLT α] [OfNat α 0] [OfNat α 1] [OfNat α 2] [NatCast α] [MathFns α]

/-- **C15, frame of an evaluation.**  In ANY world, `Calculate` of instance `i` on the array `p` with the
holder `h` (when the call is well-formed: `CalcOk`) returns the supplied holder `h` with the computed value,
stores that value in `h`, writes no other cell (not the point, no module table, no table of any instance, no
other holder), allocates nothing and leaves all instance records alone.  An ill-formed call changes nothing. -/
theorem C15_calc_frame (k : Prob.GklsConsts α) (w : World α) (i p h : Nat) :
    let res := exec k w (.calculate i p h)
    (CalcOk w i p h →
      ∃ inst, w.insts[i]? = some inst ∧
        res.out = .value h (evalInst k w inst (w.read p)) ∧
        res.world.read h = [evalInst k w inst (w.read p)] ∧
        res.world.owner? h = some .holder ∧
        res.wrote = [h] ∧ res.allocated = [] ∧
        p ≠ h ∧ res.world.read p = w.read p ∧
        res.world.cells.length = w.cells.length ∧
        (∀ r, r ≠ h → res.world.cells[r]? = w.cells[r]?) ∧
        res.world.insts = w.insts) ∧
    (¬ CalcOk w i p h → res.out = .error ∧ res.world = w ∧ res.wrote = [] ∧ res.allocated = []) := by
  intro res
  refine ⟨?_, fun hn => ?_⟩
  · rintro ⟨inst, pc, hc, hi, hp, hh, g⟩
    have hph : p ≠ h := by
      rintro rfl
      rw [hp] at hh; cases hh
      exact g.2.1 g.1
    rw [show res = _ from exec_calc_ok k w hi hp hh g, World.read_of_cell hp]
    exact ⟨inst, hi, rfl, World.write_read_eq _ hh, by rw [World.write_owner?, World.owner?_of_cell hh, g.1], rfl, rfl,
      hph, (World.read_congr (World.write_cells_ne w _ hph.symm)).trans (World.read_of_cell hp),
      World.write_length _ _ _, fun r hr => World.write_cells_ne w _ hr.symm, rfl⟩
  · rw [show res = fail w from exec_calc_fail k w hn]; exact ⟨rfl, rfl, rfl, rfl⟩

/-- **C15, frame of a construction.**  A construction leaves every existing cell (module tables, tables of
all existing instances, caller arrays, holders) and every existing instance record unchanged; it writes only
cells it allocates itself.  When the arguments are valid it allocates exactly the `Family.layout` cells, fills
them with the supplied tables, tags them with the new instance's number and returns that number. -/
theorem C15_construct_frame (k : Prob.GklsConsts α) (w : World α) (fam : Family) (args : List Nat)
    (tables : List (List α)) :
    let res := exec k w (.construct fam args tables)
    (∀ r, r < w.cells.length → res.world.cells[r]? = w.cells[r]?) ∧
    (∀ j, j < w.insts.length → res.world.insts[j]? = w.insts[j]?) ∧
    res.wrote = res.allocated ∧
    (∀ r ∈ res.allocated, w.cells.length ≤ r ∧ r < res.world.cells.length) ∧
    (ConstructOk fam args tables →
      res.out = .inst w.insts.length res.allocated ∧
      res.allocated = List.range' w.cells.length fam.privCount ∧
      res.world.insts = w.insts ++ [{ family := fam, args := args, priv := res.allocated }] ∧
      res.allocated.map res.world.read = tables ∧
      ∀ r ∈ res.allocated, res.world.owner? r = some (.inst w.insts.length)) ∧
    (¬ ConstructOk fam args tables → res.out = .error ∧ res.world = w) := by
  intro res
  by_cases hok : ConstructOk fam args tables
  · rw [show res = _ from exec_construct_ok k w hok]
    refine ⟨fun r hr => List.getElem?_append_left hr, fun j hj => List.getElem?_append_left hj, rfl, fun r hr => ?_,
      fun _ => ⟨rfl, by rw [hok.length], rfl, construct_reads w _ tables, fun r hr => ?_⟩, fun hn => absurd hok hn⟩
    · rw [List.length_append, List.length_map]; exact List.mem_range'_1.1 hr
    · obtain ⟨v, hv⟩ := World.allocMany_mem w (.inst w.insts.length) tables hr
      exact World.owner?_of_cell (w := ⟨_, _⟩) hv
  · rw [show res = fail w from exec_construct_fail k w hok]
    exact ⟨fun _ _ => rfl, fun _ _ => rfl, rfl, fun r hr => absurd hr List.not_mem_nil, fun h => absurd h hok, fun _ => ⟨rfl, rfl⟩⟩

/-- **C15, the write report is truthful (every operation).**  A cell that existed before the operation and
is not listed in `wrote` has the same owner and content afterwards; `allocated` lists exactly the new refs. -/
theorem C15_wrote_sound (k : Prob.GklsConsts α) (w : World α) (op : Op α) :
    let res := exec k w op
    (∀ r, r < w.cells.length → r ∉ res.wrote → res.world.cells[r]? = w.cells[r]?) ∧
    res.allocated = List.range' w.cells.length (res.world.cells.length - w.cells.length) ∧
    w.cells.length ≤ res.world.cells.length := by
  intro res
  rcases exec_effect k w op with ⟨h, hw, ha⟩ | ⟨cs, is, h, hw, ha⟩ | ⟨r, v, o, -, -, h, hw, ha⟩ <;> rw [h, hw, ha]
  · exact ⟨fun _ _ _ => rfl, by rw [Nat.sub_self]; rfl, Nat.le_refl _⟩
  · exact ⟨fun r hr _ => List.getElem?_append_left hr, by rw [List.length_append, Nat.add_sub_cancel_left],
      by rw [List.length_append]; exact Nat.le_add_right _ _⟩
  · exact ⟨fun j _ hj => World.write_cells_ne w v fun e => hj (e ▸ List.mem_singleton_self r),
      by rw [World.write_length, Nat.sub_self]; rfl, by rw [World.write_length]; exact Nat.le_refl _⟩

/-- **C15, tables are stable (invariant over every history).**  After any history `pre ++ post` run from the
initial world: every module table still has the content it was created with; every instance that existed
after `pre` still has the same record, and each of its private tables has the same content (and owner) as
after `pre` — whatever `post` constructs or evaluates. -/
theorem C15_tables_stable (k : Prob.GklsConsts α) (mod : ModTab → List α) (pre post : List (Op α)) :
    let w1 := run k (World.init mod) pre
    let w2 := run k (World.init mod) (pre ++ post)
    (∀ t : ModTab, w2.read t.ref = mod t ∧ w2.owner? t.ref = some .module) ∧
    (∀ j inst, w1.insts[j]? = some inst →
      w2.insts[j]? = some inst ∧
      ∀ r ∈ inst.priv, w2.cells[r]? = w1.cells[r]? ∧ w2.owner? r = some (.inst j)) := by
  intro w1 w2
  have h1 : Inv mod w1 := (Inv.init mod).run k pre
  have h2 : Inv mod w2 := (Inv.init mod).run k (pre ++ post)
  have he : Ext w1 w2 := run_append_ext k _ pre post
  exact ⟨fun t => ⟨World.read_of_cell (h2.module t), World.owner?_of_cell (h2.module t)⟩,
    fun j inst hj => ⟨he.insts j inst hj, fun r hr => he.priv h1.wf hj hr⟩⟩

/-- **C15, tables keep the content they were constructed with.**  If a construction with valid arguments
happens after the history `pre`, then after ANY continuation `post` the new instance (number
`#instances after pre`) has the record created by the construction and its private tables contain exactly the
supplied `tables`. -/
theorem C15_tables_as_constructed (k : Prob.GklsConsts α) (mod : ModTab → List α) (pre post : List (Op α))
    (fam : Family) (args : List Nat) (tables : List (List α)) (hok : ConstructOk fam args tables) :
    let w0 := run k (World.init mod) pre
    let w := run k (World.init mod) (pre ++ [.construct fam args tables] ++ post)
    let refs := List.range' w0.cells.length fam.privCount
    w.insts[w0.insts.length]? = some { family := fam, args := args, priv := refs } ∧
    refs.map w.read = tables := by
  intro w0 w refs
  have e1 : run k (World.init mod) (pre ++ [.construct fam args tables]) =
      (exec k w0 (.construct fam args tables)).world := run_append k _ pre _
  obtain ⟨-, halloc, hinsts, hreads, -⟩ := (C15_construct_frame k w0 fam args tables).2.2.2.2.1 hok
  rw [halloc, ← e1] at hinsts hreads
  obtain ⟨hi, hp⟩ := (C15_tables_stable k mod (pre ++ [.construct fam args tables]) post).2 w0.insts.length
    { family := fam, args := args, priv := refs } (by rw [hinsts, List.getElem?_concat_length])
  exact ⟨hi, hreads ▸ List.map_congr_left fun r hr => World.read_congr (hp r hr).1⟩

/-- **C15, an instance evaluates every point the same way at every later time.**  For any history `pre`
from the initial world, any instance present after `pre`, any continuation `post` (constructions of siblings,
evaluations of this or other instances, caller writes): the instance's evaluation function is unchanged. -/
theorem C15_eval_stable (k : Prob.GklsConsts α) (mod : ModTab → List α) (pre post : List (Op α))
    (j : Nat) (inst : Inst) (x : List α) :
    let w1 := run k (World.init mod) pre
    let w2 := run k (World.init mod) (pre ++ post)
    w1.insts[j]? = some inst → evalInst k w2 inst x = evalInst k w1 inst x := by
  intro w1 w2 hj
  have h1 : Inv mod w1 := (Inv.init mod).run k pre
  exact (h1.eval k (run_append_ext k _ pre post) hj x).trans (h1.eval k (Ext.refl w1) hj x).symm

/-- **C15, purity of the evaluation.**  In every history
`pre ++ [construct fam args tables] ++ mid ++ [calculate i p h]` (where `i` is the number the construction
returned), the value returned by the evaluation — and stored in the returned holder `h` — is
`evalOn fam args (module tables as imported) (tables as constructed) (content of p)`:
it depends on nothing else — not on `pre`, not on `mid`, not on sibling instances, not on earlier evaluations. -/
theorem C15_calc_pure (k : Prob.GklsConsts α) (mod : ModTab → List α) (pre mid : List (Op α))
    (fam : Family) (args : List Nat) (tables : List (List α)) (p h : Nat)
    (hok : ConstructOk fam args tables) :
    let i := (run k (World.init mod) pre).insts.length
    let w1 := run k (World.init mod) (pre ++ [.construct fam args tables] ++ mid)
    let res := exec k w1 (.calculate i p h)
    CalcOk w1 i p h →
      res.out = .value h (evalOn k fam args mod tables (w1.read p)) ∧
      res.world.read h = [evalOn k fam args mod tables (w1.read p)] := by
  intro i w1 res hcalc
  obtain ⟨hinst, hreads⟩ := C15_tables_as_constructed k mod pre mid fam args tables hok
  obtain ⟨inst, hi, hout, hval, -⟩ := (C15_calc_frame k w1 i p h).1 hcalc
  cases hi.symm.trans hinst
  have hev := ((Inv.init mod).run k _).eval k (Ext.refl w1) hinst (w1.read p)
  rw [show List.map w1.read _ = tables from hreads] at hev
  exact ⟨hout.trans (by rw [hev]), hval.trans (by rw [hev])⟩

/-- **C15, corollary: evaluating the same point twice gives the same value, with anything in between.**
Two evaluations of the same instance at any two moments of a history (any operations `between`, including
the first evaluation itself, constructions of siblings and caller writes), on arrays with equal content (the
same array or not), through any holders, return the same value. -/
theorem C15_calc_repeatable (k : Prob.GklsConsts α) (mod : ModTab → List α) (pre mid between : List (Op α))
    (fam : Family) (args : List Nat) (tables : List (List α)) (p h p' h' : Nat)
    (hok : ConstructOk fam args tables) :
    let i := (run k (World.init mod) pre).insts.length
    let hist := pre ++ [.construct fam args tables] ++ mid
    let w1 := run k (World.init mod) hist
    let w2 := run k (World.init mod) (hist ++ ([.calculate i p h] ++ between))
    CalcOk w1 i p h → CalcOk w2 i p' h' → w2.read p' = w1.read p →
    ∃ v, (exec k w1 (.calculate i p h)).out = .value h v ∧
         (exec k w2 (.calculate i p' h')).out = .value h' v := by
  intro i hist w1 w2 h1 h2 hsame
  -- holds of every instance present in `w1`; that `hist` constructed it (`hok`) plays no part
  obtain ⟨inst, hi, hout, -⟩ := (C15_calc_frame k w1 i p h).1 h1
  obtain ⟨inst', hi', hout', -⟩ := (C15_calc_frame k w2 i p' h').1 h2
  cases hi'.symm.trans ((C15_tables_stable k mod hist _).2 i inst hi).1
  exact ⟨_, hout, by rw [hout', hsame, C15_eval_stable k mod hist _ i inst _ hi]⟩

end

/-- The statements above hold for every numeric type; in particular for the `Float` instance that the
compiled driver executes against the real Python classes (`ProbWorld.stepCmd` calls `exec gklsConstsF`). -/
theorem C15_calc_pure_Float (mod : ModTab → List Float) (pre mid : List (Op Float))
    (fam : Family) (args : List Nat) (tables : List (List Float)) (p h : Nat)
    (hok : ConstructOk fam args tables) :
    let i := (run gklsConstsF (World.init mod) pre).insts.length
    let w1 := run gklsConstsF (World.init mod) (pre ++ [.construct fam args tables] ++ mid)
    CalcOk w1 i p h →
      (exec gklsConstsF w1 (.calculate i p h)).out =
        .value h (evalOn gklsConstsF fam args mod tables (w1.read p)) :=
  fun hc => (C15_calc_pure gklsConstsF mod pre mid fam args tables p h hok hc).1

/-! A small exact number type (`Int`, with stand-ins for the transcendental functions) lets the kernel run
histories. -/

local instance intFns : MathFns Int where
  sin := id
  cos := fun x => x + 1
  exp := id
  sqrt := id
  pi := 3
  pow := fun x _ => x * x

def kInt : Prob.GklsConsts Int :=
  { maxValue := 1000000, precision := 0, domainLeft := -1, domainRight := 1, three := 3, four := 4 }

/-- module tables of the examples: two rows of Hill coefficients, everything else empty -/
def modInt : ModTab → List Int
  | .hillA => (List.range 28).map fun (i : Nat) => (i : Int) - 9
  | .hillB => (List.range 28).map fun (i : Nat) => 5 - (i : Int)
  | _ => []

/-- the private arrays handed to `construct` for `XSquared(2)` and for `Hill(1)`, in `Family.layout` order
(`lower`, `upper`, `optPoint`, `optValue`, `scalars`) -/
def tabsX : List (List Int) := [[-1, -1], [1, 1], [0, 0], [0], [7, 2]]
def tabsH : List (List Int) := [[0], [1], [0], [-3], [5, 1]]

/-- a history with two instances (`XSquared(2)`, `Hill(1)`), a sibling `XSquared(2)` constructed in between,
a caller write, and evaluations revisiting an earlier point.
Refs: 0–15 module tables, 16–20 instance 0, 21–25 instance 1, 26 27 points, 28 29 holders, 30–34 instance 2, 35 point. -/
def histInt : List (Op Int) :=
  [.construct .xsquared [2] tabsX, .construct .hill [1] tabsH, .point [3, -2], .point [2],
   .holder, .holder,
   .calculate 0 26 28, .calculate 1 27 29,
   .construct .xsquared [2] tabsX, .point [1, 1], .calculate 2 35 28, .setPoint 27 [4],
   .calculate 1 27 29]

example : ConstructOk .xsquared [2] tabsX := by decide
example : ConstructOk .hill [1] tabsH := by decide

/-- non-vacuity of `C15_calc_frame` / `C15_calc_pure` / `C15_calc_repeatable`: after the history above the
re-evaluation of instance 0 at the first point is a well-formed call, and so is the evaluation of the Hill
instance (which reads rows of the module tables). -/
example : CalcOk (run kInt (World.init modInt) histInt) 0 26 29 :=
  ⟨⟨.xsquared, [2], [16, 17, 18, 19, 20]⟩, ⟨.caller, [3, -2]⟩, ⟨.holder, [-8953]⟩, rfl, rfl, rfl, rfl,
   by decide, rfl⟩

example : CalcOk (run kInt (World.init modInt) (histInt.take 7)) 1 27 29 :=
  ⟨⟨.hill, [1], [21, 22, 23, 24, 25]⟩, ⟨.caller, [2]⟩, ⟨.holder, [0]⟩, rfl, rfl, rfl, rfl, by decide, rfl⟩

/-- the model computes: `XSquared` at (3,-2) is 13 — before and after the sibling was constructed and other
instances were evaluated -/
example : (exec kInt (run kInt (World.init modInt) (histInt.take 6)) (.calculate 0 26 28)).world.read 28 = [13] ∧
    (exec kInt (run kInt (World.init modInt) histInt) (.calculate 0 26 29)).world.read 29 = [13] := by decide

/-- values through the closed form `evalOn` (what `C15_calc_pure` promises) -/
example : evalOn kInt .xsquared [2] modInt tabsX [3, -2] = 13 := by decide

def runWith {α : Type} (step : World α → Op α → StepResult α) (w : World α) (ops : List (Op α)) : World α :=
  ops.foldl (fun w op => (step w op).world) w

def Out.value? {α : Type} : Out α → Option α
  | .value _ v => some v
  | _ => none

def closeInt (a b : List Int) : Bool := (List.zip a b).all fun (x, y) => (x - y).natAbs ≤ 1

/-- prefix shared by the negative controls: one `XSquared(1)`, points `[3]` (ref 21) and `[4]` (ref 22),
a holder (ref 23), one evaluation at `[3]` -/
def leakPrefix : List (Op Int) :=
  [.construct .xsquared [1] [[-1], [1], [0], [0], []], .point [3], .point [4], .holder, .calculate 0 21 23]

/-- **negative control 1 (purity).**  With a `Calculate` that caches its last result in an instance cell and
answers from the cache for a close point, the conclusion of `C15_calc_pure` FAILS on a concrete history: the
evaluation at `[4]` after an evaluation at `[3]` returns 9, while `evalOn … [4] = 16` (and the genuine `exec`
returns 16 on the same history). -/
theorem C15_leaky_cache_not_pure :
    let step := execLeakyCache closeInt kInt
    let w := runWith step (World.init modInt) leakPrefix
    (step w (.calculate 0 22 23)).out.value? = some 9 ∧
    evalOn kInt .xsquared [1] modInt [[-1], [1], [0], [0], []] (w.read 22) = 16 ∧
    (exec kInt (run kInt (World.init modInt) leakPrefix) (.calculate 0 22 23)).out.value? = some 16 := by
  decide

/-- **negative control 2 (frame / stability).**  The same leaky `Calculate` violates `C15_calc_frame` and
`C15_tables_stable`: it reports (truthfully) a write to the instance cell 20, whose content differs from the
content it was constructed with. -/
theorem C15_leaky_cache_not_framed :
    let step := execLeakyCache closeInt kInt
    let w0 := runWith step (World.init modInt) (leakPrefix.take 4)
    let r := step w0 (.calculate 0 21 23)
    r.wrote = [20, 23] ∧ w0.read 20 = [] ∧ r.world.read 20 = [9, 3] := by
  decide

/-- **negative control 3 (the point).**  A `Calculate` that rewrites the point array in place (here: doubles it)
violates "does not modify the point": after one evaluation the caller's array `[3]` contains `[6]`, and a second
evaluation of the SAME array returns another value (36 → 144). -/
theorem C15_leaky_point_modifies_point :
    let step := execLeakyPoint (fun x => x.map (· * 2)) kInt
    let w0 := runWith step (World.init modInt) (leakPrefix.take 4)
    let r1 := step w0 (.calculate 0 21 23)
    let r2 := step r1.world (.calculate 0 21 23)
    w0.read 21 = [3] ∧ r1.world.read 21 = [6] ∧ r1.wrote = [21, 23] ∧
    r1.out.value? = some 36 ∧ r2.out.value? = some 144 := by
  decide

end ProbWorld

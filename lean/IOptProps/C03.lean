import IOptProofs.ProcessStop
import IOptProofs.ProcessToy
import Mathlib.Algebra.Order.Ring.Unbundled.Rat
/-!
# C03 — termination and budget of `Solve`

"Solve always terminates; the number of objective evaluations made by the global search equals the
reported number of global trials and never exceeds itersLimit (>=1). The search stops immediately
after the first iteration that subdivides an interval of Hoelder length below eps, or when the budget
is exhausted - never earlier, never later - and the reported accuracy equals the smallest Hoelder
length of any interval that was subdivided."

All statements are about the model `Proc.solve` / `Proc.solveLoop` / `Proc.doGlobalIteration`
(`IOptModel/Process.lean`), generic in the numeric type, except `C03_stop_exact` and `C03_accuracy_is_min`, which speak of a *minimum* and are stated
over a linear order (their generic core, in terms of `Proc.Crit`, is `C03_stop_exact_generic`).  `delta p f k` is the
Hölder length of the interval subdivided by iteration `k` of the run from a fresh solver.  `({} : PState α)` is a freshly constructed solver.
-/

set_option linter.unusedSectionVars false

namespace C03
open AGP AGP.Ctl Proc

section generic
variable {α : Type} [Add α] [Sub α] [Mul α] [Div α] [Neg α] [LT α] [LE α]
  [DecidableLT α] [DecidableLE α] [OfNat α 0] [OfNat α 1] [OfNat α 2] [OfNat α 4] [Fns α]

/-- **C03, termination.**  From any state, the `while` loop of `Solve` gives the same result for every
fuel `≥ itersLimit + 1` (the amount `solve` uses), and that result either satisfies the stop criterion
or was ended by an exception: the loop never ends because the fuel ran out.  (No assumption on
`itersLimit` or on the state is needed.) -/
theorem C03_fuel_suffices (p : Params α) (f : Nat → List α → Option α) (ps : PState α) (fuel : Nat)
    (hfuel : p.itersLimit + 1 ≤ fuel) :
    solveLoop p f fuel ps = solveLoop p f (p.itersLimit + 1) ps ∧
    ((solveLoop p f fuel ps).2 = true ∨ stopNow p (solveLoop p f fuel ps).1 = true) := by
  have h1 : remaining p ps < fuel := Nat.lt_of_lt_of_le (Nat.lt_succ_of_le (remaining_le p ps)) hfuel
  have h2 : remaining p ps < p.itersLimit + 1 := Nat.lt_succ_of_le (remaining_le p ps)
  exact ⟨solveLoop_fuel p f fuel _ ps h1 h2, solveLoop_end p f fuel ps h1⟩

/-- **C03, the termination measure.**  Whenever the loop condition lets a pass start and the pass does
not raise, `itersLimit - iterationsCount` strictly decreases. -/
theorem C03_measure_decreases (p : Params α) (f : Nat → List α → Option α) (ps ps' : PState α) (id : Nat)
    (hs : stopNow p ps = false) (h : oneIteration p f ps = .ok (ps', id)) :
    p.itersLimit - ps'.iters < p.itersLimit - ps.iters := by
  have := remaining_step hs h
  unfold remaining at this; omega

/-- **C03, trials = evaluations (any sequence of operations).**  After any sequence of `DoGlobalIteration(k)` /
`Solve` calls on a fresh solver: the reported number of global trials equals the number of recorded
(successful) evaluations and the iteration count; the number of calls of the objective is that number
plus the number of calls that raised (`failedCalls`: one for every operation that was ended by the
objective raising); for an objective that never raises the three numbers coincide. -/
theorem C03_trials_eq_evals_ops (p : Params α) (f : Nat → List α → Option α) (refine : PState α → Option (LocalResult α))
    (ops : List Op) :
    (runOps p f refine ops {}).nTrials = (runOps p f refine ops {}).evals.length ∧
    (runOps p f refine ops {}).iters = (runOps p f refine ops {}).nTrials ∧
    (runOps p f refine ops {}).calls = (runOps p f refine ops {}).evals.length + failedCalls p f refine ops {} ∧
    ((∀ j pt, f j pt ≠ none) → (runOps p f refine ops {}).calls = (runOps p f refine ops {}).nTrials) := by
  obtain ⟨hc, h⟩ := (Consistent.fresh (α := α)).runOps_pres (p := p) (f := f) (refine := refine) ops
  have h' : (runOps p f refine ops {}).calls =
      (runOps p f refine ops {}).evals.length + failedCalls p f refine ops {} := by
    have h0 : ({} : PState α).calls = 0 := rfl
    have h1 : ({} : PState α).evals.length = 0 := rfl
    omega
  refine ⟨hc.trials, hc.iters, h', fun hf => ?_⟩
  rw [h', failedCalls_total hf Consistent.fresh, hc.trials]; rfl

/-- **C03, trials = evaluations, and the budget (one `Solve` on a fresh solver).**
`numberOfGlobalTrials = iterationsCount =` number of recorded evaluations `≤ itersLimit`
(hence `≤ max itersLimit 1`); the `i`-th record is the value the objective returned at its `i`-th call;
the number of calls is the number of records plus one if the loop was ended by the objective raising
(then that last call is the one that raised), plus zero otherwise. -/
theorem C03_trials_eq_evals (p : Params α) (f : Nat → List α → Option α) (refine : PState α → Option (LocalResult α)) :
    (solve p f refine {}).nTrials = (solve p f refine {}).evals.length ∧
    (solve p f refine {}).iters = (solve p f refine {}).nTrials ∧
    (solve p f refine {}).nTrials ≤ p.itersLimit ∧
    (solve p f refine {}).nTrials ≤ max p.itersLimit 1 ∧
    (∀ i pt z, (solve p f refine {}).evals[i]? = some (pt, z) → f i pt = some z) ∧
    (solve p f refine {}).calls =
      (solve p f refine {}).evals.length + isObjective (solveRaise p f (p.itersLimit + 1) {}) ∧
    (isObjective (solveRaise p f (p.itersLimit + 1) {}) = 1 →
      ∃ pt, f (solve p f refine {}).evals.length pt = none) ∧
    ((∀ j pt, f j pt ≠ none) → (solve p f refine {}).calls = (solve p f refine {}).nTrials) := by
  obtain ⟨j, psj, ids, r, Y, L⟩ := solve_passes p f ({} : PState α)
  have e := L.passes.eff
  obtain ⟨new, hnew, hlen, hor⟩ := e.evals
  have hY : Y.nTrials = j ∧ Y.evals.length = j ∧ Y.iters = j ∧ Y.calls = j + isObjective r :=
    ⟨e.nTrials_fresh, e.evals_length_fresh, e.iters_fresh,
      by rw [e.calls]; exact congrArg (· + _) (Nat.zero_add j)⟩
  have hle : j ≤ p.itersLimit := by
    rcases Nat.eq_zero_or_pos j with rfl | hj
    · exact Nat.zero_le _
    · exact (Nat.zero_add j) ▸ L.pre.iters_le hj
  rw [L.solve_eq, L.raise]
  simp only [PState.appendLog_nTrials, PState.appendLog_iters, PState.appendLog_evals, PState.appendLog_calls, refineStep_nTrials,
    refineStep_iters, refineStep_evals, refineStep_calls, hY]
  refine ⟨trivial, trivial, hle, Nat.le_trans hle (Nat.le_max_left _ _), fun i pt z hi => ?_, trivial, fun h1 => ?_, fun hf => ?_⟩
  · rw [hnew] at hi
    simpa using hor i pt z (by simpa using hi)
  · obtain ⟨pt, hpt⟩ := e.failed h1
    exact ⟨pt, by simpa using hpt⟩
  · rw [e.isObjective_total hf, Nat.add_zero]

/-- `δ_k`: the Hölder length `old.delta` of the interval subdivided by iteration `k` (`k ≥ 2`) of the run
from a fresh solver (`none` for `k ≤ 1`, or if the run does not get that far) -/
def delta (p : Params α) (f : Nat → List α → Option α) (k : Nat) : Option α := deltaAt p f {} (k - 1)

theorem _root_.Proc.mem_deltas_fresh {p : Params α} {f : Nat → List α → Option α} {K : Nat} {d : α} :
    d ∈ deltas p f {} K ↔ ∃ k, 2 ≤ k ∧ k ≤ K ∧ delta p f k = some d := by
  rw [mem_deltas]
  constructor
  · rintro ⟨i, hi, hd⟩
    rcases Nat.eq_zero_or_pos i with rfl | h0
    · rw [deltaAt_fresh_zero] at hd; cases hd
    · exact ⟨i + 1, Nat.succ_le_succ h0, Nat.succ_le_of_lt hi, hd⟩
  · rintro ⟨k, h2, hk, hd⟩
    exact ⟨k - 1, by omega, hd⟩

theorem _root_.Proc.delta_defined_of_run {p : Params α} {f : Nat → List α → Option α} {K : Nat} {psK : PState α}
    {ids : List Nat} (hrun : iterN p f K {} = .ok (psK, ids)) :
    ∀ k, 2 ≤ k → k ≤ K → ∃ d, delta p f k = some d := by
  intro k h2 hk
  -- iteration `k` is made from the state after `k - 1 ≥ 1` passes
  rw [show K = (k - 1) + ((K - k) + 1) by omega] at hrun
  obtain ⟨ps1, ids1, _, h1, hrest, -⟩ := iterN_add_ok hrun
  obtain ⟨ps2, id, _, ho, -, -⟩ := iterN_cons_ok hrest
  exact deltaAt_isSome h1 ((iterN_eff h1).m_ne_none (.inr (Nat.sub_pos_of_lt h2))) ho

/-- **C03, the stop rule is exact (generic form).**  If nothing raises, `Solve` on a fresh solver performs
exactly `K` iterations, where `K` is the first index at which the criterion
"`min_delta < eps` or `itersLimit ≤ K`" holds along the canonical sequence: it holds after `K` iterations
and after no smaller number (so the loop stopped neither earlier nor later); `min_delta` is the running
Python-`min` (`foldMin`) of the lengths selected so far. -/
theorem C03_stop_exact_generic (p : Params α) (f : Nat → List α → Option α) (refine : PState α → Option (LocalResult α))
    (hnr : (solveLoop p f (p.itersLimit + 1) {}).2 = false) :
    ∃ K psK ids, iterN p f K {} = .ok (psK, ids) ∧
      (solve p f refine {}).nTrials = K ∧ (solve p f refine {}).evals = psK.evals ∧
      (solve p f refine {}).minDelta = foldMin none (deltas p f {} K) ∧
      stopNow p (solve p f refine {}) = true ∧
      Crit p f {} K ∧ (∀ j, j < K → ¬ Crit p f {} j) ∧
      (solveLoop p f (p.itersLimit + 1) {}).1 = psK.appendLog (endEach ids) := by
  obtain ⟨K, psK, ids, S⟩ := solve_fresh_stop p f refine hnr
  exact ⟨K, psK, ids, S.run, S.nTrials, S.evals, S.minDelta, S.stop, S.crit, S.first, S.loop⟩

/-- **C03, the criterion in terms of the reported quantities.**  In the state after `j` iterations of the canonical sequence
from a fresh solver, `CheckStopCondition` is `min_delta < eps ∨ itersLimit ≤ iterationsCount`, with `iterationsCount = j` and
`min_delta` the running Python-`min` of the lengths selected so far (`none` = `inf` before the second iteration). -/
theorem C03_criterion (p : Params α) (f : Nat → List α → Option α) (j : Nat) (psj : PState α) (ids : List Nat)
    (h : iterN p f j {} = .ok (psj, ids)) :
    (stopNow p psj = true ↔ (∃ d, psj.minDelta = some d ∧ d < p.eps) ∨ p.itersLimit ≤ psj.iters) ∧
    psj.iters = j ∧ psj.nTrials = j ∧ psj.minDelta = foldMin none (deltas p f {} j) := by
  have e := iterN_eff h
  exact ⟨stopNow_iff p psj, e.iters_fresh, e.nTrials_fresh, iterN_minDelta h⟩

end generic

section linear
variable {α : Type} [Add α] [Sub α] [Mul α] [Div α] [Neg α] [LinearOrder α]
  [OfNat α 0] [OfNat α 1] [OfNat α 2] [OfNat α 4] [Fns α]

theorem crit_fresh_iff (p : Params α) (f : Nat → List α → Option α) (j : Nat) :
    Crit p f {} j ↔ (∃ i d, i < j ∧ deltaAt p f {} i = some d ∧ d < p.eps) ∨ p.itersLimit ≤ j := by
  unfold Crit
  have h0 : ({} : PState α).iters = 0 := rfl
  have h1 : ({} : PState α).minDelta = none := rfl
  rw [h0, h1, Nat.zero_add, foldMin_lt_iff]
  constructor
  · rintro ((⟨a, ha, -⟩ | ⟨d, hd, hlt⟩) | h)
    · cases ha
    · obtain ⟨i, hi, hd⟩ := mem_deltas.1 hd
      exact .inl ⟨i, d, hi, hd, hlt⟩
    · exact .inr h
  · rintro (⟨i, d, hi, hd, hlt⟩ | h)
    · exact .inl (.inr ⟨d, mem_deltas.2 ⟨i, hi, hd⟩, hlt⟩)
    · exact .inr h

/-- **C03, the stop rule is exact.**  If nothing raises and `itersLimit ≥ 1`, `Solve` on a fresh solver
performs exactly `K` iterations with `1 ≤ K ≤ itersLimit`, where `K` is the least `k ≥ 2` with
`δ_k < eps`, capped by `itersLimit`: either `K = itersLimit` or `δ_K < eps`; `δ_k ≥ eps` (i.e. not `< eps`)
for all `2 ≤ k < K`; and the criterion holds in the final state. -/
theorem C03_stop_exact (p : Params α) (f : Nat → List α → Option α) (refine : PState α → Option (LocalResult α))
    (hL : 1 ≤ p.itersLimit) (hnr : (solveLoop p f (p.itersLimit + 1) {}).2 = false) :
    ∃ K, (solve p f refine {}).nTrials = K ∧ (solve p f refine {}).evals.length = K ∧
      1 ≤ K ∧ K ≤ p.itersLimit ∧
      (K = p.itersLimit ∨ ∃ d, delta p f K = some d ∧ d < p.eps) ∧
      (∀ k d, k < K → delta p f k = some d → ¬ d < p.eps) ∧
      stopNow p (solve p f refine {}) = true := by
  obtain ⟨K, psK, ids, S⟩ := solve_fresh_stop p f refine hnr
  have hcrit := S.crit
  have hmin := S.first
  have hlen : psK.evals.length = K := (iterN_eff S.run).evals_length_fresh
  have hK1 : 1 ≤ K := by
    rcases Nat.eq_zero_or_pos K with rfl | h
    · rw [crit_fresh_iff] at hcrit
      rcases hcrit with ⟨i, d, hi, -⟩ | h
      · exact absurd hi (Nat.not_lt_zero i)
      · exact absurd (Nat.le_trans hL h) (Nat.not_succ_le_zero 0)
    · exact h
  have hKL : K ≤ p.itersLimit := by
    rcases Nat.lt_or_ge p.itersLimit K with h | h
    · exact absurd ((crit_fresh_iff p f _).2 (.inr (Nat.le_refl _))) (hmin _ h)
    · exact h
  have hbefore : ∀ k d, k < K → delta p f k = some d → ¬ d < p.eps := by
    intro k d hk hd hlt
    rcases Nat.eq_zero_or_pos k with rfl | hk0
    · have : delta p f 0 = none := deltaAt_fresh_zero p f
      rw [this] at hd; cases hd
    · exact hmin k hk ((crit_fresh_iff p f k).2 (.inl ⟨k - 1, d, Nat.sub_lt hk0 Nat.one_pos, hd, hlt⟩))
  refine ⟨K, S.nTrials, by rw [S.evals, hlen], hK1, hKL, ?_, hbefore, S.stop⟩
  rcases (crit_fresh_iff p f K).1 hcrit with ⟨i, d, hi, hd, hlt⟩ | h
  · rcases Nat.lt_or_ge (i + 1) K with h' | h'
    · exact absurd hlt (hbefore (i + 1) d h' hd)
    · right
      cases Nat.le_antisymm h' (Nat.succ_le_of_lt hi)
      exact ⟨d, hd, hlt⟩
  · exact .inl (Nat.le_antisymm hKL h)

theorem _root_.Proc.foldMin_deltas_spec {p : Params α} {f : Nat → List α → Option α} {K : Nat} {psK : PState α}
    {ids : List Nat} (hrun : iterN p f K {} = .ok (psK, ids)) :
    (K ≤ 1 → foldMin none (deltas p f {} K) = none) ∧
    (2 ≤ K → ∃ m, foldMin none (deltas p f {} K) = some m ∧
      (∃ k, 2 ≤ k ∧ k ≤ K ∧ delta p f k = some m) ∧
      ∀ k d, 2 ≤ k → k ≤ K → delta p f k = some d → m ≤ d) := by
  constructor
  · intro hK
    have : deltas p f ({} : PState α) K = [] := by
      rcases foldMin_spec (none : Option α) (deltas p f {} K) with ⟨-, h, -⟩ | ⟨m, -, -, -, h3⟩
      · exact h
      · rcases h3 with h3 | h3
        · obtain ⟨k, h2, hk, -⟩ := mem_deltas_fresh.1 h3; omega
        · cases h3
    rw [this]; rfl
  · intro hK
    rcases foldMin_spec (none : Option α) (deltas p f {} K) with ⟨-, h, -⟩ | ⟨m, hm, h1, -, h3⟩
    · obtain ⟨d, hd⟩ := delta_defined_of_run hrun 2 (Nat.le_refl _) hK
      have := (mem_deltas_fresh (p := p) (f := f) (K := K)).2 ⟨2, Nat.le_refl _, hK, hd⟩
      rw [h] at this; cases this
    · rcases h3 with h3 | h3
      · exact ⟨m, hm, mem_deltas_fresh.1 h3, fun k d h2 hk hd => h1 d (mem_deltas_fresh.2 ⟨k, h2, hk, hd⟩)⟩
      · cases h3

/-- **C03, the reported accuracy is the smallest subdivided length.**  If nothing raises, the final
`solutionAccuracy` (`min_delta`) after `Solve` on a fresh solver is `none` (= `inf`) when only the first
iteration ran, and otherwise is one of the lengths `δ_2, …, δ_K` of the subdivided intervals and is `≤` each of them;
the list `deltas p f {} K` is exactly `δ_2, …, δ_K` (one entry per iteration after the first). -/
theorem C03_accuracy_is_min (p : Params α) (f : Nat → List α → Option α) (refine : PState α → Option (LocalResult α))
    (hnr : (solveLoop p f (p.itersLimit + 1) {}).2 = false) :
    ∃ K, (solve p f refine {}).nTrials = K ∧
      (∀ d, d ∈ deltas p f {} K ↔ ∃ k, 2 ≤ k ∧ k ≤ K ∧ delta p f k = some d) ∧
      (∀ k, 2 ≤ k → k ≤ K → ∃ d, delta p f k = some d) ∧
      (K ≤ 1 → (solve p f refine {}).minDelta = none) ∧
      (2 ≤ K → ∃ m, (solve p f refine {}).minDelta = some m ∧ m ∈ deltas p f {} K ∧ ∀ d ∈ deltas p f {} K, m ≤ d) := by
  obtain ⟨K, psK, ids, S⟩ := solve_fresh_stop p f refine hnr
  obtain ⟨h1, h2⟩ := foldMin_deltas_spec S.run
  refine ⟨K, S.nTrials, fun d => mem_deltas_fresh, delta_defined_of_run S.run, fun hK => by rw [S.minDelta]; exact h1 hK, fun hK => ?_⟩
  obtain ⟨m, hm, hex, hle⟩ := h2 hK
  refine ⟨m, by rw [S.minDelta]; exact hm, mem_deltas_fresh.2 hex, fun d hd => ?_⟩
  obtain ⟨k, a, b, e⟩ := mem_deltas_fresh.1 hd
  exact hle k d a b e

end linear

/-! ### non-vacuity: a concrete run (dimension 1, `α = Rat`, objective `(x - 1/3)^2`) -/
section examples
open ProcToy

/-- a run stopped by the accuracy criterion after 12 of at most 50 iterations, nothing raises -/
example : (solveLoop (P 50 (1/10)) F 51 {}).2 = false ∧ 1 ≤ (P 50 (1/10)).itersLimit ∧
    (solve (P 50 (1/10)) F noRefine {}).nTrials = 12 ∧ (solve (P 50 (1/10)) F noRefine {}).calls = 12 := by
  decide +kernel

/-- a run stopped by the budget (5 iterations), nothing raises -/
example : (solveLoop (P 5 (1/100)) F 6 {}).2 = false ∧ (solve (P 5 (1/100)) F noRefine {}).nTrials = 5 := by
  decide +kernel

/-- a run in which the objective raises at its 4th call: 3 trials, 4 calls -/
example : isObjective (solveRaise (P 5 (1/100)) (failAt 3) 6 {}) = 1 ∧
    (solve (P 5 (1/100)) (failAt 3) noRefine {}).nTrials = 3 ∧
    (solve (P 5 (1/100)) (failAt 3) noRefine {}).calls = 4 := by
  decide +kernel

/-- a pass that the loop condition lets start and that does not raise -/
example : stopNow (P 5 (1/100)) ({} : PState Rat) = false ∧
    ∃ ps' id, oneIteration (P 5 (1/100)) F {} = .ok (ps', id) := by
  refine ⟨by decide +kernel, _, _, rfl⟩

/-- the two linear-order theorems instantiated at this run (hypotheses discharged by kernel evaluation) -/
example : ∃ K, (solve (P 50 (1/10)) F noRefine {}).nTrials = K ∧ (solve (P 50 (1/10)) F noRefine {}).evals.length = K ∧
    1 ≤ K ∧ K ≤ (P 50 (1/10)).itersLimit ∧
    (K = (P 50 (1/10)).itersLimit ∨ ∃ d, delta (P 50 (1/10)) F K = some d ∧ d < (P 50 (1/10)).eps) ∧
    (∀ k d, k < K → delta (P 50 (1/10)) F k = some d → ¬ d < (P 50 (1/10)).eps) ∧
    stopNow (P 50 (1/10)) (solve (P 50 (1/10)) F noRefine {}) = true :=
  C03_stop_exact (P 50 (1/10)) F noRefine (by decide) (by decide +kernel)

example := C03_accuracy_is_min (P 50 (1/10)) F noRefine (by decide +kernel)

example : (solve (P 50 (1/10)) F noRefine {}).minDelta = some (2875/49152) := by decide +kernel

end examples

end C03

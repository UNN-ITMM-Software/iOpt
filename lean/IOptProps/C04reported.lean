import IOptProofs.ProcessReported
import IOptProofs.ProcessToy
import IOptProps.C03total
/-!
# C04 for the REPORTED optimum — it survives continued iterations after a local refinement (defect F14)

`Process.DoLocalRefinement` overwrites point and value holder of a trial in place, but the global search keeps comparing new trials
with the `z` it stored before, so after `Solve()` with `refineSolution=True` followed by further global iterations the METHOD's best
can be a WORSE trial than the refined optimum.  `Process.GetResults()` returns the trial improved by
the last refinement (`Process.__refinedTrial`, model `PState.refined`) while it is another trial than the method's best and its value
holder is strictly smaller, else the method's best (model `Proc.reportedId`, `Proc.reported`); `DoLocalRefinement` refines the
reported trial.  The search itself does not see refinements (`C11.C11_resume_refinement_irrelevant`).

Setting: ordered field, laws of the library functions, `1 < r`, `0 < n`, an objective that never raises, and local searches whose
result is not worse than their start (`Proc.RefineLe`: the value returned is `≤` the value HOLDER of the reported trial; when that
holder is the objective at the trial's point this is the clause `le_start` of the Nelder–Mead contract `C05.NM`).  The statements
are about the state after ANY sequence of `DoGlobalIteration(k)` / `Solve` calls on a fresh solver.
-/
set_option linter.unusedSectionVars false

namespace C04
open AGP AGP.Ctl Proc

section generic
variable {α : Type} [Add α] [Sub α] [Mul α] [Div α] [Neg α] [LT α] [LE α]
  [DecidableLT α] [DecidableLE α] [OfNat α 0] [OfNat α 1] [OfNat α 2] [OfNat α 4] [Fns α]

/-- **C04, no refinement: the reported trial is the method's best.**  (Any numeric type, any objective, raising or not.)
While nothing has been refined (`ps.refined = none`) `GetResults()` reports the method's best; and after any sequence of operations
with no refinement configured nothing has been refined.  The trial reported then is the one `AGP.C04_best` describes. -/
theorem C04_reported_eq_best_without_refinement (p : Params α) (f : Nat → List α → Option α) (ops : List Op) :
    (∀ (ps : PState α) (s : State α), ps.refined = none → reportedId ps s = s.best) ∧
    (runOps p f (fun _ => none) ops {}).refined = none ∧
    (∀ s, reportedId (runOps p f (fun _ => none) ops {}) s = s.best) ∧
    reported (runOps p f (fun _ => none) ops {}) = methodBest (runOps p f (fun _ => none) ops {}) := by
  have h0 : (runOps p f (fun _ => none) ops {}).refined = none := by
    have hI : ∀ (ps : PState α), ps.refined = none → (runOps p f (fun _ => none) ops ps).refined = none := by
      induction ops with
      | nil => intro ps h; exact h
      | cons op ops ih =>
        intro ps h
        apply ih
        cases op with
        | iter k =>
          obtain ⟨j, ids, r, Y, D⟩ := dgi_passes p f k ps []
          show (doGlobalIteration p f k ps []).s.refined = none
          rw [D.eq]; exact D.passes.eff.refined.trans h
        | solve =>
          obtain ⟨j, psj, ids, r, Y, L⟩ := solve_passes p f ps
          show (solve p f (fun _ => none) ps).refined = none
          rw [L.solve_eq]; exact L.passes.eff.refined.trans h
    exact hI {} rfl
  refine ⟨fun ps s h => reportedId_of_none s h, h0, fun s => reportedId_of_none s h0, ?_⟩
  unfold reported methodBest
  cases (runOps p f (fun _ => none) ops {}).m with
  | none => rfl
  | some s => simp only [Option.bind_some, reportedId_of_none s h0]

end generic

section field
variable {α : Type} [Field α] [LinearOrder α] [IsStrictOrderedRing α] [Fns α]

/-- **C04, the reported optimum is the smallest value holder.**  After any sequence `ops` of `DoGlobalIteration(k)` / `Solve`
calls on a fresh solver (objective never raises; every refinement returns a value `≤` the value holder of the reported trial it
starts from), if the first iteration has been done (method state `s`), the trial `reportedId ps s` that `GetResults()` reports

* exists in the search information (`it`) and is an evaluated trial;
* its reported value `it.hv` is `≤` the value `it.z` the global search saw at that trial (they differ only through refinement);
* `it.hv` is `≤` the value holder of EVERY evaluated stored trial — refined or not: the reported value is the minimum of all values
  the `Solution` can show; for a trial that was refined, its value holder is the value returned by the last refinement of it;
* `it.hv` is `≤` the value of every evaluation of the global search (`ps.evals`): no global-phase trial is smaller;
* `it.hv` is `≤` the value holder of the method's best. -/
theorem C04_reported_min (p : Params α) (f : Nat → List α → Option α) (refine : PState α → Option (LocalResult α))
    (hL : FnsLaws α) (hr : 1 < p.r) (hn : 0 < p.n) (htot : ∀ k pt, (f k pt).isSome = true) (href : RefineLe refine)
    (ops : List Op) (s : State α) (hm : (runOps p f refine ops {}).m = some s) :
    ∃ it, findItem s.items (reportedId (runOps p f refine ops {}) s) = some it ∧ it ∈ s.items ∧
      it.id = reportedId (runOps p f refine ops {}) s ∧ it.ev = true ∧ it.hv ≤ it.z ∧
      (∀ a ∈ s.items, a.ev = true → it.hv ≤ a.hv) ∧
      (∀ e ∈ (runOps p f refine ops {}).evals, it.hv ≤ e.2) ∧
      (∀ b, findItem s.items s.best = some b → it.hv ≤ b.hv) := by
  have hne := C03.ne_none_of_total htot
  have hOK := repOK_runOps hL hr hn hne href ops
  exact hOK.reported hL hr hn hm

/-- **C04, the reported value never increases.**  If after `ops` the solver reports the trial `r1`, then after `ops` followed by
any further operations `ops'` it reports a trial `r2` with `r2.hv ≤ r1.hv`. -/
theorem C04_reported_mono (p : Params α) (f : Nat → List α → Option α) (refine : PState α → Option (LocalResult α))
    (hL : FnsLaws α) (hr : 1 < p.r) (hn : 0 < p.n) (htot : ∀ k pt, (f k pt).isSome = true) (href : RefineLe refine)
    (ops ops' : List Op) (r1 : Item α) (h1 : reported (runOps p f refine ops {}) = some r1) :
    ∃ r2, reported (runOps p f refine (ops ++ ops') {}) = some r2 ∧ r2.hv ≤ r1.hv := by
  have hne := C03.ne_none_of_total htot
  have hOK := repOK_runOps hL hr hn hne href ops
  cases hm : (runOps p f refine ops {}).m with
  | none => unfold reported at h1; rw [hm] at h1; cases h1
  | some s =>
    rw [reported_of_some hm] at h1
    have hle : RepLe p r1.hv (runOps p f refine ops {}) := ⟨hOK, s, r1, hm, h1, le_refl _⟩
    have := (repLe_stepInv hL hr hn hne r1.hv).runOps (repLe_refInv hL hr hn href r1.hv) ops' hle
    rw [← runOps_append] at this
    obtain ⟨-, s2, r2, hm2, hf2, hv2⟩ := this
    exact ⟨r2, by rw [reported_of_some hm2]; exact hf2, hv2⟩

/-- **C04, right after a refinement the reported optimum is the refined trial.**  `Solve` is called after `ops`; its loop ends in
the state `X` (first iteration done) and the local search returns `lr` there.  Then `Solve` returns (and `GetResults()` reports) the
trial that was reported in `X`, moved to the point `lr.x` with the value `lr.fx`. -/
theorem C04_reported_after_refinement (p : Params α) (f : Nat → List α → Option α)
    (refine : PState α → Option (LocalResult α))
    (hL : FnsLaws α) (hr : 1 < p.r) (hn : 0 < p.n) (htot : ∀ k pt, (f k pt).isSome = true) (href : RefineLe refine)
    (ops : List Op) (lr : LocalResult α)
    (hlr : refine (solveLoop p f (p.itersLimit + 1) (runOps p f refine ops {})).1 = some lr)
    (hm : (solveLoop p f (p.itersLimit + 1) (runOps p f refine ops {})).1.m ≠ none) :
    ∃ rep, reported (solveLoop p f (p.itersLimit + 1) (runOps p f refine ops {})).1 = some rep ∧
      reported (runOps p f refine (ops ++ [Op.solve]) {}) = some { rep with point := lr.x, hv := lr.fx } := by
  have hne := C03.ne_none_of_total htot
  have hOK := repOK_runOps hL hr hn hne href ops
  have hOKX := (repOK_stepInv hL hr hn hne).solveLoop hOK
  cases hmX : (solveLoop p f (p.itersLimit + 1) (runOps p f refine ops {})).1.m with
  | none => exact absurd hmX hm
  | some sX =>
    obtain ⟨rep, h1, h2⟩ := reported_after_refine hL hr hn lr hmX (fun s b hs hb => href _ lr s b hlr hs hb) hOKX
    refine ⟨rep, h1, ?_⟩
    rw [runOps_append]
    show reported (solve p f refine (runOps p f refine ops {})) = _
    rw [solve_eq]
    have : refineStep refine (solveLoop p f (p.itersLimit + 1) (runOps p f refine ops {})).1 =
        doLocalRefinement (solveLoop p f (p.itersLimit + 1) (runOps p f refine ops {})).1 lr := by
      unfold refineStep; rw [hlr]
    rw [this, ← h2]
    rfl

/-- **C04, the reported value is at most the value returned by ANY refinement made along the way.**  As above (`Solve` after
`ops`, refinement result `lr`), followed by any further operations `ops'` — global iterations, more `Solve` calls with or without
refinement: the trial reported at the end has a value `≤ lr.fx`.  (The value holder of the METHOD's best can exceed `lr.fx`.) -/
theorem C04_reported_le_every_refinement (p : Params α) (f : Nat → List α → Option α)
    (refine : PState α → Option (LocalResult α))
    (hL : FnsLaws α) (hr : 1 < p.r) (hn : 0 < p.n) (htot : ∀ k pt, (f k pt).isSome = true) (href : RefineLe refine)
    (ops ops' : List Op) (lr : LocalResult α)
    (hlr : refine (solveLoop p f (p.itersLimit + 1) (runOps p f refine ops {})).1 = some lr)
    (hm : (solveLoop p f (p.itersLimit + 1) (runOps p f refine ops {})).1.m ≠ none) :
    ∃ r, reported (runOps p f refine (ops ++ Op.solve :: ops') {}) = some r ∧ r.hv ≤ lr.fx := by
  obtain ⟨rep, -, h2⟩ := C04_reported_after_refinement p f refine hL hr hn htot href ops lr hlr hm
  have h3 := C04_reported_mono p f refine hL hr hn htot href (ops ++ [Op.solve]) ops' _ h2
  rw [List.append_assoc] at h3
  exact h3

/-- **C04, the scenario of defect F14.**  `Solve` with parameters `p1` on a fresh solver (at least one iteration allowed), the
parameters changed in place to `p2` (same `n`, `r`, evolvent — e.g. the budget raised), `Solve` again; each `Solve` with its own
refinement or none.  Both calls report a trial, and the value reported by the second is `≤` the value reported by the first: the
reported optimum is never worse than what the first `Solve` returned.  If the first `Solve` refined (result `lr`), what it returned
is the refined optimum `(lr.x, lr.fx)`. -/
theorem C04_reported_after_resume (p1 p2 : Params α) (f : Nat → List α → Option α)
    (refine1 refine2 : PState α → Option (LocalResult α))
    (hL : FnsLaws α) (hr : 1 < p1.r) (hn : 0 < p1.n) (htot : ∀ k pt, (f k pt).isSome = true) (hs : SameMethod p1 p2)
    (hlim : 1 ≤ p1.itersLimit) (href1 : RefineLe refine1) (href2 : RefineLe refine2) :
    ∃ r1 r2, reported (solve p1 f refine1 {}) = some r1 ∧
      reported (solve p2 f refine2 (solve p1 f refine1 {})) = some r2 ∧ r2.hv ≤ r1.hv ∧
      (∀ lr, refine1 (solveLoop p1 f (p1.itersLimit + 1) {}).1 = some lr → r1.hv = lr.fx ∧ r1.point = lr.x) := by
  have hne := C03.ne_none_of_total htot
  have hr2 : 1 < p2.r := by rw [hs.2.1]; exact hr
  have hn2 : 0 < p2.n := by rw [hs.1]; exact hn
  have hOK1 : RepOK p1 (solve p1 f refine1 {}) :=
    (repOK_stepInv hL hr hn hne).solve (repOK_refInv hL hr hn href1) (repOK_fresh p1)
  obtain ⟨-, -, -, K, hK, -, hK1, -⟩ := C03.C03_total p1 f refine1 hL hr hn htot
  cases hm1 : (solve p1 f refine1 {}).m with
  | none =>
    have : (solve p1 f refine1 {}).nTrials = 0 := by simp [PState.nTrials, hm1]
    have := hK1 hlim
    omega
  | some s1 =>
    obtain ⟨r1, hf1, -⟩ := hOK1.reported hL hr hn hm1
    have hle1 : RepLe p1 r1.hv (solve p1 f refine1 {}) := ⟨hOK1, s1, r1, hm1, hf1, le_refl _⟩
    have hle2 := (repLe_stepInv hL hr2 hn2 hne r1.hv).solve (repLe_refInv hL hr2 hn2 href2 r1.hv)
      ((repLe_sameMethod hs).2 hle1)
    obtain ⟨-, s2, r2, hm2, hf2, hv2⟩ := hle2
    have h3 : reported (solve p1 f refine1 {}) = some r1 := by rw [reported_of_some hm1]; exact hf1
    refine ⟨r1, r2, h3, by rw [reported_of_some hm2]; exact hf2, hv2, ?_⟩
    intro lr hlr
    have hmX : (solveLoop p1 f (p1.itersLimit + 1) (runOps p1 f refine1 [] {})).1.m ≠ none := by
      intro h0
      rw [(solve_m_eq_none_iff p1 f refine1 {}).2 h0] at hm1
      cases hm1
    obtain ⟨rep, -, h2⟩ := C04_reported_after_refinement p1 f refine1 hL hr hn htot href1 [] lr hlr hmX
    have h4 : reported (solve p1 f refine1 {}) = some { rep with point := lr.x, hv := lr.fx } := h2
    rw [h3] at h4
    rw [Option.some.inj h4]
    exact ⟨rfl, rfl⟩

/-- **C04, a refinement keeps the reported trial.**  `DoLocalRefinement` refines the reported trial `b`; if the value returned is
not larger than the value holder of `b`, the refined trial is still the reported one afterwards. -/
theorem C04_refine_keeps_reported (ps : PState α) (s : State α) (lr : LocalResult α) (hm : ps.m = some s) (b : Item α)
    (hb : findItem s.items (reportedId ps s) = some b) (hle : lr.fx ≤ b.hv) :
    (doLocalRefinement ps lr).m = some { s with items := s.items.map (refineItem (reportedId ps s) lr) } ∧
    reportedId (doLocalRefinement ps lr) { s with items := s.items.map (refineItem (reportedId ps s) lr) } =
      reportedId ps s :=
  ⟨by rw [doLocalRefinement_some lr hm], reportedId_refine_of_le lr hm hb hle⟩

end field

/-! ## Non-vacuity over ℝ (real-number library functions, `N = 1`) -/
section NonVacuityReal
attribute [local instance] Fns.real

noncomputable def exampleRefine : PState ℝ → Option (LocalResult ℝ) :=
  fun ps => (reported ps).map fun b => { x := b.point, fx := b.hv - 1, nfev := 3 }

theorem exampleRefine_le : RefineLe exampleRefine := by
  intro ps lr s b hlr hm hb
  unfold exampleRefine at hlr
  rw [reported_of_some hm, hb] at hlr
  simp only [Option.map_some, Option.some.injEq] at hlr
  subst hlr
  show b.hv - 1 ≤ b.hv
  linarith

noncomputable def params1 : Params ℝ := { C03.exampleParams with itersLimit := 1 }

/-- All hypotheses of `C04_reported_min`, `C04_reported_mono`, `C04_reported_le_every_refinement`, `C04_reported_after_resume` hold
for `params1` (budget 1) / `C03.exampleParams` (budget raised in place to 20), the objective `(x - 1/3)^2` and the refinement
`exampleRefine`; the first `Solve` does its first iteration and refines (result `lr`), it returns the refined value, and the resumed
run reports a value `≤` the refined one. -/
example : FnsLaws ℝ ∧ 1 < params1.r ∧ 0 < params1.n ∧
    (∀ k pt, (C03.exampleObj k pt).isSome = true) ∧ RefineLe exampleRefine ∧ RefineLe (fun _ : PState ℝ => none) ∧
    SameMethod params1 C03.exampleParams ∧ 1 ≤ params1.itersLimit ∧
    ∃ r1 r2 lr, reported (solve params1 C03.exampleObj exampleRefine {}) = some r1 ∧
      exampleRefine (solveLoop params1 C03.exampleObj (params1.itersLimit + 1) {}).1 = some lr ∧
      r1.hv = lr.fx ∧
      reported (solve C03.exampleParams C03.exampleObj (fun _ => none)
        (solve params1 C03.exampleObj exampleRefine {})) = some r2 ∧
      r2.hv ≤ lr.fx := by
  have hr : (1 : ℝ) < params1.r := by norm_num [params1, C03.exampleParams]
  have hn : 0 < params1.n := by norm_num [params1, C03.exampleParams]
  have htot : ∀ k pt, (C03.exampleObj k pt).isSome = true := fun _ _ => rfl
  have hnone : RefineLe (fun _ : PState ℝ => none) := by intro ps lr s b h; cases h
  have hs : SameMethod params1 C03.exampleParams := ⟨rfl, rfl, rfl⟩
  have hlim : 1 ≤ params1.itersLimit := Nat.le_refl 1
  refine ⟨FnsLaws.real, hr, hn, htot, exampleRefine_le, hnone, hs, hlim, ?_⟩
  obtain ⟨r1, r2, h1, h2, h3, h4⟩ := C04_reported_after_resume params1 C03.exampleParams
    C03.exampleObj exampleRefine (fun _ => none) FnsLaws.real hr hn htot hs hlim exampleRefine_le hnone
  -- the first `Solve` refines: its loop ends with the first iteration done, so a trial is reported there
  have hOKX : RepOK params1 (solveLoop params1 C03.exampleObj (params1.itersLimit + 1) {}).1 :=
    (repOK_stepInv FnsLaws.real hr hn (C03.ne_none_of_total htot)).solveLoop (repOK_fresh _)
  have hmX : (solveLoop params1 C03.exampleObj (params1.itersLimit + 1) {}).1.m ≠ none := by
    intro h0
    unfold reported at h1
    rw [(solve_m_eq_none_iff params1 C03.exampleObj exampleRefine {}).2 h0] at h1
    cases h1
  cases hm : (solveLoop params1 C03.exampleObj (params1.itersLimit + 1) {}).1.m with
  | none => exact absurd hm hmX
  | some sX =>
    obtain ⟨rep, hrep, -⟩ := hOKX.reported FnsLaws.real hr hn hm
    have hlr : exampleRefine (solveLoop params1 C03.exampleObj (params1.itersLimit + 1) {}).1 =
        some { x := rep.point, fx := rep.hv - 1, nfev := 3 } := by
      unfold exampleRefine
      rw [reported_of_some hm, hrep]; rfl
    have h5 := (h4 _ hlr).1
    exact ⟨r1, r2, _, h1, hlr, h5, h2, by rw [← h5]; exact h3⟩

end NonVacuityReal

/-! ## Executable instances over ℚ (the toy instance `ProcToy`: `N = 1`, `root x _ = x`, objective `(x - 1/3)^2`), by kernel evaluation -/
section examples
open ProcToy

def exRefine : PState Rat → Option (LocalResult Rat) := fun _ => some { x := [1/3], fx := 0, nfev := 7 }

def pv (o : Option (Item Rat)) : Option (List Rat × Rat) := o.map fun it => (it.point, it.hv)

/-- **The example of defect F14**: the first `Solve` (budget 5, with refinement) returns the
refined optimum `(1/3, 0)`; the budget is raised to 50 and `Solve` is called again without refinement.  The METHOD's best moves to
another trial with a positive value, but `GetResults()` still reports `(1/3, 0)`. -/
example :
    pv (reported (solve (P 5 (1/10)) F exRefine {})) = some ([1/3], 0) ∧
    pv (reported (solve (P 50 (1/10)) F noRefine (solve (P 5 (1/10)) F exRefine {}))) = some ([1/3], 0) ∧
    (pv (methodBest (solve (P 50 (1/10)) F noRefine (solve (P 5 (1/10)) F exRefine {})))).any
      (fun b => decide (0 < b.2)) = true ∧
    (solve (P 50 (1/10)) F noRefine (solve (P 5 (1/10)) F exRefine {})).m.map (·.best) ≠
      (solve (P 5 (1/10)) F exRefine {}).m.map (·.best) ∧
    (solve (P 50 (1/10)) F noRefine (solve (P 5 (1/10)) F exRefine {})).refined =
      (solve (P 5 (1/10)) F exRefine {}).m.map (·.best) := by
  decide +kernel

/-- the same through `runOps`: `Solve` (refining), then three more global iterations, then `Solve` again (refining the REPORTED
trial, which is not the method's best any more): the reported value is `0` throughout -/
example :
    (pv (reported (runOps (P 5 (1/10)) F exRefine [Op.solve] {})) = some ([1/3], 0)) ∧
    (pv (reported (runOps (P 5 (1/10)) F exRefine [Op.solve, Op.iter 3] {})) = some ([1/3], 0)) ∧
    (runOps (P 5 (1/10)) F exRefine [Op.solve, Op.iter 3] {}).m.map (·.best) ≠
      (runOps (P 5 (1/10)) F exRefine [Op.solve, Op.iter 3] {}).refined ∧
    (pv (reported (runOps (P 5 (1/10)) F exRefine [Op.solve, Op.iter 3, Op.solve] {})) = some ([1/3], 0)) ∧
    (runOps (P 5 (1/10)) F exRefine [Op.solve, Op.iter 3, Op.solve] {}).refined =
      (runOps (P 5 (1/10)) F exRefine [Op.solve, Op.iter 3] {}).refined := by
  decide +kernel

/-- without refinement the reported trial is the method's best -/
example : pv (reported (runOps (P 5 (1/10)) F noRefine [Op.iter 2, Op.solve] {})) =
    pv (methodBest (runOps (P 5 (1/10)) F noRefine [Op.iter 2, Op.solve] {})) ∧
    (reported (runOps (P 5 (1/10)) F noRefine [Op.iter 2, Op.solve] {})).isSome = true := by
  decide +kernel

example := C04_reported_eq_best_without_refinement (P 5 (1/10)) F [Op.iter 2, Op.solve]

end examples

end C04

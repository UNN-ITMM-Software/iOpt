import IOptProofs.ProcessOps
import IOptProofs.ProcessToy
/-!
# C11 — batching of global iterations, `Solve` after batches, `Solve` twice

"…carrying out the iterations through any mixture of DoGlobalIteration(k) calls followed by Solve yields
the same sequence, Solve merely ending at the first moment the stop criterion holds. Calling Solve again
on a finished solver performs no further global trials."

Determinism: the model is a *function* (`doGlobalIteration`, `solve` are Lean functions of the parameters,
the objective oracle and the state), so two runs with the same inputs are literally equal; no theorem is needed.

The *canonical sequence* from a state `ps` is `iterN p f k ps`, `k = 0, 1, 2, …` (`k` passes of the loop body of
`DoGlobalIteration`, i.e. `k` global iterations one after another, no notifications in between).  "Same state up
to the event log" is `PState.core` (`m`, `evals`, `nLocal`, `calls`, `refined`).
-/

set_option linter.unusedSectionVars false

namespace C11
open AGP AGP.Ctl Proc

section generic
variable {α : Type} [Add α] [Sub α] [Mul α] [Div α] [Neg α] [LT α] [LE α]
  [DecidableLT α] [DecidableLE α] [OfNat α 0] [OfNat α 1] [OfNat α 2] [OfNat α 4] [Fns α]

/-- **C11, one batch = two batches.**  If `DoGlobalIteration(a)` does not raise, then
`DoGlobalIteration(a); DoGlobalIteration(b)` and `DoGlobalIteration(a+b)` end with the same method state `m`,
the same records `evals`, the same `calls`, `nLocal`, `refined`, and the same exception (if any).  If neither raises, only
the event log differs: two `OnEndIteration` notifications with id lists `ids1` (`a` ids), `ids2` (`b` ids)
against one with `ids1 ++ ids2` (`pre1`, `pre2` are the possible `BeforeMethodStart` of the very first pass). -/
theorem C11_batch_split (p : Params α) (f : Nat → List α → Option α) (a b : Nat) (ps : PState α)
    (h1 : (doGlobalIteration p f a ps []).raised = none) :
    let r1 := doGlobalIteration p f a ps []
    let r2 := doGlobalIteration p f b r1.s []
    let r := doGlobalIteration p f (a + b) ps []
    r.s.m = r2.s.m ∧ r.s.evals = r2.s.evals ∧ r.s.calls = r2.s.calls ∧ r.s.nLocal = r2.s.nLocal ∧
    r.s.refined = r2.s.refined ∧ r.raised = r2.raised ∧
    (r2.raised = none →
      ∃ ids1 ids2 pre1 pre2, ids1.length = a ∧ ids2.length = b ∧
        (pre1 = [] ∨ pre1 = [Event.beforeStart]) ∧ (pre2 = [] ∨ pre2 = [Event.beforeStart]) ∧
        r1.s.log = ps.log ++ pre1 ++ [Event.endIteration ids1] ∧
        r2.s.log = ps.log ++ pre1 ++ [Event.endIteration ids1] ++ pre2 ++ [Event.endIteration ids2] ∧
        r.s.log = ps.log ++ pre1 ++ pre2 ++ [Event.endIteration (ids1 ++ ids2)]) := by
  dsimp only
  revert h1
  rw [doGlobalIteration_eq p f a]
  cases hi1 : iterN p f a ps with
  | error x => exact nofun
  | ok x =>
    obtain ⟨ps1, ids1⟩ := x
    intro _
    have e1 := iterN_eff hi1
    -- both second runs are the run from `ps1.core` with a log put in front
    rw [doGlobalIteration_eq, doGlobalIteration_eq, iterN_add_of_ok hi1, iterN_of_core p f b ps1, iterN_of_core p f b { ps1 with log := _ },
      show ({ ps1 with log := ps1.log ++ [Event.endIteration ([] ++ ids1)] } : PState α).core = ps1.core from rfl]
    cases hi2 : iterN p f b ps1.core with
    | error x => exact ⟨rfl, rfl, rfl, rfl, rfl, rfl, nofun⟩
    | ok x =>
      obtain ⟨Y, ids2⟩ := x
      have e2 := iterN_eff hi2
      refine ⟨rfl, rfl, rfl, rfl, rfl, rfl, fun _ => ⟨ids1, ids2, firstMark ps a, firstMark ps1 b, by rw [e1.ids]; simp,
        by rw [e2.ids]; simp, firstMark_cases _ _, firstMark_cases _ _, ?_, ?_, ?_⟩⟩ <;>
        simp [liftLog, e1.log, e2.log, show firstMark ps1.core b = firstMark ps1 b from rfl]

/-- **C11, any list of batch sizes.**  If the canonical sequence from `ps` makes `Σ k_j` passes without raising,
then the calls `DoGlobalIteration(k_1); …; DoGlobalIteration(k_m)` end in the state reached by those `Σ k_j` passes
(same `m`, `evals`, `calls`, `nLocal`, `refined`): the state depends on the batch sizes only through their sum. -/
theorem C11_batches_sum (p : Params α) (f : Nat → List α → Option α) (refine : PState α → Option (LocalResult α))
    (ks : List Nat) (ps ps' : PState α) (ids : List Nat) (h : iterN p f ks.sum ps = .ok (ps', ids)) :
    (runOps p f refine (ks.map Op.iter) ps).m = ps'.m ∧ (runOps p f refine (ks.map Op.iter) ps).evals = ps'.evals ∧
    (runOps p f refine (ks.map Op.iter) ps).calls = ps'.calls ∧ (runOps p f refine (ks.map Op.iter) ps).nLocal = ps'.nLocal ∧
    (runOps p f refine (ks.map Op.iter) ps).refined = ps'.refined := by
  have C := PState.core_eq_iff.1 (batches_sum (refine := refine) ks h)
  exact ⟨C.m, C.evals, C.calls, C.nLocal, C.refined⟩

theorem C11_batches_same_sum (p : Params α) (f : Nat → List α → Option α) (refine : PState α → Option (LocalResult α))
    (ks ks' : List Nat) (hsum : ks.sum = ks'.sum) (ps ps' : PState α) (ids : List Nat)
    (h : iterN p f ks.sum ps = .ok (ps', ids)) :
    (runOps p f refine (ks.map Op.iter) ps).core = (runOps p f refine (ks'.map Op.iter) ps).core := by
  rw [batches_sum (refine := refine) ks h, batches_sum (refine := refine) ks' (hsum ▸ h)]

/-- **C11, the evaluation sequence is prefix-closed in the number of iterations** (any objective): the
records after `a` passes are an initial segment of the records after `a + b` passes, which make `b` more. -/
theorem C11_evals_prefix (p : Params α) (f : Nat → List α → Option α) (a b : Nat) (ps ps2 : PState α) (ids : List Nat)
    (h : iterN p f (a + b) ps = .ok (ps2, ids)) :
    ∃ ps1 ids1, iterN p f a ps = .ok (ps1, ids1) ∧ ps1.evals <+: ps2.evals ∧ ids1 <+: ids ∧
      ps2.evals.length = ps1.evals.length + b := by
  obtain ⟨ps1, ids1, ids2, h1, h2, rfl⟩ := iterN_add_ok h
  obtain ⟨new, hnew, -⟩ := (iterN_eff h2).evals
  exact ⟨ps1, ids1, h1, ⟨new, hnew.symm⟩, ⟨ids2, rfl⟩, (iterN_eff h2).evals_length⟩

/-- **C11, pure objectives.**  If the objective ignores the call index, the trials made by `k` passes do not
depend on how many calls were made before (e.g. on earlier failed calls): same method state, ids and records. -/
theorem C11_pure (p : Params α) (f : Nat → List α → Option α) (hf : PureObjective f) (k c : Nat) (ps ps' : PState α)
    (ids : List Nat) (h : iterN p f k ps = .ok (ps', ids)) :
    ∃ ps'', iterN p f k { ps with calls := c } = .ok (ps'', ids) ∧ ps''.m = ps'.m ∧ ps''.evals = ps'.evals :=
  ⟨_, iterN_pure hf c h, rfl, rfl⟩

/-- **C11, `Solve` after batches continues the canonical sequence.**  Let the canonical sequence from `ps` make
`Σ k_j` passes without raising.  After `DoGlobalIteration(k_1); …; DoGlobalIteration(k_m)`, `Solve` brings the solver to
(the refinement of) a state `X` that is, up to the log, the state `n + j` of the same canonical sequence, where
`n + j` is the first index `≥ n = Σ k_j` at which the stop criterion holds (normal end), or at which the next
pass raises (then `X` is the state left by the raising pass); `j = 0`, i.e. no iteration at all, if the
criterion already holds. -/
theorem C11_solve_after_batches (p : Params α) (f : Nat → List α → Option α) (refine : PState α → Option (LocalResult α))
    (ks : List Nat) (ps ps0 : PState α) (ids0 : List Nat) (h0 : iterN p f ks.sum ps = .ok (ps0, ids0)) :
    ∃ j psj ids X, iterN p f (ks.sum + j) ps = .ok (psj, ids0 ++ ids) ∧
      (∀ i, i < j → ∃ psi idsi, iterN p f (ks.sum + i) ps = .ok (psi, idsi) ∧ stopNow p psi = false) ∧
      runOps p f refine (ks.map Op.iter ++ [Op.solve]) ps =
        (refineStep refine X).appendLog [Event.methodStop (stopNow p X)] ∧
      ((stopNow p psj = true ∧ X.core = psj.core) ∨
       (stopNow p psj = false ∧ ∃ pe e, oneIteration p f psj = .error (pe, e) ∧ X.core = pe.core)) := by
  have hc := batches_sum (refine := refine) ks h0
  -- the loop from the state the batches left, read along the sequence from `ps`
  obtain ⟨j, psj1, ids, r, Y, L⟩ := solve_passes p f (runOps p f refine (ks.map Op.iter) ps)
  obtain ⟨psj, hpre, hcj⟩ := L.pre.congr hc
  have hst := L.stopNow_eq
  rw [stopNow_congr hcj.symm] at hst
  rw [runOps_append]
  refine ⟨j, psj, ids, Y.appendLog _, by rw [iterN_add_of_ok h0, hpre.run], fun i hi => ?_, L.solve_eq refine, ?_⟩
  · obtain ⟨psi, idsi, hri, hsi⟩ := hpre.notStop i hi
    exact ⟨psi, ids0 ++ idsi, by rw [iterN_add_of_ok h0, hri], hsi⟩
  · cases L.loopEnd with
    | stop _ => exact .inl ⟨hst, hcj.symm⟩
    | raise _ he =>
      obtain ⟨pe, he', hce⟩ := oneIteration_congr_error hcj.symm he
      exact .inr ⟨hst, pe, _, he', hce.symm⟩

theorem C11_solve_nothing_to_do (p : Params α) (f : Nat → List α → Option α) (ps : PState α)
    (h : stopNow p ps = true) :
    solve p f (fun _ => none) ps = ps.appendLog [Event.methodStop true] := by
  rw [solve_eq, solveLoop_of_stop _ h]
  simp [refineStep, h]

/-- **C11, `Solve` is idempotent.**  If the first `Solve` was not ended by an exception, a second `Solve`
(without refinement) changes nothing but the event log, to which it adds one `OnMethodStop(status = True)`:
no new evaluation, same method state (`iterationsCount` and `min_delta` unchanged, so the criterion still holds).
With a refinement, the second `Solve` is exactly that refinement step plus the notification. -/
theorem C11_solve_idempotent (p : Params α) (f : Nat → List α → Option α) (refine refine2 : PState α → Option (LocalResult α))
    (ps : PState α) (hnr : (solveLoop p f (p.itersLimit + 1) ps).2 = false) :
    solve p f (fun _ => none) (solve p f refine ps) = (solve p f refine ps).appendLog [Event.methodStop true] ∧
    solve p f refine2 (solve p f refine ps) =
      (refineStep refine2 (solve p f refine ps)).appendLog [Event.methodStop true] ∧
    (solve p f refine2 (solve p f refine ps)).evals = (solve p f refine ps).evals ∧
    (solve p f refine2 (solve p f refine ps)).calls = (solve p f refine ps).calls ∧
    (solve p f refine2 (solve p f refine ps)).nTrials = (solve p f refine ps).nTrials := by
  have hst : stopNow p (solve p f refine ps) = true := by
    rw [solve_eq]
    rcases solveLoop_end p f _ ps (Nat.lt_succ_of_le (remaining_le p _)) with h | h
    · rw [hnr] at h; cases h
    · simpa [stopNow_refineStep] using h
  -- the criterion holds: the second loop makes no pass
  have h2 : ∀ refine2 : PState α → Option (LocalResult α), solve p f refine2 (solve p f refine ps) =
      (refineStep refine2 (solve p f refine ps)).appendLog [Event.methodStop true] := fun refine2 => by
    rw [solve_of_loop (solveLoop_of_stop _ hst), hst]
  refine ⟨by rw [h2]; rfl, h2 refine2, ?_, ?_, ?_⟩ <;> rw [h2] <;> simp

end generic

section examples
open ProcToy

example : (doGlobalIteration (P 10 (1/100)) F 1 {} []).raised = none ∧
    (doGlobalIteration (P 10 (1/100)) F 2 (doGlobalIteration (P 10 (1/100)) F 1 {} []).s []).raised = none ∧
    (doGlobalIteration (P 10 (1/100)) F 3 {} []).s.log = [Event.beforeStart, Event.endIteration [2, 3, 4]] := by
  decide +kernel

example : (∃ ps0 ids0, iterN (P 10 (1/100)) F ([1, 2].sum) {} = .ok (ps0, ids0)) ∧
    (runOps (P 10 (1/100)) F noRefine ([1, 2].map Op.iter ++ [Op.solve]) {}).nTrials = 10 := by
  refine ⟨?_, by decide +kernel⟩
  obtain ⟨x, hx⟩ := ok_of_isOk (r := iterN (P 10 (1/100)) F ([1, 2].sum) {}) (by decide +kernel)
  exact ⟨x.1, x.2, hx⟩

example : (solveLoop (P 5 (1/100)) F 6 {}).2 = false := by decide +kernel

example := C11_batch_split (P 10 (1/100)) F 1 2 {} (by decide +kernel)
example := C11_solve_idempotent (P 5 (1/100)) F noRefine noRefine {} (by decide +kernel)

end examples

end C11

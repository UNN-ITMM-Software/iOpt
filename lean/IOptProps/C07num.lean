import IOptProofs.EvNumFwd
import Mathlib.Data.Rat.Floor
import Mathlib.Tactic.NormNum
/-!
# C07 (numeric part): the image of the evolvent lies strictly inside the box, and every point of a
subinterval is mapped to the centre of the same cell.

Field-level statements about the code's loops (`Ev.imageCube`, `Ev.p2d`) and about `Ev.getImage`, with `int(d)` = natural
floor (`Ev.Num.floorTrunc`).
-/

set_option linter.unusedSectionVars false
namespace Ev
variable {α : Type} [Field α] [LinearOrder α] [IsStrictOrderedRing α] [FloorSemiring α]
attribute [local instance] Ev.Num.floorTrunc

/-- **C07 (box)**: if `lower_i < upper_i` for all `i` and `Y` is an integer vector with
`|Y_i| ≤ 2^m - 1` (a cell centre in units of `2^-(m+1)`), then `__TransformP2D` maps the cube point
`Y / 2^(m+1)` to a point with `n` coordinates, each strictly between `lower_i` and `upper_i`. -/
theorem C07_image_in_box (n m : Nat) (lower upper : List α) (Y : List Int)
    (hl : lower.length = n) (hu : upper.length = n) (hY : Y.length = n)
    (hlt : ∀ i (h1 : i < lower.length) (h2 : i < upper.length), lower[i] < upper[i])
    (hb : ∀ Yi ∈ Y, |Yi| ≤ 2^m - 1) :
    (p2d lower upper (Y.map fun (Yi : Int) => (Yi : α) / 2^(m+1))).length = n ∧
    ∀ i (hp : i < (p2d lower upper (Y.map fun (Yi : Int) => (Yi : α) / 2^(m+1))).length)
      (h1 : i < lower.length) (h2 : i < upper.length),
      lower[i] < (p2d lower upper (Y.map fun (Yi : Int) => (Yi : α) / 2^(m+1)))[i] ∧
      (p2d lower upper (Y.map fun (Yi : Int) => (Yi : α) / 2^(m+1)))[i] < upper[i] := by
  refine Num.p2d_in_box lower upper _ hl hu (by rw [List.length_map, hY]) hlt fun c hc => ?_
  obtain ⟨Yi, hYi, rfl⟩ := List.mem_map.1 hc
  exact Num.abs_grid_lt_half Yi m (hb Yi hYi)

/-- non-vacuity of `C07_image_in_box`: the box `[-1,2] × [0,3]`, `m = 2`, `Y = (3, -1)`. -/
example : ∀ i (hp : i < (p2d [(-1 : ℚ), 0] [2, 3] ([(3 : Int), -1].map fun (Yi : Int) => (Yi : ℚ) / 2^(2+1))).length)
      (h1 : i < [(-1 : ℚ), 0].length) (h2 : i < [(2 : ℚ), 3].length),
      [(-1 : ℚ), 0][i] < (p2d [(-1 : ℚ), 0] [2, 3] ([(3 : Int), -1].map fun (Yi : Int) => (Yi : ℚ) / 2^(2+1)))[i] ∧
      (p2d [(-1 : ℚ), 0] [2, 3] ([(3 : Int), -1].map fun (Yi : Int) => (Yi : ℚ) / 2^(2+1)))[i] < [(2 : ℚ), 3][i] :=
  (C07_image_in_box 2 2 [(-1 : ℚ), 0] [2, 3] [3, -1] rfl rfl rfl
    (Num.forall_getElem_pair (by norm_num) (by norm_num))
    (by decide)).2

/-- **C07 (cell)**: for `0 ≤ x < 1` and `i = ⌊x·(2^n)^m⌋₊` (the subinterval containing `x`),
`__GetYonX` maps `x` to the centre of cell `i`: `(cubeY n (digitsOf n m i))_k / 2^(m+1)`.
So every point of one subinterval has the same image. -/
theorem C07_image_cell {n : Nat} (hn : Ev.DimOK n) (m : Nat) (x : α) (h0 : 0 ≤ x) (h1 : x < 1) :
    imageCube n m x = (cubeY n (digitsOf n m ⌊x * (2^n)^m⌋₊)).map
      (fun (Y : Int) => (Y : α) / 2^(m+1)) :=
  by rw [Num.imageCube_cellIdx hn, Num.cellIdx_of_lt_one n m h0 h1]

/-- **C07 (end rule)**: for `x ≥ 1` (the code's `x >= 1.0` rule) the image is the centre of the
last cell, the one with all digits `2^n - 1`. -/
theorem C07_image_cell_end {n : Nat} (hn : Ev.DimOK n) (m : Nat) (x : α) (h1 : 1 ≤ x) :
    imageCube n m x = (cubeY n (List.replicate m (2^n - 1))).map
      (fun (Y : Int) => (Y : α) / 2^(m+1)) :=
  by rw [Num.imageCube_cellIdx hn, Num.cellIdx_of_one_le n m h1, digitsOf_last]

/-- non-vacuity of `C07_image_cell`: `n = 2`, `m = 2`, `x = 3/7` lies in subinterval
`⌊48/7⌋ = 6` of 16, digits `[1, 2]`. -/
example : imageCube 2 2 (3/7 : ℚ) = (cubeY 2 [1, 2]).map (fun (Y : Int) => (Y : ℚ) / 2^(2+1)) := by
  have h := C07_image_cell (α := ℚ) (n := 2) (by decide) 2 (3/7) (by norm_num) (by norm_num)
  have e : ⌊(3/7 : ℚ) * (2^2)^2⌋₊ = 6 := by
    rw [Nat.floor_eq_iff (by norm_num)]; norm_num
  rw [e] at h
  exact h

example : imageCube 2 2 (1 : ℚ) = (cubeY 2 [3, 3]).map (fun (Y : Int) => (Y : ℚ) / 2^(2+1)) :=
  C07_image_cell_end (α := ℚ) (n := 2) (by decide) 2 1 (le_refl _)

/-- **C07 (GetImage stays in the box)**: for `Ev.DimOK N`, bounds with `lower_i < upper_i`, and EVERY
argument `x` (also `x ≥ 1`, the end rule), `GetImage x` has `n` coordinates, each strictly between
`lower_i` and `upper_i`. -/
theorem C07_getImage_in_box {n : Nat} (hn : Ev.DimOK n) (m : Nat) (lower upper : List α)
    (hl : lower.length = n) (hu : upper.length = n)
    (hlt : ∀ i (h1 : i < lower.length) (h2 : i < upper.length), lower[i] < upper[i]) (x : α) :
    (getImage n m lower upper x).length = n ∧
    ∀ i (hp : i < (getImage n m lower upper x).length) (h1 : i < lower.length)
      (h2 : i < upper.length),
      lower[i] < (getImage n m lower upper x)[i] ∧ (getImage n m lower upper x)[i] < upper[i] := by
  obtain ⟨hlen, hb⟩ := Num.imageCube_bound hn m x
  exact Num.p2d_in_box lower upper _ hl hu hlen hlt hb

example : (getImage 2 3 [(-1 : ℚ), 0] [2, 3] (3/7)).length = 2 :=
  (C07_getImage_in_box (α := ℚ) (n := 2) (by decide) 3 [(-1 : ℚ), 0] [2, 3] rfl rfl
    (Num.forall_getElem_pair (by norm_num) (by norm_num)) (3/7)).1

/-- **C07 (N = 1)**: for one variable `GetImage` is the affine map `x ↦ a + x (b - a)`. -/
theorem C07_dim1_image (m : Nat) (a b x : α) : getImage 1 m [a] [b] x = [a + x * (b - a)] := by
  simp only [getImage, imageCube, p2d, Num.half_eq, beq_self_eq_true, if_true, List.zip_cons_cons,
    List.zip_nil_right, List.zipWith_cons_cons, List.zipWith_nil_right, List.cons.injEq, and_true]
  ring

end Ev

import IOptProofs.RefineSim
import IOptProofs.MethodFacts
import IOptProps.C19
/-!
# C06 (links clause) — the list-level search model refines the pointer-level container model

Property C06 speaks about "the accumulated search information … with mutually consistent neighbour
links".  The method model `IOptModel/Method.lean` keeps the search information as a plain list
(`State.items`, traversal order) plus a queue (`State.queue`); the code keeps it in `SearchData`
(doubly linked items, `_allTrials`, a DEPQ), modelled at pointer level in `IOptModel/SearchData.lean`.
`IOptProps/C06.lean` (`C06_hint_correct`) proves the precondition of the insertion on the list,
`IOptProps/C19.lean` (`C19_insert_ok`, …) the behaviour of the container under that precondition; here
the two models are run side by side.

* **The concrete run** (`IOptProofs/RefineDefs.lean`): `AGP.cRun p zs` executes the AGP iteration for the
  objective values `zs`, holding the search information in an `SD.State α (Option α)` and issuing
  exactly the container calls the method makes, in the order it makes them.
* **The abstraction**: `AGP.absState c` is the whole list-level state read off a concrete state
  (items in traversal order, the queue, `nextId = len(_allTrials)`).
* **The refinement** (`C06_links_refine`): for every reachable list-level state `s` the concrete run on
  the same objective values succeeds, its container is well formed and `absState c = s`.
  `C06_pop_agrees` is the inductive step: selection, neighbour lookup and renewal agree.

The key order: the queue theorems of C19 are stated for `leB = decide (· ≤ ·)` of a `LinearOrder κ`;
`keyLe` is the Boolean `≤` of the linear order `WithBot α` (`none` = bottom, `AGP.keyLe_eq_leB`).
`C06_insert_ok` shows that the precondition `SD.InsertOk` of `C19_insert_ok` holds at every insertion
of the concrete run.

No hypothesis on the numeric functions, `r` or `n` is needed: the lock step only depends on the
container calls (the hypotheses `FnsLaws`, `1 < r`, `0 < n` of the other C06 theorems are used in
`C06_pop_agrees` only to identify the popped KEY with the characteristic of the selected item).
-/
set_option linter.unusedSectionVars false

namespace AGP
variable {α : Type} [Field α] [LinearOrder α] [IsStrictOrderedRing α] [Fns α]
variable {p : Params α} {s : State α}

/-- **C06, the refinement.**  For every reachable list-level state `s` (with evaluation log `log`) the
concrete run on the same objective values `log.map (·.2)` succeeds, and its pointer-level container
`c.sd`
* is well formed (`SD.WF`: `first` is the head, every id of `_allTrials` occurs exactly once, `left`/
  `right` of neighbours point to each other, the ends have no outer neighbour, coordinates are sorted —
  see `SD.C19_WF_iff`, `C06_links`);
* is traversed (following `right` from `first`) in the order of `s.items`;
* stores under the id of every item of `s` its coordinate and its characteristic (`globalR`);
* has the same queue (same entries, same order);
* has `len(_allTrials) = s.nextId`;
and the whole list-level state is recovered from the concrete one: `absState c = s`. -/
theorem C06_links_refine {log : List (List α × α)} (h : Reach p s log) :
    ∃ c, cRun p (log.map (·.2)) = some c ∧
      SD.WF c.sd ∧
      SD.traversal c.sd = s.items.map (·.id) ∧
      (∀ it ∈ s.items, ∃ cit, c.sd.trials[it.id]? = some cit ∧ cit.x = it.x ∧ cit.globalR = it.R) ∧
      c.sd.gq = s.queue ∧
      c.sd.trials.size = s.nextId ∧
      absSD c.sd = (s.items.map (·.id), s.queue) ∧
      absState c = s := by
  obtain ⟨c, hc, hs⟩ := reach_sim h
  refine ⟨c, hc, hs.rs.wf, hs.rs.traversal, ?_, hs.gq, hs.size, ?_, hs.abs⟩
  · intro it hit
    exact get_of_xrOf (hs.rs.xr it hit)
  · unfold absSD
    rw [hs.rs.traversal, hs.gq]

/-- the same with the standing hypotheses of the other C06 theorems (none of them is used) -/
example (_hL : FnsLaws α) (_hr : 1 < p.r) (_hn : 0 < p.n) {log : List (List α × α)}
    (h : Reach p s log) :
    ∃ c, cRun p (log.map (·.2)) = some c ∧ SD.WF c.sd ∧ SD.traversal c.sd = s.items.map (·.id) ∧
      (∀ it ∈ s.items, ∃ cit, c.sd.trials[it.id]? = some cit ∧ cit.x = it.x ∧ cit.globalR = it.R) ∧
      c.sd.gq = s.queue ∧ c.sd.trials.size = s.nextId := by
  obtain ⟨c, h1, h2, h3, h4, h5, h6, -⟩ := C06_links_refine h
  exact ⟨c, h1, h2, h3, h4, h5, h6⟩

/-- **C06, the links clause** for the structure the code maintains.  In the container
of the concrete run, for every reachable state: neighbouring items `a, b` of the list are linked both
ways (`a.right = b`, `b.left = a`), the first item is `__firstDataItem` and has no left neighbour, the
last item has no right neighbour, and the number of stored items is the number of list items. -/
theorem C06_links {log : List (List α × α)} (h : Reach p s log) :
    ∃ c, cRun p (log.map (·.2)) = some c ∧
      (∀ a b, Neighbours s.items a b → ∃ ia ib, c.sd.trials[a.id]? = some ia ∧
        c.sd.trials[b.id]? = some ib ∧ ia.right = some b.id ∧ ib.left = some a.id) ∧
      (∀ f t, s.items = f :: t → c.sd.first = some f.id ∧
        ∃ i, c.sd.trials[f.id]? = some i ∧ i.left = none) ∧
      (∀ t l, s.items = t ++ [l] → ∃ i, c.sd.trials[l.id]? = some i ∧ i.right = none) ∧
      c.sd.trials.size = s.items.length := by
  obtain ⟨c, hc, hwf, htr, -, -, -, -, -⟩ := C06_links_refine h
  obtain ⟨⟨f, hf1, hf2⟩, -, hnb, hhead, hlast, -⟩ := (SD.C19_WF_iff _).1 hwf
  have hlen := SD.Rep.length_eq hwf
  refine ⟨c, hc, ?_, ?_, ?_, ?_⟩
  · rintro a b ⟨l₁, l₂, e⟩
    exact hnb (l₁.map (·.id)) a.id b.id (l₂.map (·.id)) (by rw [htr, e]; simp)
  · intro f' t e
    have ht : SD.traversal c.sd = f'.id :: t.map (·.id) := by rw [htr, e]; rfl
    rw [ht] at hf2
    simp only [List.head?_cons, Option.some.injEq] at hf2
    exact ⟨by rw [hf1, hf2], hhead _ _ ht⟩
  · intro t l e
    exact hlast (t.map (·.id)) l.id (by rw [htr, e]; simp)
  · rw [← hlen, htr, List.length_map]

/-- **C06, the inductive step of the refinement.**  Let `s` be reachable, `c` the state
of the concrete run, and let the list-level `prepare` succeed on `s` with result `pr`.  Then
* `GetDataItemWithMaxGlobalR` (`SD.popMaxGlobal`) on the recalculated container returns the id of the
  item `prepare` selected, with its characteristic as key, and leaves the queue `pr.s.queue`;
* the `left` pointer of that item is the id of the left neighbour `prepare` found in the list;
* `cPrepare` succeeds with the same selected item, neighbour, new coordinate and point, in a state
  whose abstraction is `pr.s`;
* for every value `z` of the objective `cCommit` succeeds, its result is the next state of the
  concrete run, and its abstraction is `commit p pr z`: the two runs stay in lock step. -/
theorem C06_pop_agrees (hL : FnsLaws α) (hr : 1 < p.r) (hn : 0 < p.n) {log : List (List α × α)}
    (h : Reach p s log) {pr : Prep α} (hp : prepare p s = .ok pr) :
    ∃ c, cRun p (log.map (·.2)) = some c ∧
      ∃ sd', SD.popMaxGlobal keyLe (cRecalcAll p c).sd = .ok (sd', pr.old.id, pr.old.R) ∧
        sd'.gq = pr.s.queue ∧ sd'.trials = (cRecalcAll p c).sd.trials ∧
        sd'.trials[pr.old.id]?.bind (·.left) = some pr.left.id ∧
      ∃ cpr, cPrepare p c = .ok cpr ∧ cpr.c.sd = sd' ∧ cpr.old = pr.old.id ∧ cpr.left = pr.left.id ∧
        cpr.x = pr.x ∧ cpr.point = pr.point ∧ absState cpr.c = pr.s ∧
      ∀ z, ∃ c', cCommit p cpr z = some c' ∧ cRun p (log.map (·.2) ++ [z]) = some c' ∧
        SD.WF c'.sd ∧ absState c' = commit p pr z := by
  obtain ⟨c, hc, hs⟩ := reach_sim h
  obtain ⟨cpr, k, q, hq, hpop, htr, hcp, hps⟩ := cPrepare_sim hs hp
  -- the popped key is the characteristic of the selected item (needs the queue invariant)
  have hk := prepare_popped_key (h.inv hL hr hn) hp hq
  subst hk
  refine ⟨c, hc, cpr.c.sd, hpop, hps.sim.gq, htr, hps.left_ptr, cpr, hcp, rfl, hps.old, hps.left, hps.x,
    hps.point, hps.sim.abs, fun z => ?_⟩
  obtain ⟨c', hc', hrun, hs'⟩ := cCommit_run hc hcp hps z
  exact ⟨c', hc', hrun, hs'.rs.wf, hs'.abs⟩

/-- `C06_pop_agrees` without any hypothesis on `FnsLaws`, `r`, `n`; the popped key is then only known
to be the key at the head of the queue. -/
theorem C06_lock_step {log : List (List α × α)} (h : Reach p s log) {pr : Prep α}
    (hp : prepare p s = .ok pr) :
    ∃ c cpr k, cRun p (log.map (·.2)) = some c ∧
      SD.popMaxGlobal keyLe (cRecalcAll p c).sd = .ok (cpr.c.sd, pr.old.id, k) ∧
      cpr.c.sd.gq = pr.s.queue ∧
      cpr.c.sd.trials[pr.old.id]?.bind (·.left) = some pr.left.id ∧
      cPrepare p c = .ok cpr ∧ cpr.old = pr.old.id ∧ cpr.left = pr.left.id ∧
      cpr.x = pr.x ∧ cpr.point = pr.point ∧ absState cpr.c = pr.s ∧
      ∀ z, ∃ c', cCommit p cpr z = some c' ∧ cRun p (log.map (·.2) ++ [z]) = some c' ∧
        SD.WF c'.sd ∧ absState c' = commit p pr z := by
  obtain ⟨c, hc, hs⟩ := reach_sim h
  obtain ⟨cpr, k, q, -, hpop, -, hcp, hps⟩ := cPrepare_sim hs hp
  refine ⟨c, cpr, k, hc, hpop, hps.sim.gq, hps.left_ptr, hcp, hps.old, hps.left, hps.x, hps.point,
    hps.sim.abs, fun z => ?_⟩
  obtain ⟨c', hc', hrun, hs'⟩ := cCommit_run hc hcp hps z
  exact ⟨c', hc', hrun, hs'.rs.wf, hs'.abs⟩

/-- the precondition of `SD.C19_insert_ok` for an insertion between two neighbours, hinted with the right one -/
theorem RepSD.insertOk {sd : SD.State α (Option α)} {pre post : List (Item α)} {a b : Item α}
    (h : RepSD sd (pre ++ a :: b :: post)) {x : α} (hax : a.x ≤ x) (hxb : x < b.x) :
    SD.InsertOk sd x (some b.id) := by
  have hbm : b ∈ pre ++ a :: b :: post := by simp
  have hsub : ∀ it ∈ pre ++ [a], it ∈ pre ++ a :: b :: post := fun it hit => by
    rw [List.append_cons]; exact List.mem_append_left _ hit
  have hbefore : ∀ it ∈ pre ++ [a], it.x ≤ x := by
    intro it hit
    rcases List.mem_append.1 hit with h' | h'
    · exact le_trans ((List.pairwise_append.1 h.sorted).2.2 it h' a List.mem_cons_self) hax
    · rw [List.mem_singleton.1 h']; exact hax
  obtain ⟨f, t, hft⟩ := List.exists_cons_of_ne_nil (l := pre ++ [a]) (by simp)
  have hf : f ∈ pre ++ [a] := by rw [hft]; exact List.mem_cons_self
  refine ⟨⟨f.id, f.x, ?_, h.xOf (hsub f hf), hbefore f hf⟩, ⟨b.id, b.x, h.xOf hbm, hxb⟩,
    Or.inr ⟨b.id, rfl, (pre ++ [a]).map (·.id), post.map (·.id), ?_, ⟨b.x, h.xOf hbm, hxb⟩, ?_⟩⟩
  · rw [h.rep.first_eq, List.append_cons, hft]; rfl
  · rw [h.traversal]; simp
  · intro i hi xi hxi
    obtain ⟨it, hit, rfl⟩ := List.mem_map.1 hi
    rw [h.xOf (hsub it hit)] at hxi
    cases hxi
    exact hbefore it hit

/-- **C06, the insertion** (the composition `C19 ∘ C06`).  At the insertion of the renewal
step the precondition `SD.InsertOk` of `C19_insert_ok` holds in the concrete container: the new
coordinate is not left of the first item, some stored coordinate is larger, and the hint handed to
`InsertDataItem` — the selected item — is the FIRST item in traversal order with a larger coordinate
(what `FindDataItemByOneDimensionalPoint` would return; the list-level fact is `C06_hint_correct`). -/
theorem C06_insert_ok {log : List (List α × α)} (h : Reach p s log) {pr : Prep α}
    (hp : prepare p s = .ok pr) :
    ∃ c cpr, cRun p (log.map (·.2)) = some c ∧ cPrepare p c = .ok cpr ∧
      ∀ k, SD.InsertOk (SD.setGlobalR cpr.c.sd cpr.old k) pr.x (some cpr.old) := by
  obtain ⟨c, hc, hs⟩ := reach_sim h
  obtain ⟨cpr, -, -, -, -, -, hcp, ⟨hsim, hold, -, -, -, ⟨pre, post, e⟩, h1, h2⟩⟩ := cPrepare_sim hs hp
  refine ⟨c, cpr, hc, hcp, fun k' => ?_⟩
  -- `old.globalR = k'` replaces one list item (`RepSD.setItem`); the new coordinate lies between the neighbours
  have hrs := hsim.rs
  rw [e, List.append_cons] at hrs
  have hrs' := hrs.setItem { pr.old with R := k' } rfl rfl
  rw [← List.append_cons] at hrs'
  rw [hold]
  exact hrs'.insertOk h1.le h2

/-- `keyLe` is the Boolean `≤` of the linear order `WithBot α`
(`keyLe_eq_leB`), so the queue theorems of C19 apply verbatim to the container of the concrete run.
Here `C19_pop_max` for the key order `keyLe`. -/
theorem C19_pop_max_keyLe {α : Type} [LinearOrder α] (sd : SD.State α (Option α)) (h : SD.WF sd)
    (hs : QSorted sd.gq) (hm : sd.maxlen ≠ some 0) :
    ∃ s' i k, SD.popMaxGlobal keyLe sd = .ok (s', i, k) ∧ s'.trials = sd.trials ∧ s'.first = sd.first ∧
      (sd.gq ≠ [] → sd.gq = (k, i) :: s'.gq ∧ ∀ e ∈ sd.gq, keyLe e.1 k = true) := by
  obtain ⟨s', i, k, h1, h2, h3, h4⟩ :=
    SD.C19_pop_max (κ := WithBot α) (s := sd) h ((qsorted_iff sd.gq).1 hs) hm
  refine ⟨s', i, k, ?_, h2, h3, ?_⟩
  · rw [keyLe_fun_eq_leB]
    exact h1
  · intro hne
    rcases h4 with ⟨h5, -, h6⟩ | ⟨h5, -⟩
    · refine ⟨h5, ?_⟩
      intro e he
      have := keyLe_eq_leB (α := α) e.1 k
      exact this.trans (by simpa using h6 e he)
    · exact absurd h5 hne

section NonVacuityRat
attribute [local instance] Fns.rat1
namespace LinksExample

/-- over ℚ, so that everything is computed by the kernel -/
def exP : Params ℚ := { n := 1, r := 2, eps := 1 / 100, itersLimit := 100, image := fun x => [x] }

/-- the objective values: the first trial and three iterations -/
def exZs : List ℚ := [1, 3, 0, 2]

/-- **A concrete 3-iteration run where both sides are computed and agree.**  The list-level run
(`lRun`, a reachable state by `lRun_reach`) and the concrete run (`cRun`) on the values `1, 3, 0, 2`:
the hypotheses of `C06_links_refine` hold, its conclusion is instantiated, and the computed data of
the two sides are displayed. -/
theorem ex_run_agrees : ∃ (s : State ℚ) (log : List (List ℚ × ℚ)) (c : CState ℚ),
    Reach exP s log ∧ log.map (·.2) = exZs ∧
    cRun exP exZs = some c ∧ SD.WF c.sd ∧ absState c = s ∧
    s.items.map (fun it => (it.id, it.x, it.R)) =
      [(0, 0, none), (3, 1 / 4, some (-1 / 4)), (2, 1 / 2, some (-3 / 16)), (4, 3 / 4, some (9 / 64)),
       (5, 7 / 8, some (1 / 32)), (1, 1, some 0)] ∧
    s.queue = [(some (9 / 64), 4), (some (1 / 32), 5), (some 0, 1), (some (-3 / 16), 2),
               (some (-1 / 4), 3), (none, 0)] ∧
    SD.traversal c.sd = [0, 3, 2, 4, 5, 1] ∧
    c.sd.gq = [(some (9 / 64), 4), (some (1 / 32), 5), (some 0, 1), (some (-3 / 16), 2),
               (some (-1 / 4), 3), (none, 0)] ∧
    c.sd.first = some 0 ∧ c.sd.maxlen = none ∧
    c.sd.trials.toList.map (fun it => (it.x, it.left, it.right, it.globalR)) =
      [(0, none, some 3, none), (1, some 5, none, some 0), (1 / 2, some 3, some 4, some (-3 / 16)),
       (1 / 4, some 0, some 2, some (-1 / 4)), (3 / 4, some 2, some 5, some (9 / 64)),
       (7 / 8, some 4, some 1, some (1 / 32))] := by
  refine runs_agree_of (fun _ _ => inferInstance) ?_
  decide +kernel

/-- the hypotheses of `C19_pop_max_keyLe` hold for the container of this run -/
example : ∃ c : CState ℚ, cRun exP exZs = some c ∧ SD.WF c.sd ∧ QSorted c.sd.gq ∧ c.sd.maxlen ≠ some 0 := by
  obtain ⟨s, log, c, -, -, hc, hwf, -, -, -, -, hgq, -, hm, -⟩ := ex_run_agrees
  refine ⟨c, hc, hwf, ?_, by rw [hm]; simp⟩
  rw [hgq]
  unfold QSorted
  decide +kernel

/-- the selection step on the same run, both sides computed: after the recalculation
`GetDataItemWithMaxGlobalR` pops `(49/256, 4)` and `prepare` selects the item with id 4 and
characteristic `49/256`; its `left` pointer is 2, the id of the neighbour `prepare` finds in the list;
the remaining queues are equal (the instance of `C06_pop_agrees`, whose hypothesis `FnsLaws` is not
available over ℚ, checked by computation). -/
example : (match lRun exP exZs, cRun exP exZs with
    | some (s, _), some c =>
      (match prepare exP s, SD.popMaxGlobal keyLe (cRecalcAll exP c).sd with
       | .ok pr, .ok (sd', i, k) =>
         decide (i = 4) && decide (pr.old.id = 4) && decide (k = some (49 / 256)) &&
         decide (pr.old.R = some (49 / 256)) && decide (pr.left.id = 2) &&
         decide (sd'.trials[i]?.bind (·.left) = some 2) && decide (sd'.gq = pr.s.queue) &&
         decide (sd'.gq = [(some (1 / 8), 3), (some (1 / 32), 5), (some (1 / 64), 2), (some 0, 1), (none, 0)])
       | _, _ => false)
    | _, _ => false) = true := by decide +kernel

end LinksExample
end NonVacuityRat

section NonVacuityReal
attribute [local instance] Fns.real

/-- the hypotheses of `C06_pop_agrees` / `C06_insert_ok` / `C06_links` are satisfiable: a reachable
state after five trials over ℝ (`N = 2`, `r = 3`) on which `prepare` succeeds -/
example : ∃ (p : Params ℝ) (s : State ℝ) (log : List (List ℝ × ℝ)) (pr : Prep ℝ),
    FnsLaws ℝ ∧ 1 < p.r ∧ 0 < p.n ∧ Reach p s log ∧ log.length = 5 ∧ prepare p s = .ok pr := by
  let p : Params ℝ := { n := 2, r := 3, eps := 1 / 100, itersLimit := 100, image := fun x => [x, 1 - x] }
  have hr : (1 : ℝ) < p.r := by norm_num [p]
  have hn : 0 < p.n := by norm_num [p]
  obtain ⟨s, log, hre, hlog⟩ := exists_reach (p := p) FnsLaws.real hr hn (fun k => (k : ℝ) ^ 2 - 3 * k) 4
  obtain ⟨pr, hp, _⟩ := prepare_spec FnsLaws.real hr hn (hre.inv FnsLaws.real hr hn)
  refine ⟨p, s, log, pr, FnsLaws.real, hr, hn, hre, ?_, hp⟩
  have := congrArg List.length hlog
  simpa using this

end NonVacuityReal

end AGP

import IOptProofs.ConsoleInterp
import IOptProofs.ReportInterp
/-!
# C13 (console clause) — the console listener's reports show the fields of the solution it is handed

"… and the console listener's final report shows the solution's actual trial counts, point, value and accuracy."

`IOptGen/ConsoleSrc.lean` is regenerated on every run from the SOURCE TEXT of `iOpt/method/listener.py` and
`iOpt/output_system/console/console_output.py`.  `IOptProofs/ConsoleInterpDefs.lean` gives the generated statement trees and `print`
lists a semantics with SYMBOLIC values: the arguments of a callback are opaque objects, a printed datum is a `FieldRef` (WHICH field of
WHICH argument), a printed line is `Line.field label what fmt`; `entries` drops decoration (rules, headings) and formats;
`shownEntries a` reads the references against the data `a : Args V P` handed to the callback (`a.solution : SolutionView V P`,
`a.status`, point and value of `savedNewPoints[0]`).  `genProg` is the program made of the generated trees.

What is proved is which field is shown under which label and in which order, by which callback, on which call.  NOT modelled:
Python's `str.format` rendering (padding, `.8f` rounding, `str(list)`), the layout arithmetic (`dim`, `width=`, `end=`), `sys.stdout`.
The strings interpreted (trusted base) are the tables of `ConsoleInterpDefs.lean`.

The listener's object state: `Started mode n k h` says that in the attribute store `h` the listener has mode `mode`, period
`iters = n`, and a `FunctionConsoleFullOutput` with a `ConsoleOutputer` whose counter `self.iterNum` is `k`; this is what
`BeforeMethodStart` leaves with `k = 1` (`beforeMethodStart_run`) and what every `OnEndIteration` preserves, incrementing `k`.

Remarks on the Python code (the first two are `stuck` examples in `IOptProofs/ConsoleInterp.lean`):
* a console listener attached after the first iteration is never told `BeforeMethodStart`; `self.__fcfo` stays `None` and
  `OnMethodStop` raises `AttributeError` out of `Solve` - hence the hypothesis `Started`;
* mode `'custom'` with `iters = 0` raises `ZeroDivisionError` in the first `OnEndIteration`; inside `Solve` it is swallowed by
  `except BaseException` ("Exception was thrown") and the search ends after one trial - hence the hypothesis `n ≠ 0`;
* the counter `self.iterNum` counts NOTIFICATIONS (calls of `DoGlobalIteration`), not trials, and mode `'full'` shows only
  `savedNewPoints[0]`: after `DoGlobalIteration(3)` one line, numbered 1, with the first of the three new trials;
* the opaque argument `savedNewPoints` always has an element `0` here; `DoGlobalIteration(0)` hands over the empty list and mode
  `'full'` then raises `IndexError` (DESIGN.md §0): `C13_full_iteration_line` speaks of calls that made at least one trial;
* the `status` argument reaches `printResult` (parameter `solved`) but the line showing it is commented out in the source.
-/

namespace C13
open ConsoleInterp

def finalFields : List (String × FieldRef) :=
  [("global iteration count: ", .nGlobal), ("local iteration count: ", .nLocal), ("solving time: ", .time),
   ("solution point: ", .point), ("solution value: ", .value), ("accuracy: ", .accuracy)]

/-- the (label, field) pairs of the best-point block of mode `'custom'` printed when the counter is `k` -/
def bestFields (k : Nat) : List (String × FieldRef) :=
  [("current iteration # ", .num k), ("global iteration count: ", .nGlobal), ("local iteration count: ", .nLocal),
   ("current best point: ", .point), ("current best value: ", .value), ("currant accuracy: ", .accuracy)]

/-- **C13, the final report shows the solution handed over.**  On a listener that has been told `BeforeMethodStart` (any mode, any
period, any counter, anything printed before), `OnMethodStop(searchData, solution, status)` - the generated trees of
`ConsoleFullOutputListener.OnMethodStop`, `FunctionConsoleFullOutput.printFinalResult` and the `print` list of
`ConsoleOutputer.printResult` - appends to the output a block `report` and changes nothing else; the block consists of decoration
lines and, in this order, the six labelled lines of `finalFields`, each field read from the `solution` ARGUMENT of the callback
(the block does not depend on the object state, so not on any earlier solution); read against the data handed over, it shows
`s.nGlobal`, `s.nLocal`, `s.time`, `s.point`, `s.value`, `s.accuracy` of that solution `s = a.solution`.  (The `status` argument is
passed down to `printResult` but not printed.) -/
theorem C13_final_report_fields {V P : Type} {mode : String} {n k : Nat} (st : St) (hS : Started mode n k st.heap)
    (a : Args V P) :
    onMethodStop genProg st = some { st with out := st.out ++ finalReport } ∧
    entries finalReport = finalFields ∧
    shownEntries a finalReport =
      [("global iteration count: ", .nat a.solution.nGlobal), ("local iteration count: ", .nat a.solution.nLocal),
       ("solving time: ", .val a.solution.time), ("solution point: ", .pt a.solution.point),
       ("solution value: ", .val a.solution.value), ("accuracy: ", .val a.solution.accuracy)] :=
  ⟨onMethodStop_started st hS, entries_finalReport, shown_finalReport a⟩

/-- the state of `C13_final_report_fields` is reached by every life of a listener: constructed in any mode (for `'custom'` with a
period `≠ 0`), told `BeforeMethodStart`, then any number `j` of `OnEndIteration`: the final report follows, whatever was printed -/
theorem C13_final_report_after_run (mode : String) (n j : Nat) (hn : mode = "custom" → n ≠ 0) :
    ∃ st0 st1 st2, newListener genProg mode n = some st0 ∧ beforeMethodStart genProg st0 = some st1 ∧
      onEndIterations genProg j st1 = some st2 ∧
      onMethodStop genProg st2 = some { st2 with out := st2.out ++ finalReport } := by
  have hS := started_startedHeap mode n 1
  have key : ∃ st2, onEndIterations genProg j { heap := startedHeap mode n 1, out := [] ++ initReport } = some st2 ∧
      onMethodStop genProg st2 = some { st2 with out := st2.out ++ finalReport } := by
    by_cases hc : mode = "custom"
    · subst hc
      obtain ⟨st2, h2, hS2, -⟩ := onEndIterations_custom (hn rfl) 1 { heap := startedHeap "custom" n 1, out := [] ++ initReport } hS j
      exact ⟨st2, h2, onMethodStop_started st2 hS2⟩
    · by_cases hf : mode = "full"
      · subst hf
        obtain ⟨st2, h2, hS2, -⟩ := onEndIterations_full 1 { heap := startedHeap "full" n 1, out := [] ++ initReport } hS j
        exact ⟨st2, h2, onMethodStop_started st2 hS2⟩
      · exact ⟨_, onEndIterations_other hf hc { heap := startedHeap mode n 1, out := [] ++ initReport } hS j,
          onMethodStop_started _ hS⟩
  obtain ⟨st2, h2, h3⟩ := key
  exact ⟨_, _, st2, newListener_run mode n, beforeMethodStart_run mode n [], h2, h3⟩

/-- non-vacuity: a started listener, and a whole life in mode `'custom'` -/
example : Started "result" 100 1 (startedHeap "result" 100 1) := started_startedHeap _ _ _
example := C13_final_report_after_run "custom" 3 10 (fun _ => by decide)

/-- **C13, mode `'custom'`: every `iters`-th notification prints the best-point block, numbered by the call.**  A listener
constructed with mode `'custom'` and period `n ≠ 0` and told `BeforeMethodStart`: the `k`-th `OnEndIteration(savedNewPoints, solution)`
(`k ≥ 1`; the first `k - 1` are run before) appends a block that is empty unless `n ∣ k`, and for `n ∣ k` consists of the labelled
lines of `bestFields k` and one rule: "current iteration # " is `k`, the other five fields are read from the `solution` ARGUMENT of
THIS call.  (The label of the accuracy line is spelled "currant accuracy: " in the source.) -/
theorem C13_custom_report_fields {V P : Type} (n : Nat) (hn : n ≠ 0) (k : Nat) (hk : 1 ≤ k) (a : Args V P) :
    ∃ st0 st1 st2 block,
      (newListener genProg "custom" n).bind (beforeMethodStart genProg) = some st0 ∧
      onEndIterations genProg (k - 1) st0 = some st1 ∧
      onEndIteration genProg st1 = some st2 ∧
      st2.out = st1.out ++ block ∧
      (¬ n ∣ k → block = []) ∧
      (n ∣ k → entries block = bestFields k ∧
        shownEntries a block =
          [("current iteration # ", .nat k), ("global iteration count: ", .nat a.solution.nGlobal),
           ("local iteration count: ", .nat a.solution.nLocal), ("current best point: ", .pt a.solution.point),
           ("current best value: ", .val a.solution.value), ("currant accuracy: ", .val a.solution.accuracy)]) := by
  obtain ⟨st1, h1, hS1, -⟩ :=
    onEndIterations_custom hn 1 { heap := startedHeap "custom" n 1, out := initReport } (started_startedHeap _ _ _) (k - 1)
  have hk1 : 1 + (k - 1) = k := by omega
  rw [hk1] at hS1
  refine ⟨_, st1, _, customOut n k, start_run "custom" n, h1, onEndIteration_custom hn st1 hS1, rfl, ?_, ?_⟩
  · intro hd
    have : ¬ k % n = 0 := fun h => hd (Nat.dvd_of_mod_eq_zero h)
    simp only [customOut, this, ↓reduceIte]
  · intro hd
    simp only [customOut, Nat.mod_eq_zero_of_dvd hd, ↓reduceIte]
    exact ⟨entries_bestLines k, shown_bestLines a k⟩

/-- non-vacuity: period 2, the 4th notification -/
example := C13_custom_report_fields (V := Nat) (P := Nat) 2 (by decide) 4 (by decide)
  { solution := { nGlobal := 7, nLocal := 0, time := 1, accuracy := 2, value := 3, point := 4 }, status := true,
    newPoint := 5, newValue := 6 }

/-- **C13, mode `'full'`: one line per notification.**  A listener constructed with mode `'full'` and told `BeforeMethodStart`: the
`k`-th `OnEndIteration(savedNewPoints, solution)` appends the pieces of one line: the number `k`, then the value and the point of
`savedNewPoints[0]` (the FIRST of the new trials of the call). -/
theorem C13_full_iteration_line {V P : Type} (n : Nat) (k : Nat) (hk : 1 ≤ k) (a : Args V P) :
    ∃ st0 st1 st2 block,
      (newListener genProg "full" n).bind (beforeMethodStart genProg) = some st0 ∧
      onEndIterations genProg (k - 1) st0 = some st1 ∧
      onEndIteration genProg st1 = some st2 ∧
      st2.out = st1.out ++ block ∧
      entries block = [("", .num k), ("", .newValue), ("", .newPoint)] ∧
      shownEntries a block = [("", .nat k), ("", .val a.newValue), ("", .pt a.newPoint)] := by
  obtain ⟨st1, h1, hS1, -⟩ :=
    onEndIterations_full 1 { heap := startedHeap "full" n 1, out := initReport } (started_startedHeap _ _ _) (k - 1)
  have hk1 : 1 + (k - 1) = k := by omega
  rw [hk1] at hS1
  exact ⟨_, st1, _, iterLines .newPoint .newValue (.num k), start_run "full" n, h1, onEndIteration_full st1 hS1, rfl,
    entries_iterLines k, shown_iterLines a k⟩

example := C13_full_iteration_line (V := Nat) (P := Nat) 100 3 (by decide)
  { solution := { nGlobal := 7, nLocal := 0, time := 1, accuracy := 2, value := 3, point := 4 }, status := true,
    newPoint := 5, newValue := 6 }

/-- **C13, modes other than `'full'` and `'custom'`** (`'result'` in particular): `OnEndIteration` prints nothing and changes nothing -/
theorem C13_result_mode_silent {mode : String} {n k : Nat} (hf : mode ≠ "full") (hc : mode ≠ "custom") (st : St)
    (hS : Started mode n k st.heap) : onEndIteration genProg st = some st :=
  onEndIteration_other hf hc st hS

example := C13_result_mode_silent (mode := "result") (by decide) (by decide) { heap := startedHeap "result" 100 1 }
  (started_startedHeap "result" 100 1)

section reported
open AGP Proc
variable {α : Type} [Add α] [Sub α] [Mul α] [Div α] [Neg α] [LT α] [LE α]
  [DecidableLT α] [DecidableLE α] [OfNat α 0] [OfNat α 1] [OfNat α 2] [OfNat α 4] [Fns α]

/-- the call site of the final notification in the generated tree of `Process.Solve` -/
def stopSite : String × List String := ("listener.OnMethodStop", ["self.searchData", "self.GetResults()", "status"])

/-- the call site of the per-call notification in the generated tree of `Process.DoGlobalIteration` -/
def endSite : String × List String := ("listener.OnEndIteration", ["savedNewPoints", "self.GetResults()"])

/-- what THE `Solution` object shows when the method state is `s`, `numberOfLocalTrials` is `ps.nLocal`, the trial `it` is stored in
the slot `bestTrials[0]` and `solvingTime` holds `time` (not part of the model): the reading of the model's fields documented in
`IOptModel/Method.lean` / `Process.lean` (`nTrials` = `numberOfGlobalTrials`, `minDelta` = `solutionAccuracy` with `none` = `inf`,
`hv` = the content of the value holder `functionValues[0].value`) -/
def solutionView (ps : PState α) (s : State α) (it : Item α) (time : Option α) : SolutionView (Option α) (List α) :=
  { nGlobal := s.nTrials, nLocal := ps.nLocal, time := time, accuracy := s.minDelta, value := some it.hv, point := it.point }

/-- **C13, the solution reported on the console is the reported trial.**  Composition with the ties of `process.py`
(`IOptProofs/ProcInterp.lean`, `ReportInterp.lean`).  What is PROVED:

(a) in the generated trees of `process.py` the notifications are issued exactly at `stopSite` (the only one in `Solve`) and at
    `listener.BeforeMethodStart(self.method)`, `endSite` (the only ones in `DoGlobalIteration`); at both `stopSite` and `endSite` the
    expression bound (positionally) to the parameter `solution` of the callback is `self.GetResults()`;
(b) that expression, interpreted through the generated tree of `Process.GetResults` (`ReportInterp.getResults_src`) in any state
    `ps` after the first iteration whose stored ids resolve and whose slot `bestTrials[0]` holds `Method.best` or the reported
    trial, returns THE `Solution` object with the slot on `Proc.reportedId ps s`, the model state unchanged; that trial `it` is stored;
(c) the notification issued at `stopSite` on a started console listener prints `finalReport`, which - read against the view
    `solutionView ps s it time` of that object - shows `s.nTrials`, `ps.nLocal`, the time, `it.point`, `it.hv`, `s.minDelta`:
    trial counts, point, value holder and accuracy of the model's reported trial.

What is DEFINITION, not theorem: that the opaque value `Val.solution` handed to the callback stands for the object returned by the
argument expression (`ConsoleInterp.siteArgs` maps `"self.GetResults()"` to it), and the reading `solutionView` of that object's
fields from the model state. -/
theorem C13_report_is_reported_trial (c : ReportInterp.Ctx α) (depth : Nat) (ints : List (String × Int)) (ps : PState α)
    (s : State α) (slot : Nat) (hm : ps.m = some s) (hres : ReportInterp.Resolved ps s)
    (hslot : slot = s.best ∨ slot = reportedId ps s)
    {mode : String} {n k : Nat} (st : St) (hS : Started mode n k st.heap) (time : Option α) (status : Bool)
    (np : List α) (nv : Option α) :
    (sitesList Gen.ProcSrc.solve = [stopSite] ∧
      sitesList Gen.ProcSrc.doGlobalIteration = [("listener.BeforeMethodStart", ["self.method"]), endSite] ∧
      siteArgFor stopSite "solution" = some "self.GetResults()" ∧ siteArgFor endSite "solution" = some "self.GetResults()") ∧
    ReportInterp.run c depth Gen.ProcSrc.getResults ints ⟨ps, slot⟩ = .done ⟨ps, reportedId ps s⟩ (some .solution) ∧
    ∃ it, findItem s.items (reportedId ps s) = some it ∧
      notify genProg stopSite st = some { st with out := st.out ++ finalReport } ∧
      shownEntries { solution := solutionView ps s it time, status := status, newPoint := np, newValue := nv } finalReport =
        [("global iteration count: ", .nat s.nTrials), ("local iteration count: ", .nat ps.nLocal),
         ("solving time: ", .val time), ("solution point: ", .pt it.point),
         ("solution value: ", .val (some it.hv)), ("accuracy: ", .val s.minDelta)] := by
  refine ⟨⟨sites_solve, sites_doGlobalIteration, site_solution_arg.1, site_solution_arg.2⟩,
    ReportInterp.getResults_src c depth ints ps s slot hm hres hslot, ?_⟩
  obtain ⟨it, hit⟩ := Option.isSome_iff_exists.1 hres.reported
  exact ⟨it, hit, (notify_stop st).trans (onMethodStop_started st hS), rfl⟩

/-- the same for the best-point block of mode `'custom'`: the notification issued at `endSite` when the counter `k` is a multiple
of the period shows, besides `k`, the data of the reported trial of the state in which `self.GetResults()` is evaluated -/
theorem C13_custom_is_reported_trial (c : ReportInterp.Ctx α) (depth : Nat) (ints : List (String × Int)) (ps : PState α)
    (s : State α) (slot : Nat) (hm : ps.m = some s) (hres : ReportInterp.Resolved ps s)
    (hslot : slot = s.best ∨ slot = reportedId ps s)
    {n k : Nat} (hn : n ≠ 0) (hd : n ∣ k) (st : St) (hS : Started "custom" n k st.heap) (time : Option α) (status : Bool)
    (np : List α) (nv : Option α) :
    ReportInterp.run c depth Gen.ProcSrc.getResults ints ⟨ps, slot⟩ = .done ⟨ps, reportedId ps s⟩ (some .solution) ∧
    ∃ it block st', findItem s.items (reportedId ps s) = some it ∧
      notify genProg endSite st = some st' ∧ st'.out = st.out ++ block ∧
      shownEntries { solution := solutionView ps s it time, status := status, newPoint := np, newValue := nv } block =
        [("current iteration # ", .nat k), ("global iteration count: ", .nat s.nTrials),
         ("local iteration count: ", .nat ps.nLocal), ("current best point: ", .pt it.point),
         ("current best value: ", .val (some it.hv)), ("currant accuracy: ", .val s.minDelta)] := by
  refine ⟨ReportInterp.getResults_src c depth ints ps s slot hm hres hslot, ?_⟩
  obtain ⟨it, hit⟩ := Option.isSome_iff_exists.1 hres.reported
  refine ⟨it, customOut n k, _, hit, (notify_end st).trans (onEndIteration_custom hn st hS), rfl, ?_⟩
  simp only [customOut, Nat.mod_eq_zero_of_dvd hd, ↓reduceIte]
  rfl

end reported

/-- **C13, the same on every reachable state.**  After any sequence of `DoGlobalIteration(k)` / `Solve` calls on a fresh solver (over an ordered
field; objective never raises, a refinement returns a value not above the value holder of the trial it starts from, `Proc.RefineLe`) that has made the first iteration, with the slot as
`UpdateOptimum` or a previous `GetResults()` left it: `self.GetResults()` at the call site returns the solution with the slot on
the model's reported trial, and the final report of a started console listener shows that trial's data. -/
theorem C13_report_is_reported_trial_reachable {α : Type} [Field α] [LinearOrder α] [IsStrictOrderedRing α] [Fns α]
    (p : AGP.Params α) (f : Nat → List α → Option α) (refine : Proc.PState α → Option (Proc.LocalResult α))
    (hL : FnsLaws α) (hr : 1 < p.r) (hn : 0 < p.n) (htot : ∀ k pt, f k pt ≠ none) (href : Proc.RefineLe refine)
    (ops : List Proc.Op) (s : AGP.State α) (hm : (Proc.runOps p f refine ops {}).m = some s)
    (c : ReportInterp.Ctx α) (depth : Nat) (ints : List (String × Int)) (slot : Nat)
    (hslot : slot = s.best ∨ slot = Proc.reportedId (Proc.runOps p f refine ops {}) s)
    {mode : String} {n k : Nat} (st : St) (hS : Started mode n k st.heap) (time : Option α) (status : Bool)
    (np : List α) (nv : Option α) :
    ReportInterp.run c depth Gen.ProcSrc.getResults ints ⟨Proc.runOps p f refine ops {}, slot⟩ =
      .done ⟨Proc.runOps p f refine ops {}, Proc.reportedId (Proc.runOps p f refine ops {}) s⟩ (some .solution) ∧
    ∃ it, AGP.findItem s.items (Proc.reportedId (Proc.runOps p f refine ops {}) s) = some it ∧
      notify genProg stopSite st = some { st with out := st.out ++ finalReport } ∧
      shownEntries { solution := solutionView (Proc.runOps p f refine ops {}) s it time, status := status,
                     newPoint := np, newValue := nv } finalReport =
        [("global iteration count: ", .nat s.nTrials),
         ("local iteration count: ", .nat (Proc.runOps p f refine ops {}).nLocal),
         ("solving time: ", .val time), ("solution point: ", .pt it.point),
         ("solution value: ", .val (some it.hv)), ("accuracy: ", .val s.minDelta)] :=
  (C13_report_is_reported_trial c depth ints _ s slot hm
    (ReportInterp.resolved_reachable p f refine hL hr hn htot href ops s hm) hslot st hS time status np nv).2

section
attribute [local instance] Fns.real

/-- non-vacuity of the hypotheses of `C13_report_is_reported_trial_reachable` (over `ℝ`: `N = 1`, `r = 2`, the zero objective, no
refinement, one `DoGlobalIteration(1)`) -/
example : ∃ (p : AGP.Params ℝ) (f : Nat → List ℝ → Option ℝ) (s : AGP.State ℝ),
    (Proc.runOps p f (fun _ => none) [.iter 1] {}).m = some s ∧ FnsLaws ℝ ∧ 1 < p.r ∧ 0 < p.n ∧
    (∀ k pt, f k pt ≠ none) ∧ Proc.RefineLe (fun _ : Proc.PState ℝ => none) :=
  ⟨{ n := 1, r := 2, eps := 1/100, itersLimit := 5, image := fun x => [x] }, fun _ _ => some 0, _, rfl, FnsLaws.real,
    by norm_num, by norm_num, fun _ _ => by simp, fun _ _ _ _ h => by cases h⟩
end

open ProcToy in
/-- non-vacuity (`ProcToy` over `ℚ`, the state of `ReportInterp.Examples`: `Solve` with refinement, then three more iterations;
`Method.best` is trial 9, the reported trial is the refined trial 6): the hypotheses hold -/
example := C13_report_is_reported_trial ReportInterp.Examples.C 0 [] ReportInterp.Examples.PS1 ReportInterp.Examples.S1 9
  ReportInterp.Examples.hm1 ReportInterp.Examples.res1 (.inl (by decide +kernel))
  { heap := startedHeap "result" 100 1 } (started_startedHeap "result" 100 1) none true [] none

open ProcToy in
example := C13_custom_is_reported_trial ReportInterp.Examples.C 0 [] ReportInterp.Examples.PS1 ReportInterp.Examples.S1 9
  ReportInterp.Examples.hm1 ReportInterp.Examples.res1 (.inl (by decide +kernel)) (n := 2) (k := 4) (by decide) (by decide)
  { heap := startedHeap "custom" 2 4 } (started_startedHeap "custom" 2 4) none true [] none

end C13

import IOptProofs.S3SoundFeas
/-!
# C10 for StronginC3: the declared optimum is the constrained global minimum (within the C10 tolerances)

"the objective at the declared optimum point equals the declared optimum value within 1e-4, no point of the
[feasible set] has a value lower than the declared one by more than 2e-3*max(1,|f*|), and the declared point lies
within 0.5% of the box side of a true global minimiser" — box `[0,4] × [-1,3]`, side 4, 0.5 % = 0.02.

**What the functions are.**  `S3.f`, `S3.g0`, `S3.g1`, `S3.g2 : ℝ → ℝ → ℝ` are `Gen.S3.objective`,
`Gen.S3.constraint0..2` — generated on every run from the Python SOURCE TEXT of `StronginC3.Calculate`
(`IOptGen/StronginC3Src.lean`) — instantiated at `ℝ` with `MathFns ℝ` (`Real.exp`, `Real.sin`, `pow = Real.rpow`) and
`lit k :=` the exact real value of the k-th double literal (`S3.litR`, e.g. `2.2` is `2476979795053773/2^50`).
The declared point `p`, value `v` and the box are read from the metadata row of family code 7
(`S3.metaRow`, the last row of `Gen.metaRowsPacked`, and the only row of that family).

**Results.**  (numeric scan: true constrained minimum ≈ -1.489679 at ≈ (0.94245, 0.94515), only `g1` active there)
* `C10_strongin_value` (V): `|f p − v| ≤ 1e-4` (actual difference 4.4e-7);
* `C10_strongin_global` (G): `v − 2e-3·max(1,|v|) ≤ f x` for every feasible `x` (margin 2.7e-3);
* `C10_strongin_location` (P): a feasible global minimiser exists, and EVERY feasible global minimiser `y` has
  `|y1 − p1| ≤ 0.008`, `|y2 − p2| ≤ 0.018`, hence Euclidean distance `< 0.02` from `p`;
* `C10_strongin_declared_feasible`: the declared point is itself feasible (`g1(p) ≈ −4.7e-5`: just inside), but it is NOT a
  global minimiser (`C10_strongin_declared_not_minimiser`: a feasible point with a smaller value exists; the true
  minimum is ≈ 2.35e-4 below the declared value).
* (G) and (P) use only the constraint `g1` (they hold on the superset `{x ∈ box : g1 x ≤ 0}`): `…_g1only`.

Route: kernel-evaluated interval branch-and-bound on dyadic boxes over `Nat` fixed point
(`IOptProofs/S3Defs.lean`, ~1200 boxes per clause, `decide +kernel` in `IOptProofs/S3Cert.lean`), sound over ℝ
(`IOptProofs/S3Sound*.lean`).
-/

namespace C10
open S3

/-- the flag written by the source translator: `true` iff it could follow all four cases of
`StronginC3.Calculate`; in Lean this is `true = true`, the content is in the generator -/
theorem C10_strongin_translated : Gen.S3.translated = true := by decide

theorem C10_strongin_lits : Gen.S3.objectiveLits.length = 9 ∧ Gen.S3.constraint0Lits.length = 6 ∧
    Gen.S3.constraint1Lits.length = 8 ∧ Gen.S3.constraint2Lits.length = 5 := lits_lengths

/-- `S3.f`, `S3.g0..2` ARE the generated expression trees at `ℝ` (instance `instMathFnsReal`), with every float
literal replaced by the exact real value of its double (`S3.litR L k = dyR (Dy.ofBits (L.getD k 0))`) -/
theorem C10_strongin_model :
    f = Gen.S3.objective (α := ℝ) (litR Gen.S3.objectiveLits) ∧
    g0 = Gen.S3.constraint0 (α := ℝ) (litR Gen.S3.constraint0Lits) ∧
    g1 = Gen.S3.constraint1 (α := ℝ) (litR Gen.S3.constraint1Lits) ∧
    g2 = Gen.S3.constraint2 (α := ℝ) (litR Gen.S3.constraint2Lits) ∧
    (∀ L k, litR L k = dyR (Dy.ofBits (L.getD k 0))) := ⟨rfl, rfl, rfl, rfl, fun _ _ => rfl⟩

/-- the closed forms of the four functions over ℝ (exact constants: `c001, c22, c12, c6283` are the real values of
the doubles `0.01, 2.2, 1.2, 6.283`; all other literals are dyadic and exact) -/
theorem C10_strongin_forms (x1 x2 : ℝ) :
    f x1 x2 = -(3 / 2 * x1 ^ 2 * Real.exp (1 - x1 ^ 2 - 81 / 4 * (x1 - x2) ^ 2)
      + ((x1 - 1) / 2) ^ 4 * (x2 - 1) ^ 4 * Real.exp (2 - ((x1 - 1) / 2) ^ 4 - (x2 - 1) ^ 4)) ∧
    g0 x1 x2 = c001 * ((x1 - c22) ^ 2 + (x2 - c12) ^ 2 - 9 / 4) ∧
    g1 x1 x2 = 100 * (1 - ((x1 - 2) / c12) ^ 2 - (x2 / 2) ^ 2) ∧
    g2 x1 x2 = 10 * (x2 - 3 / 2 - 3 / 2 * Real.sin (c6283 * (x1 - 7 / 4))) :=
  ⟨by rw [f_eq]; rfl, g0_eq x1 x2, g1_eq x1 x2, g2_eq x1 x2⟩

noncomputable def s3P (i : Nat) : ℝ := (metaRow.optPoint.map dyR).getD i 0
noncomputable def s3V : ℝ := dyR metaRow.optValue
noncomputable def s3Lo (i : Nat) : ℝ := (metaRow.lower.map dyR).getD i 0
noncomputable def s3Hi (i : Nat) : ℝ := (metaRow.upper.map dyR).getD i 0

def S3Feasible (x1 x2 : ℝ) : Prop :=
  s3Lo 0 ≤ x1 ∧ x1 ≤ s3Hi 0 ∧ s3Lo 1 ≤ x2 ∧ x2 ≤ s3Hi 1 ∧ g0 x1 x2 ≤ 0 ∧ g1 x1 x2 ≤ 0 ∧ g2 x1 x2 ≤ 0

theorem s3P_eq : s3P 0 = pR ∧ s3P 1 = pR := by
  obtain ⟨_, _, _, _, _, _, _, _, h9, _⟩ := metaRow_spec
  constructor
  · simp only [s3P, h9, List.map_cons, List.getD_cons_zero]; rfl
  · simp only [s3P, h9, List.map_cons, List.getD_cons_succ, List.getD_cons_zero]; rfl

theorem s3V_eq : s3V = vR := by
  obtain ⟨_, _, _, _, _, _, _, _, _, h10⟩ := metaRow_spec
  simp only [s3V, h10]; rfl

theorem s3Box : s3Lo 0 = 0 ∧ s3Hi 0 = 4 ∧ s3Lo 1 = -1 ∧ s3Hi 1 = 3 := by
  obtain ⟨_, _, _, _, _, _, h7, h8, _⟩ := metaRow_spec
  simp [s3Lo, s3Hi, h7, h8, dy0_val, dy4_val, dyM1_val, dy3_val]

/-- **The metadata row of StronginC3**: it is the last row of the table and the only one of family code 7; it
declares dimension 2, one objective, three constraints, one optimum; the box is `[0,4] × [-1,3]`; the declared
point is `(p, p)` with `p` the double `0.941176`, the declared value is the double `-1.489444`. -/
theorem C10_strongin_declared :
    metaRow = Gen.metaDecode Gen.metaRowsPacked.back! ∧
    (∀ row ∈ Gen.metaRowsPacked.toList, (Gen.metaDecode row).family = 7 → row = Gen.metaRowsPacked.back!) ∧
    metaRow.family = 7 ∧ metaRow.dimension = 2 ∧ metaRow.nObjectives = 1 ∧ metaRow.nConstraints = 3 ∧
    metaRow.nOptima = 1 ∧
    s3Lo 0 = 0 ∧ s3Hi 0 = 4 ∧ s3Lo 1 = -1 ∧ s3Hi 1 = 3 ∧
    s3P 0 = 8477359765780108 / 2 ^ 53 ∧ s3P 1 = 8477359765780108 / 2 ^ 53 ∧
    s3V = -6707859443389221 / 2 ^ 52 := by
  obtain ⟨h1, h2, _, h4, h5, h6, _⟩ := metaRow_spec
  obtain ⟨b1, b2, b3, b4⟩ := s3Box
  exact ⟨rfl, family7_unique, h1, h2, h4, h5, h6, b1, b2, b3, b4, s3P_eq.1.trans pR_eq, s3P_eq.2.trans pR_eq,
    s3V_eq.trans vR_eq⟩

theorem s3Feasible_eq : S3Feasible = Feasible := by
  obtain ⟨h8, h9, h10, h11⟩ := s3Box
  unfold S3Feasible Feasible
  rw [h8, h9, h10, h11]

/-- **C10 (V), StronginC3.** The objective at the declared optimum point equals the declared optimum value
within `1e-4`. -/
theorem C10_strongin_value : |f (s3P 0) (s3P 1) - s3V| ≤ 1e-4 := by
  rw [s3P_eq.1, s3P_eq.2, s3V_eq]
  exact clauseV

/-- (G) on the superset of the feasible set given by the box and the constraint `g1` alone -/
theorem C10_strongin_global_g1only (x1 x2 : ℝ) (h1 : s3Lo 0 ≤ x1) (h2 : x1 ≤ s3Hi 0) (h3 : s3Lo 1 ≤ x2)
    (h4 : x2 ≤ s3Hi 1) (hg : g1 x1 x2 ≤ 0) : s3V - 2e-3 * max 1 |s3V| ≤ f x1 x2 := by
  obtain ⟨h8, h9, h10, h11⟩ := s3Box
  rw [h8] at h1; rw [h9] at h2; rw [h10] at h3; rw [h11] at h4
  rw [s3V_eq]
  exact clauseG x1 x2 h1 h2 h3 h4 hg

/-- **C10 (G), StronginC3.** No feasible point (declared box, `g0 ≤ 0`, `g1 ≤ 0`, `g2 ≤ 0`) has a value lower than
the declared one by more than `2e-3·max(1,|v|)`. -/
theorem C10_strongin_global (x1 x2 : ℝ) (h : S3Feasible x1 x2) : s3V - 2e-3 * max 1 |s3V| ≤ f x1 x2 :=
  C10_strongin_global_g1only x1 x2 h.1 h.2.1 h.2.2.1 h.2.2.2.1 h.2.2.2.2.2.1

/-- (P) on the superset: every point of the box with `g1 ≤ 0` whose value does not exceed that of the feasible
witness `w = (S3.w1, S3.w2)` lies within `0.008` / `0.018` (per coordinate) of the declared point -/
theorem C10_strongin_location_g1only (x1 x2 : ℝ) (h1 : s3Lo 0 ≤ x1) (h2 : x1 ≤ s3Hi 0) (h3 : s3Lo 1 ≤ x2)
    (h4 : x2 ≤ s3Hi 1) (hg : g1 x1 x2 ≤ 0) (hle : f x1 x2 ≤ f w1 w2) :
    |x1 - s3P 0| ≤ 0.008 ∧ |x2 - s3P 1| ≤ 0.018 := by
  obtain ⟨h8, h9, h10, h11⟩ := s3Box
  rw [h8] at h1; rw [h9] at h2; rw [h10] at h3; rw [h11] at h4
  rw [s3P_eq.1, s3P_eq.2]
  exact inRP_close x1 x2 (by_contra fun hout => absurd (clauseP x1 x2 h1 h2 h3 h4 hg hout) (not_lt.2 hle))

/-- **C10 (P), StronginC3.** A feasible global minimiser exists, and EVERY feasible global minimiser `(y1, y2)` lies
within `0.008` (first coordinate) and `0.018` (second coordinate) of the declared point, hence at Euclidean distance
less than `0.02` = 0.5 % of the box side 4. -/
theorem C10_strongin_location :
    (∃ y1 y2 : ℝ, S3Feasible y1 y2 ∧ ∀ x1 x2 : ℝ, S3Feasible x1 x2 → f y1 y2 ≤ f x1 x2) ∧
    (∀ y1 y2 : ℝ, S3Feasible y1 y2 → (∀ x1 x2 : ℝ, S3Feasible x1 x2 → f y1 y2 ≤ f x1 x2) →
      |y1 - s3P 0| ≤ 0.008 ∧ |y2 - s3P 1| ≤ 0.018 ∧
      Real.sqrt ((y1 - s3P 0) ^ 2 + (y2 - s3P 1) ^ 2) < 0.02) := by
  constructor
  · exact s3Feasible_eq ▸ exists_minimiser
  · intro y1 y2 hy hmin
    have hw : S3Feasible w1 w2 := s3Feasible_eq ▸ w_feasible
    obtain ⟨c1, c2⟩ := C10_strongin_location_g1only y1 y2 hy.1 hy.2.1 hy.2.2.1 hy.2.2.2.1 hy.2.2.2.2.2.1
      (hmin w1 w2 hw)
    refine ⟨c1, c2, ?_⟩
    have s1 : (y1 - s3P 0) ^ 2 ≤ 0.008 ^ 2 := by rw [← sq_abs]; exact pow_le_pow_left₀ (abs_nonneg _) c1 2
    have s2 : (y2 - s3P 1) ^ 2 ≤ 0.018 ^ 2 := by rw [← sq_abs]; exact pow_le_pow_left₀ (abs_nonneg _) c2 2
    rw [show (0.02 : ℝ) = Real.sqrt (0.02 ^ 2) by rw [Real.sqrt_sq (by norm_num)]]
    apply Real.sqrt_lt_sqrt (by positivity)
    norm_num at s1 s2 ⊢
    linarith

theorem C10_strongin_declared_feasible : S3Feasible (s3P 0) (s3P 1) := by
  rw [s3P_eq.1, s3P_eq.2]; exact s3Feasible_eq ▸ p_feasible

/-- the declared point is not a global minimiser: the witness `(w1, w2)` is feasible and has a strictly smaller value -/
theorem C10_strongin_declared_not_minimiser :
    ∃ x1 x2 : ℝ, S3Feasible x1 x2 ∧ f x1 x2 < f (s3P 0) (s3P 1) := by
  rw [s3P_eq.1, s3P_eq.2]
  exact ⟨w1, w2, s3Feasible_eq ▸ w_feasible, f_w_lt_f_p⟩

/-- the feasible set is non-empty: the witness `w = (63246749/2^26, 130536807/2^26 - 1) ≈ (0.94245, 0.94515)` is
feasible and satisfies the hypotheses of (G); its value is below the declared one (so the bound of (G) is used) -/
example : S3Feasible w1 w2 ∧ s3V - 2e-3 * max 1 |s3V| ≤ f w1 w2 ∧ f w1 w2 < f (s3P 0) (s3P 1) := by
  have hw : S3Feasible w1 w2 := s3Feasible_eq ▸ w_feasible
  refine ⟨hw, C10_strongin_global w1 w2 hw, ?_⟩
  rw [s3P_eq.1, s3P_eq.2]; exact f_w_lt_f_p

/-- the hypotheses of `C10_strongin_location_g1only` are satisfiable (by the witness itself) -/
example : |w1 - s3P 0| ≤ 0.008 ∧ |w2 - s3P 1| ≤ 0.018 := by
  have hw : S3Feasible w1 w2 := s3Feasible_eq ▸ w_feasible
  exact C10_strongin_location_g1only w1 w2 hw.1 hw.2.1 hw.2.2.1 hw.2.2.2.1 hw.2.2.2.2.2.1 le_rfl

end C10

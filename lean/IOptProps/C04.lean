import IOptProofs.MethodFacts
/-!
# C04 — the current best trial

"The current best trial is one of the evaluated points, its reported value equals the objective at
its reported point, and no evaluated trial has a smaller value."

`AGP.Reach p s log`: `s` is reachable with evaluation log `log` (points handed to the objective and
the values returned, oldest first). The trial with id `j + 2` is the `j`-th evaluation (ids 0 and 1 are
the two end points).
-/
set_option linter.unusedSectionVars false

namespace AGP
variable {α : Type} [Field α] [LinearOrder α] [IsStrictOrderedRing α] [Fns α]
variable {p : Params α} {s : State α}

/-- **C04.** In every reachable state the item with id `s.best` exists (`findItem` returns the first
item with that id; it is the only one, ids being distinct by `C06_record`); it is evaluated; its
reported point and value `(point, hv)` are an entry of the evaluation log — namely entry number
`s.best - 2` — so the value is the objective at that point; no entry of the log has a smaller value;
and among the entries with that minimal value it is the EARLIEST one (ties keep the earlier trial).
Moreover `hv = z = s.Z`. -/
theorem C04_best (hL : FnsLaws α) (hr : 1 < p.r) (hn : 0 < p.n) {log : List (List α × α)}
    (h : Reach p s log) :
    ∃ it, findItem s.items s.best = some it ∧ it ∈ s.items ∧ it.id = s.best ∧ it.ev = true ∧
      (it.point, it.hv) ∈ log ∧ (∀ e ∈ log, it.hv ≤ e.2) ∧
      2 ≤ s.best ∧ log[s.best - 2]? = some (it.point, it.hv) ∧
      (∀ j e, log[j]? = some e → e.2 = it.hv → s.best - 2 ≤ j) ∧
      it.hv = it.z ∧ it.z = s.Z := by
  have hI := (h.inv hL hr hn).toInvItems
  have hl := h.logInv hL hr hn
  obtain ⟨bi, hbi, hid, hbe, hz⟩ := hI.best
  have hhv := hI.hv_eq bi hbi hbe
  have hfind := findItem_of_mem hI.ids_nodup hbi
  rw [hid] at hfind
  obtain ⟨h2, hidx⟩ := hl.idx bi hbi hbe
  rw [hid] at h2 hidx
  refine ⟨bi, hfind, hbi, hid, hbe, ?_, ?_, h2, ?_, ?_, hhv, hz⟩
  · rw [hhv]; exact hl.mem_log.2 ⟨bi, hbi, hbe, rfl⟩
  · intro e he
    obtain ⟨it, hit, hev, rfl⟩ := hl.mem_log.1 he
    rw [hhv, hz]; exact hI.Z_le it hit hev
  · rw [hhv]; exact hidx
  · intro j e hj he
    obtain ⟨hjlt, -⟩ := List.getElem?_eq_some_iff.1 hj
    obtain ⟨it, hit, hev, hitid⟩ := hl.surj j hjlt
    obtain ⟨_, hidx'⟩ := hl.idx it hit hev
    rw [hitid, Nat.add_sub_cancel, hj] at hidx'
    have hze : it.z = s.Z := by
      have := Option.some.inj hidx'
      rw [this] at he
      rw [← hz, ← hhv]; exact he
    have := hI.best_first it hit hev hze
    omega

/-- **C04, ties keep the earlier trial (one step).** `commit` replaces the best trial only when the
new value is STRICTLY smaller than the best value so far; then the new trial becomes the best. -/
theorem C04_update_strict (hL : FnsLaws α) (hr : 1 < p.r) (hn : 0 < p.n) (h : Inv p s)
    {pr : Prep α} (hp : prepare p s = .ok pr) (z : α) :
    (z < s.Z → (commit p pr z).best = s.nextId ∧ (commit p pr z).Z = z) ∧
    (¬ z < s.Z → (commit p pr z).best = s.best ∧ (commit p pr z).Z = s.Z) := by
  have hs := prepare_spec' hL hr hn h hp
  rw [commit_best, commit_Z, cZ_eq hs, cBest_eq hs, hs.Z_eq, hs.best_eq, hs.nextId_eq]
  exact ⟨fun hz => by rw [if_pos hz, if_pos hz]; exact ⟨rfl, rfl⟩,
    fun hz => by rw [if_neg hz, if_neg hz]; exact ⟨rfl, rfl⟩⟩

section NonVacuity
attribute [local instance] Fns.real

/-- a run with a tie: the values are `1, 0, 0, 2` (the minimum `0` is attained twice) -/
example : ∃ (p : Params ℝ) (s : State ℝ) (log : List (List ℝ × ℝ)) (pr : Prep ℝ),
    FnsLaws ℝ ∧ 1 < p.r ∧ 0 < p.n ∧ Reach p s log ∧ log.map (·.2) = [1, 0, 0, 2] ∧ Inv p s ∧
    prepare p s = .ok pr := by
  let p : Params ℝ := { n := 1, r := 2, eps := 1 / 100, itersLimit := 100, image := fun x => [x] }
  have hr : (1 : ℝ) < p.r := by norm_num [p]
  have hn : 0 < p.n := by norm_num [p]
  obtain ⟨s, log, hre, hlog⟩ := exists_reach (p := p) FnsLaws.real hr hn
    (fun k => if k = 0 then 1 else if k = 3 then 2 else 0) 3
  have hI := hre.inv FnsLaws.real hr hn
  obtain ⟨pr, hp, _⟩ := prepare_spec FnsLaws.real hr hn hI
  refine ⟨p, s, log, pr, FnsLaws.real, hr, hn, hre, ?_, hI, hp⟩
  rw [hlog]; simp [List.range_succ]

end NonVacuity
end AGP

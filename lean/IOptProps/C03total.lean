import IOptProofs.MethodProc
import IOptProofs.ProcessField
import IOptProps.C02
import IOptProps.C03
import IOptProps.C11
/-!
# C03 / C11 / C02 for an objective that never raises: the "nothing raises" hypotheses are discharged

Setting: a linearly ordered field with the laws of the library functions (`FnsLaws`), `1 < r`,
`0 < n` (= N), and a TOTAL objective (`∀ k pt, (f k pt).isSome`).  Then the exceptions of
`CalculateIterationPoint` are unreachable (`IOptProofs/MethodProc.lean`), so nothing raises, and the
conditional statements of `IOptProps/C03.lean`, `IOptProps/C11.lean` hold outright.

`C02_process*`: every evaluation made by a process started fresh is placed by the AGP decision rule of
`IOptProps/C02.lean` (argmax of the characteristic, the new-point formula, strictly inside, never a
repeated coordinate).
-/
set_option linter.unusedSectionVars false

namespace C03
open AGP AGP.Ctl Proc
variable {α : Type} [Field α] [LinearOrder α] [IsStrictOrderedRing α] [Fns α]

theorem ne_none_of_total {f : Nat → List α → Option α} (htot : ∀ k pt, (f k pt).isSome = true) :
    ∀ i pt, f i pt ≠ none := by
  intro i pt h
  have := htot i pt
  rw [h] at this
  cases this

/-- **C03 for a total objective.**  `Solve` on a fresh solver
1. never raises: the `try` of `Solve` catches nothing (`solveLoop … = (_, false)`, `solveRaise = none`);
2. terminates by the stop rule: `CheckStopCondition` holds in the final state;
3. `numberOfGlobalTrials = iterationsCount =` number of recorded evaluations `=` number of calls of
   the objective `≤ itersLimit ≤ max itersLimit 1`, and the `i`-th record is the value returned by the
   `i`-th call;
4. performs exactly `K` iterations where `K ≤ itersLimit` (`1 ≤ K` if `itersLimit ≥ 1`), and either
   `K = itersLimit` or `δ_K < eps`, while `δ_k ≥ eps` for every `k < K` (`δ_k = delta p f k` is the
   Hölder length of the interval subdivided by iteration `k ≥ 2`; it is defined for all `2 ≤ k ≤ K`):
   `K = min(first k with δ_k < eps, itersLimit)`. -/
theorem C03_total (p : Params α) (f : Nat → List α → Option α)
    (refine : PState α → Option (LocalResult α)) (hL : FnsLaws α) (hr : 1 < p.r) (hn : 0 < p.n)
    (htot : ∀ k pt, (f k pt).isSome = true) :
    ((solveLoop p f (p.itersLimit + 1) {}).2 = false ∧ solveRaise p f (p.itersLimit + 1) {} = none) ∧
    stopNow p (solve p f refine {}) = true ∧
    ((solve p f refine {}).nTrials = (solve p f refine {}).evals.length ∧
      (solve p f refine {}).iters = (solve p f refine {}).nTrials ∧
      (solve p f refine {}).calls = (solve p f refine {}).nTrials ∧
      (solve p f refine {}).nTrials ≤ p.itersLimit ∧
      (solve p f refine {}).calls ≤ max p.itersLimit 1 ∧
      ∀ i pt z, (solve p f refine {}).evals[i]? = some (pt, z) → f i pt = some z) ∧
    ∃ K, (solve p f refine {}).nTrials = K ∧ K ≤ p.itersLimit ∧ (1 ≤ p.itersLimit → 1 ≤ K) ∧
      (K = p.itersLimit ∨ ∃ d, delta p f K = some d ∧ d < p.eps) ∧
      (∀ k d, k < K → delta p f k = some d → ¬ d < p.eps) ∧
      (∀ k, 2 ≤ k → k ≤ K → ∃ d, delta p f k = some d) := by
  have hne := ne_none_of_total htot
  have hnr : (solveLoop p f (p.itersLimit + 1) {}).2 = false := solve_fresh_no_raise hL hr hn hne
  have hsr : solveRaise p f (p.itersLimit + 1) {} = none := by
    simpa [hnr] using (solveLoop_raised p f (ps := ({} : PState α)) (Nat.lt_succ_of_le (remaining_le p _))).symm
  obtain ⟨t1, t2, t3, t4, t5, -, -, t8⟩ := C03_trials_eq_evals p f refine
  have hcalls := t8 hne
  obtain ⟨K, psK, ids, S⟩ := solve_fresh_stop p f refine hnr
  have hK := S.nTrials
  have hdef := delta_defined_of_run S.run
  refine ⟨⟨hnr, hsr⟩, S.stop, ⟨t1, t2, hcalls, t3, by rw [hcalls]; exact t4, t5⟩, K, hK, by rw [← hK]; exact t3, ?_⟩
  rcases Nat.eq_zero_or_pos p.itersLimit with h0 | hlim
  · -- no budget: no trial
    exact ⟨fun h => by omega, .inl (by omega), fun k d hk => by omega, hdef⟩
  · obtain ⟨K2, h1, -, h3, -, h5, h6, -⟩ := C03_stop_exact p f refine hlim hnr
    have : K2 = K := by rw [← h1, hK]
    subst this
    exact ⟨fun _ => h3, h5, h6, hdef⟩

end C03

namespace C11
open AGP AGP.Ctl Proc
variable {α : Type} [Field α] [LinearOrder α] [IsStrictOrderedRing α] [Fns α]

/-- **C11 for a total objective: nothing raises along the canonical sequence.**  From a fresh solver
the canonical sequence `iterN p f k {}` exists for every `k`; `DoGlobalIteration(k)` never raises from a
reachable process state (`ProcOK`, in particular from a fresh solver and after any number of successful
batches). -/
theorem C11_no_raise_total {p : Params α} {f : Nat → List α → Option α} (hL : FnsLaws α) (hr : 1 < p.r)
    (hn : 0 < p.n) (htot : ∀ k pt, (f k pt).isSome = true) :
    (∀ k, ∃ ps' ids, iterN p f k {} = .ok (ps', ids) ∧ ProcOK p ps') ∧
    (∀ k (ps : PState α) (saved : List Nat), ProcOK p ps →
      (doGlobalIteration p f k ps saved).raised = none ∧ ProcOK p (doGlobalIteration p f k ps saved).s) := by
  have hne := C03.ne_none_of_total htot
  constructor
  · intro k
    obtain ⟨ps', ids, h⟩ := iterN_total hL hr hn hne k (procOK_fresh p)
    exact ⟨ps', ids, h, iterN_procOK (procOK_fresh p) h⟩
  · intro k ps saved h
    have := doGlobalIteration_total hL hr hn hne k (saved := saved) h
    exact ⟨this, doGlobalIteration_procOK k h this⟩

/-- **C11 for a total objective: batches, then `Solve`.**  For every list of batch sizes `ks`
(`n = Σ k_j`): after `DoGlobalIteration(k_1); …; DoGlobalIteration(k_m)` on a fresh solver the state is, up
to the event log, state `n` of the canonical sequence; a following `Solve` stops, without raising, in
(the refinement of) a state `X` that is, up to the log, state `n + j` of the same sequence, `n + j` being
the FIRST index `≥ n` at which the stop criterion holds; `OnMethodStop` reports `True`. -/
theorem C11_batches_then_solve_total (p : Params α) (f : Nat → List α → Option α)
    (refine : PState α → Option (LocalResult α)) (hL : FnsLaws α) (hr : 1 < p.r) (hn : 0 < p.n)
    (htot : ∀ k pt, (f k pt).isSome = true) (ks : List Nat) :
    ∃ ps0 ids0 j psj ids X,
      iterN p f ks.sum {} = .ok (ps0, ids0) ∧
      (runOps p f refine (ks.map Op.iter) {}).core = ps0.core ∧
      iterN p f (ks.sum + j) {} = .ok (psj, ids0 ++ ids) ∧ stopNow p psj = true ∧
      (∀ i, i < j → ∃ psi idsi, iterN p f (ks.sum + i) {} = .ok (psi, idsi) ∧ stopNow p psi = false) ∧
      X.core = psj.core ∧
      runOps p f refine (ks.map Op.iter ++ [Op.solve]) {} =
        (refineStep refine X).appendLog [Event.methodStop true] := by
  have hne := C03.ne_none_of_total htot
  obtain ⟨ps0, ids0, h0⟩ := iterN_total hL hr hn hne ks.sum (procOK_fresh p)
  obtain ⟨j, psj, ids, X, hrun, hpre, hsolve, hcase⟩ := C11_solve_after_batches p f refine ks {} ps0 ids0 h0
  have hok : ProcOK p psj := iterN_procOK (procOK_fresh p) hrun
  rcases hcase with ⟨hst, hcX⟩ | ⟨-, pe, e, herr, -⟩
  · refine ⟨ps0, ids0, j, psj, ids, X, h0, batches_sum (refine := refine) ks h0, hrun, hst, hpre, hcX, ?_⟩
    rw [hsolve, stopNow_congr hcX, hst]
  · cases (Passes.total hL hr hn hne hok (.err herr)).1

/-- **C11 for a total objective: `Solve` is idempotent** (no hypothesis on raising). -/
theorem C11_solve_idempotent_total (p : Params α) (f : Nat → List α → Option α)
    (refine refine2 : PState α → Option (LocalResult α)) (hL : FnsLaws α) (hr : 1 < p.r) (hn : 0 < p.n)
    (htot : ∀ k pt, (f k pt).isSome = true) :
    solve p f (fun _ => none) (solve p f refine {}) = (solve p f refine {}).appendLog [Event.methodStop true] ∧
    solve p f refine2 (solve p f refine {}) =
      (refineStep refine2 (solve p f refine {})).appendLog [Event.methodStop true] ∧
    (solve p f refine2 (solve p f refine {})).evals = (solve p f refine {}).evals ∧
    (solve p f refine2 (solve p f refine {})).calls = (solve p f refine {}).calls ∧
    (solve p f refine2 (solve p f refine {})).nTrials = (solve p f refine {}).nTrials :=
  C11_solve_idempotent p f refine refine2 {} (solve_fresh_no_raise hL hr hn (C03.ne_none_of_total htot))

end C11

namespace AGP
open AGP.Ctl Proc
variable {α : Type} [Field α] [LinearOrder α] [IsStrictOrderedRing α] [Fns α]

/-- The evaluation `(pt, z)` made by a pass from the process state `ps` is placed by the AGP rule of C02
(the conclusions of `C02_first_trial`, `C02_prepare_ok`, `C02_selection_is_argmax_items`,
`C02_new_point_formula`, `C02_no_repeat` at the method state of `ps`), and the pass leaves the method
state `m'`. -/
def PlacedByRule (p : Params α) (ps : PState α) (pt : List α) (z : α) (m' : Option (State α)) : Prop :=
  (ps.m = none ∧ pt = p.image (1 / 2) ∧ m' = some (firstIteration p z)) ∨
  ∃ s pr, ps.m = some s ∧ Reach p s ps.evals ∧ Inv p s ∧ prepare p s = .ok pr ∧
    m' = some (commit p pr z) ∧ pt = p.image pr.x ∧
    Neighbours pr.s.items pr.left pr.old ∧ pr.s.items.map eraseR = s.items.map eraseR ∧
    (∀ a b, Neighbours s.items a b →
      Spec.R p.n p.r s.M s.Z a b ≤ Spec.R p.n p.r s.M s.Z pr.left pr.old) ∧
    pr.x = Spec.newPoint p.n p.r s.M pr.left pr.old ∧
    pr.left.x < pr.x ∧ pr.x < pr.old.x ∧ ∀ it ∈ s.items, it.x ≠ pr.x

/-- **C02 at process level, one pass.**  A successful pass of `DoGlobalIteration` from a reachable
process state (`ProcOK`: fresh, or reached by successful passes) records exactly one new evaluation
`(pt, z)`, `z` being what the objective returned at call number `ps.calls`, and that evaluation is
placed by the AGP rule; the new process state is reachable again. -/
theorem C02_process {p : Params α} {f : Nat → List α → Option α} (hL : FnsLaws α) (hr : 1 < p.r)
    (hn : 0 < p.n) {ps ps' : PState α} {id : Nat} (hok : ProcOK p ps)
    (h : oneIteration p f ps = .ok (ps', id)) :
    ProcOK p ps' ∧ ∃ pt z, f ps.calls pt = some z ∧ ps'.evals = ps.evals ++ [(pt, z)] ∧
      PlacedByRule p ps pt z ps'.m := by
  refine ⟨oneIteration_procOK hok h, ?_⟩
  obtain ⟨pt, z, P⟩ := oneIteration_ok h
  refine ⟨pt, z, P.value, P.evals, ?_⟩
  rcases P.step with F | ⟨s, pr, N⟩
  · exact .inl ⟨F.m, F.pt, F.m'⟩
  · right
    have hm := N.m
    have hpr := N.prep
    have hpt := N.pt
    have hm' := N.m'
    have hre : Reach p s ps.evals := hok.reach hm
    have hI := hre.inv hL hr hn
    obtain ⟨pr', hp', hnb, hitems, hin1, hin2⟩ := C02_prepare_ok hL hr hn hI
    rw [hpr] at hp'; cases hp'
    obtain ⟨hx, hpp⟩ := C02_new_point_formula hL hr hn hI hpr
    exact ⟨s, pr, hm, hre, hI, hpr, hm', by rw [hpt, hpp], hnb, hitems,
      C02_selection_is_argmax_items hL hr hn hI hpr, hx, hin1, hin2, C02_no_repeat hL hr hn hI hpr⟩

/-- **C02 at process level, the `(k+1)`-th evaluation of a run from a fresh solver.**  If the canonical
sequence makes `k + 1` passes, then the state `psk` after `k` passes is reachable, has made `k`
evaluations with `k` calls, and pass `k + 1` appends one evaluation `(pt, z)` — entry number `k` of the
record, `z` being the value returned by call number `k` — which is placed by the AGP rule. -/
theorem C02_process_kth {p : Params α} {f : Nat → List α → Option α} (hL : FnsLaws α) (hr : 1 < p.r)
    (hn : 0 < p.n) {k : Nat} {ps' : PState α} {ids : List Nat}
    (h : iterN p f (k + 1) {} = .ok (ps', ids)) :
    ∃ psk idsk pt z, iterN p f k {} = .ok (psk, idsk) ∧ ProcOK p psk ∧ psk.evals.length = k ∧
      psk.calls = k ∧ f k pt = some z ∧ ps'.evals = psk.evals ++ [(pt, z)] ∧
      ps'.evals[k]? = some (pt, z) ∧ PlacedByRule p psk pt z ps'.m := by
  obtain ⟨psk, idsk, id, hk, h1, -⟩ := iterN_succ_ok h
  have hok := iterN_procOK (procOK_fresh p) hk
  have hlen : psk.evals.length = k := (iterN_eff hk).evals_length_fresh
  have hcalls : psk.calls = k := (iterN_eff hk).calls_fresh
  obtain ⟨-, pt, z, hz, hev, hrule⟩ := C02_process hL hr hn hok h1
  refine ⟨psk, idsk, pt, z, hk, hok, hlen, hcalls, by rw [← hcalls]; exact hz, hev, ?_, hrule⟩
  rw [hev, List.getElem?_append_right (by omega), hlen]; simp

/-- **C02 for `Solve` with a total objective.**  Every evaluation recorded by `Solve` on a fresh solver
is placed by the AGP rule: for every `k <` `numberOfGlobalTrials`, entry `k` of the record is the
evaluation `(pt, z)` made by pass `k + 1` of the canonical sequence from the state `psk` after `k`
passes, `z` is the value the objective returned at its call number `k`, and `PlacedByRule` holds. -/
theorem C02_solve_total (p : Params α) (f : Nat → List α → Option α)
    (refine : PState α → Option (LocalResult α)) (hL : FnsLaws α) (hr : 1 < p.r) (hn : 0 < p.n)
    (htot : ∀ k pt, (f k pt).isSome = true) (k : Nat) (hk : k < (solve p f refine {}).nTrials) :
    ∃ psk idsk ps1 ids1 pt z, iterN p f k {} = .ok (psk, idsk) ∧ iterN p f (k + 1) {} = .ok (ps1, ids1) ∧
      ProcOK p psk ∧ psk.evals.length = k ∧ f k pt = some z ∧
      (solve p f refine {}).evals[k]? = some (pt, z) ∧ PlacedByRule p psk pt z ps1.m := by
  have hnr := solve_fresh_no_raise hL hr hn (C03.ne_none_of_total htot)
  obtain ⟨K, psK, idsK, S⟩ := solve_fresh_stop p f refine hnr
  have hrun := S.run
  have hev := S.evals
  rw [S.nTrials] at hk
  have hsplit : K = (k + 1) + (K - (k + 1)) := by omega
  rw [hsplit] at hrun
  obtain ⟨ps1, ids1, _, h1, h2, -⟩ := iterN_add_ok hrun
  obtain ⟨t, ht, -⟩ := (iterN_eff h2).evals
  obtain ⟨psk, idsk, pt, z, hk0, hok, hlen, -, hz, hev1, hget, hrule⟩ := C02_process_kth hL hr hn h1
  refine ⟨psk, idsk, ps1, ids1, pt, z, hk0, h1, hok, hlen, hz, ?_, hrule⟩
  rw [hev, ht, List.getElem?_append_left (by rw [hev1]; simp [hlen])]
  exact hget

end AGP

/-! ## Non-vacuity (over ℝ with the real-number library functions, `N = 1`) -/
section NonVacuity
open AGP AGP.Ctl Proc
attribute [local instance] Fns.real

noncomputable def C03.exampleParams : Params ℝ :=
  { n := 1, r := 2, eps := 1 / 100, itersLimit := 20, image := fun x => [x] }

noncomputable def C03.exampleObj : Nat → List ℝ → Option ℝ := fun _ pt => some ((pt.headD 0 - 1 / 3) ^ 2)

/-- all hypotheses of `C03_total`, `C11_*_total`, `C02_solve_total` hold for this instance, and the run
makes at least one trial (so `k = 0` is a valid index in `C02_solve_total`) -/
example : FnsLaws ℝ ∧ 1 < C03.exampleParams.r ∧ 0 < C03.exampleParams.n ∧
    (∀ k pt, (C03.exampleObj k pt).isSome = true) ∧
    0 < (solve C03.exampleParams C03.exampleObj (fun _ => none) {}).nTrials := by
  have hr : (1 : ℝ) < C03.exampleParams.r := by norm_num [C03.exampleParams]
  have hn : 0 < C03.exampleParams.n := by norm_num [C03.exampleParams]
  have htot : ∀ k pt, (C03.exampleObj k pt).isSome = true := fun _ _ => rfl
  refine ⟨FnsLaws.real, hr, hn, htot, ?_⟩
  obtain ⟨-, -, -, K, hK, -, h1, -⟩ := C03.C03_total C03.exampleParams C03.exampleObj (fun _ => none)
    FnsLaws.real hr hn htot
  rw [hK]
  exact h1 (by norm_num [C03.exampleParams])

/-- the hypotheses of `C02_process` / `C02_process_kth` hold for the 4th pass of that run -/
example : ∃ ps' ids, iterN C03.exampleParams C03.exampleObj (3 + 1) {} = .ok (ps', ids) := by
  have hr : (1 : ℝ) < C03.exampleParams.r := by norm_num [C03.exampleParams]
  have hn : 0 < C03.exampleParams.n := by norm_num [C03.exampleParams]
  exact iterN_total FnsLaws.real hr hn (fun _ _ => by simp [C03.exampleObj]) 4 (procOK_fresh _)

end NonVacuity

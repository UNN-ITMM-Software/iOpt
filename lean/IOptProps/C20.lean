import IOptModel.Solver
import IOptProofs.ComposeInv
import IOptProofs.MethodFacts
import IOptProofs.ProcessField
import IOptProofs.EvNumFwd
import IOptProps.C07
import Mathlib.Algebra.Order.Archimedean.Real.Basic
import Mathlib.Tactic.NormNum
/-!
# C20 — the configured evolvent density reaches the evolvent: every trial lies on the `2^m` grid

"With density m every trial coordinate is lower + (j+1/2)*(upper-lower)/2^m for an integer j."

`Solver.mk c` (`IOptModel/Solver.lean`) are the parameters `Solver.__init__` hands to the method:
`image := Ev.getImage c.n c.evolventDensity c.lower c.upper`.  For `Ev.DimOK N` every point the global search
evaluates — in every reachable state of the method, and after ANY sequence of `DoGlobalIteration(k)` /
`Solve` calls on a fresh solver, whether or not the objective raises in between — has every coordinate
equal to the centre of a cell of the grid with `2^evolventDensity` cells per axis.  No assumption on
`r`, `eps`, the library functions or the ordering of the bounds is needed.  Grids of different
densities are disjoint (`C20_density_matters`), so a solver that used another density than the
configured one (defect F4: the default 10) would put EVERY trial off the configured grid.

`int(d)` is the natural floor (`Ev.Num.floorTrunc`).
-/
set_option linter.unusedSectionVars false

namespace Ev
variable {α : Type} [Field α] [LinearOrder α] [IsStrictOrderedRing α] [FloorSemiring α]
attribute [local instance] Ev.Num.floorTrunc

def OnGrid (n m : Nat) (lower upper pt : List α) : Prop :=
  pt.length = n ∧
  ∀ i (_ : i < pt.length) (_ : i < lower.length) (_ : i < upper.length),
    ∃ j : Nat, j < 2 ^ m ∧ pt[i] = lower[i] + ((j : α) + 1 / 2) * (upper[i] - lower[i]) / 2 ^ m

theorem imageCube_some_cell {n : Nat} (hn : Ev.DimOK n) (m : Nat) (x : α) :
    ∃ ds, validDigits n ds ∧ ds.length = m ∧
      imageCube n m x = (cubeY n ds).map (fun (Y : Int) => (Y : α) / 2 ^ (m + 1)) :=
  ⟨_, digitsOf_valid n m _, digitsOf_length n m _, Num.imageCube_cellIdx hn m x⟩

/-- the affine map sends the cell centre `Y = 2k + 1 - 2^m` (units of `2^-(m+1)`) to grid point `k` -/
theorem p2d_centre (m k : Nat) (l u : α) :
    (((2 * (k : Int) + 1 - 2 ^ m : Int) : α) / 2 ^ (m + 1)) * (u - l) + (u + l) / 2
      = l + ((k : α) + 1 / 2) * (u - l) / 2 ^ m := by
  have h2 : (2 : α) ^ m ≠ 0 := by positivity
  push_cast
  rw [pow_succ]
  field_simp
  ring

/-- For `Ev.DimOK n` and EVERY argument `x`, coordinate `i` of `getImage n m lower upper x` is
`lower_i + (j + 1/2) (upper_i - lower_i) / 2^m` for a cell index `j < 2^m`. -/
theorem getImage_onGrid {n : Nat} (hn : Ev.DimOK n) (m : Nat) (lower upper : List α)
    (hl : lower.length = n) (hu : upper.length = n) (x : α) :
    OnGrid n m lower upper (getImage n m lower upper x) := by
  obtain ⟨ds, hd, hlen, he⟩ := imageCube_some_cell hn m x
  have hc := (C07_centres hn hd).1
  have hidx := C07_centres_index hn hd
  have hil : (imageCube n m x).length = n := by rw [he, List.length_map, hc]
  unfold getImage
  refine ⟨by simp [length_p2d, hl, hu, hil], ?_⟩
  intro i hp h1 h2
  have hy : i < (imageCube n m x).length := by rw [hil, ← hl]; exact h1
  rw [Num.getElem_p2d lower upper _ i hp hy h1 h2]
  have hi' : i < (cubeY n ds).length := by rw [hc, ← hl]; exact h1
  have hgi : (imageCube n m x)[i] = ((cubeY n ds)[i] : α) / 2 ^ (m + 1) := by
    simp only [he, List.getElem_map]
  obtain ⟨k, hk, hY⟩ := hidx _ (List.getElem_mem hi')
  rw [hlen] at hk hY
  refine ⟨k, hk, ?_⟩
  rw [hgi, hY]
  exact p2d_centre m k _ _

end Ev

namespace C20
open AGP Proc
variable {α : Type} [Field α] [LinearOrder α] [IsStrictOrderedRing α] [FloorSemiring α] [Fns α]
attribute [local instance] Ev.Num.floorTrunc

def OnGrid (c : Solver.Config α) (pt : List α) : Prop :=
  pt.length = c.n ∧
  ∀ i (_ : i < pt.length) (_ : i < c.lower.length) (_ : i < c.upper.length),
    ∃ j : Nat, j < 2 ^ c.evolventDensity ∧
      pt[i] = c.lower[i] + ((j : α) + 1 / 2) * (c.upper[i] - c.lower[i]) / 2 ^ c.evolventDensity

theorem image_onGrid (c : Solver.Config α) (hn : Ev.DimOK c.n) (hl : c.lower.length = c.n)
    (hu : c.upper.length = c.n) (x : α) : OnGrid c ((Solver.mk c).image x) :=
  Ev.getImage_onGrid hn c.evolventDensity c.lower c.upper hl hu x

/-- **C20 (method level).** For `Ev.DimOK N` and bounds of length `N`, in every state reachable by the
method with the solver's parameters, every point handed to the objective (every entry of the evaluation
log) and the stored point of every item of the search information (the two end points included) lies
on the grid of the configured density. -/
theorem C20_trial_on_grid (c : Solver.Config α) (hn : Ev.DimOK c.n) (hl : c.lower.length = c.n)
    (hu : c.upper.length = c.n) {s : State α} {log : List (List α × α)}
    (h : Reach (Solver.mk c) s log) :
    (∀ e ∈ log, OnGrid c e.1) ∧ ∀ it ∈ s.items, OnGrid c it.point := by
  obtain ⟨hpt, hlog⟩ := h.curve
  constructor
  · intro e he
    obtain ⟨x, -, -, hx⟩ := hlog e he
    rw [hx]; exact image_onGrid c hn hl hu x
  · intro it hit
    rw [(hpt it hit).2]; exact image_onGrid c hn hl hu it.x

/-- **C20 (process level).** After any sequence `ops` of `DoGlobalIteration(k)` / `Solve` calls on a
freshly constructed solver, with ANY objective `f` (which may raise at any call) and any local
refinement: every point that was handed to the objective by the global search lies on the grid of the
configured density. -/
theorem C20_process_on_grid (c : Solver.Config α) (hn : Ev.DimOK c.n) (hl : c.lower.length = c.n)
    (hu : c.upper.length = c.n) (f : Nat → List α → Option α)
    (refine : PState α → Option (LocalResult α)) (ops : List Op) :
    ∀ e ∈ (runOps (Solver.mk c) f refine ops {}).evals, OnGrid c e.1 := by
  intro e he
  obtain ⟨x, -, -, hx⟩ := evals_on_curve (Solver.mk c) f refine ops e he
  rw [hx]; exact image_onGrid c hn hl hu x

theorem C20_solve_on_grid (c : Solver.Config α) (hn : Ev.DimOK c.n) (hl : c.lower.length = c.n)
    (hu : c.upper.length = c.n) (f : Nat → List α → Option α)
    (refine : PState α → Option (LocalResult α)) :
    ∀ e ∈ (solve (Solver.mk c) f refine {}).evals, OnGrid c e.1 :=
  C20_process_on_grid c hn hl hu f refine [Op.solve]

theorem C20_density_matters (l u : α) (hlu : l < u) {m m' : Nat} (hm : m ≠ m') (j k : Nat) :
    l + ((j : α) + 1 / 2) * (u - l) / 2 ^ m ≠ l + ((k : α) + 1 / 2) * (u - l) / 2 ^ m' := by
  -- wlog m < m'
  have key : ∀ (a d' : Nat) (j k : Nat),
      l + ((j : α) + 1 / 2) * (u - l) / 2 ^ a ≠ l + ((k : α) + 1 / 2) * (u - l) / 2 ^ (a + d' + 1) := by
    intro a d' j k he
    have hd : u - l ≠ 0 := (sub_pos.2 hlu).ne'
    have h2a : (2 : α) ^ a ≠ 0 := by positivity
    have h2b : (2 : α) ^ (a + d' + 1) ≠ 0 := by positivity
    have he' : ((j : α) + 1 / 2) * (u - l) / 2 ^ a = ((k : α) + 1 / 2) * (u - l) / 2 ^ (a + d' + 1) :=
      add_left_cancel he
    have e1 : (2 * (j : α) + 1) * 2 ^ (a + d' + 1) = (2 * (k : α) + 1) * 2 ^ a := by
      field_simp at he'
      linear_combination he'
    have e2 : (2 * j + 1) * 2 ^ (a + d' + 1) = (2 * k + 1) * 2 ^ a := by exact_mod_cast e1
    have e3 : (2 : Nat) ^ (a + d' + 1) = 2 ^ d' * 2 * 2 ^ a := by rw [pow_succ, pow_add]; ring
    rw [e3, ← Nat.mul_assoc] at e2
    have e4 := Nat.eq_of_mul_eq_mul_right (Nat.two_pow_pos a) e2
    have e5 : (2 * j + 1) * (2 ^ d' * 2) = 2 * ((2 * j + 1) * 2 ^ d') := by ring
    omega
  rcases Nat.lt_or_gt_of_ne hm with h | h
  · obtain ⟨d, rfl⟩ : ∃ d, m' = m + d + 1 := ⟨m' - m - 1, by omega⟩
    exact key m d j k
  · obtain ⟨d, rfl⟩ : ∃ d, m = m' + d + 1 := ⟨m - m' - 1, by omega⟩
    exact fun he => key m' d k j he.symm

/-- **C20, a solver using another density misses the configured grid with every trial.**  `m' = 10`,
the evolvent's default, instead of the configured value is defect F4. -/
theorem C20_wrong_density_off_grid (c : Solver.Config α) (m' : Nat) (hm : m' ≠ c.evolventDensity)
    (hn : Ev.DimOK c.n) (hl : c.lower.length = c.n) (hu : c.upper.length = c.n)
    (hlt : ∀ i (h1 : i < c.lower.length) (h2 : i < c.upper.length), c.lower[i] < c.upper[i])
    (f : Nat → List α → Option α) (refine : PState α → Option (LocalResult α)) (ops : List Op) :
    ∀ e ∈ (runOps (Solver.mk { c with evolventDensity := m' }) f refine ops {}).evals, ¬ OnGrid c e.1 := by
  intro e he hon
  have h' := C20_process_on_grid { c with evolventDensity := m' } hn hl hu f refine ops e he
  obtain ⟨hlen, hg⟩ := hon
  obtain ⟨-, hg'⟩ := h'
  have hnpos : 0 < c.n := hn.pos
  have h0 : 0 < e.1.length := by omega
  have h1 : 0 < c.lower.length := by omega
  have h2 : 0 < c.upper.length := by omega
  obtain ⟨j, -, hj⟩ := hg 0 h0 h1 h2
  obtain ⟨k, -, hk⟩ := hg' 0 h0 h1 h2
  rw [hj] at hk
  exact C20_density_matters _ _ (hlt 0 h1 h2) (Ne.symm hm) j k hk

section NonVacuity
attribute [local instance] Fns.real

noncomputable def exampleConfig : Solver.Config ℝ :=
  { n := 2, lower := [-1, 0], upper := [2, 3], eps := 1 / 100, r := 3, itersLimit := 50, evolventDensity := 4 }

example : ∃ (s : State ℝ) (log : List (List ℝ × ℝ)),
    (Ev.DimOK exampleConfig.n) ∧ exampleConfig.lower.length = exampleConfig.n ∧
    exampleConfig.upper.length = exampleConfig.n ∧ Reach (Solver.mk exampleConfig) s log ∧ log.length = 5 ∧
    (∀ e ∈ log, OnGrid exampleConfig e.1) := by
  have hr : (1 : ℝ) < (Solver.mk exampleConfig).r := by norm_num [Solver.mk, exampleConfig]
  have hn : 0 < (Solver.mk exampleConfig).n := by norm_num [Solver.mk, exampleConfig]
  obtain ⟨s, log, hre, hlen, -⟩ := exists_reach_obj (p := Solver.mk exampleConfig) FnsLaws.real hr hn
    (fun pt => pt.sum) 4
  have h2 : Ev.DimOK exampleConfig.n := by show Ev.DimOK 2; decide
  exact ⟨s, log, h2, rfl, rfl, hre, hlen, (C20_trial_on_grid exampleConfig h2 rfl rfl hre).1⟩

example : (∀ e ∈ (solve (Solver.mk exampleConfig) (fun _ pt => some pt.sum) (fun _ => none) {}).evals,
      OnGrid exampleConfig e.1) ∧
    (solve (Solver.mk exampleConfig) (fun _ pt => some pt.sum) (fun _ => none) {}).evals ≠ [] := by
  refine ⟨C20_solve_on_grid exampleConfig (by show Ev.DimOK 2; decide) rfl rfl _ _, ?_⟩
  obtain ⟨K, -, hK, -, h1, -⟩ := C03.C03_stop_exact_field (Solver.mk exampleConfig) (fun _ pt => some pt.sum)
    (fun _ => none) FnsLaws.real (by norm_num [Solver.mk, exampleConfig]) (by norm_num [Solver.mk, exampleConfig])
    (by intro i pt; simp) (by norm_num [Solver.mk, exampleConfig])
  intro he
  rw [he] at hK
  simp at hK
  omega

example : (-1 : ℝ) + ((3 : ℕ) + 1 / 2) * (2 - (-1)) / 2 ^ 2 ≠ -1 + ((13 : ℕ) + 1 / 2) * (2 - (-1)) / 2 ^ 4 :=
  C20_density_matters (-1) 2 (by norm_num) (by decide) 3 13

end NonVacuity
end C20

import IOptProofs.HillSoundProps
import IOptProofs.HillCertAll
import IOptProofs.HillSoundMeta
/-!
# C10 for the Hill family (1000 one-dimensional trigonometric polynomials on `[0,1]`)

"The objective at the declared optimum point equals the declared optimum value within 1e-4, no point of the
box has a value lower than the declared one by more than 2e-3*max(1,|f*|), and the declared point lies within
0.5% of the box side of a true global minimiser."

`Hill.hillFn i = Prob.hill (aHill[i]) (bHill[i])` over `ℝ` (exact values of the table doubles).  The Boolean
certificate `Hill.hillOK i` (adaptive bisection of `[0,1]` with third-order Taylor leaf tests in biased
fixed-point arithmetic, `IOptProofs/HillDefs.lean`) is evaluated by the kernel for all 1000 rows
(`IOptProofs/HillCert*.lean`); its soundness over `ℝ` is `Hill.hillOK_sound` (`IOptProofs/HillSound*.lean`).
-/

namespace C10
open BenchMeta

/-- the function the theorems talk about is the model function on the table coefficients -/
example (i : Nat) :
    Hill.hillFn i = Prob.hill ((Gen.hillA i).map dyR) ((Gen.hillB i).map dyR) := Hill.hillFn_def i

/-- **C10, Hill, generic theorem.** If the Boolean certificate `Hill.hillOK i` (computed from the generated
tables `Gen.hillA/B/MinValue/MinPoint/MaxValue/MaxPoint/Lip i` only) evaluates to `true`, then for
`f = Prob.hill` with the (real values of the) coefficients of row `i`, `v` the tabulated minimum value and
`p` the tabulated minimum point: `p ∈ [0,1]`; `|f p - v| ≤ 1e-4`; `f x ≥ v - 2e-3·max(1,|v|)` for all
`x ∈ [0,1]`; and `f p < f x` for all `x ∈ [0,1]` with `|x - p| > 1e-4`.  Moreover `f` is continuous. -/
theorem C10_hill_generic (i : Nat) (h : Hill.hillOK i = true) :
    Hill.HillC10 (Hill.hillFn i) (dyR (Gen.hillMinValue i)) (dyR (Gen.hillMinPoint i)) ∧
    Continuous (Hill.hillFn i) :=
  ⟨(Hill.hillOK_sound i h).c10, Hill.hillF_continuous _ _⟩

/-- **C10, Hill 0..999.** For every shipped Hill function the three clauses hold, and in the words of C10:
a global minimiser on `[0,1]` exists, and EVERY global minimiser is within `0.005` (0.5 % of the box side;
in fact within `1e-4`) of the declared point. -/
theorem C10_hill (i : Nat) (hi : i < 1000) :
    Hill.HillC10 (Hill.hillFn i) (dyR (Gen.hillMinValue i)) (dyR (Gen.hillMinPoint i)) ∧
    (∃ xs, 0 ≤ xs ∧ xs ≤ 1 ∧ ∀ x, 0 ≤ x → x ≤ 1 → Hill.hillFn i xs ≤ Hill.hillFn i x) ∧
    (∀ xs, 0 ≤ xs → xs ≤ 1 → (∀ x, 0 ≤ x → x ≤ 1 → Hill.hillFn i xs ≤ Hill.hillFn i x) →
      |xs - dyR (Gen.hillMinPoint i)| < 0.005) := by
  obtain ⟨h, hc⟩ := C10_hill_generic i (Hill.hill_all i hi)
  obtain ⟨hex, hloc⟩ := h.minimiser hc
  refine ⟨h, hex, fun xs h0 h1 hmin => ?_⟩
  have := hloc xs h0 h1 hmin
  norm_num at this ⊢
  linarith

/-- `Hill.HillC10` unfolded for one row: the declared point lies in the box, then the three clauses of C10 -/
theorem C10_hill_clauses (i : Nat) (hi : i < 1000) :
    (0 ≤ dyR (Gen.hillMinPoint i) ∧ dyR (Gen.hillMinPoint i) ≤ 1) ∧
    |Hill.hillFn i (dyR (Gen.hillMinPoint i)) - dyR (Gen.hillMinValue i)| ≤ 1e-4 ∧
    (∀ x, 0 ≤ x → x ≤ 1 →
      dyR (Gen.hillMinValue i) - 2e-3 * max 1 |dyR (Gen.hillMinValue i)| ≤ Hill.hillFn i x) ∧
    (∀ x, 0 ≤ x → x ≤ 1 → 1e-4 < |x - dyR (Gen.hillMinPoint i)| →
      Hill.hillFn i (dyR (Gen.hillMinPoint i)) < Hill.hillFn i x) :=
  let h := (C10_hill i hi).1
  ⟨h.point_in_box, h.value, h.global, h.location⟩

/-- the optimum that the `Hill(i)` object declares (metadata row `i`, read from the running class) is
exactly the `minHill` table entry used above, and its box is `[0, 1]` -/
theorem C10_hill_declared (i : Nat) (hi : i < 1000) :
    i < Gen.metaRowsPacked.size ∧
    (Gen.metaDecode Gen.metaRowsPacked[i]!).family = 0 ∧
    (Gen.metaDecode Gen.metaRowsPacked[i]!).arg0 = i ∧
    (Gen.metaDecode Gen.metaRowsPacked[i]!).optPoint = [Gen.hillMinPoint i] ∧
    (Gen.metaDecode Gen.metaRowsPacked[i]!).optValue = Gen.hillMinValue i ∧
    (Gen.metaDecode Gen.metaRowsPacked[i]!).lower = [dyZero] ∧
    (Gen.metaDecode Gen.metaRowsPacked[i]!).upper = [dy1] :=
  hill_meta_row i hi

/-- non-vacuity: the certificate of function 0 is `true`; its declared minimum value is below -4.8, the
declared point is about 0.5765 -/
example : Hill.hillOK 0 = true ∧ (Gen.hillMinValue 0).toRat < -48 / 10 ∧
    (Gen.hillMinPoint 0).toRat > 576 / 1000 ∧ (Gen.hillMinPoint 0).toRat < 577 / 1000 :=
  ⟨Hill.hill_all 0 (by norm_num), by decide +kernel, by decide +kernel, by decide +kernel⟩

end C10

import IOptProofs.HolderRoot
import IOptProofs.HolderEuc
import Mathlib.Tactic.NormNum
/-!
# C08 (analytic part): the evolvent is a Hölder curve

Statements over `ℝ` about the code's loop `Ev.imageCube n m x` (`__GetYonX`, point of the cube
`[-1/2,1/2]^n`) and `Ev.getImage n m lower upper x` (`GetImage`, point of the box), with `int(d)` =
natural floor (`Ev.Num.floorTrunc`), for every dimension `n` with `Ev.DimOK n` and **every** density `m`.
Vectors are coordinate lists; `Ev.sqDist a b = Σ (a_i - b_i)²`, `Ev.dist2 a b = √(sqDist a b)` is
the Euclidean distance; `Ev.maxSide lower upper = max_i (upper_i - lower_i)`.

The chain is: `C08_coord_bound` (integer layer) + `Num.imageCube_cellIdx` (numeric link) ⟹
`C08_holder_sq` ⟹ `C08_holder_rootfree` ⟹ `C08_holder` (`Real.rpow`) ⟹ `C08_holder_box`.
-/

namespace Ev
attribute [local instance] Ev.Num.floorTrunc

/-- **C08 (Hölder, squared form)**: for `x', x'' ∈ [0,1]` with `|x' - x''| ≤ 2^(-p n)`, `p ≤ m`:
`‖y(x') - y(x'')‖₂² ≤ (n+3)·4^(-p)` — one coordinate moves by less than `2·2^-p`, the others by
less than `2^-p`. -/
theorem C08_holder_sq {n : Nat} (hn : Ev.DimOK n) {m p : Nat} (hp : p ≤ m) {x' x'' : ℝ}
    (h0' : 0 ≤ x') (h1' : x' ≤ 1) (h0'' : 0 ≤ x'') (h1'' : x'' ≤ 1)
    (hd : |x' - x''| ≤ 1 / ((2:ℝ)^n)^p) :
    sqDist (imageCube n m x') (imageCube n m x'') ≤ ((n:ℝ) + 3) / 4^p := by
  rw [show (4:ℝ) = 2^2 by norm_num, ← pow_mul, mul_comm, pow_mul, ← mul_one_div, ← one_div_pow]
  exact sqDist_imageCube_le_sq hn hp h0' h0'' hd

/-- non-vacuity of `C08_holder_sq`: `n = 2`, `m = 3`, `p = 1`, `x' = 1/3`, `x'' = 1/2`. -/
example : (Ev.DimOK 2) ∧ 1 ≤ 3 ∧ (0:ℝ) ≤ 1/3 ∧ (1/3:ℝ) ≤ 1 ∧ (0:ℝ) ≤ 1/2 ∧ (1/2:ℝ) ≤ 1 ∧
    |(1/3:ℝ) - 1/2| ≤ 1 / ((2:ℝ)^2)^1 := by
  refine ⟨by decide, by omega, ?_, ?_, ?_, ?_, ?_⟩ <;> norm_num

/-- **C08 (Hölder, root-free form)**: for `x', x'' ∈ [0,1]` with `2^(-n m) ≤ |x' - x''| ≤ t^n`:
`‖y(x') - y(x'')‖₂ ≤ 2·√(n+3)·t`. -/
theorem C08_holder_rootfree {n : Nat} (hn : Ev.DimOK n) (m : Nat) {x' x'' : ℝ}
    (h0' : 0 ≤ x') (h1' : x' ≤ 1) (h0'' : 0 ≤ x'') (h1'' : x'' ≤ 1)
    (hlow : 1 / ((2:ℝ)^n)^m ≤ |x' - x''|) {t : ℝ} (ht : 0 ≤ t) (hd : |x' - x''| ≤ t^n) :
    dist2 (imageCube n m x') (imageCube n m x'') ≤ 2 * Real.sqrt (n + 3) * t := by
  have h := dist2_imageCube_le_max hn m h0' h1' h0'' h1'' ht hd
  have hn0 : n ≠ 0 := hn.ne_zero
  have h1 : (1 / (2:ℝ)^m)^n ≤ t^n := by rw [← pow_pow_swap]; exact le_trans hlow hd
  have h2 : 1 / (2:ℝ)^m ≤ t := (pow_le_pow_iff_left₀ (by positivity) ht hn0).1 h1
  have h3 : 1 / (2:ℝ)^(m+1) ≤ 1 / 2^m := by
    apply one_div_le_one_div_of_le (by positivity)
    exact pow_le_pow_right₀ (by norm_num) (Nat.le_succ m)
  rwa [max_eq_left (le_trans h3 h2)] at h

/-- **C08 (Hölder, all pairs, root-free)**: without the lower bound on `|x' - x''|` the inequality
holds with `max(t, 2^-(m+1))` in place of `t` (below the resolution `2^(-n m)` of the curve the
image moves by at most one cell in one coordinate and stays in the same or a neighbouring cell). -/
theorem C08_holder_rootfree_all {n : Nat} (hn : Ev.DimOK n) (m : Nat) {x' x'' : ℝ}
    (h0' : 0 ≤ x') (h1' : x' ≤ 1) (h0'' : 0 ≤ x'') (h1'' : x'' ≤ 1)
    {t : ℝ} (ht : 0 ≤ t) (hd : |x' - x''| ≤ t^n) :
    dist2 (imageCube n m x') (imageCube n m x'') ≤
      2 * Real.sqrt (n + 3) * max t (1 / 2^(m+1)) :=
  dist2_imageCube_le_max hn m h0' h1' h0'' h1'' ht hd

/-- **C08 (Hölder)** — the stated inequality on the unit cube: for `Ev.DimOK n` (`n ≥ 2`), every `m`, all
`x', x'' ∈ [0,1]` with `|x' - x''| ≥ 2^(-n m)`:
`‖y(x') - y(x'')‖₂ ≤ 2·√(n+3)·|x' - x''|^(1/n)`. -/
theorem C08_holder {n : Nat} (hn : Ev.DimOK n) (m : Nat) {x' x'' : ℝ}
    (h0' : 0 ≤ x') (h1' : x' ≤ 1) (h0'' : 0 ≤ x'') (h1'' : x'' ≤ 1)
    (hlow : 1 / ((2:ℝ)^n)^m ≤ |x' - x''|) :
    dist2 (imageCube n m x') (imageCube n m x'') ≤
      2 * Real.sqrt (n + 3) * |x' - x''| ^ (1 / (n:ℝ)) :=
  C08_holder_rootfree hn m h0' h1' h0'' h1'' hlow (rpow_inv_nonneg n (abs_nonneg _))
    (le_of_eq (rpow_inv_pow hn.ne_zero (abs_nonneg _)).symm)

/-- **C08 (Hölder, all pairs)**: for all `x', x'' ∈ [0,1]`:
`‖y(x') - y(x'')‖₂ ≤ 2·√(n+3)·|x' - x''|^(1/n) + √(n+3)·2^-m`. -/
theorem C08_holder_all {n : Nat} (hn : Ev.DimOK n) (m : Nat) {x' x'' : ℝ}
    (h0' : 0 ≤ x') (h1' : x' ≤ 1) (h0'' : 0 ≤ x'') (h1'' : x'' ≤ 1) :
    dist2 (imageCube n m x') (imageCube n m x'') ≤
      2 * Real.sqrt (n + 3) * |x' - x''| ^ (1 / (n:ℝ)) + Real.sqrt (n + 3) / 2^m :=
  dist2_imageCube_le_add hn m h0' h1' h0'' h1'' (rpow_inv_nonneg n (abs_nonneg _))
    (le_of_eq (rpow_inv_pow hn.ne_zero (abs_nonneg _)).symm)

/-- **C08 (Hölder, box, any side bound)**: after the affine map to the box `[lower, upper]`, for
every `S ≥ |upper_i - lower_i|` (all `i`):
`‖GetImage x' - GetImage x''‖₂ ≤ 2·√(n+3)·|x' - x''|^(1/n)·S`. -/
theorem C08_holder_box_of_le {n : Nat} (hn : Ev.DimOK n) (m : Nat) (lower upper : List ℝ)
    (hl : lower.length = n) (hu : upper.length = n) {S : ℝ}
    (hS : ∀ i, i < n → |getR upper i - getR lower i| ≤ S) {x' x'' : ℝ}
    (h0' : 0 ≤ x') (h1' : x' ≤ 1) (h0'' : 0 ≤ x'') (h1'' : x'' ≤ 1)
    (hlow : 1 / ((2:ℝ)^n)^m ≤ |x' - x''|) :
    dist2 (getImage n m lower upper x') (getImage n m lower upper x'') ≤
      2 * Real.sqrt (n + 3) * |x' - x''| ^ (1 / (n:ℝ)) * S := by
  have hS0 : 0 ≤ S := le_trans (abs_nonneg _) (hS 0 hn.pos)
  unfold getImage
  calc _ ≤ S * dist2 (imageCube n m x') (imageCube n m x'') :=
        dist2_p2d_le hl hu (length_imageCube n m x') (length_imageCube n m x'') hS0 hS
    _ ≤ S * (2 * Real.sqrt (n + 3) * |x' - x''| ^ (1 / (n:ℝ))) :=
        mul_le_mul_of_nonneg_left (C08_holder hn m h0' h1' h0'' h1'' hlow) hS0
    _ = _ := by ring

/-- **C08 (Hölder, box)** — the stated inequality: for a box `lower ≤ upper` (coordinatewise),
`Ev.DimOK n` (`n ≥ 2`), every `m`, all `x', x'' ∈ [0,1]` with `|x' - x''| ≥ 2^(-n m)`:
`‖GetImage x' - GetImage x''‖₂ ≤ 2·√(n+3)·|x' - x''|^(1/n)·max_i (upper_i - lower_i)`. -/
theorem C08_holder_box {n : Nat} (hn : Ev.DimOK n) (m : Nat) (lower upper : List ℝ)
    (hl : lower.length = n) (hu : upper.length = n)
    (hle : ∀ i (h1 : i < lower.length) (h2 : i < upper.length), lower[i] ≤ upper[i])
    {x' x'' : ℝ} (h0' : 0 ≤ x') (h1' : x' ≤ 1) (h0'' : 0 ≤ x'') (h1'' : x'' ≤ 1)
    (hlow : 1 / ((2:ℝ)^n)^m ≤ |x' - x''|) :
    dist2 (getImage n m lower upper x') (getImage n m lower upper x'') ≤
      2 * Real.sqrt (n + 3) * |x' - x''| ^ (1 / (n:ℝ)) * maxSide lower upper :=
  C08_holder_box_of_le hn m lower upper hl hu (abs_side_le_maxSide hl hu hle) h0' h1' h0'' h1'' hlow

/-- non-vacuity of `C08_holder`/`C08_holder_box`: `n = 2`, `m = 2`, the box `[-1,2] × [0,3]`,
`x' = 1/4`, `x'' = 3/4` (`|Δx| = 1/2 ≥ 1/16`). -/
example : (Ev.DimOK 2) ∧ [(-1:ℝ), 0].length = 2 ∧ [(2:ℝ), 3].length = 2 ∧
    (∀ i (_ : i < [(-1:ℝ), 0].length) (h2 : i < [(2:ℝ), 3].length), [(-1:ℝ), 0][i] ≤ [(2:ℝ), 3][i]) ∧
    (0:ℝ) ≤ 1/4 ∧ (1/4:ℝ) ≤ 1 ∧ (0:ℝ) ≤ 3/4 ∧ (3/4:ℝ) ≤ 1 ∧
    1 / ((2:ℝ)^2)^2 ≤ |(1/4:ℝ) - 3/4| := by
  refine ⟨by decide, rfl, rfl, Num.forall_getElem_pair (by norm_num) (by norm_num), ?_, ?_, ?_, ?_,
    ?_⟩
  all_goals norm_num

example : dist2 (getImage 2 2 [(-1:ℝ), 0] [2, 3] (1/4)) (getImage 2 2 [(-1:ℝ), 0] [2, 3] (3/4)) ≤
    2 * Real.sqrt ((2:ℕ) + 3) * |(1/4:ℝ) - 3/4| ^ (1 / ((2:ℕ):ℝ)) * maxSide [(-1:ℝ), 0] [2, 3] :=
  C08_holder_box (n := 2) (by decide) 2 [(-1:ℝ), 0] [2, 3] rfl rfl
    (Num.forall_getElem_pair (by norm_num) (by norm_num))
    (by norm_num) (by norm_num) (by norm_num) (by norm_num)
    (by rw [le_abs]; right; norm_num)

/-- **(norm)** `Ev.dist2` on coordinate lists of length `n` is the distance of Mathlib's
`EuclideanSpace ℝ (Fin n)` (`Ev.toEuc n a` is the point with coordinates `a`), so the statements
above are about the Euclidean norm. -/
theorem C08_dist2_euclidean {n : Nat} {a b : List ℝ} (ha : a.length = n) (hb : b.length = n) :
    dist2 a b = dist (toEuc n a) (toEuc n b) := by
  rw [EuclideanSpace.dist_eq]
  unfold dist2
  congr 1
  rw [sqDist_eq_sum ha hb, ← Fin.sum_univ_eq_sum_range (fun i => (getR a i - getR b i)^2) n]
  apply Finset.sum_congr rfl
  intro i _
  simp only [toEuc, Real.dist_eq, sq_abs]

end Ev

import IOptProofs.SDLinks
import Mathlib.Data.Nat.Basic

/-!
# C19 — the search-data containers

Property (verbatim): "For any sequence of insertions (with or without a right-neighbour hint), queue
clears and refills and best-interval requests, traversal yields the inserted items in increasing
coordinate with consistent neighbour links and the correct count, and covering-interval lookup
returns the first item to the right of the query.  A best-interval request returns an item whose
queued characteristic is maximal (in the dual-queue variant: maximal among entries whose
characteristic is still current), and a bounded queue retains the highest-priority entries."

Model: `IOptModel/SearchData.lean` (namespace `SD`).  Coordinates `χ` and keys `κ` are arbitrary
linear orders; the model's Boolean comparisons are instantiated with
`ltB a b = decide (a < b)`, `leB a b = decide (a ≤ b)`, `neB a b = decide (a ≠ b)`.
-/

namespace SD

variable {χ κ : Type}

section vocabulary
variable [LinearOrder χ] [LinearOrder κ]

inductive Op (χ κ : Type) where
  | insert (x : χ) (g l : κ) (hint : Option Nat)
  | clear
  | refill
  | popG
  | popL
  | setG (i : Nat) (k : κ)
  | setL (i : Nat) (k : κ)

/-- Where the model returns an error (Python raises) the state is left
UNCHANGED.  `popG`/`popL` are the best-interval requests, exactly as the correspondence driver
issues them: the dual-queue variant uses `popCurrent` with fuel `queue length + #items + 2`, the
base class uses `popMaxGlobal`; `popL` exists only in the dual-queue variant. -/
def applyOp (s : State χ κ) : Op χ κ → State χ κ
  | .insert x g l hint =>
    match insert ltB leB s { x := x, globalR := g, localR := l } hint with
    | .ok s' => s'
    | .error _ => s
  | .clear => clearQueue s
  | .refill => refill leB s
  | .popG =>
    match (if s.dual then popCurrent leB neB true (s.gq.length + s.trials.size + 2) s
           else popMaxGlobal leB s) with
    | .ok (s', _, _) => s'
    | .error _ => s
  | .popL =>
    if s.dual then
      match popCurrent leB neB false (s.lq.length + s.trials.size + 2) s with
      | .ok (s', _, _) => s'
      | .error _ => s
    else s
  | .setG i k => setGlobalR s i k
  | .setL i k => setLocalR s i k

def run (s : State χ κ) (ops : List (Op χ κ)) : State χ κ := ops.foldl applyOp s

def IsFirstAbove (s : State χ κ) (x : χ) (r : Nat) : Prop :=
  ∃ pre post, traversal s = pre ++ r :: post ∧ (∃ xr, xOf s.trials r = some xr ∧ x < xr) ∧
    ∀ a ∈ pre, ∀ xa, xOf s.trials a = some xa → xa ≤ x

/-- The first clause is `x_first ≤ x`: for `x < x_first` the Python code raises. -/
def InsertOk (s : State χ κ) (x : χ) (hint : Option Nat) : Prop :=
  (∃ f xf, s.first = some f ∧ xOf s.trials f = some xf ∧ xf ≤ x) ∧
  (∃ j xj, xOf s.trials j = some xj ∧ x < xj) ∧
  (hint = none ∨ ∃ r, hint = some r ∧ IsFirstAbove s x r)

def OpOk (s : State χ κ) : Op χ κ → Prop
  | .insert x _ _ hint => InsertOk s x hint
  | _ => True

def ValidSeq (s : State χ κ) : List (Op χ κ) → Prop
  | [] => True
  | op :: ops => OpOk s op ∧ ValidSeq (applyOp s op) ops

def insertedXs : List (Op χ κ) → List χ
  | [] => []
  | .insert x _ _ _ :: ops => x :: insertedXs ops
  | _ :: ops => insertedXs ops

def init (m : Option Nat) (d : Bool) (l r : Item χ κ) : State χ κ :=
  insertFirst { maxlen := m, dual := d } l r

structure Inv (s : State χ κ) : Prop where
  wf : WF s
  gsorted : QSorted s.gq
  lsorted : QSorted s.lq
  gids : ∀ e ∈ s.gq, e.2 < s.trials.size
  lids : ∀ e ∈ s.lq, e.2 < s.trials.size
  maxlen_pos : s.maxlen ≠ some 0

end vocabulary

theorem insertedXs_cons (op : Op χ κ) (ops : List (Op χ κ)) :
    insertedXs (op :: ops) = insertedXs [op] ++ insertedXs ops := by
  cases op <;> simp [insertedXs]

section ordered
variable [LinearOrder χ]

/-- `WF s` is `Rep s.trials s.first (traversal s)`; these clauses are what C19 calls "consistent
neighbour links and the correct count" (the count: `Rep.length_eq`). -/
theorem C19_WF_iff (s : State χ κ) :
    WF s ↔
      (∃ f, s.first = some f ∧ (traversal s).head? = some f) ∧
      (traversal s).Perm (List.range s.trials.size) ∧
      (∀ A a b B, traversal s = A ++ a :: b :: B →
        ∃ ia ib, s.trials[a]? = some ia ∧ s.trials[b]? = some ib ∧
          ia.right = some b ∧ ib.left = some a) ∧
      (∀ a B, traversal s = a :: B → ∃ ia, s.trials[a]? = some ia ∧ ia.left = none) ∧
      (∀ A a, traversal s = A ++ [a] → ∃ ia, s.trials[a]? = some ia ∧ ia.right = none) ∧
      (coordsOf s.trials (traversal s)).Pairwise (· ≤ ·) := by
  constructor
  · intro h
    refine ⟨?_, h.perm, ?_, ?_, ?_, h.coords_sorted⟩
    · cases ht : traversal s with
      | nil => exact absurd ht h.ne_nil
      | cons f T => exact ⟨f, by rw [h.first_eq, ht]; rfl, rfl⟩
    · intro A a b B ht
      have hs := h.seg
      rw [ht, Seg_append, Seg_cons, Seg_cons] at hs
      obtain ⟨ia, hia, -, hra⟩ := linkOf_eq_some.1 hs.2.1
      obtain ⟨ib, hib, hlb, -⟩ := linkOf_eq_some.1 hs.2.2.1
      exact ⟨ia, ib, hia, hib, hra, hlb⟩
    · intro a B ht
      have hs := h.seg
      rw [ht, Seg_cons] at hs
      obtain ⟨ia, hia, hla, -⟩ := linkOf_eq_some.1 hs.1
      exact ⟨ia, hia, hla⟩
    · intro A a ht
      have hs := h.seg
      rw [ht, Seg_append, Seg_cons] at hs
      obtain ⟨ia, hia, -, hra⟩ := linkOf_eq_some.1 hs.2.1
      exact ⟨ia, hia, hra⟩
  · rintro ⟨⟨f, h1, h2⟩, h3, h4, h5, h6, h7⟩
    refine ⟨by rw [h1, h2], ?_, h3, Seg_of_clauses _ none none h4 h5 h6, ?_⟩
    · intro hnil; rw [hnil] at h2; cases h2
    · exact coords_sorted_iff.1 h7

/-- `WF` = consistent links (`RepL`, the clauses of `C19_WF_iff` without the last) + sortedness -/
theorem C19_WF_iff_links (s : State χ κ) :
    WF s ↔ RepL s.trials s.first (traversal s) ∧
      (coordsOf s.trials (traversal s)).Pairwise (· ≤ ·) := by
  constructor
  · intro h; exact ⟨Rep.repL h, Rep.coords_sorted h⟩
  · rintro ⟨hL, h7⟩
    exact ⟨hL.first_eq, hL.ne_nil, hL.perm, hL.seg, coords_sorted_iff.1 h7⟩

/-- C19: "covering-interval lookup returns the first item to the right of the query"; `None` exactly
when there is no such item. -/
theorem C19_find_spec {s : State χ κ} (h : WF s) (x : χ) :
    (∀ r, find ltB s x = some r ↔ IsFirstAbove s x r) ∧
    (find ltB s x = none ↔ ∀ a xa, xOf s.trials a = some xa → xa ≤ x) := by
  unfold IsFirstAbove
  simp only [find_eq, List.find?_eq_some_iff_append, List.find?_eq_none, Bool.not_eq_true', Bool.not_eq_true,
    gtB_eq_false_iff]
  refine ⟨fun r => ⟨?_, ?_⟩, fun hall a xa hxa => ?_, fun hall a _ => hall a⟩
  · rintro ⟨hr, pre, post, ht, hpre⟩
    exact ⟨pre, post, ht, gtB_iff.1 hr, hpre⟩
  · rintro ⟨pre, post, ht, hr, hpre⟩
    exact ⟨gtB_iff.2 hr, pre, post, ht, hpre⟩
  · -- every stored item is on the traversal
    exact hall a ((Rep.mem_iff h).2 (lt_of_xOf hxa)) xa hxa

/-- The item found is the right end of the covering interval. -/
theorem C19_find_covering {s : State χ κ} (h : WF s) (x : χ) (r : Nat)
    (hf : find ltB s x = some r) :
    ∃ xr, xOf s.trials r = some xr ∧ x < xr ∧
      (∀ j xj, xOf s.trials j = some xj → x < xj → xr ≤ xj) ∧
      (∀ A l B, traversal s = A ++ l :: r :: B → ∀ xl, xOf s.trials l = some xl → xl ≤ x) := by
  obtain ⟨pre, post, ht, ⟨xr, hxr, hlt⟩, hpre⟩ := ((C19_find_spec h x).1 r).1 hf
  refine ⟨xr, hxr, hlt, ?_, ?_⟩
  · intro j xj hxj hj
    have hjm : j ∈ traversal s := (Rep.mem_iff h).2 (lt_of_xOf hxj)
    rw [ht] at hjm
    rcases List.mem_append.1 hjm with hj1 | hj2
    · exact absurd (hpre j hj1 xj hxj) (not_le_of_gt hj)
    · rcases List.mem_cons.1 hj2 with rfl | hj3
      · rw [hxr] at hxj; cases hxj; exact le_refl _
      · have hs := Rep.sorted h
        rw [ht, List.pairwise_append, List.pairwise_cons] at hs
        exact hs.2.1.1 j hj3 xr xj hxr hxj
  · intro A l B ht' xl hxl
    have hnd : (traversal s).Nodup := Rep.nodup h
    -- the two decompositions around `r` coincide
    have hApre : pre = A ++ [l] := by
      have e : pre ++ r :: post = (A ++ [l]) ++ r :: B := by rw [← ht, ht']; simp
      have hr1 : r ∉ pre := by
        intro hm
        rw [ht, List.nodup_append] at hnd
        exact hnd.2.2 r hm r List.mem_cons_self rfl
      have hr2 : r ∉ A ++ [l] := by
        intro hm
        have hnd' := hnd
        rw [ht', show A ++ l :: r :: B = (A ++ [l]) ++ r :: B by simp, List.nodup_append] at hnd'
        exact hnd'.2.2 r hm r List.mem_cons_self rfl
      exact append_cons_inj_left hr1 hr2 e
    exact hpre l (by rw [hApre]; simp) xl hxl

def insertOkB (s : State χ κ) (x : χ) (hint : Option Nat) : Bool :=
  (match s.first with
   | some f =>
     match xOf s.trials f with
     | some xf => decide (xf ≤ x)
     | none => false
   | none => false) &&
  (List.range s.trials.size).any (gtB ltB s.trials x) &&
  (match hint with
   | none => true
   | some r => find ltB s x == some r)

theorem insertOk_of_B {s : State χ κ} (h : WF s) {x : χ} {hint : Option Nat}
    (hb : insertOkB s x hint = true) : InsertOk s x hint := by
  unfold insertOkB at hb
  simp only [Bool.and_eq_true] at hb
  obtain ⟨⟨h1, h2⟩, h3⟩ := hb
  refine ⟨?_, ?_, ?_⟩
  · cases hf : s.first with
    | none => rw [hf] at h1; cases h1
    | some f =>
      rw [hf] at h1
      cases hx : xOf s.trials f with
      | none => simp [hx] at h1
      | some xf =>
        simp only [hx, decide_eq_true_eq] at h1
        exact ⟨f, xf, rfl, hx, h1⟩
  · obtain ⟨j, -, hj⟩ := List.any_eq_true.1 h2
    obtain ⟨xj, hxj, hlt⟩ := gtB_iff.1 hj
    exact ⟨j, xj, hxj, hlt⟩
  · cases hint with
    | none => exact Or.inl rfl
    | some r =>
      right
      refine ⟨r, rfl, ((C19_find_spec h x).1 r).1 ?_⟩
      simpa using h3

variable [LinearOrder κ]

theorem Inv.setq_sublist {s : State χ κ} (h : Inv s) (glob : Bool) {q' : List (κ × Nat)}
    (hsub : q'.Sublist (selq glob s)) : Inv (setq glob s q') := by
  have hwf : WF (setq glob s q') := (WF_congr (setq_trials _ _ _) (setq_first _ _ _)).2 h.wf
  cases glob
  · exact { h with wf := hwf, lsorted := h.lsorted.sublist hsub, lids := fun e he => h.lids e (hsub.subset he) }
  · exact { h with wf := hwf, gsorted := h.gsorted.sublist hsub, gids := fun e he => h.gids e (hsub.subset he) }

theorem Inv.clear {s : State χ κ} (h : Inv s) : Inv (clearQueue s) :=
  { wf := (WF_congr (s := s) (s' := clearQueue s) rfl rfl).2 h.wf
    gsorted := QSorted.nil, lsorted := QSorted.nil
    gids := by simp [clearQueue]
    lids := by simp [clearQueue]
    maxlen_pos := h.maxlen_pos }

theorem Inv.refill {s : State χ κ} (h : Inv s) : Inv (refill leB s) := by
  have hwf : WF (SD.refill leB s) := (WF_congr (refill_trials s) (refill_first s)).2 h.wf
  have hids : ∀ (c : Item χ κ → κ) (e : κ × Nat),
      e ∈ qinsertAll s.maxlen (entriesOf c s.trials (traversal s)) [] → e.2 < s.trials.size := by
    intro c e he
    exact (Rep.mem_iff h.wf).1 (mem_entriesOf.1 (mem_of_mem_qinsertAll_nil he)).1
  refine { wf := hwf, gsorted := ?gsorted, lsorted := ?lsorted, gids := ?gids, lids := ?lids, maxlen_pos := ?maxlen_pos }
  case gsorted =>
    rw [refill_eq]; exact qinsertAll_sorted _ _ QSorted.nil
  case lsorted =>
    rw [refill_eq]
    show QSorted (if s.dual then _ else _)
    split
    · exact qinsertAll_sorted _ _ QSorted.nil
    · exact QSorted.nil
  case gids =>
    rw [refill_trials, refill_eq]
    exact hids _
  case lids =>
    rw [refill_trials, refill_eq]
    show ∀ e ∈ (if s.dual then _ else _), _
    split
    · exact hids _
    · simp
  case maxlen_pos =>
    rw [refill_maxlen]; exact h.maxlen_pos

/-- `InsertDataItem` under its precondition: the item found (or hinted) is `r`, its left neighbour
is `l`, and the new id is spliced in between.  The new state is a variable `s'` with its equation and
not the `{ s with … }` term itself: the users rewrite with the equation where they need a field; a
step of theirs that has to unify against the structure term is several times dearer to check. -/
theorem insertOk_rep {s : State χ κ} (h : WF s) (new : Item χ κ) (hint : Option Nat) (hok : InsertOk s new.x hint) :
    ∃ pre' l r post rit s',
      traversal s = pre' ++ l :: r :: post ∧ find ltB s new.x = some r ∧ s.trials[r]? = some rit ∧
      insert ltB leB s new hint = .ok s' ∧
      s' = { s with
        trials := insTrials s.trials new l r
        gq := insQ leB s.maxlen hint.isSome new.globalR s.trials.size rit.globalR r s.gq
        lq := if s.dual then insQ leB s.maxlen hint.isSome new.localR s.trials.size rit.localR r s.lq
              else s.lq } ∧
      Rep s'.trials s'.first (pre' ++ l :: s.trials.size :: r :: post) := by
  obtain ⟨⟨f, xf, hf, hxf, hlt⟩, ⟨j, xj, hxj, hjlt⟩, hhint⟩ := hok
  obtain ⟨r, hfind⟩ : ∃ r, find ltB s new.x = some r := by
    cases hf : find ltB s new.x with
    | some r => exact ⟨r, rfl⟩
    | none => exact absurd ((C19_find_spec h new.x).2.1 hf j xj hxj) (not_le_of_gt hjlt)
  obtain ⟨pre, post, ht, ⟨xr, hxr, hxlt⟩, hpre⟩ := ((C19_find_spec h new.x).1 r).1 hfind
  -- the found item is not the first one
  have hne : pre ≠ [] := by
    rintro rfl
    have hf' : s.first = some r := by rw [Rep.first_eq h, ht]; rfl
    rw [hf] at hf'; cases hf'
    rw [hxf] at hxr; cases hxr
    exact absurd hlt (not_le_of_gt hxlt)
  obtain ⟨pre', l, rfl⟩ : ∃ pre' l, pre = pre' ++ [l] :=
    ⟨pre.dropLast, pre.getLast hne, (List.dropLast_concat_getLast hne).symm⟩
  have ht' : traversal s = pre' ++ l :: r :: post := by rw [ht]; simp
  have h' : Rep s.trials s.first (pre' ++ l :: r :: post) := ht' ▸ h
  have hseg := h'.seg
  rw [Seg_append, Seg_cons, Seg_cons] at hseg
  obtain ⟨rit, hrit, hleft, -⟩ := linkOf_eq_some.1 hseg.2.2.1
  obtain ⟨xl, hxl⟩ := xOf_isSome_of_lt ((Rep.mem_iff h').1 (by simp : l ∈ _))
  -- a hint is the item `find` would give
  have hro : hint.or (find ltB s new.x) = some r := by
    rcases hhint with rfl | ⟨r', rfl, hfa⟩
    · exact hfind
    · rw [← hfind, ((C19_find_spec h new.x).1 r').2 hfa]; rfl
  exact ⟨pre', l, r, post, rit, _, ht', hfind, hrit, by simp only [insert_def, hro, hrit, hleft], rfl,
    Rep_insTrials new h' hxl hxr (hpre l (by simp) xl hxl) hxlt.le⟩

theorem insert_step {s : State χ κ} (h : Inv s) (x : χ) (g l : κ) (hint : Option Nat)
    (hok : InsertOk s x hint) :
    ∃ s', insert ltB leB s { x := x, globalR := g, localR := l } hint = .ok s' ∧
      Inv s' ∧ s'.maxlen = s.maxlen ∧ s'.dual = s.dual ∧
      storedXs s'.trials = storedXs s.trials ++ [x] := by
  obtain ⟨pre', lft, r, post, rit, s', ht, hfind, hrit, hins, hs', hrep⟩ :=
    insertOk_rep h.wf { x := x, globalR := g, localR := l } hint hok
  have hr : r < s.trials.size := (Rep.mem_iff h.wf).1 (by rw [ht]; simp)
  have htr : s'.trials = insTrials s.trials { x := x, globalR := g, localR := l } lft r := by
    rw [hs']
  have hsz : s'.trials.size = s.trials.size + 1 := by rw [htr, insTrials_size]
  refine ⟨s', hins, ?_, by rw [hs'], by rw [hs'], ?_⟩
  · refine
      { wf := hrep.wf, gsorted := ?gsorted, lsorted := ?lsorted, gids := ?gids, lids := ?lids
        maxlen_pos := by rw [hs']; exact h.maxlen_pos }
    case gsorted =>
      rw [hs']; exact insQ_sorted _ _ _ _ _ _ h.gsorted
    case lsorted =>
      rw [hs']
      show QSorted (if s.dual then _ else _)
      split
      · exact insQ_sorted _ _ _ _ _ _ h.lsorted
      · exact h.lsorted
    case gids =>
      intro e he
      rw [hsz]
      rw [hs'] at he
      rcases mem_insQ he with rfl | rfl | he
      · exact Nat.lt_succ_self _
      · exact Nat.lt_succ_of_lt hr
      · exact Nat.lt_succ_of_lt (h.gids e he)
    case lids =>
      intro e he
      rw [hsz]
      rw [hs'] at he
      change e ∈ (if s.dual then _ else _) at he
      split at he
      · rcases mem_insQ he with rfl | rfl | he
        · exact Nat.lt_succ_self _
        · exact Nat.lt_succ_of_lt hr
        · exact Nat.lt_succ_of_lt (h.lids e he)
      · exact Nat.lt_succ_of_lt (h.lids e he)
  · rw [htr]; exact storedXs_insTrials _ _ _ _

/-- The base-class best-interval request on a sorted queue returns `(i, k)` where
`k` is `≥` every key of the queue it popped from, and that entry is removed.  If the queue was empty
it is refilled first; then `k` is the current characteristic of `i` and `k ≥ globalR` of EVERY
stored item.  The request never fails (for a non-degenerate bound `maxlen ≠ some 0`). -/
theorem C19_pop_max {s : State χ κ} (h : WF s) (hs : QSorted s.gq) (hm : s.maxlen ≠ some 0) :
    ∃ s' i k, popMaxGlobal leB s = .ok (s', i, k) ∧
      s'.trials = s.trials ∧ s'.first = s.first ∧
      ((s.gq = (k, i) :: s'.gq ∧ s' = { s with gq := s'.gq } ∧ ∀ e ∈ s.gq, e.1 ≤ k) ∨
       (s.gq = [] ∧ (refill leB s).gq = (k, i) :: s'.gq ∧
          s' = { refill leB s with gq := s'.gq } ∧
          (∃ it, s.trials[i]? = some it ∧ k = it.globalR) ∧
          ∀ (j : Nat) (jt : Item χ κ), s.trials[j]? = some jt → jt.globalR ≤ k)) := by
  cases hq : s.gq with
  | cons e q =>
    obtain ⟨k, i⟩ := e
    refine ⟨_, i, k, popMaxGlobal_cons hq, rfl, rfl, Or.inl ⟨rfl, rfl, ?_⟩⟩
    intro e he
    rw [hq] at hs
    rcases List.mem_cons.1 he with rfl | he
    · exact le_refl _
    · exact hs.head_ge e he
  | nil =>
    obtain ⟨k, i, rest, hq', hcur, hmax⟩ := refill_head h true (by simp) hm
    exact ⟨_, i, k, popMaxGlobal_nil hq hq', refill_trials s, refill_first s, Or.inr ⟨rfl, hq', rfl, hcur, hmax⟩⟩

/-- The dual-queue best-interval request `popCurrent` on queue `glob`
(`true`: global characteristics, `false`: local ones — then the container must be the dual variant)
with `fuel ≥ queue length + 1` (the callers pass `queue length + #items + 2`):

* it terminates with `.ok (s', i, k)` — it never runs out of fuel and never raises;
* `k` is the CURRENT characteristic of item `i`;
* if the starting queue had a current entry: `(k, i)` is the first current entry, every entry in
  front of it was stale and is discarded, the queue continues right after it, and `k ≥` the key of
  every entry of the starting queue that was still current;
* otherwise (no entry of the starting queue was current) the queue is refilled and `k` is a global
  maximum: `k ≥` the current characteristic of every stored item. -/
theorem C19_dual_pop_current {s : State χ κ} (h : WF s) (glob : Bool) (fuel : Nat)
    (hs : QSorted (selq glob s)) (hids : ∀ e ∈ selq glob s, e.2 < s.trials.size)
    (hd : glob = false → s.dual = true) (hm : s.maxlen ≠ some 0)
    (hfuel : (selq glob s).length + 1 ≤ fuel) :
    ∃ s' i k,
      popCurrent leB neB glob fuel s = .ok (s', i, k) ∧
      s'.trials = s.trials ∧ s'.first = s.first ∧
      (∃ it, s.trials[i]? = some it ∧ k = curOf glob it) ∧
      (((∃ e ∈ selq glob s, IsCur glob s.trials e) ∧
          (∃ pre, selq glob s = pre ++ (k, i) :: selq glob s' ∧
            ∀ e ∈ pre, ¬ IsCur glob s.trials e) ∧
          s' = setq glob s (selq glob s') ∧
          (∀ e ∈ selq glob s, IsCur glob s.trials e → e.1 ≤ k)) ∨
       ((∀ e ∈ selq glob s, ¬ IsCur glob s.trials e) ∧
          selq glob (refill leB s) = (k, i) :: selq glob s' ∧
          s' = setq glob (refill leB s) (selq glob s') ∧
          ∀ (j : Nat) (jt : Item χ κ), s.trials[j]? = some jt → curOf glob jt ≤ k)) := by
  rcases list_first_or_none (IsCur glob s.trials) (selq glob s) with
    ⟨pre, ⟨k, i⟩, post, hq, hpre, hcur⟩ | hall
  · -- a current entry is found in the queue
    have hrun := popCurrent_scan_found (glob := glob) pre s fuel hq
      (fun e he => ⟨hids e (by rw [hq]; exact List.mem_append_left _ he), hpre e he⟩) hcur
      (by rw [hq] at hfuel; simp at hfuel; omega)
    refine ⟨setq glob s post, i, k, hrun, setq_trials _ _ _, setq_first _ _ _, hcur,
      Or.inl ⟨⟨_, by rw [hq]; simp, hcur⟩, ⟨pre, by rw [selq_setq]; exact hq, hpre⟩, by rw [selq_setq], ?_⟩⟩
    intro e he hecur
    rw [hq] at he hs
    rcases List.mem_append.1 he with he1 | he2
    · exact absurd hecur (hpre e he1)
    · rcases List.mem_cons.1 he2 with rfl | he3
      · exact le_refl _
      · exact QSorted.head_ge (List.pairwise_append.1 hs).2.1 e he3
  · -- the whole queue is stale: it is emptied, refilled, and the head is returned
    have hrun := popCurrent_skip (glob := glob) (rest := []) (selq glob s) s fuel (List.append_nil _).symm
      (fun e he => ⟨hids e he, hall e he⟩) (by omega)
    obtain ⟨f', hf'⟩ : ∃ f', fuel - (selq glob s).length = f' + 1 :=
      ⟨fuel - (selq glob s).length - 1, by omega⟩
    obtain ⟨k, i, rest, hq', ⟨it, hit, hk⟩, hmax⟩ := refill_head h glob hd hm
    rw [hf', popCurrent_nil (selq_setq _ _ _) (by rw [refill_setq]; exact hq') (by rw [refill_setq, refill_trials]; exact hit),
      if_neg (by simpa using hk), refill_setq] at hrun
    exact ⟨setq glob (refill leB s) rest, i, k, hrun, by simp [refill_trials], by simp [refill_first],
      ⟨it, hit, hk⟩, Or.inr ⟨hall, by rw [selq_setq]; exact hq', by rw [selq_setq], hmax⟩⟩

theorem popCurrent_step {s : State χ κ} (h : Inv s) (glob : Bool)
    (hd : glob = false → s.dual = true) (fuel : Nat) (hfuel : (selq glob s).length + 1 ≤ fuel) :
    ∃ s' i k, popCurrent leB neB glob fuel s = .ok (s', i, k) ∧ Inv s' ∧
      s'.trials = s.trials ∧ s'.maxlen = s.maxlen ∧ s'.dual = s.dual := by
  have hids : ∀ e ∈ selq glob s, e.2 < s.trials.size := by
    cases glob
    · exact h.lids
    · exact h.gids
  have hsorted : QSorted (selq glob s) := by
    cases glob
    · exact h.lsorted
    · exact h.gsorted
  obtain ⟨s', i, k, hrun, -, -, -, hcase⟩ :=
    C19_dual_pop_current h.wf glob fuel hsorted hids hd h.maxlen_pos hfuel
  refine ⟨s', i, k, hrun, ?_⟩
  rcases hcase with ⟨-, ⟨pre, hq, -⟩, hs', -⟩ | ⟨-, hq, hs', -⟩
  · rw [hs']
    refine ⟨h.setq_sublist glob ?_, by simp, by simp, by simp⟩
    rw [hq]
    exact (List.sublist_cons_self _ _).trans (List.sublist_append_right _ _)
  · rw [hs']
    refine ⟨h.refill.setq_sublist glob ?_, by simp [refill_trials], by simp [refill_maxlen],
      by simp [refill_dual]⟩
    rw [hq]
    exact List.sublist_cons_self _ _

theorem popMaxGlobal_step {s : State χ κ} (h : Inv s) :
    ∃ s' i k, popMaxGlobal leB s = .ok (s', i, k) ∧ Inv s' ∧
      s'.trials = s.trials ∧ s'.maxlen = s.maxlen ∧ s'.dual = s.dual := by
  obtain ⟨s', i, k, hrun, -, -, hcase⟩ := C19_pop_max h.wf h.gsorted h.maxlen_pos
  refine ⟨s', i, k, hrun, ?_⟩
  rcases hcase with ⟨hq, hs', -⟩ | ⟨-, hq, hs', -⟩
  · rw [hs']
    refine ⟨h.setq_sublist true ?_, rfl, rfl, rfl⟩
    show s'.gq.Sublist s.gq
    rw [hq]
    exact List.sublist_cons_self _ _
  · rw [hs']
    refine ⟨h.refill.setq_sublist true ?_, refill_trials s, refill_maxlen s, refill_dual s⟩
    show s'.gq.Sublist (SD.refill leB s).gq
    rw [hq]
    exact List.sublist_cons_self _ _

theorem Inv.modify_char {s : State χ κ} (h : Inv s) (i : Nat) (f : Item χ κ → Item χ κ)
    (hf : ∀ it, (f it).left = it.left ∧ (f it).right = it.right ∧ (f it).x = it.x) :
    let s' : State χ κ := { s with trials := s.trials.modify i f }
    Inv s' ∧ s'.maxlen = s.maxlen ∧ s'.dual = s.dual ∧ storedXs s'.trials = storedXs s.trials ++ [] := by
  obtain ⟨h1, h2, h3⟩ := modify_char_view s.trials i f hf
  refine ⟨{ h with wf := (Rep_of_view_eq h1 h2 h3 h.wf).wf, gids := ?gids, lids := ?lids }, rfl, rfl, ?xs⟩
  case gids =>
    intro e he; show e.2 < (s.trials.modify i f).size; rw [h1]; exact h.gids e he
  case lids =>
    intro e he; show e.2 < (s.trials.modify i f).size; rw [h1]; exact h.lids e he
  case xs =>
    show storedXs (s.trials.modify i f) = _
    rw [storedXs_of_view_eq h1 h3, List.append_nil]

theorem step_inv {s : State χ κ} (h : Inv s) (op : Op χ κ) (hok : OpOk s op) :
    Inv (applyOp s op) ∧ (applyOp s op).maxlen = s.maxlen ∧ (applyOp s op).dual = s.dual ∧
      storedXs (applyOp s op).trials = storedXs s.trials ++ insertedXs [op] := by
  cases op with
  | insert x g l hint =>
    obtain ⟨s', hins, hinv, hm, hd, hxs⟩ := insert_step h x g l hint hok
    have : applyOp s (.insert x g l hint) = s' := by simp [applyOp, hins]
    rw [this]
    exact ⟨hinv, hm, hd, hxs⟩
  | clear => exact ⟨h.clear, rfl, rfl, by simp [applyOp, clearQueue, insertedXs]⟩
  | refill =>
    exact ⟨h.refill, refill_maxlen s, refill_dual s, by simp [applyOp, refill_trials, insertedXs]⟩
  | popG =>
    by_cases hdual : s.dual = true
    · obtain ⟨s', i, k, hrun, hinv, htr, hm, hd⟩ :=
        popCurrent_step h true (by simp) (s.gq.length + s.trials.size + 2)
          (by simp [selq]; omega)
      have : applyOp s .popG = s' := by simp [applyOp, hdual, hrun]
      rw [this]
      exact ⟨hinv, hm, hd, by simp [htr, insertedXs]⟩
    · obtain ⟨s', i, k, hrun, hinv, htr, hm, hd⟩ := popMaxGlobal_step h
      have : applyOp s .popG = s' := by simp [applyOp, hdual, hrun]
      rw [this]
      exact ⟨hinv, hm, hd, by simp [htr, insertedXs]⟩
  | popL =>
    by_cases hdual : s.dual = true
    · obtain ⟨s', i, k, hrun, hinv, htr, hm, hd⟩ :=
        popCurrent_step h false (fun _ => hdual) (s.lq.length + s.trials.size + 2)
          (by simp [selq]; omega)
      have : applyOp s .popL = s' := by simp [applyOp, hdual, hrun]
      rw [this]
      exact ⟨hinv, hm, hd, by simp [htr, insertedXs]⟩
    · have : applyOp s .popL = s := by simp [applyOp, hdual]
      rw [this]
      exact ⟨h, rfl, rfl, by simp [insertedXs]⟩
  | setG i k => exact h.modify_char i _ fun _ => ⟨rfl, rfl, rfl⟩
  | setL i k => exact h.modify_char i _ fun _ => ⟨rfl, rfl, rfl⟩

/-- `InsertDataItem` under its precondition: the new id (= old item count) is placed immediately
before the first item with a larger coordinate; without a hint `insert` finds that item itself. -/
theorem C19_insert_ok {s : State χ κ} (h : WF s) (new : Item χ κ)
    (hint : Option Nat) (hok : InsertOk s new.x hint) :
    ∃ s' A r B, insert ltB leB s new hint = .ok s' ∧ WF s' ∧
      s'.trials.size = s.trials.size + 1 ∧ s'.first = s.first ∧
      traversal s = A ++ r :: B ∧ IsFirstAbove s new.x r ∧
      traversal s' = A ++ s.trials.size :: r :: B ∧
      storedXs s'.trials = storedXs s.trials ++ [new.x] := by
  obtain ⟨pre', lft, r, post, rit, s', ht, hfind, hrit, hins, hs', hrep⟩ := insertOk_rep h new hint hok
  have htr : s'.trials = insTrials s.trials new lft r := by rw [hs']
  refine ⟨s', pre' ++ [lft], r, post, hins, hrep.wf, by rw [htr, insTrials_size], by rw [hs'],
    by rw [ht]; simp, ((C19_find_spec h new.x).1 r).1 hfind, ?_, ?_⟩
  · rw [hrep.traversal_eq]; simp
  · rw [htr]; exact storedXs_insTrials _ _ _ _

theorem C19_wf_preserved {s s' : State χ κ} (h : WF s) (new : Item χ κ) (hint : Option Nat)
    (hok : InsertOk s new.x hint) (hins : insert ltB leB s new hint = .ok s') : WF s' := by
  obtain ⟨s'', -, -, -, hins', hwf, -⟩ := C19_insert_ok h new hint hok
  rw [hins] at hins'
  cases hins'
  exact hwf

/-- What a WRONG hint does (the three cases are exhaustive).  The hint is
trusted blindly: if `r` is a stored item other than the first one, the insertion succeeds and the
new id is spliced in immediately before `r` with consistent links — whatever the coordinates are, so
the order is lost unless the hint was right (`C19_insert_ok`).  Hinting the first item, or an id
that is not stored, raises `AttributeError`. -/
theorem C19_insert_any_hint {s : State χ κ} (h : WF s) (new : Item χ κ) (r : Nat) :
    (∀ A l B, traversal s = A ++ l :: r :: B →
      ∃ s', insert ltB leB s new (some r) = .ok s' ∧
        traversal s' = A ++ l :: s.trials.size :: r :: B ∧
        RepL s'.trials s'.first (traversal s')) ∧
    (∀ B, traversal s = r :: B → insert ltB leB s new (some r) = .error .attributeError) ∧
    (s.trials.size ≤ r → insert ltB leB s new (some r) = .error .attributeError) := by
  have hL : RepL s.trials s.first (traversal s) := Rep.repL h
  refine ⟨?_, ?_, ?_⟩
  · intro A l B ht
    rw [ht] at hL
    obtain ⟨s', hins, -, -, hL'⟩ := insert_hint_links (κ := κ) hL new
    refine ⟨s', hins, hL'.traversal_eq, ?_⟩
    rw [hL'.traversal_eq]; exact hL'
  · intro B ht
    rw [ht] at hL
    exact insert_hint_first_err (κ := κ) hL new
  · intro hr
    exact insert_hint_oob_err (κ := κ) hr new

theorem C19_init_inv (m : Option Nat) (d : Bool) (l r : Item χ κ) (hl : l.left = none)
    (hr : r.right = none) (hx : l.x ≤ r.x) (hm : m ≠ some 0) :
    Inv (init m d l r) ∧ traversal (init m d l r) = [0, 1] ∧
      storedXs (init m d l r).trials = [l.x, r.x] ∧
      (init m d l r).maxlen = m ∧ (init m d l r).dual = d := by
  have hrep := Rep_insertFirst m d l r hl hr hx
  refine ⟨{ wf := hrep.wf, gsorted := QSorted.nil, lsorted := QSorted.nil, gids := ?gids, lids := ?lids, maxlen_pos := hm },
    hrep.traversal_eq, ?xs, rfl, rfl⟩
  case gids => intro e he; cases he
  case lids => intro e he; cases he
  case xs => rw [storedXs_eq]; rfl

theorem C19_run_inv {s : State χ κ} (h : Inv s) (ops : List (Op χ κ)) (hv : ValidSeq s ops) :
    Inv (run s ops) ∧ (run s ops).maxlen = s.maxlen ∧ (run s ops).dual = s.dual ∧
      storedXs (run s ops).trials = storedXs s.trials ++ insertedXs ops := by
  induction ops generalizing s with
  | nil => exact ⟨h, rfl, rfl, by simp [run, insertedXs]⟩
  | cons op ops ih =>
    obtain ⟨hok, hv'⟩ := hv
    obtain ⟨h1, hm1, hd1, hx1⟩ := step_inv h op hok
    obtain ⟨h2, hm2, hd2, hx2⟩ := ih h1 hv'
    refine ⟨h2, hm2.trans hm1, hd2.trans hd1, ?_⟩
    show storedXs (run (applyOp s op) ops).trials = _
    rw [hx2, hx1, insertedXs_cons op ops, List.append_assoc]

/-- C19, the traversal: after any operation sequence (insertions with or without hint, queue
clears, refills, best-interval requests, characteristic updates) satisfying the insert
preconditions, started from the initial container, the container is well-formed (links consistent,
see `C19_WF_iff`), the coordinates along the traversal are sorted and are exactly the inserted
coordinates (strictly increasing if no coordinate was inserted twice), and the count is
`2 + number of inserts`.  The invariant `Inv s` in the conclusion supplies the hypotheses on the
state of `C19_pop_max`, `C19_dual_pop_current`, `C19_refill_spec`, `C19_find_spec`, `C19_insert_ok`
in every reachable state.  (Non-vacuity: `Example.valid` below.) -/
theorem C19_traversal_sorted (m : Option Nat) (d : Bool) (l r : Item χ κ) (hl : l.left = none)
    (hr : r.right = none) (hx : l.x ≤ r.x) (hm : m ≠ some 0) (ops : List (Op χ κ))
    (hv : ValidSeq (init m d l r) ops) :
    let s := run (init m d l r) ops
    Inv s ∧ s.maxlen = m ∧ s.dual = d ∧
    (coordsOf s.trials (traversal s)).Pairwise (· ≤ ·) ∧
    (coordsOf s.trials (traversal s)).Perm (l.x :: r.x :: insertedXs ops) ∧
    ((l.x :: r.x :: insertedXs ops).Nodup → (coordsOf s.trials (traversal s)).Pairwise (· < ·)) ∧
    (traversal s).length = s.trials.size ∧
    s.trials.size = 2 + (insertedXs ops).length := by
  intro s
  obtain ⟨hinv0, -, hxs0, -, -⟩ := C19_init_inv m d l r hl hr hx hm
  obtain ⟨hinv, hmax, hdual, hxs⟩ := C19_run_inv hinv0 ops hv
  rw [hxs0] at hxs
  have hxs' : storedXs s.trials = l.x :: r.x :: insertedXs ops := hxs
  have hwf : Rep s.trials s.first (traversal s) := hinv.wf
  refine ⟨hinv, hmax, hdual, hwf.coords_sorted, ?_, ?_, hwf.length_eq, ?_⟩
  · rw [← hxs']; exact hwf.coords_perm
  · intro hnd
    exact hwf.coords_strict (by rw [hxs']; exact hnd)
  · have := congrArg List.length hxs'
    rw [storedXs_eq] at this
    simp at this
    omega

/-- `RefillQueue` rebuilds the queue from the traversal: it is `qinsertAll maxlen` of the entries
`(globalR i, i)` of the traversal (so with a bound `n` it holds the `n` best, see
`C19_bounded_keeps_top`). -/
theorem C19_refill_spec {s : State χ κ} (h : WF s) :
    (refill leB s).trials = s.trials ∧ (refill leB s).first = s.first ∧
    QSorted (refill leB s).gq ∧
    (refill leB s).gq = qinsertAll s.maxlen (entriesOf Item.globalR s.trials (traversal s)) [] ∧
    (refill leB s).lq = (if s.dual then
        qinsertAll s.maxlen (entriesOf Item.localR s.trials (traversal s)) [] else []) ∧
    (∀ e ∈ (refill leB s).gq, ∃ it, s.trials[e.2]? = some it ∧ e.1 = it.globalR) ∧
    (s.maxlen = none →
      (refill leB s).gq.Perm (entriesOf Item.globalR s.trials (traversal s)) ∧
      ((refill leB s).gq.map Prod.snd).Perm (List.range s.trials.size)) := by
  have hgq : (refill leB s).gq =
      qinsertAll s.maxlen (entriesOf Item.globalR s.trials (traversal s)) [] := by
    rw [refill_eq]
  refine ⟨refill_trials s, refill_first s, ?_, hgq, by rw [refill_eq], ?_, ?_⟩
  · rw [hgq]; exact qinsertAll_sorted _ _ QSorted.nil
  · intro e he
    rw [hgq] at he
    exact (mem_entriesOf.1 (mem_of_mem_qinsertAll_nil he)).2
  · intro hm
    rw [hgq, hm]
    have hp0 := qsortAll_perm (entriesOf Item.globalR s.trials (traversal s))
    have hp := hp0.map Prod.snd
    rw [entriesOf_map_snd (fun a ha => (Rep.mem_iff h).1 ha)] at hp
    exact ⟨hp0, hp.trans (Rep.perm h)⟩

/-- In every state satisfying the invariant (in particular after every valid
operation sequence, `C19_run_inv`) the best-interval requests issued by the driver succeed. -/
theorem C19_pop_total {s : State χ κ} (h : Inv s) :
    (∃ r, popMaxGlobal leB s = .ok r) ∧
    (∃ r, popCurrent leB neB true (s.gq.length + s.trials.size + 2) s = .ok r) ∧
    (s.dual = true → ∃ r, popCurrent leB neB false (s.lq.length + s.trials.size + 2) s = .ok r) := by
  refine ⟨?_, ?_, ?_⟩
  · obtain ⟨s', i, k, hrun, -⟩ := popMaxGlobal_step h
    exact ⟨_, hrun⟩
  · obtain ⟨s', i, k, hrun, -⟩ := popCurrent_step h true (by simp)
      (s.gq.length + s.trials.size + 2) (by simp [selq]; omega)
    exact ⟨_, hrun⟩
  · intro hdual
    obtain ⟨s', i, k, hrun, -⟩ := popCurrent_step h false (fun _ => hdual)
      (s.lq.length + s.trials.size + 2) (by simp [selq]; omega)
    exact ⟨_, hrun⟩

def opOkB (s : State χ κ) : Op χ κ → Bool
  | .insert x _ _ hint => insertOkB s x hint
  | _ => true

def validSeqB (s : State χ κ) : List (Op χ κ) → Bool
  | [] => true
  | op :: ops => opOkB s op && validSeqB (applyOp s op) ops

theorem validSeq_of_B {s : State χ κ} (h : Inv s) {ops : List (Op χ κ)}
    (hb : validSeqB s ops = true) : ValidSeq s ops := by
  induction ops generalizing s with
  | nil => trivial
  | cons op ops ih =>
    simp only [validSeqB, Bool.and_eq_true] at hb
    have hok : OpOk s op := by
      cases op with
      | insert x g l hint => exact insertOk_of_B h.wf hb.1
      | _ => trivial
    exact ⟨hok, ih (step_inv h op hok).1 hb.2⟩

end ordered

section queue
variable [LinearOrder κ] {β : Type}

/-- `DEPQ.insert` (`qinsertRaw`) and the bounded insert (`qinsert`, with or
without `maxlen`) keep the queue sorted by non-increasing key. -/
theorem C19_qinsert_sorted (m : Option Nat) (k : κ) (v : β) {q : List (κ × β)} (h : QSorted q) :
    QSorted (qinsertRaw leB k v q) ∧ QSorted (qinsert leB m k v q) :=
  ⟨qinsertRaw_sorted k v h, qinsert_sorted m k v h⟩

theorem C19_qinsert_perm (k : κ) (v : β) (q : List (κ × β)) :
    (qinsertRaw leB k v q).Perm ((k, v) :: q) ∧
    (qinsert leB none k v q).Perm ((k, v) :: q) ∧
    (∀ n, q.length < n → (qinsert leB (some n) k v q).Perm ((k, v) :: q)) := by
  refine ⟨qinsertRaw_perm k v q, qinsertRaw_perm k v q, ?_⟩
  intro n hn
  rw [qinsert_eq_raw_of_le k v hn]
  exact qinsertRaw_perm k v q

/-- Older equal keys stay ahead of the new entry. -/
theorem C19_qinsert_stable (k : κ) (v : β) {q : List (κ × β)} (h : QSorted q) :
    ∃ a b, q = a ++ b ∧ qinsertRaw leB k v q = a ++ (k, v) :: b ∧
      (∀ e ∈ a, k ≤ e.1) ∧ (∀ e ∈ b, e.1 < k) :=
  qinsertRaw_split k v h

theorem C19_qinsert_evict (n : Nat) (k : κ) (v : β) {q : List (κ × β)} (h : QSorted q)
    (hn : n ≤ q.length) :
    ∃ d, qinsertRaw leB k v q = qinsert leB (some n) k v q ++ [d] ∧
      ∀ e ∈ qinsert leB (some n) k v q, d.1 ≤ e.1 := by
  have hs := qinsertRaw_sorted k v h
  rw [qinsert_some_eq_take, Nat.max_eq_right hn]
  obtain ⟨d, hd⟩ : ∃ d, (qinsertRaw leB k v q).drop q.length = [d] :=
    List.length_eq_one_iff.1 (by rw [List.length_drop, qinsertRaw_length]; omega)
  rw [← List.take_append_drop q.length (qinsertRaw leB k v q), hd] at hs
  exact ⟨d, by rw [← hd, List.take_append_drop],
    fun e he => (List.pairwise_append.1 hs).2.2 e he d (List.mem_singleton.2 rfl)⟩

/-- C19: "a bounded queue retains the highest-priority entries".  Inserting `es` (oldest first) into
the empty queue with `maxlen = some n` leaves exactly the first `n` entries of the stable descending
sort `qsortAll es` of everything inserted, so ties are resolved in favour of the OLDER entry. -/
theorem C19_bounded_keeps_top (n : Nat) (es : List (κ × β)) :
    QSorted (qinsertAll (some n) es []) ∧
    (qinsertAll (some n) es []).length = min n es.length ∧
    qinsertAll (some n) es [] = (qsortAll es).take n ∧
    (QSorted (qsortAll es) ∧ (qsortAll es).Perm es ∧
      ∀ k0, (qsortAll es).filter (fun e => decide (e.1 = k0)) =
              es.filter (fun e => decide (e.1 = k0))) ∧
    (∀ d ∈ (qsortAll es).drop n, ∀ e ∈ qinsertAll (some n) es [], d.1 ≤ e.1) := by
  have heq := qinsertAll_some_eq_take n es
  refine ⟨qinsertAll_sorted _ _ QSorted.nil, ?_, heq,
    ⟨qsortAll_sorted es, qsortAll_perm es, qsortAll_stable es⟩, ?_⟩
  · simpa using qinsertAll_nil_length (some n) es
  · intro d hd e he
    rw [heq] at he
    have hs := qsortAll_sorted es
    rw [← List.take_append_drop n (qsortAll es)] at hs
    exact (List.pairwise_append.1 hs).2.2 e he d hd

end queue

theorem isCur_iff (glob : Bool) (tr : Array (Item χ κ)) (e : κ × Nat) :
    IsCur glob tr e ↔ tr[e.2]?.map (curOf glob) = some e.1 := by
  unfold IsCur
  cases tr[e.2]? with
  | none => simp
  | some it => simp [eq_comm]

namespace Example

def l0 : Item Nat Nat := { x := 0, globalR := 1, localR := 1 }
def r0 : Item Nat Nat := { x := 100, globalR := 1, localR := 1 }

/-- five insertions (with and without hint, equal keys 5,5,5 and 7,7), then item 5's global
characteristic is changed, which makes its queue entry `(7, 5)` stale -/
def ops : List (Op Nat Nat) :=
  [.insert 50 5 2 none, .insert 25 5 3 (some 2), .insert 75 5 1 none, .insert 60 7 0 (some 4),
   .insert 10 7 4 none, .setG 5 3]

def s0 : State Nat Nat := init none true l0 r0
def s1 : State Nat Nat := run s0 ops

theorem inv0 : Inv s0 := (C19_init_inv none true l0 r0 rfl rfl (by decide) (by simp)).1

theorem valid : ValidSeq s0 ops := validSeq_of_B inv0 (by decide)

theorem inv1 : Inv s1 := (C19_run_inv inv0 ops valid).1

example : traversal s1 = [0, 6, 3, 2, 5, 4, 1] ∧
    coordsOf s1.trials (traversal s1) = [0, 10, 25, 50, 60, 75, 100] ∧
    s1.trials.size = 2 + (insertedXs ops).length := by decide

example := C19_traversal_sorted none true l0 r0 rfl rfl (by decide) (by simp) ops valid

example : WF s1 ∧ InsertOk s1 30 (some 2) ∧ InsertOk s1 30 none ∧ find ltB s1 30 = some 2 :=
  ⟨inv1.wf, insertOk_of_B inv1.wf (by decide), insertOk_of_B inv1.wf (by decide), by decide⟩

example := C19_find_covering inv1.wf 30 2 (by decide)
example := C19_refill_spec inv1.wf

/-- a WRONG hint (item 1, coordinate 100, although item 2 with coordinate 50 is the first one right
of 30) is trusted blindly: the insertion succeeds, the links stay consistent, but the traversal is
no longer sorted (this is why `InsertOk` demands a correct hint). -/
example : (match insert ltB leB s1 { x := 30, globalR := 0, localR := 0 } (some 1) with
    | .ok s' => coordsOf s'.trials (traversal s')
    | .error _ => []) = [0, 10, 25, 50, 60, 75, 30, 100] := by decide

example : traversal s1 = [0, 6, 3, 2, 5] ++ 4 :: 1 :: [] := by decide
example := (C19_insert_any_hint inv1.wf { x := 30, globalR := 0, localR := 0 } 1).1
  [0, 6, 3, 2, 5] 4 [] (by decide)

/-- an insertion right of the last item raises (`find` returns `None`) -/
example : (match insert ltB leB s1 { x := 200, globalR := 0, localR := 0 } none with
    | .ok _ => false
    | .error e => e == .attributeError) = true := by decide

/-- the global queue: equal keys in insertion order (hinted inserts re-queue the right neighbour) -/
example : s1.gq = [(7, 5), (7, 6), (5, 2), (5, 3), (5, 2), (5, 4), (5, 4)] := by decide

def popView (r : Except Err (State Nat Nat × Nat × Nat)) : Option (Nat × Nat × List (Nat × Nat)) :=
  match r with
  | .ok (s', i, k) => some (i, k, s'.gq)
  | .error _ => none

/-- the head `(7, 5)` is STALE (item 5 now has `globalR = 3`),
the next entry `(7, 6)` is current; the request discards the first and returns the second. -/
example : ¬ IsCur true s1.trials (7, 5) ∧ IsCur true s1.trials (7, 6) ∧
    popView (popCurrent leB neB true (s1.gq.length + s1.trials.size + 2) s1)
      = some (6, 7, [(5, 2), (5, 3), (5, 2), (5, 4), (5, 4)]) := by
  refine ⟨by rw [isCur_iff]; decide, by rw [isCur_iff]; decide, by decide⟩

example := C19_dual_pop_current inv1.wf true (s1.gq.length + s1.trials.size + 2) inv1.gsorted
  inv1.gids (by simp) inv1.maxlen_pos (by simp [selq]; omega)

def s2 : State Nat Nat := run (init (some 3) false l0 r0) ops

theorem inv2 : Inv s2 :=
  have h0 := (C19_init_inv (some 3) false l0 r0 rfl rfl (by decide) (by simp)).1
  (C19_run_inv h0 ops (validSeq_of_B h0 (by decide))).1

example : s2.gq = [(7, 5), (7, 6), (5, 2)] := by decide

example := C19_pop_max inv2.wf inv2.gsorted inv2.maxlen_pos

example : popView (popMaxGlobal leB s2) = some (5, 7, [(7, 6), (5, 2)]) := by decide

/-- after a clear the request refills first (bound 3: the three best of all seven items) -/
example : popView (popMaxGlobal leB (clearQueue s2)) = some (6, 7, [(5, 3), (5, 2)]) := by decide

/-- bounded queue, ties: of the three entries with key 5 the two OLDEST are retained -/
example : qinsertAll (some 3) [((5 : Nat), "a"), (5, "b"), (7, "c"), (5, "d"), (2, "e")] []
    = [(7, "c"), (5, "a"), (5, "b")] := by decide

example := C19_qinsert_evict 3 5 "new" (q := [((7 : Nat), "c"), (5, "a"), (5, "b")])
  (by unfold QSorted; decide) (by decide)

example : QSorted [((7 : Nat), "c"), (5, "a"), (5, "b"), (2, "e")] ∧
    qinsertRaw leB 5 "new" [((7 : Nat), "c"), (5, "a"), (5, "b"), (2, "e")]
      = [(7, "c"), (5, "a"), (5, "b"), (5, "new"), (2, "e")] := by
  refine ⟨by unfold QSorted; decide, by decide⟩

end Example

end SD

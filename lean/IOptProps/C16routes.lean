import IOptProofs.ProcessFailRoutes
import IOptProofs.ProcessSameMethod
import IOptProofs.ProcessToy
/-!
# C16 on every route to the failing evaluation

"If the objective raises on its k-th evaluation (k>=2) during Solve, Solve still returns; the result reflects
exactly the k-1 completed trials - trial count, best point and value - the search information still satisfies
its ordering and fidelity rules, and the failed point is not recorded."

`IOptProps/C16.lean` proves this for `Solve` on a FRESH solver (`solve p f refine {}`), where the failing evaluation is
never the first one made inside `Solve` (`k ≥ 2`).  Here the `Solve` that meets the failing evaluation has a history:
`DoGlobalIteration` batches before it (`j` trials in all, `1 ≤ j ≤ k-1`; for `j = k-1` the failing evaluation is the FIRST one
made inside `Solve`), or a `Solve` that ended normally after `k-1` trials followed by a change of the parameters in place.
For contrast, the same failure inside a `DoGlobalIteration` call made by the user is not contained: the exception reaches
the caller and no `OnEndIteration` is emitted for that call.

As in `C16.lean`, `f` raises exactly at call index `k-1` (its `k`-th call), `g` is any oracle that agrees with `f` at every
other index, and "the search goes on" is expressed on the run with `g` (which makes at least `k` trials).  `Solve still
returns` is built into the model (`Proc.solve` is a total function).  The clause about `items` is up to the characteristics
`R` (`Ctl.eraseR`) for the reason explained in `C16.lean`.  Sequences of `DoGlobalIteration` calls are written as in
`IOptProps/C11.lean`: `runOps p f refine (bs.map Op.iter ++ [Op.solve]) {}`; "the batches do not raise" is
`iterN p g bs.sum {} = .ok _` (over an ordered field with the laws of the library functions, `1 < r`, `0 < n` and a total `g` this always
holds: `Proc.iterN_total` in `IOptProofs/MethodProc.lean`; for a general numeric type `CalculateIterationPoint` may raise).
-/

set_option linter.unusedSectionVars false

namespace C16
open AGP AGP.Ctl Proc

section generic
variable {α : Type} [Add α] [Sub α] [Mul α] [Div α] [Neg α] [LT α] [LE α]
  [DecidableLT α] [DecidableLE α] [OfNat α 0] [OfNat α 1] [OfNat α 2] [OfNat α 4] [Fns α]

abbrev afterBatches (p : Params α) (f : Nat → List α → Option α) (bs : List Nat) : PState α :=
  runOps p f (fun _ => none) (bs.map Op.iter) {}

abbrev batchesThenSolve (p : Params α) (f : Nat → List α → Option α) (refine : PState α → Option (LocalResult α))
    (bs : List Nat) : PState α :=
  runOps p f refine (bs.map Op.iter ++ [Op.solve]) {}

/-- **C16, failure containment after batches.**  On a fresh solver the calls `DoGlobalIteration(b)`, `b ∈ bs`, make
`j = Σ b` trials, `1 ≤ j ≤ k-1` (none of them reaches the failing call, none raises: `h0`); then `Solve` is called.  The
objective `f` raises exactly at its `k`-th call (`k ≥ 2`), `g` agrees with `f` at every other call index, and the run of the
same operations with `g` still makes its `k`-th trial (`hK`: necessarily inside `Solve`, i.e. the stop rule does not hold
after `j, …, k-1` trials and the `k`-th pass does not raise).  Let `psk` (method state `s`) be state `k-1` of the canonical
sequence of `g` from a fresh solver, `pr` the selection made by its `k`-th pass.  Then the batches are the same with `f` and
with `g`, and the final state (method state `sf`) satisfies exactly the clauses of `C16_fail_contained_partial`:

* kept: `items` up to `R` (literally if `recalc` was not set), `M`, `Z`, `best`, the best item, `nTrials = iters = k-1`,
  `nextId`, `evals` (the failed point got no item, no id and no record);
* differing: `minDelta`, the popped queue entry, `recalc = false`, `calls = k`;
* the event log is the log of the batches followed by one `OnEndIteration` for each of the trials `j+1 … k-1` made inside
  `Solve` (ids `j+2 … k`), the printed line and `OnMethodStop`. -/
theorem C16_fail_after_batches (p : Params α) (f g : Nat → List α → Option α) (k : Nat) (hk : 2 ≤ k)
    (hf : ∀ j pt, f j pt = none ↔ j = k - 1) (hg : ∀ j pt, j ≠ k - 1 → g j pt = f j pt)
    (bs : List Nat) (hj1 : 1 ≤ bs.sum) (hjk : bs.sum ≤ k - 1)
    (h0 : ∃ ps0 ids0, iterN p g bs.sum {} = .ok (ps0, ids0))
    (hK : k ≤ (batchesThenSolve p g (fun _ => none) bs).nTrials) :
    ∃ psk s pr sf,
      iterN p g (k - 1) {} = .ok (psk, List.range' 2 (k - 1)) ∧ psk.m = some s ∧ prepare p s = .ok pr ∧
      f (k - 1) pr.point = none ∧
      afterBatches p f bs = afterBatches p g bs ∧ (afterBatches p f bs).nTrials = bs.sum ∧
      (afterBatches p f bs).calls = bs.sum ∧
      (batchesThenSolve p f (fun _ => none) bs).m = some sf ∧
      sf.items.map Ctl.eraseR = s.items.map Ctl.eraseR ∧ (s.recalc = false → sf.items = s.items) ∧
      sf.M = s.M ∧ sf.Z = s.Z ∧ sf.best = s.best ∧
      (findItem sf.items sf.best).map Ctl.eraseR = (findItem s.items s.best).map Ctl.eraseR ∧
      sf.nTrials = s.nTrials ∧ sf.nTrials = k - 1 ∧ sf.iters = s.iters ∧ sf.iters = k - 1 ∧ sf.nextId = s.nextId ∧
      (batchesThenSolve p f (fun _ => none) bs).evals = psk.evals ∧
      (batchesThenSolve p f (fun _ => none) bs).evals.length = k - 1 ∧
      (batchesThenSolve p f (fun _ => none) bs).nLocal = 0 ∧
      sf = pr.s ∧
      sf.minDelta = some (minOpt pr.old.delta s.minDelta) ∧
      (∃ key oid, (selState p s).queue = (key, oid) :: sf.queue) ∧
      sf.recalc = false ∧
      (batchesThenSolve p f (fun _ => none) bs).calls = k ∧
      (batchesThenSolve p f (fun _ => none) bs).log =
        (afterBatches p f bs).log ++ endEach (List.range' (bs.sum + 2) (k - 1 - bs.sum)) ++
          [Event.exceptionPrinted, Event.methodStop (stopCond p sf)] := by
  obtain ⟨ps0, ids0, h0⟩ := h0
  obtain ⟨psk, s, pr, hrun, hmk, hpr, -, hsolve⟩ := fail_after_batches hf hg bs hj1 hjk h0 hK
  have hcong := batches_below_fail (p := p) hg bs hjk h0 (fun _ => none) (fun _ => none)
  have B := batches_fields (r := fun _ => none) bs h0
  obtain ⟨hlen, hnt, hit⟩ := fresh_run_fields hrun hmk
  unfold batchesThenSolve afterBatches
  rw [hsolve, hcong]
  exact ⟨psk, s, pr, pr.s, hrun, hmk, hpr, (hf _ _).2 rfl, rfl, B.nTrials, B.calls, rfl, prepare_fail_kept hpr hnt hit
    ⟨rfl, hlen, rfl, rfl, prepare_fail_changed hpr ⟨rfl, by simp [refineStep, PState.appendLog]⟩⟩⟩

theorem C16_fail_after_batches_refine (p : Params α) (f g : Nat → List α → Option α) (k : Nat) (hk : 2 ≤ k)
    (hf : ∀ j pt, f j pt = none ↔ j = k - 1) (hg : ∀ j pt, j ≠ k - 1 → g j pt = f j pt)
    (bs : List Nat) (hj1 : 1 ≤ bs.sum) (hjk : bs.sum ≤ k - 1)
    (h0 : ∃ ps0 ids0, iterN p g bs.sum {} = .ok (ps0, ids0))
    (hK : k ≤ (batchesThenSolve p g (fun _ => none) bs).nTrials) (refine : PState α → Option (LocalResult α)) :
    ∃ psk s pr, iterN p g (k - 1) {} = .ok (psk, List.range' 2 (k - 1)) ∧ psk.m = some s ∧ prepare p s = .ok pr ∧
      batchesThenSolve p f refine bs =
        (refineStep refine
          { m := some pr.s,
            log := (afterBatches p f bs).log ++ endEach (List.range' (bs.sum + 2) (k - 1 - bs.sum)) ++
              [Event.exceptionPrinted],
            evals := psk.evals, nLocal := 0, calls := k }).appendLog [Event.methodStop (stopCond p pr.s)] := by
  obtain ⟨ps0, ids0, h0⟩ := h0
  obtain ⟨psk, s, pr, hrun, hmk, hpr, -, hsolve⟩ := fail_after_batches hf hg bs hj1 hjk h0 hK
  exact ⟨psk, s, pr, hrun, hmk, hpr, hsolve refine⟩

/-- **C16, the failing evaluation is the FIRST one made inside `Solve`.**  The case `Σ b = k-1` of the scenario of
`C16_fail_after_batches`: the batches made all the `k-1` successful trials (the solver is then exactly in state `k-1` of the
canonical sequence, method state `s`), the stop rule does not hold, and the very first evaluation of `Solve` raises.  `Solve`
contains the failure: the final state satisfies the same clauses, now relative to the state in which `Solve` was called; the
event log is the log of the batches followed by the printed line and `OnMethodStop` — no `OnEndIteration`. -/
theorem C16_fail_first_iteration_of_solve (p : Params α) (f g : Nat → List α → Option α) (k : Nat) (hk : 2 ≤ k)
    (hf : ∀ j pt, f j pt = none ↔ j = k - 1) (hg : ∀ j pt, j ≠ k - 1 → g j pt = f j pt)
    (bs : List Nat) (hjk : bs.sum = k - 1)
    (h0 : ∃ ps0 ids0, iterN p g bs.sum {} = .ok (ps0, ids0))
    (hK : k ≤ (batchesThenSolve p g (fun _ => none) bs).nTrials) :
    ∃ s pr sf,
      (afterBatches p f bs).m = some s ∧ stopNow p (afterBatches p f bs) = false ∧ prepare p s = .ok pr ∧
      f (k - 1) pr.point = none ∧
      afterBatches p f bs = afterBatches p g bs ∧ (afterBatches p f bs).nTrials = k - 1 ∧
      (afterBatches p f bs).calls = k - 1 ∧
      (batchesThenSolve p f (fun _ => none) bs).m = some sf ∧
      sf.items.map Ctl.eraseR = s.items.map Ctl.eraseR ∧ (s.recalc = false → sf.items = s.items) ∧
      sf.M = s.M ∧ sf.Z = s.Z ∧ sf.best = s.best ∧
      (findItem sf.items sf.best).map Ctl.eraseR = (findItem s.items s.best).map Ctl.eraseR ∧
      sf.nTrials = s.nTrials ∧ sf.nTrials = k - 1 ∧ sf.iters = s.iters ∧ sf.iters = k - 1 ∧ sf.nextId = s.nextId ∧
      (batchesThenSolve p f (fun _ => none) bs).evals = (afterBatches p f bs).evals ∧
      (batchesThenSolve p f (fun _ => none) bs).evals.length = k - 1 ∧
      (batchesThenSolve p f (fun _ => none) bs).nLocal = 0 ∧
      sf = pr.s ∧
      sf.minDelta = some (minOpt pr.old.delta s.minDelta) ∧
      (∃ key oid, (selState p s).queue = (key, oid) :: sf.queue) ∧
      sf.recalc = false ∧
      (batchesThenSolve p f (fun _ => none) bs).calls = k ∧
      (batchesThenSolve p f (fun _ => none) bs).log =
        (afterBatches p f bs).log ++ [Event.exceptionPrinted, Event.methodStop (stopCond p sf)] := by
  obtain ⟨ps0, ids0, h0⟩ := h0
  obtain ⟨psk, s, pr, hrun, hmk, hpr, hstk, hsolve⟩ := fail_after_batches hf hg bs (by omega) (by omega) h0 hK
  have hcong := batches_below_fail (p := p) hg bs (by omega) h0 (fun _ => none) (fun _ => none)
  have B := batches_fields (r := fun _ => none) bs h0
  obtain ⟨hlen, hnt, hit⟩ := fresh_run_fields hrun hmk
  -- the state in which `Solve` is called is state `k-1` of the canonical sequence
  rw [hjk, hrun] at h0
  cases h0
  have C := PState.core_eq_iff.1 B.core
  unfold batchesThenSolve afterBatches
  rw [hsolve, hcong, show k - 1 - bs.sum = 0 by omega]
  exact ⟨s, pr, pr.s, C.m.trans hmk, (stopNow_congr B.core).trans hstk, hpr, (hf _ _).2 rfl, rfl, B.nTrials.trans hjk,
    B.calls.trans hjk, rfl, prepare_fail_kept hpr hnt hit
    ⟨C.evals.symm, hlen, rfl, rfl, prepare_fail_changed hpr ⟨rfl, by simp [refineStep, PState.appendLog, endEach]⟩⟩⟩

/-- **C16, failure containment in a resumed `Solve`.**  On a fresh solver a first `Solve` with parameters `p1` (refinement
`refine1`, possibly none) ends normally (`hnr1`) after `k-1` trials (`hK1`; stopped by its budget or its accuracy:
`stopNow p1 psk = true`).  The parameters are changed in place to `p2` (same `n`, `r`, evolvent: `SameMethod p1 p2`) and `Solve`
is called again.  The objective `f` raises exactly at its `k`-th call, which is the FIRST evaluation of the second `Solve`; `g`
agrees with `f` at every other call index and the run of the same two calls with `g` makes at least `k` trials (`hK`: under
`p2` the search is not finished, `stopNow p2 _ = false`, and the `k`-th pass does not raise).  Let `s` be the method state left
by the first `Solve` and `pr` the selection made in it (the same for `p1` and `p2`).  Then the second `Solve` contains the
failure: its final state (method state `sf`) keeps, relative to `s`, everything the `Solution` of the first `Solve` reported —
`items` up to `R`, `M`, `Z`, `best`, the best item, `nTrials = iters = k-1`, `nextId`, `evals`, `nLocal`, `refined` and hence the
reported trial `reportedId` — and differs in
`minDelta`, the popped queue entry, `recalc = false`, `calls = k`; the event log is that of the first `Solve` (ending in its
`OnMethodStop(True)`) followed by the printed line and a second `OnMethodStop`; no `OnEndIteration` is added. -/
theorem C16_fail_in_resumed_solve (p1 p2 : Params α) (f g : Nat → List α → Option α) (k : Nat) (hk : 2 ≤ k)
    (hf : ∀ j pt, f j pt = none ↔ j = k - 1) (hg : ∀ j pt, j ≠ k - 1 → g j pt = f j pt)
    (hs : SameMethod p1 p2) (refine1 : PState α → Option (LocalResult α))
    (hnr1 : (solveLoop p1 f (p1.itersLimit + 1) {}).2 = false)
    (hK1 : (solve p1 f refine1 {}).nTrials = k - 1)
    (hK : k ≤ (solve p2 g (fun _ => none) (solve p1 g refine1 {})).nTrials) :
    ∃ psk s pr sf,
      iterN p1 g (k - 1) {} = .ok (psk, List.range' 2 (k - 1)) ∧ stopNow p1 psk = true ∧
      solve p1 g refine1 {} = solve p1 f refine1 {} ∧
      solve p1 f refine1 {} =
        (refineStep refine1 (psk.appendLog (endEach (List.range' 2 (k - 1))))).appendLog [Event.methodStop true] ∧
      (solve p1 f refine1 {}).m = some s ∧
      stopNow p2 (solve p1 f refine1 {}) = false ∧
      prepare p2 s = .ok pr ∧ prepare p1 s = .ok pr ∧ f (k - 1) pr.point = none ∧
      (solve p2 f (fun _ => none) (solve p1 f refine1 {})).m = some sf ∧
      sf.items.map Ctl.eraseR = s.items.map Ctl.eraseR ∧ (s.recalc = false → sf.items = s.items) ∧
      sf.M = s.M ∧ sf.Z = s.Z ∧ sf.best = s.best ∧
      (findItem sf.items sf.best).map Ctl.eraseR = (findItem s.items s.best).map Ctl.eraseR ∧
      sf.nTrials = s.nTrials ∧ sf.nTrials = k - 1 ∧ sf.iters = s.iters ∧ sf.iters = k - 1 ∧ sf.nextId = s.nextId ∧
      (solve p2 f (fun _ => none) (solve p1 f refine1 {})).evals = (solve p1 f refine1 {}).evals ∧
      (solve p2 f (fun _ => none) (solve p1 f refine1 {})).evals = psk.evals ∧
      (solve p2 f (fun _ => none) (solve p1 f refine1 {})).evals.length = k - 1 ∧
      (solve p2 f (fun _ => none) (solve p1 f refine1 {})).nLocal = (solve p1 f refine1 {}).nLocal ∧
      (solve p2 f (fun _ => none) (solve p1 f refine1 {})).refined = (solve p1 f refine1 {}).refined ∧
      reportedId (solve p2 f (fun _ => none) (solve p1 f refine1 {})) sf = reportedId (solve p1 f refine1 {}) s ∧
      sf = pr.s ∧
      sf.minDelta = some (minOpt pr.old.delta s.minDelta) ∧
      (∃ key oid, (selState p2 s).queue = (key, oid) :: sf.queue) ∧
      sf.recalc = false ∧
      (solve p2 f (fun _ => none) (solve p1 f refine1 {})).calls = k ∧
      (solve p2 f (fun _ => none) (solve p1 f refine1 {})).log =
        [Event.beforeStart] ++ endEach (List.range' 2 (k - 1)) ++
          [Event.methodStop true, Event.exceptionPrinted, Event.methodStop (stopCond p2 sf)] := by
  obtain ⟨psk, s, pr, hrun, hst1, hlogk, hlen, hgf, hS1, hms, hpr, hst2, hevals, hsolve⟩ :=
    fail_in_resumed_solve (p1 := p1) (p2 := p2) hk hf hg hnr1 hK1 hK
  have hpr1 : prepare p1 s = .ok pr := by
    rw [← hpr, hs.eq_update]; rfl
  have hnt : s.nTrials = k - 1 := by
    have h1 : (solve p1 f refine1 {}).nTrials = s.nTrials := by simp [PState.nTrials, hms]
    rw [← h1, hK1]
  have hit : s.iters = k - 1 := by
    have h1 : (solve p1 f refine1 {}).iters = s.iters := by simp [PState.iters, hms]
    rw [← h1, hS1, PState.appendLog_iters, refineStep_iters, PState.appendLog_iters, (iterN_eff hrun).iters_fresh]
  have hlog1 : (solve p1 f refine1 {}).log =
      [Event.beforeStart] ++ endEach (List.range' 2 (k - 1)) ++ [Event.methodStop true] := by
    rw [hS1, PState.appendLog_log, refineStep_log, PState.appendLog_log, hlogk]
  rw [hsolve]
  exact ⟨psk, s, pr, pr.s, hrun, hst1, hgf, hS1, hms, hst2, hpr, hpr1, (hf _ _).2 rfl, rfl,
    prepare_fail_kept hpr hnt hit ⟨hevals.symm, rfl, hlen, rfl, rfl, reportedId_congr_eraseR rfl (prepare_fail_kept hpr hnt hit trivial).1 (prepare_ok_fields hpr).best, rfl,
      prepare_fail_changed hpr ⟨rfl, by
        show (solve p1 f refine1 {}).log ++ [Event.exceptionPrinted] ++ [Event.methodStop (stopCond p2 pr.s)] = _
        rw [hlog1]; simp⟩⟩⟩

theorem C16_fail_in_resumed_solve_refine (p1 p2 : Params α) (f g : Nat → List α → Option α) (k : Nat) (hk : 2 ≤ k)
    (hf : ∀ j pt, f j pt = none ↔ j = k - 1) (hg : ∀ j pt, j ≠ k - 1 → g j pt = f j pt)
    (refine1 : PState α → Option (LocalResult α))
    (hnr1 : (solveLoop p1 f (p1.itersLimit + 1) {}).2 = false)
    (hK1 : (solve p1 f refine1 {}).nTrials = k - 1)
    (hK : k ≤ (solve p2 g (fun _ => none) (solve p1 g refine1 {})).nTrials)
    (refine2 : PState α → Option (LocalResult α)) :
    ∃ psk s pr, iterN p1 g (k - 1) {} = .ok (psk, List.range' 2 (k - 1)) ∧
      (solve p1 f refine1 {}).m = some s ∧ prepare p2 s = .ok pr ∧
      solve p2 f refine2 (solve p1 f refine1 {}) =
        (refineStep refine2
          { m := some pr.s, log := (solve p1 f refine1 {}).log ++ [Event.exceptionPrinted],
            evals := psk.evals, nLocal := (solve p1 f refine1 {}).nLocal, calls := k,
            refined := (solve p1 f refine1 {}).refined }).appendLog
        [Event.methodStop (stopCond p2 pr.s)] := by
  obtain ⟨psk, s, pr, hrun, -, -, -, -, -, hms, hpr, -, -, hsolve⟩ :=
    fail_in_resumed_solve (p1 := p1) (p2 := p2) hk hf hg hnr1 hK1 hK
  exact ⟨psk, s, pr, hrun, hms, hpr, hsolve refine2⟩

/-- **C16, for contrast: outside `Solve` the failure is NOT contained.**  On a fresh solver the calls `DoGlobalIteration(b)`,
`b ∈ bs`, make `j = Σ b ≤ k-1` trials (possibly none: `bs = []`); then the user calls `DoGlobalIteration(n)` with `k ≤ j + n`, so
that the `k`-th evaluation, at which `f` raises, is made inside this call (`g` agrees with `f` elsewhere and its canonical
sequence makes `k` passes).  Then, in the model:

* the call returns the exception of the objective to its caller (`raised = some .objective`);
* the state threaded through is that after the `k-1-j` passes completed earlier in this call — their trials ARE recorded
  (`nTrials = k-1`, `evals` those of `psk`) — with the selection of the failed pass applied (method state `pr.s`, as after a
  contained failure) and `calls = k`;
* nothing is appended to the event log except `BeforeMethodStart` if this call made the first iteration ever (`j = 0`): no
  `OnEndIteration` is emitted for this call, so its `k-1-j` new trials are reported by no notification. -/
theorem C16_fail_dgi_propagates (p : Params α) (f g : Nat → List α → Option α) (k : Nat) (hk : 2 ≤ k)
    (hf : ∀ j pt, f j pt = none ↔ j = k - 1) (hg : ∀ j pt, j ≠ k - 1 → g j pt = f j pt)
    (bs : List Nat) (n : Nat) (hjk : bs.sum ≤ k - 1) (hn : k ≤ bs.sum + n)
    (hrun : ∃ psk' ids', iterN p g k {} = .ok (psk', ids')) :
    ∃ psk s pr,
      iterN p g (k - 1) {} = .ok (psk, List.range' 2 (k - 1)) ∧ psk.m = some s ∧ prepare p s = .ok pr ∧
      f (k - 1) pr.point = none ∧
      afterBatches p f bs = afterBatches p g bs ∧ (afterBatches p f bs).nTrials = bs.sum ∧
      (afterBatches p f bs).calls = bs.sum ∧
      (doGlobalIteration p f n (afterBatches p f bs) []).raised = some .objective ∧
      (doGlobalIteration p f n (afterBatches p f bs) []).s =
        { m := some pr.s,
          log := (afterBatches p f bs).log ++ (if bs.sum = 0 then [Event.beforeStart] else []),
          evals := psk.evals, nLocal := 0, calls := k } ∧
      (doGlobalIteration p f n (afterBatches p f bs) []).s.nTrials = k - 1 ∧
      (doGlobalIteration p f n (afterBatches p f bs) []).s.evals.length = k - 1 ∧
      (∀ ids, Event.endIteration ids ∉ (if bs.sum = 0 then [Event.beforeStart] else [])) := by
  obtain ⟨psk', ids', hrun⟩ := hrun
  obtain ⟨psk, s, pr, hrunk, hmk, hpr, hd⟩ := fail_dgi_after_batches hk hf hg bs n hjk hn hrun []
  rw [show k = bs.sum + (k - bs.sum) by omega] at hrun
  obtain ⟨ps0, ids0, -, h0, -⟩ := iterN_add_ok hrun
  have hcong := batches_below_fail (p := p) hg bs hjk h0 (fun _ => none) (fun _ => none)
  have B := batches_fields (r := fun _ => none) bs h0
  obtain ⟨hlen, hnt, -⟩ := fresh_run_fields hrunk hmk
  unfold afterBatches
  rw [hd, hcong]
  refine ⟨psk, s, pr, hrunk, hmk, hpr, (hf _ _).2 rfl, rfl, B.nTrials, B.calls, rfl, rfl,
    (prepare_ok_fields hpr).nTrials.trans hnt, hlen, ?_⟩
  intro ids
  split <;> simp

end generic

section examples
open ProcToy

def exRefine : PState Rat → Option (LocalResult Rat) := fun _ => some { x := [1/3], fx := 0, nfev := 7 }

theorem ex_h0 (n : Nat) (h : (iterN (P 5 (1/100)) F n {}).isOk = true) :
    ∃ ps0 ids0, iterN (P 5 (1/100)) F n {} = .ok (ps0, ids0) := by
  obtain ⟨x, hx⟩ := ok_of_isOk h
  exact ⟨x.1, x.2, hx⟩

example : (2 ≤ 4) ∧ (∀ j pt, failAt 3 j pt = none ↔ j = 4 - 1) ∧ (∀ j pt, j ≠ 4 - 1 → F j pt = failAt 3 j pt) ∧
    1 ≤ [1, 1].sum ∧ [1, 1].sum ≤ 4 - 1 ∧ (∃ ps0 ids0, iterN (P 5 (1/100)) F [1, 1].sum {} = .ok (ps0, ids0)) ∧
    4 ≤ (batchesThenSolve (P 5 (1/100)) F (fun _ => none) [1, 1]).nTrials :=
  ⟨by decide, fun j pt => failAt_iff 3 j pt, fun j pt h => (failAt_agree 3 j pt h).symm, by decide, by decide,
    ex_h0 _ (by decide +kernel), by decide +kernel⟩

example := C16_fail_after_batches (P 5 (1/100)) (failAt 3) F 4 (by decide) (fun j pt => failAt_iff 3 j pt)
  (fun j pt h => (failAt_agree 3 j pt h).symm) [1, 1] (by decide) (by decide) (ex_h0 _ (by decide +kernel))
  (by decide +kernel)

example : (batchesThenSolve (P 5 (1/100)) (failAt 3) (fun _ => none) [1, 1]).nTrials = 3 ∧
    (batchesThenSolve (P 5 (1/100)) (failAt 3) (fun _ => none) [1, 1]).calls = 4 ∧
    (batchesThenSolve (P 5 (1/100)) (failAt 3) (fun _ => none) [1, 1]).log =
      [Event.beforeStart, Event.endIteration [2], Event.endIteration [3], Event.endIteration [4],
       Event.exceptionPrinted, Event.methodStop false] := by
  decide +kernel

example : (2 ≤ 4) ∧ (∀ j pt, failAt 3 j pt = none ↔ j = 4 - 1) ∧ (∀ j pt, j ≠ 4 - 1 → F j pt = failAt 3 j pt) ∧
    [1, 2].sum = 4 - 1 ∧ (∃ ps0 ids0, iterN (P 5 (1/100)) F [1, 2].sum {} = .ok (ps0, ids0)) ∧
    4 ≤ (batchesThenSolve (P 5 (1/100)) F (fun _ => none) [1, 2]).nTrials :=
  ⟨by decide, fun j pt => failAt_iff 3 j pt, fun j pt h => (failAt_agree 3 j pt h).symm, by decide,
    ex_h0 _ (by decide +kernel), by decide +kernel⟩

example := C16_fail_first_iteration_of_solve (P 5 (1/100)) (failAt 3) F 4 (by decide) (fun j pt => failAt_iff 3 j pt)
  (fun j pt h => (failAt_agree 3 j pt h).symm) [1, 2] (by decide) (ex_h0 _ (by decide +kernel)) (by decide +kernel)

example : (batchesThenSolve (P 5 (1/100)) (failAt 3) (fun _ => none) [1, 2]).nTrials = 3 ∧
    (batchesThenSolve (P 5 (1/100)) (failAt 3) (fun _ => none) [1, 2]).calls = 4 ∧
    (batchesThenSolve (P 5 (1/100)) (failAt 3) (fun _ => none) [1, 2]).log =
      [Event.beforeStart, Event.endIteration [2], Event.endIteration [3, 4],
       Event.exceptionPrinted, Event.methodStop false] := by
  decide +kernel

/-- hypotheses of `C16_fail_in_resumed_solve`: budget 3 (first `Solve`, with a local refinement, stops on the budget after 3
trials), budget raised in place to 5, the fourth evaluation — the first of the second `Solve` — raises -/
theorem ex_resume_hyps : SameMethod (P 3 (1/100)) (P 5 (1/100)) ∧
    (solveLoop (P 3 (1/100)) (failAt 3) ((P 3 (1/100)).itersLimit + 1) {}).2 = false ∧
    (solve (P 3 (1/100)) (failAt 3) exRefine {}).nTrials = 4 - 1 ∧
    4 ≤ (solve (P 5 (1/100)) F (fun _ => none) (solve (P 3 (1/100)) F exRefine {})).nTrials :=
  ⟨⟨rfl, rfl, rfl⟩, by decide +kernel, by decide +kernel, by decide +kernel⟩

example := C16_fail_in_resumed_solve (P 3 (1/100)) (P 5 (1/100)) (failAt 3) F 4 (by decide) (fun j pt => failAt_iff 3 j pt)
  (fun j pt h => (failAt_agree 3 j pt h).symm) ex_resume_hyps.1 exRefine ex_resume_hyps.2.1 ex_resume_hyps.2.2.1
  ex_resume_hyps.2.2.2

example : (solve (P 5 (1/100)) (failAt 3) (fun _ => none) (solve (P 3 (1/100)) (failAt 3) exRefine {})).nTrials = 3 ∧
    (solve (P 5 (1/100)) (failAt 3) (fun _ => none) (solve (P 3 (1/100)) (failAt 3) exRefine {})).calls = 4 ∧
    (solve (P 5 (1/100)) (failAt 3) (fun _ => none) (solve (P 3 (1/100)) (failAt 3) exRefine {})).nLocal = 7 ∧
    (solve (P 5 (1/100)) (failAt 3) (fun _ => none) (solve (P 3 (1/100)) (failAt 3) exRefine {})).log =
      [Event.beforeStart, Event.endIteration [2], Event.endIteration [3], Event.endIteration [4],
       Event.methodStop true, Event.exceptionPrinted, Event.methodStop false] := by
  decide +kernel

example : ([] : List Nat).sum ≤ 4 - 1 ∧ 4 ≤ ([] : List Nat).sum + 5 ∧ [1, 1].sum ≤ 4 - 1 ∧ 4 ≤ [1, 1].sum + 3 ∧
    (∃ psk' ids', iterN (P 5 (1/100)) F 4 {} = .ok (psk', ids')) :=
  ⟨by decide, by decide, by decide, by decide, ex_h0 _ (by decide +kernel)⟩

example := C16_fail_dgi_propagates (P 5 (1/100)) (failAt 3) F 4 (by decide) (fun j pt => failAt_iff 3 j pt)
  (fun j pt h => (failAt_agree 3 j pt h).symm) [] 5 (by decide) (by decide) (ex_h0 _ (by decide +kernel))

example := C16_fail_dgi_propagates (P 5 (1/100)) (failAt 3) F 4 (by decide) (fun j pt => failAt_iff 3 j pt)
  (fun j pt h => (failAt_agree 3 j pt h).symm) [1, 1] 3 (by decide) (by decide) (ex_h0 _ (by decide +kernel))

example : (doGlobalIteration (P 5 (1/100)) (failAt 3) 5 {} []).raised = some .objective ∧
    (doGlobalIteration (P 5 (1/100)) (failAt 3) 5 {} []).s.nTrials = 3 ∧
    (doGlobalIteration (P 5 (1/100)) (failAt 3) 5 {} []).s.log = [Event.beforeStart] ∧
    (doGlobalIteration (P 5 (1/100)) (failAt 3) 3 (afterBatches (P 5 (1/100)) (failAt 3) [1, 1]) []).raised =
      some .objective ∧
    (doGlobalIteration (P 5 (1/100)) (failAt 3) 3 (afterBatches (P 5 (1/100)) (failAt 3) [1, 1]) []).s.nTrials = 3 ∧
    (doGlobalIteration (P 5 (1/100)) (failAt 3) 3 (afterBatches (P 5 (1/100)) (failAt 3) [1, 1]) []).s.log =
      [Event.beforeStart, Event.endIteration [2], Event.endIteration [3]] := by
  decide +kernel

end examples

end C16

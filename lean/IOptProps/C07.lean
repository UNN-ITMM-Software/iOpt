import IOptProofs.EvFwd
import IOptProofs.EvDimFacts
import Mathlib.Algebra.Order.Group.Abs
import Mathlib.Algebra.Order.Group.Int
/-!
# C07 (integer layer): the evolvent visits every grid cell exactly once

Statements about `Ev.cubeY n ds` — the cube coordinates, in units of `2^-(m+1)`, of the image of the
subinterval with base-`2^n` digits `ds` (`m = ds.length`) — for every dimension `n` with `Ev.DimOK n`
(`IOptProofs/EvDims.lean`: EVERY `n ≥ 2`) and **every** density `m` (induction over the digit list; no bound on `m`).
The centre of cell `k` (`0 ≤ k < 2^m`) on an axis is `Y = 2k + 1 - 2^m`: `Y` odd, `|Y| ≤ 2^m - 1`.

The centres (`C07_centres`, `C07_centres_index`) need only the shape of one level (`Ev.step_shape`, true of every digit list);
injectivity and surjectivity rest on the level bijection of `Ev.EvFacts n`, which is proved for every `n ≥ 2` in
`IOptProofs/EvGen*.lean` (`Ev.evFacts_all`) and handed over in `IOptProofs/EvDimFacts.lean`; for n = 2..7 the level facts are
also kernel-evaluated, beside the development (`IOptProofs/EvFinCertAll.lean`).
-/

namespace Ev

theorem cubeY_cell {n : Nat} (hn : Ev.DimOK n) (ds : List Nat) :
    ∀ y ∈ cubeY n ds, cell ds.length y := by
  obtain ⟨hlen, hY⟩ := cubeY_spec hn.pos ds
  rw [forall_mem_iff_getI, hlen]
  intro i hi
  rw [hY i hi]
  exact Yc_cell (validState_init hn.pos) ds hi

/-- **C07 (centres)**: for valid digits, `cubeY n ds` has `n` coordinates, each of them odd (for
`m = ds.length ≥ 1`; at `m = 0` there is one cell, with centre `0`) and of absolute value at most
`2^m - 1`: every image is the centre of a cell of the grid with `2^m` cells per axis. -/
theorem C07_centres {n : Nat} (hn : Ev.DimOK n) {ds : List Nat} (hd : validDigits n ds) :
    (cubeY n ds).length = n ∧
    ∀ y ∈ cubeY n ds, (ds ≠ [] → y % 2 = 1) ∧ |y| ≤ 2^ds.length - 1 := by
  refine ⟨(cubeY_spec hn.pos ds).1, fun y hy => ?_⟩
  have hc := cubeY_cell hn ds y hy
  refine ⟨fun hne => ?_, ?_⟩
  · exact ((cell_iff_odd (List.length_pos_iff.2 hne) y).1 hc).1
  · rw [abs_le]; exact ⟨hc.1, hc.2.1⟩

/-- **C07 (centres, cell index form)**: every coordinate of `cubeY n ds` is `2k + 1 - 2^m` for a
cell index `0 ≤ k < 2^m` (uniformly in `m ≥ 0`). -/
theorem C07_centres_index {n : Nat} (hn : Ev.DimOK n) {ds : List Nat}
    (hd : validDigits n ds) :
    ∀ y ∈ cubeY n ds, ∃ k : Nat, k < 2^ds.length ∧ y = 2 * (k : Int) + 1 - 2^ds.length :=
  fun y hy => cell_index (cubeY_cell hn ds y hy)

/-- **C07 (injectivity)**: different subintervals (digit lists of the same length) are mapped to
different cells. -/
theorem C07_injective {n : Nat} (hn : Ev.DimOK n) {ds ds' : List Nat}
    (hd : validDigits n ds) (hd' : validDigits n ds') (hl : ds.length = ds'.length)
    (he : cubeY n ds = cubeY n ds') : ds = ds' := by
  apply Yc_inj (evFacts_of_dimOK hn) (validState_init hn.pos) hd hd' hl
  intro i hi
  rw [← (cubeY_spec hn.pos ds).2 i hi, ← (cubeY_spec hn.pos ds').2 i hi, he]

theorem cubeY_surj {n : Nat} (hn : Ev.DimOK n) (m : Nat) (Y : List Int) (hY : Y.length = n)
    (hc : ∀ y ∈ Y, cell m y) : ∃ ds, ds.length = m ∧ validDigits n ds ∧ cubeY n ds = Y := by
  obtain ⟨ds, hl, hv, hds⟩ := Yc_surj (evFacts_of_dimOK hn) m (validState_init hn.pos) hY
    fun i hi => hc _ (getI_mem (by rw [hY]; exact hi))
  refine ⟨ds, hl, hv, ?_⟩
  obtain ⟨hlen, hg⟩ := cubeY_spec hn.pos ds
  apply ext_getI hlen hY
  intro i hi
  rw [hg i hi, hds i hi]

/-- **C07 (surjectivity)**: every cell is reached — every integer vector of length `n` with odd
entries of absolute value at most `2^m - 1` is `cubeY n ds` for a valid digit list of length `m`. -/
theorem C07_surjective {n : Nat} (hn : Ev.DimOK n) (m : Nat) (Y : List Int)
    (hY : Y.length = n) (hc : ∀ y ∈ Y, y % 2 = 1 ∧ |y| ≤ 2^m - 1) :
    ∃ ds, ds.length = m ∧ validDigits n ds ∧ cubeY n ds = Y := by
  refine cubeY_surj hn m Y hY fun y hy => ?_
  obtain ⟨h1, h2⟩ := hc y hy
  rw [abs_le] at h2
  rcases Nat.eq_zero_or_pos m with rfl | hm
  · simp only [pow_zero] at h2; omega
  · exact (cell_iff_odd hm _).2 ⟨h1, h2.1, h2.2⟩

/-- **C07 (digits = subinterval index)**: the digit list is the base-`2^n` representation of the
subinterval index: `digitsOf n m i` is a valid digit list of length `m` with index `i` for every
`i < (2^n)^m`; conversely a valid digit list has an index below `(2^n)^m` and is recovered from it.
(Any `n`.) -/
theorem C07_index_digits (n : Nat) :
    (∀ m i, i < (2^n)^m →
      (digitsOf n m i).length = m ∧ validDigits n (digitsOf n m i) ∧
      indexOf n (digitsOf n m i) = i) ∧
    (∀ ds, validDigits n ds →
      indexOf n ds < (2^n)^ds.length ∧ digitsOf n ds.length (indexOf n ds) = ds) :=
  ⟨fun m i hi => ⟨digitsOf_length n m i, digitsOf_valid n m i, indexOf_digitsOf hi⟩,
   fun _ hd => ⟨indexOf_lt hd, digitsOf_indexOf hd⟩⟩

/-- **C07 (exactly once, by index)**: for every cell `Y` of the `2^m`-per-axis grid there is exactly
one subinterval index `i < 2^(n·m)` whose image is `Y`. -/
theorem C07_cells_by_index {n : Nat} (hn : Ev.DimOK n) (m : Nat) (Y : List Int)
    (hY : Y.length = n) (hc : ∀ y ∈ Y, y % 2 = 1 ∧ |y| ≤ 2^m - 1) :
    ∃ i, (i < (2^n)^m ∧ cubeY n (digitsOf n m i) = Y) ∧
      ∀ j, j < (2^n)^m ∧ cubeY n (digitsOf n m j) = Y → j = i := by
  obtain ⟨ds, hl, hv, hds⟩ := C07_surjective hn m Y hY hc
  subst hl
  refine ⟨indexOf n ds, ⟨indexOf_lt hv, by rw [digitsOf_indexOf hv, hds]⟩, ?_⟩
  rintro j ⟨hj, hjY⟩
  have := C07_injective hn (digitsOf_valid n ds.length j) hv (digitsOf_length _ _ _)
    (by rw [hjY, hds])
  rw [← this, indexOf_digitsOf hj]

/-- the hypotheses of `C07_centres`/`C07_injective` hold for the digits `[5, 2]`, `[5, 3]` (n = 3),
whose images are the distinct cell centres `(1,3,3)` and `(1,3,1)` -/
example : (Ev.DimOK 3) ∧ validDigits 3 [5, 2] ∧ validDigits 3 [5, 3] ∧ [5, 2] ≠ [] ∧
    [5, 2].length = [5, 3].length ∧ cubeY 3 [5, 2] = [1, 3, 3] ∧ cubeY 3 [5, 3] = [1, 3, 1] := by
  decide

/-- the same for `n = 7` (digits `[100, 5]`, `[100, 6]`: neighbouring
subintervals, images differ in one coordinate) and `n = 6` (digits `[37, 63]`, `[38, 0]`: neighbours across a
first-level boundary) -/
example : (Ev.DimOK 7) ∧ validDigits 7 [100, 5] ∧ validDigits 7 [100, 6] ∧
    cubeY 7 [100, 5] = [1, -3, 3, -3, 1, 1, -3] ∧ cubeY 7 [100, 6] = [1, -3, 3, -3, 1, 3, -3] ∧
    (Ev.DimOK 6) ∧ validDigits 6 [37, 63] ∧ validDigits 6 [38, 0] ∧
    cubeY 6 [37, 63] = [3, 3, -3, 3, 1, 1] ∧ cubeY 6 [38, 0] = [3, 3, -3, 3, -1, 1] := by
  decide +kernel

/-- a dimension beyond the kernel-evaluated certificates: `n = 10`, neighbouring subintervals `[700, 3]`, `[700, 4]` -/
example : (Ev.DimOK 10) ∧ validDigits 10 [700, 3] ∧ validDigits 10 [700, 4] ∧
    cubeY 10 [700, 3] = [3, 3, 3, 3, 3, -3, -3, -1, 1, -1] ∧
    cubeY 10 [700, 4] = [1, 3, 3, 3, 3, -3, -3, -1, 1, -1] := by
  decide +kernel

/-- the hypotheses of `C07_surjective`/`C07_cells_by_index` hold for the cell `(3,-1,1)`,
`n = 3`, `m = 2`; it is reached by the digits `[6, 0]`, i.e. by subinterval `48` -/
example : [(3:Int), -1, 1].length = 3 ∧ (∀ y ∈ [(3:Int), -1, 1], y % 2 = 1 ∧ |y| ≤ 2^2 - 1) ∧
    cubeY 3 [6, 0] = [3, -1, 1] ∧ digitsOf 3 2 48 = [6, 0] ∧ 48 < (2^3)^2 := by
  decide

example : ∃ ds, ds.length = 2 ∧ validDigits 3 ds ∧ cubeY 3 ds = [3, -1, 1] :=
  C07_surjective (by decide) 2 [3, -1, 1] (by decide) (by decide)

example : (48 < (2^3)^2) ∧ digitsOf 3 2 48 = [6, 0] ∧ indexOf 3 [6, 0] = 48 := by decide

end Ev

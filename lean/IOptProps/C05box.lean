import IOptModel.Solver
import IOptProofs.ComposeInv
import IOptProofs.MethodFacts
import IOptProofs.ProcessField
import IOptProps.C07num
import IOptProps.C05
import IOptProps.C04
import IOptProofs.ProcessReported
import Mathlib.Algebra.Order.Archimedean.Real.Basic
import Mathlib.Tactic.NormNum
/-!
# C05 (box part) — every trial of the global phase, and the reported best trial, lie in the box

"Every point at which the objective is evaluated lies inside the box [lower, upper]; the returned best
trial does too, also after the local refinement."

Setting: `Solver.mk c` (`IOptModel/Solver.lean`), `Ev.DimOK1 N` (that is `1 ≤ N`; `IOptProofs/EvDims.lean`), bounds of length `N` with
`lower_i < upper_i`; `int(d)` = natural floor.  The statements at process level hold after ANY sequence
of `DoGlobalIteration(k)` / `Solve` calls on a fresh solver, for ANY objective (raising or not), with no
assumption on `r`, `eps` or the library functions.  The refinement results are inputs of the model
(`LocalResult`); their contract is that the returned point is in the box (`C05.NM.inside`).
-/
set_option linter.unusedSectionVars false

namespace C05
open AGP Proc
variable {α : Type} [Field α] [LinearOrder α] [IsStrictOrderedRing α] [FloorSemiring α] [Fns α]
attribute [local instance] Ev.Num.floorTrunc

def StrictlyInBox (c : Solver.Config α) (pt : List α) : Prop :=
  pt.length = c.n ∧
  ∀ i (_ : i < pt.length) (_ : i < c.lower.length) (_ : i < c.upper.length),
    c.lower[i] < pt[i] ∧ pt[i] < c.upper[i]

theorem StrictlyInBox.inBox {c : Solver.Config α} {pt : List α} (hl : c.lower.length = c.n)
    (hu : c.upper.length = c.n) (h : StrictlyInBox c pt) : InBox c.lower c.upper pt := by
  obtain ⟨hlen, hc⟩ := h
  refine ⟨by omega, by omega, ?_⟩
  intro i l u v h1 h2 h3
  obtain ⟨hi1, rfl⟩ := List.getElem?_eq_some_iff.1 h1
  obtain ⟨hi2, rfl⟩ := List.getElem?_eq_some_iff.1 h2
  obtain ⟨hi3, rfl⟩ := List.getElem?_eq_some_iff.1 h3
  exact ⟨(hc i hi3 hi1 hi2).1.le, (hc i hi3 hi1 hi2).2.le⟩

/-- the evolvent of the solver maps `(0,1)` strictly inside the box (N = 1: the affine branch;
`Ev.DimOK N`: cell centres) -/
theorem image_strictlyInBox (c : Solver.Config α) (hn : Ev.DimOK1 c.n) (hl : c.lower.length = c.n)
    (hu : c.upper.length = c.n)
    (hlt : ∀ i (h1 : i < c.lower.length) (h2 : i < c.upper.length), c.lower[i] < c.upper[i])
    {x : α} (h0 : 0 < x) (h1 : x < 1) : StrictlyInBox c ((Solver.mk c).image x) := by
  rcases hn.cases with h2 | h2
  · -- N = 1
    obtain ⟨n, lower, upper, eps, r, il, m⟩ := c
    simp only at hn hl hu hlt h2
    subst h2
    match lower, upper, hl, hu with
    | [a], [b], _, _ =>
      have hab : a < b := hlt 0 (by simp) (by simp)
      show StrictlyInBox _ (Ev.getImage 1 m [a] [b] x)
      rw [Ev.C07_dim1_image]
      refine ⟨rfl, ?_⟩
      intro i hi _ _
      have hi0 : i = 0 := by simpa using hi
      subst hi0
      have hd : 0 < b - a := sub_pos.2 hab
      simp only [List.getElem_cons_zero]
      constructor
      · have := mul_pos h0 hd; linarith
      · have := mul_lt_mul_of_pos_right h1 hd; linarith
  · exact Ev.C07_getImage_in_box h2 c.evolventDensity c.lower c.upper hl hu hlt x

theorem image_inBox (c : Solver.Config α) (hn : Ev.DimOK1 c.n) (hl : c.lower.length = c.n)
    (hu : c.upper.length = c.n)
    (hlt : ∀ i (h1 : i < c.lower.length) (h2 : i < c.upper.length), c.lower[i] < c.upper[i])
    {x : α} (h0 : 0 ≤ x) (h1 : x ≤ 1) : InBox c.lower c.upper ((Solver.mk c).image x) := by
  rcases hn.cases with h2 | h2
  · obtain ⟨n, lower, upper, eps, r, il, m⟩ := c
    simp only at hn hl hu hlt h2
    subst h2
    match lower, upper, hl, hu with
    | [a], [b], _, _ =>
      have hab : a < b := hlt 0 (by simp) (by simp)
      show InBox [a] [b] (Ev.getImage 1 m [a] [b] x)
      rw [Ev.C07_dim1_image]
      refine ⟨rfl, rfl, ?_⟩
      intro i l u v hl' hu' hv'
      cases i with
      | succ i => simp at hl'
      | zero =>
        simp only [List.getElem?_cons_zero, Option.some.injEq] at hl' hu' hv'
        subst hl' hu' hv'
        have hd : 0 < b - a := sub_pos.2 hab
        constructor
        · have := mul_nonneg h0 hd.le; linarith
        · have := mul_le_mul_of_nonneg_right h1 hd.le; linarith
  · exact StrictlyInBox.inBox hl hu
      (Ev.C07_getImage_in_box h2 c.evolventDensity c.lower c.upper hl hu hlt x)

/-- **C05, first sentence (global phase).** For `Ev.DimOK1 N` and bounds with `lower_i < upper_i`:
after any sequence `ops` of `DoGlobalIteration(k)` / `Solve` calls on a fresh solver, with any
objective (raising or not) and any refinement, every point that the global search handed to the
objective has `N` coordinates with `lower_i < pt_i < upper_i` for every `i`. -/
theorem C05_trials_in_box (c : Solver.Config α) (hn : Ev.DimOK1 c.n) (hl : c.lower.length = c.n)
    (hu : c.upper.length = c.n)
    (hlt : ∀ i (h1 : i < c.lower.length) (h2 : i < c.upper.length), c.lower[i] < c.upper[i])
    (f : Nat → List α → Option α) (refine : PState α → Option (LocalResult α)) (ops : List Op) :
    ∀ e ∈ (runOps (Solver.mk c) f refine ops {}).evals, StrictlyInBox c e.1 := by
  intro e he
  obtain ⟨x, h0, h1, hx⟩ := evals_on_curve (Solver.mk c) f refine ops e he
  rw [hx]; exact image_strictlyInBox c hn hl hu hlt h0 h1

/-- the same for the states of the method (`AGP.Reach`): every logged point is strictly inside the box; the
stored point of every item, the two end items included, is in the closed box. -/
theorem C05_trials_in_box_reach (c : Solver.Config α) (hn : Ev.DimOK1 c.n)
    (hl : c.lower.length = c.n) (hu : c.upper.length = c.n)
    (hlt : ∀ i (h1 : i < c.lower.length) (h2 : i < c.upper.length), c.lower[i] < c.upper[i])
    {s : State α} {log : List (List α × α)} (h : Reach (Solver.mk c) s log) :
    (∀ e ∈ log, StrictlyInBox c e.1) ∧ ∀ it ∈ s.items, InBox c.lower c.upper it.point := by
  obtain ⟨hpt, hlog⟩ := h.curve
  constructor
  · intro e he
    obtain ⟨x, h0, h1, hx⟩ := hlog e he
    rw [hx]; exact image_strictlyInBox c hn hl hu hlt h0 h1
  · intro it hit
    rw [(hpt it hit).2]; exact image_inBox c hn hl hu hlt (hpt it hit).1.1 (hpt it hit).1.2

/-- **C05, the reported best trial is in the box, also after refinement.**  After any sequence of
operations on a fresh solver, if every result `lr` of the local search satisfies the contract
"`lr.x` is inside the bounds" (`NM.inside`), the stored point of EVERY item of the search information
— in particular of the method's best trial `findItem s.items s.best` and of the trial
`findItem s.items (reportedId ps s)` that `GetResults` reports — lies in the closed box. -/
theorem C05_best_in_box (c : Solver.Config α) (hn : Ev.DimOK1 c.n) (hl : c.lower.length = c.n)
    (hu : c.upper.length = c.n)
    (hlt : ∀ i (h1 : i < c.lower.length) (h2 : i < c.upper.length), c.lower[i] < c.upper[i])
    (f : Nat → List α → Option α) (refine : PState α → Option (LocalResult α))
    (href : ∀ ps lr, refine ps = some lr → InBox c.lower c.upper lr.x) (ops : List Op) :
    ∀ s, (runOps (Solver.mk c) f refine ops {}).m = some s →
      (∀ it ∈ s.items, InBox c.lower c.upper it.point) ∧
      (∀ b, findItem s.items s.best = some b → InBox c.lower c.upper b.point) ∧
      ∀ b, findItem s.items (reportedId (runOps (Solver.mk c) f refine ops {}) s) = some b →
        InBox c.lower c.upper b.point := by
  intro s hs
  have h : ∀ it ∈ s.items, InBox c.lower c.upper it.point := fun it hit =>
    ((pointsInv_runOps (Solver.mk c) f (InBox c.lower c.upper)
      (fun x h0 h1 => image_inBox c hn hl hu hlt h0 h1) refine href ops).2 s hs it hit).2
  exact ⟨h, fun b hb => h b (findItem_some hb).1, fun b hb => h b (findItem_some hb).1⟩

/-- **C05, the best trial of the global phase is strictly inside.**  In every reachable state of the
method (laws of the library functions, `1 < r`) the best trial exists, is one of the evaluated trials
(`C04_best`) and its point is strictly inside the box. -/
theorem C05_best_strictly_in_box (c : Solver.Config α) (hn : Ev.DimOK1 c.n)
    (hl : c.lower.length = c.n) (hu : c.upper.length = c.n)
    (hlt : ∀ i (h1 : i < c.lower.length) (h2 : i < c.upper.length), c.lower[i] < c.upper[i])
    (hL : FnsLaws α) (hr : 1 < c.r) {s : State α} {log : List (List α × α)}
    (h : Reach (Solver.mk c) s log) :
    ∃ b, findItem s.items s.best = some b ∧ (b.point, b.hv) ∈ log ∧ StrictlyInBox c b.point := by
  obtain ⟨b, hb, -, -, -, hmem, -⟩ := C04_best (p := Solver.mk c) hL hr (by show 0 < c.n; exact hn.one_le) h
  exact ⟨b, hb, hmem, (C05_trials_in_box_reach c hn hl hu hlt h).1 _ hmem⟩

/-- **C05, after `DoLocalRefinement` under the Nelder–Mead contract.**  If the process holds the method
state `s` and `lr` satisfies `NM obj lower upper lr b.point` for the reported trial `b` (the trial with id
`reportedId ps s`, which is the method's best `s.best` when nothing was refined before), then after
`doLocalRefinement` that trial has point `lr.x`, inside the box; and if moreover the old record is faithful
(`b.hv = obj b.point`) it is still the reported trial. -/
theorem C05_refined_best_in_box (c : Solver.Config α) (ps : PState α) (s : State α) (lr : LocalResult α)
    (hm : ps.m = some s) (b : Item α) (hb : findItem s.items (reportedId ps s) = some b) (obj : List α → α)
    (hnm : NM obj c.lower c.upper lr b.point) :
    ∃ s' b', (doLocalRefinement ps lr).m = some s' ∧ findItem s'.items (reportedId ps s) = some b' ∧
      b'.point = lr.x ∧ InBox c.lower c.upper b'.point ∧
      (ps.refined = none → reportedId ps s = s.best) ∧
      (b.hv = obj b.point → reportedId (doLocalRefinement ps lr) s' = reportedId ps s) := by
  obtain ⟨s', hm', hs', -, -, -, -, -, -, -, -, -, -, -, -, -, -, -, -, hbest⟩ := C05_refine ps s lr hm
  refine ⟨s', _, hm', (hbest b hb).1, rfl, hnm.inside, fun h => reportedId_of_none s h, fun hfid => ?_⟩
  subst hs'
  exact reportedId_refine_of_le lr hm hb (by rw [hfid]; exact hnm.le_start)

section NonVacuity
attribute [local instance] Fns.real

noncomputable def exampleConfig : Solver.Config ℝ :=
  { n := 2, lower := [-1, 0], upper := [2, 3], eps := 1 / 100, r := 3, itersLimit := 50, evolventDensity := 4 }

noncomputable def exampleConfig1 : Solver.Config ℝ :=
  { n := 1, lower := [-1], upper := [2], eps := 1 / 100, r := 3, itersLimit := 50, evolventDensity := 10 }

theorem exampleConfig_lt : ∀ i (_ : i < exampleConfig.lower.length) (_ : i < exampleConfig.upper.length),
    exampleConfig.lower[i] < exampleConfig.upper[i] := by
  intro i h1 h2
  have : i = 0 ∨ i = 1 := by simp [exampleConfig] at h1; omega
  rcases this with rfl | rfl <;> norm_num [exampleConfig]

theorem exampleConfig1_lt : ∀ i (_ : i < exampleConfig1.lower.length) (_ : i < exampleConfig1.upper.length),
    exampleConfig1.lower[i] < exampleConfig1.upper[i] := by
  intro i h1 h2
  have : i = 0 := by simp [exampleConfig1] at h1; omega
  subst this; norm_num [exampleConfig1]

example : (∀ e ∈ (runOps (Solver.mk exampleConfig) (fun _ pt => some pt.sum) (fun _ => none) [Op.solve] {}).evals,
      StrictlyInBox exampleConfig e.1) ∧
    (runOps (Solver.mk exampleConfig) (fun _ pt => some pt.sum) (fun _ => none) [Op.solve] {}).evals ≠ [] := by
  refine ⟨C05_trials_in_box exampleConfig (by show Ev.DimOK1 2; decide) rfl rfl
    exampleConfig_lt _ _ _, ?_⟩
  obtain ⟨K, -, hK, -, h1, -⟩ := C03.C03_stop_exact_field (Solver.mk exampleConfig) (fun _ pt => some pt.sum)
    (fun _ => none) FnsLaws.real (by norm_num [Solver.mk, exampleConfig]) (by norm_num [Solver.mk, exampleConfig])
    (by intro i pt; simp) (by norm_num [Solver.mk, exampleConfig])
  intro he
  have he' : (solve (Solver.mk exampleConfig) (fun _ pt => some pt.sum) (fun _ => none) {}).evals = [] := he
  rw [he'] at hK
  simp at hK
  omega

/-- the hypotheses of `C05_trials_in_box_reach` / `C05_best_strictly_in_box` are satisfiable in
dimension 1: a reachable state with 6 trials -/
example : ∃ (s : State ℝ) (log : List (List ℝ × ℝ)),
    (Ev.DimOK1 exampleConfig1.n) ∧ FnsLaws ℝ ∧ 1 < exampleConfig1.r ∧
    Reach (Solver.mk exampleConfig1) s log ∧ log.length = 6 ∧
    ∃ b, findItem s.items s.best = some b ∧ (b.point, b.hv) ∈ log ∧ StrictlyInBox exampleConfig1 b.point := by
  have hr : (1 : ℝ) < (Solver.mk exampleConfig1).r := by norm_num [Solver.mk, exampleConfig1]
  have hn : 0 < (Solver.mk exampleConfig1).n := by norm_num [Solver.mk, exampleConfig1]
  obtain ⟨s, log, hre, hlen, -⟩ := exists_reach_obj (p := Solver.mk exampleConfig1) FnsLaws.real hr hn
    (fun pt => pt.sum) 5
  have h1 : Ev.DimOK1 exampleConfig1.n := by show Ev.DimOK1 1; decide
  exact ⟨s, log, h1, FnsLaws.real, hr, hre, hlen,
    C05_best_strictly_in_box exampleConfig1 h1 rfl rfl exampleConfig1_lt FnsLaws.real hr hre⟩

/-- the hypothesis `href` of `C05_best_in_box` is satisfiable: a refinement that returns the box point
`(0, 1)` -/
example : ∀ s, (runOps (Solver.mk exampleConfig) (fun _ pt => some pt.sum)
      (fun _ => some { x := [0, 1], fx := 1, nfev := 3 }) [Op.iter 3, Op.solve] {}).m = some s →
    ∀ b, findItem s.items s.best = some b → InBox exampleConfig.lower exampleConfig.upper b.point := by
  intro s hs
  refine (C05_best_in_box exampleConfig (by show Ev.DimOK1 2; decide) rfl rfl
    exampleConfig_lt _ _ ?_ _ s hs).2.1
  intro ps lr hlr
  simp only [Option.some.injEq] at hlr
  subst hlr
  refine ⟨rfl, rfl, ?_⟩
  intro i l u v h1 h2 h3
  match i with
  | 0 =>
    simp [exampleConfig] at h1 h2 h3
    subst h1 h2 h3
    constructor <;> norm_num
  | 1 =>
    simp [exampleConfig] at h1 h2 h3
    subst h1 h2 h3
    constructor <;> norm_num
  | i + 2 => simp [exampleConfig] at h1

end NonVacuity
end C05

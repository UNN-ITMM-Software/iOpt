import IOptProofs.MethodCert
import IOptProps.C02
/-!
# C01 — the accuracy certificate of the AGP iteration (dimension N = 1, and N ≥ 1 modulo a minorant)

If the accuracy stop fires (the chosen interval has length `< eps`) while the reliability condition
`2 L ≤ r M` holds for the `M` used in the selection, then the best value found is within
`(r M / 2) eps` of the global minimum of the objective along the curve.

`M` is the estimate at the LAST SELECTION (the state `s` on which `prepare` is run), not the one after
the final trial: with the post-final `M` the statement is false (known finding F7).
`C01_stop_fires` is the link to `CheckStopCondition`: after an iteration that chose an interval of
length `< eps` the stop condition holds.

The certificate is proved once, for every dimension, with the lower bound on the objective as a hypothesis
(`Minorant`; `cert_step_of_length_lt`, `C01_cert_step_modMinorant`). `minorant_of_holder` supplies that hypothesis
for every Hölder objective along the curve (`holder_minorant` of `IOptProofs/MethodCert.lean` on each interval of
the partition); `minorant_of_lipschitz` is its case `N = 1`, `C01_minorant_evolvent` (`C01dimN.lean`) the case of
the evolvent.
-/
set_option linter.unusedSectionVars false

namespace AGP
variable {α : Type} [Field α] [LinearOrder α] [IsStrictOrderedRing α] [Fns α]
variable {p : Params α} {s : State α} {pr : Prep α}

/-- The minorant hypothesis of the dimension-generic certificate: on every interval of the current
partition the objective along the curve `F` lies above the `(m/2)`-Hoelder cone(s) of the evaluated
end(s), up to a slack `g`, where `m = r M`. -/
def Minorant (p : Params α) (s : State α) (F : α → α) (g : α) : Prop :=
  ∀ a b, Neighbours s.items a b → ∀ x, a.x ≤ x → x ≤ b.x →
    (a.ev = true → b.ev = true → (a.z + b.z) / 2 - (p.r * s.M / 4) * b.delta - g ≤ F x) ∧
    (a.ev = false → b.z - (p.r * s.M / 2) * b.delta - g ≤ F x) ∧
    (b.ev = false → a.z - (p.r * s.M / 2) * b.delta - g ≤ F x)

theorem InvItems.char_le (hL : FnsLaws α) (hr : 1 < p.r) (hn : 0 < p.n) (h : InvItems p s) {a b : Item α}
    (hab : Neighbours s.items a b) : Spec.R p.n p.r s.M s.Z a b ≤ 2 * b.delta := by
  have hr0 : 0 < p.r := lt_trans one_pos hr
  have hδ := h.nb_delta_pos hL hn hab
  have hD : Spec.D p.n a b = b.delta := (h.nb_delta hab).symm
  rcases h.nb_cases hab with ⟨ha, hb⟩ | ⟨ha, hb⟩ | ⟨ha, hb⟩
  · rw [Spec.R_interior _ _ _ _ ha hb, hD]
    exact (chosen_small p.r s.M b.delta a.z b.z s.Z hr h.M_pos hδ ((div_le_iff₀ hδ).1 (h.nb_slope hab ha hb))
      (h.Z_le _ hab.mem_left ha) (h.Z_le _ hab.mem_right hb)).le
  · rw [Spec.R_first _ _ _ _ ha hb, hD]
    exact chosen_small_boundary p.r s.M b.delta b.z s.Z hr0 h.M_pos (h.Z_le _ hab.mem_right hb)
  · rw [Spec.R_last _ _ _ _ hb, hD]
    exact chosen_small_boundary p.r s.M b.delta a.z s.Z hr0 h.M_pos (h.Z_le _ hab.mem_left ha)

/-- Nothing but `pr.old.delta < E` is used of `E`; `C01_cert_step_modMinorant` is the case
`E = p.eps`, in which the accuracy stop fires after this iteration. -/
theorem cert_step_of_length_lt (hL : FnsLaws α) (hr : 1 < p.r) (hn : 0 < p.n) (h : Inv p s)
    (F : α → α) (hp : prepare p s = .ok pr) {E : α} (hE : pr.old.delta < E) (g : α)
    (hmin : Minorant p s F g) (z : α) :
    (∀ x, 0 ≤ x → x ≤ 1 → (commit p pr z).Z - F x < (p.r * s.M / 2) * E + g) ∧
    s.M ≤ (commit p pr z).M := by
  have hs := prepare_spec' hL hr hn h hp
  have hI := h.toInvItems
  have hm : 0 < p.r * s.M := mul_pos (lt_trans one_pos hr) hI.M_pos
  have hZ' : (commit p pr z).Z ≤ s.Z := by
    rw [commit_Z, ← hs.Z_eq]; exact (cZ_le hs z).1
  refine ⟨?_, prepare_commit_M_mono hL hp z⟩
  intro x h0 h1
  -- the interval of the partition that holds `x`: its characteristic is at most that of the chosen
  -- one, which is at most twice the chosen length
  obtain ⟨a, b, hab, hax, hxb⟩ := hI.cover h0 h1
  have hR : Spec.R p.n p.r s.M s.Z a b < 2 * E :=
    lt_of_le_of_lt ((C02_selection_is_argmax_items hL hr hn h hp a b hab).trans
      (hs.M_eq ▸ hs.Z_eq ▸ hs.inv.char_le hL hr hn hs.neighbours)) (mul_lt_mul_of_pos_left hE two_pos)
  have hD : Spec.D p.n a b = b.delta := (hI.nb_delta hab).symm
  obtain ⟨m1, m2, m3⟩ := hmin a b hab x hax hxb
  have key : s.Z - (p.r * s.M / 2) * E < F x + g := by
    rcases hI.nb_cases hab with ⟨ha, hb⟩ | ⟨ha, hb⟩ | ⟨ha, hb⟩
    · rw [Spec.R_interior _ _ _ _ ha hb, hD] at hR
      exact interior_cert (p.r * s.M) b.delta a.z b.z s.Z E (F x + g) hm (hI.nb_delta_pos hL hn hab) hR
        (sub_le_iff_le_add.1 (m1 ha hb))
    · rw [Spec.R_first _ _ _ _ ha hb, hD] at hR
      exact boundary_cert (p.r * s.M) b.delta b.z s.Z E (F x + g) hm hR (sub_le_iff_le_add.1 (m2 ha))
    · rw [Spec.R_last _ _ _ _ hb, hD] at hR
      exact boundary_cert (p.r * s.M) b.delta a.z s.Z E (F x + g) hm hR (sub_le_iff_le_add.1 (m3 hb))
  linarith only [key, hZ']

/-- **C01, dimension-generic certificate modulo the minorant.** Let `Inv p s`, let `prepare` choose
an interval of length `< eps` (the accuracy stop fires after this iteration), and let `F` satisfy the
`Minorant` hypothesis with slack `g` for `m = r M` (`M = s.M`, the estimate used in the selection).
Then after the trial (whatever value `z` it returns, in particular `z = F pr.x`), the best value is
within `(m/2) eps + g` of every value of `F` on `[0,1]`; and `M` does not decrease. -/
theorem C01_cert_step_modMinorant (hL : FnsLaws α) (hr : 1 < p.r) (hn : 0 < p.n) (h : Inv p s)
    (F : α → α) (hp : prepare p s = .ok pr) (heps : pr.old.delta < p.eps) (g : α)
    (hmin : Minorant p s F g) (z : α) :
    (∀ x, 0 ≤ x → x ≤ 1 → (commit p pr z).Z - F x < (p.r * s.M / 2) * p.eps + g) ∧
    s.M ≤ (commit p pr z).M :=
  cert_step_of_length_lt hL hr hn h F hp heps g hmin z

/-- **The minorant hypothesis holds for every Hölder objective along the curve**, in any dimension, with the
reliability condition `4 c C ≤ r M`, `c = 2 ^ (-1/N)` (`hconc`): `holder_minorant` on each interval of the partition,
with the roots of `FnsLaws`. -/
theorem minorant_of_holder (hL : FnsLaws α) (hn : 0 < p.n) (h : Inv p s) {F : α → α} {C g c : α}
    (hC : 0 ≤ C) (hH : HolderUpTo p.n F C g)
    (hconc : ∀ a b δ : α, 0 ≤ a → 0 ≤ b → 0 ≤ δ → a ^ p.n + b ^ p.n = δ ^ p.n → a + b ≤ 2 * c * δ)
    (hc : 1 / 2 ≤ c) (hF : ∀ it ∈ s.items, it.ev = true → it.z = F it.x) (hrel : 4 * c * C ≤ p.r * s.M) :
    Minorant p s F g := by
  intro a b hab x hax hxb
  have hI := h.toInvItems
  obtain ⟨c1, c2, c3⟩ := holder_minorant hC hH (fun d hd => ⟨_, hL.root_nonneg d p.n hd, hL.root_pow d p.n hn hd⟩)
    hconc hc (hI.x_range a hab.mem_left).1 (hI.x_range b hab.mem_right).2 hax hxb
    (hI.nb_delta_pos hL hn hab).le (hI.nb_delta_pow hL hn hab) hrel
  -- an unevaluated end has an evaluated neighbour
  refine ⟨fun ha hb => ?_, fun ha => ?_, fun hb => ?_⟩
  · rw [hF a hab.mem_left ha, hF b hab.mem_right hb]; exact c1
  · rw [hF b hab.mem_right ((hI.nb_ev hab).resolve_left (by simp [ha]))]; exact c3
  · rw [hF a hab.mem_left ((hI.nb_ev hab).resolve_right (by simp [hb]))]; exact c2

/-- the case `N = 1`, `C = L`, `c = 1/2` -/
theorem minorant_of_lipschitz (hL : FnsLaws α) (hn1 : p.n = 1) (h : Inv p s)
    (F : α → α) (L : α)
    (hLip : ∀ x y, 0 ≤ x → x ≤ 1 → 0 ≤ y → y ≤ 1 → |F x - F y| ≤ L * |x - y|)
    (hF : ∀ it ∈ s.items, it.ev = true → it.z = F it.x) (hrel : 2 * L ≤ p.r * s.M) :
    Minorant p s F 0 := by
  have hL0 : 0 ≤ L := by
    have := hLip 0 1 le_rfl zero_le_one zero_le_one le_rfl
    rw [zero_sub, abs_neg, abs_one, mul_one] at this
    exact le_trans (abs_nonneg _) this
  refine minorant_of_holder (c := 1 / 2) hL (hn1 ▸ one_pos) h hL0 ?_ ?_ le_rfl hF (by linarith only [hrel])
  · intro x x₀ a hx0 hx1 h0 h1 _ ha
    rw [hn1, pow_one] at ha
    have h1 := (abs_le.1 (hLip x₀ x h0 h1 hx0 hx1)).2
    have h2 := mul_le_mul_of_nonneg_left ha hL0
    linarith only [h1, h2]
  · intro a b δ _ _ _ hab
    rw [hn1, pow_one, pow_one, pow_one] at hab
    linarith only [hab]

/-- **C01, the certificate for `N = 1`.** Let `F` (the objective along the curve) be `L`-Lipschitz on
`[0,1]`, let every evaluated item carry `z = F x`, let `prepare` choose an interval of length `< eps`
(the accuracy stop fires after this iteration) and let the reliability condition `2 L ≤ r M` hold for
the estimate `M = s.M` used in that selection. Then after the trial, `s' = commit p pr (F pr.x)`, for
every `x ∈ [0,1]`: `s'.Z - F x < (r M / 2) eps`; and `M ≤ s'.M`. -/
theorem C01_cert_step (hL : FnsLaws α) (hr : 1 < p.r) (hn1 : p.n = 1) (h : Inv p s)
    (F : α → α) (L : α)
    (hLip : ∀ x y, 0 ≤ x → x ≤ 1 → 0 ≤ y → y ≤ 1 → |F x - F y| ≤ L * |x - y|)
    (hF : ∀ it ∈ s.items, it.ev = true → it.z = F it.x)
    (hp : prepare p s = .ok pr) (heps : pr.old.delta < p.eps) (hrel : 2 * L ≤ p.r * s.M) :
    (∀ x, 0 ≤ x → x ≤ 1 → (commit p pr (F pr.x)).Z - F x < (p.r * s.M / 2) * p.eps) ∧
    s.M ≤ (commit p pr (F pr.x)).M := by
  have hn : 0 < p.n := by rw [hn1]; exact one_pos
  have := C01_cert_step_modMinorant hL hr hn h F hp heps 0
    (minorant_of_lipschitz hL hn1 h F L hLip hF hrel) (F pr.x)
  simpa only [add_zero] using this

/-- **C01, flat objectives need no reliability hypothesis.** If `2 L ≤ r` the premise `2 L ≤ r M`
of `C01_cert_step` holds in every state (since `1 ≤ M`); the bound is the same `(r M / 2) eps`. -/
theorem C01_flat (hL : FnsLaws α) (hr : 1 < p.r) (hn1 : p.n = 1) (h : Inv p s)
    (F : α → α) (L : α)
    (hLip : ∀ x y, 0 ≤ x → x ≤ 1 → 0 ≤ y → y ≤ 1 → |F x - F y| ≤ L * |x - y|)
    (hF : ∀ it ∈ s.items, it.ev = true → it.z = F it.x)
    (hp : prepare p s = .ok pr) (heps : pr.old.delta < p.eps) (hflat : 2 * L ≤ p.r) :
    (∀ x, 0 ≤ x → x ≤ 1 → (commit p pr (F pr.x)).Z - F x < (p.r * s.M / 2) * p.eps) ∧
    s.M ≤ (commit p pr (F pr.x)).M := by
  have hr0 : 0 < p.r := lt_trans one_pos hr
  have : p.r ≤ p.r * s.M := le_mul_of_one_le_right hr0.le h.M_ge
  exact C01_cert_step hL hr hn1 h F L hLip hF hp heps (le_trans hflat this)

theorem C01_stop_fires (hL : FnsLaws α) (hr : 1 < p.r) (hn : 0 < p.n) (h : Inv p s)
    (hp : prepare p s = .ok pr) (heps : pr.old.delta < p.eps) (z : α) :
    stopCond p (commit p pr z) = true := by
  have hs := prepare_spec' hL hr hn h hp
  have hmd : (commit p pr z).minDelta = some (minOpt pr.old.delta s.minDelta) := by
    rw [commit_minDelta]; exact hs.minDelta_eq
  have hle : minOpt pr.old.delta s.minDelta ≤ pr.old.delta := by
    unfold minOpt
    cases s.minDelta with
    | none => exact le_rfl
    | some b =>
      simp only
      split
      · rename_i hlt; exact hlt.le
      · exact le_rfl
  unfold stopCond
  rw [hmd]
  simp only [Bool.or_eq_true, decide_eq_true_eq]
  exact Or.inl (lt_of_le_of_lt hle heps)

/-- Supplies the hypothesis `hF` of `C01_cert_step`, with `F x = f (p.image x)`. -/
theorem C01_values_of_objective (hL : FnsLaws α) (hr : 1 < p.r) (hn : 0 < p.n) {log : List (List α × α)}
    (h : Reach p s log) (f : List α → α) (hlog : ∀ e ∈ log, e.2 = f e.1) :
    ∀ it ∈ s.items, it.ev = true → it.z = f (p.image it.x) := by
  intro it hit hev
  have hI := (h.inv hL hr hn).toInvItems
  have hl := h.logInv hL hr hn
  have := hlog _ (hl.mem_log.2 ⟨it, hit, hev, rfl⟩)
  rw [← hI.point_eq it hit]; exact this

/-! ## Non-vacuity

Over ℝ with the real-number functions: `N = 1`, `r = 2`, `eps = 2` (so every interval of `[0,1]` is
shorter than `eps` and `heps` holds in any state), identity curve `image x = [x]`,
objective `f [x] = x` (so `F x = x`, `L = 1`, and `2 L = 2 ≤ r ≤ r M`).  After 4 trials driven by `f`
there is a reachable state satisfying every hypothesis of `C01_cert_step` (and of `C01_flat`, and of
`C01_cert_step_modMinorant` with `g = 0`). -/
section NonVacuity
attribute [local instance] Fns.real

example : ∃ (p : Params ℝ) (s : State ℝ) (log : List (List ℝ × ℝ)) (pr : Prep ℝ) (F : ℝ → ℝ) (L : ℝ),
    FnsLaws ℝ ∧ 1 < p.r ∧ p.n = 1 ∧ Reach p s log ∧ log.length = 4 ∧ Inv p s ∧
    (∀ x y, 0 ≤ x → x ≤ 1 → 0 ≤ y → y ≤ 1 → |F x - F y| ≤ L * |x - y|) ∧
    (∀ it ∈ s.items, it.ev = true → it.z = F it.x) ∧
    prepare p s = .ok pr ∧ pr.old.delta < p.eps ∧ 2 * L ≤ p.r * s.M ∧ 2 * L ≤ p.r ∧
    Minorant p s F 0 := by
  let p : Params ℝ := { n := 1, r := 2, eps := 2, itersLimit := 100, image := fun x => [x] }
  let f : List ℝ → ℝ := fun pt => pt.headD 0
  have hr : (1 : ℝ) < p.r := by norm_num [p]
  have hn : 0 < p.n := by norm_num [p]
  obtain ⟨s, log, hre, hlen, hlog⟩ := exists_reach_obj (p := p) FnsLaws.real hr hn f 3
  have hI := hre.inv FnsLaws.real hr hn
  have hs := prepare_spec FnsLaws.real hr hn hI
  obtain ⟨pr, hp, hs⟩ := hs
  have hF : ∀ it ∈ s.items, it.ev = true → it.z = (fun x : ℝ => x) it.x := by
    intro it hit hev
    have := C01_values_of_objective FnsLaws.real hr hn hre f hlog it hit hev
    simpa [p, f] using this
  have hLip : ∀ x y : ℝ, 0 ≤ x → x ≤ 1 → 0 ≤ y → y ≤ 1 → |(fun x : ℝ => x) x - (fun x : ℝ => x) y| ≤ 1 * |x - y| := by
    intro x y _ _ _ _; simp
  have hrel : 2 * (1 : ℝ) ≤ p.r * s.M := by
    have := hI.M_ge
    show 2 * (1 : ℝ) ≤ 2 * s.M
    linarith
  have heps : pr.old.delta < p.eps :=
    lt_of_le_of_lt (hs.inv.nb_delta_le_one FnsLaws.real hn hs.neighbours) one_lt_two
  exact ⟨p, s, log, pr, fun x => x, 1, FnsLaws.real, hr, rfl, hre, hlen, hI, hLip, hF, hp, heps, hrel,
    by norm_num [p], minorant_of_lipschitz FnsLaws.real rfl hI _ 1 hLip hF hrel⟩

end NonVacuity
end AGP

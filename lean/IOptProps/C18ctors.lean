import IOptProofs.ProblemCtorInterp
/-!
# C18, open families: the SOURCE constructors of `Rastrigin(n)` / `XSquared(n)` declare well-formed metadata for EVERY `n`

`Gen.ProblemCtors.rastrigin_init` / `xSquared_init` are the statement trees of the two constructors, regenerated from the source
text of `iOpt/problems/rastrigin.py` / `xsquared.py` on every run.  `PCInterp.declares tree args arg0 arg1`
(`IOptProofs/ProblemCtorInterpDefs.lean`) runs such a tree (generic interpreter, strings are opaque keys of small tables, `super(…).__init__()`
runs the generated tree of `Problem.__init__`) and reads the metadata row off the constructed object: the family code from `self.name`,
`arg0` / `arg1` (the constructor arguments the table records) from outside, the numeric literals through the five-entry table `dyTable`.
`IOptProofs/ProblemCtorInterp.lean` proves, by induction over the `for` loop (the statements before and after it are run by the kernel
with `n` a variable), that the row is the model's `rastriginMeta n` / `xsquaredMeta n` for every `n`; here this is combined with the
well-formedness of the model rows (`BenchMeta.rastriginMeta_wf`, `xsquaredMeta_wf`: the two halves of `C18_meta_open`).
For `n = 0` the real constructors succeed too (`np.ndarray(shape=0)`, empty loops) and give empty vectors: the vector clauses of `MetaWF`
hold vacuously; a negative `n` makes `np.ndarray` raise `ValueError`, no object is built.
-/

namespace C18
open Gen Gen.ProcSrc Gen.ProblemCtors BenchMeta PCInterp

/-- **C18, `Rastrigin(n)`, from the source.** For every `n`, the interpreted source constructor `Rastrigin.__init__(dimension = n)`
declares the row `rastriginMeta n` (family 5, box `[-2.2, 1.8]^n`, one objective, no constraints, one known optimum: value 0 at the
origin). -/
theorem C18_ctor_rastrigin_row (n : Nat) :
    declares rastrigin_init [("dimension", .int n)] n 0 = some (rastriginMeta n) := rastrigin_init_src n

/-- **C18, `XSquared(n)`, from the source.** For every `n`, `XSquared.__init__(dimension = n)` declares `xsquaredMeta n`
(family 6, box `[-1, 1]^n`, optimum value 0 at the origin). -/
theorem C18_ctor_xsquared_row (n : Nat) :
    declares xSquared_init [("dimension", .int n)] n 0 = some (xsquaredMeta n) := xsquared_init_src n

/-- **C18 for every `Rastrigin(n)`.** The source constructor declares a row, and the row is well-formed: dimension =
`numberOfFloatVariables` = number of names = lengths of the bound vectors and of the optimum point, `lower_i < upper_i`,
`lower_i ≤ optimum_i ≤ upper_i`, exactly one objective and one known optimum. -/
theorem C18_ctor_rastrigin (n : Nat) :
    ∃ r, declares rastrigin_init [("dimension", .int n)] n 0 = some r ∧ MetaWF r :=
  ⟨rastriginMeta n, rastrigin_init_src n, rastriginMeta_wf n⟩

/-- **C18 for every `XSquared(n)`.** -/
theorem C18_ctor_xsquared (n : Nat) :
    ∃ r, declares xSquared_init [("dimension", .int n)] n 0 = some r ∧ MetaWF r :=
  ⟨xsquaredMeta n, xsquared_init_src n, xsquaredMeta_wf n⟩

/-- the loop assigns every cell of the names array, for every `n`: in the interpreter cell `i` holds `i` (the row only records the
length).  The interpreter does not model `dtype=str`: NumPy converts each `i` to the array's item type, which has width 0, so the
cells of the real object are empty strings (DESIGN.md §0). -/
theorem C18_ctor_names (n : Nat) :
    (run rastrigin_init [("dimension", .int n)]).bind (lookup · "self.floatVariableNames") = some (.arr ((List.range n).map .int)) ∧
    (run xSquared_init [("dimension", .int n)]).bind (lookup · "self.floatVariableNames") = some (.arr ((List.range n).map .int)) := by
  rw [rastrigin_run, xsquared_run]
  simp [F, G, lookup]

/-! ### non-vacuity: the interpreter runs (kernel evaluation, no use of the theorems above) -/

example : declares rastrigin_init [("dimension", .int 1)] 1 0 = some (rastriginMeta 1) := by decide +kernel
example : declares rastrigin_init [("dimension", .int 3)] 3 0 = some (rastriginMeta 3) := by decide +kernel
example : declares xSquared_init [("dimension", .int 1)] 1 0 = some (xsquaredMeta 1) := by decide +kernel
example : declares xSquared_init [("dimension", .int 3)] 3 0 = some (xsquaredMeta 3) := by decide +kernel
/-- `n = 0`: empty vectors -/
example : (declares rastrigin_init [("dimension", .int 0)] 0 0).map (fun r => (r.dimension, r.lower, r.nOptima)) = some (0, [], 1) := by
  decide +kernel
/-- the row for `n = 3` spelled out: lower bounds the double `-2.2`, three names -/
example : (rastriginMeta 3).lower = [dyM2_2, dyM2_2, dyM2_2] ∧ (rastriginMeta 3).nNames = 3 := by decide +kernel

/-! ### sensitivity: edited trees (the interpreter reads the tree) -/

def patch (tree : List Stmt) (i : Nat) (s : Stmt) : List Stmt := tree.set i s

/-- bounds swapped (`lowerBound.fill(1.8)`, `upperBound.fill(-2.2)`): a row, but not the model row (and not well-formed) -/
example : let t := (patch (patch rastrigin_init 10 (.call [] "self.lowerBoundOfFloatVariables.fill" ["1.8"])) 12
      (.call [] "self.upperBoundOfFloatVariables.fill" ["-2.2"]))
    (declares t [("dimension", .int 2)] 2 0).isSome = true ∧ declares t [("dimension", .int 2)] 2 0 ≠ some (rastriginMeta 2) ∧
    (declares t [("dimension", .int 2)] 2 0).map (fun r => BenchMeta.metaOK r) = some false := by decide +kernel

/-- `pointfv.fill(5)`: `5` is not a literal of `dyTable` → nothing is declared -/
example : declares (patch rastrigin_init 15 (.call [] "pointfv.fill" ["5"])) [("dimension", .int 2)] 2 0 = none := by
  decide +kernel

/-- the names loop over `range(self.dimension - 1)`: the ARRAY still has `n` cells (`np.ndarray(shape=n)`), so `len(floatVariableNames)`
and hence the row do not change; what changes is the content: the last cell is never assigned (`C18_ctor_names` fails for this tree) -/
example : let t := patch rastrigin_init 8 (.forRange "i" "self.dimension - 1" [.assign "self.floatVariableNames[i]" "i"])
    (run t [("dimension", .int 3)]).bind (lookup · "self.floatVariableNames") = some (.arr [.int 0, .int 1, .unset]) := by
  intro t; kernel_rfl

/-- the names array allocated with `shape=1` instead of `shape=self.dimension`: for `n = 3` the loop hits an `IndexError` → nothing
is declared; for `n = 1` nothing changes -/
example : let t := patch rastrigin_init 7 (.call ["self.floatVariableNames"] "np.ndarray" ["shape=1", "dtype=str"])
    declares t [("dimension", .int 3)] 3 0 = none ∧ declares t [("dimension", .int 1)] 1 0 = some (rastriginMeta 1) := by
  decide +kernel

/-- `self.dimension = 1` (a literal) while `numberOfFloatVariables = dimension`: called with 3, a row with `dimension = nNames = 1`
but `nFloat = 3`, not well-formed -/
example : let t := patch rastrigin_init 2 (.assign "self.dimension" "1")
    (declares t [("dimension", .int 3)] 3 0).map (fun r => (r.dimension, r.nFloat, r.nNames, BenchMeta.metaOK r))
      = some (1, 3, 1, false) := by decide +kernel

/-- `numberOfObjectives = 2` → differs from the model row -/
example : let t := patch xSquared_init 5 (.assign "self.numberOfObjectives" "2")
    (declares t [("dimension", .int 2)] 2 0).map (·.nObjectives) = some 2 ∧
    declares t [("dimension", .int 2)] 2 0 ≠ some (xsquaredMeta 2) := by decide +kernel

/-- without `KOfunV[0].value = 0` the optimum value is never assigned by the tree → nothing is declared -/
example : declares (rastrigin_init.eraseIdx 19) [("dimension", .int 2)] 2 0 = none := by decide +kernel

/-- a statement outside the fragment (`Shekel4`: `KOfunV[0] = self.Calculate(…)`; `Hill`: a table read) → nothing is declared -/
example : run shekel4_init [("function_number", .int 1)] = none ∧ run hill_init [("function_number", .int 1)] = none := by
  decide +kernel

end C18

import IOptProofs.ProcessEvents
import IOptProofs.ProcessToy
/-!
# C13 (event part) — what the listeners are told

"(listeners are) told once before the first trial, once after each DoGlobalIteration call with exactly the new
trials of that call in order, and once when Solve ends"

The model records every notification in `PState.log` (`Event.beforeStart`, `Event.endIteration ids`,
`Event.methodStop status`, plus the printed line `Event.exceptionPrinted`).  In the model the listeners have no write
access to the solver state at all (events are only appended to a list); the *non-interference* clause of C13 is
therefore not a theorem here but is carried by the correspondence check of the model against the real code, which runs
the implementation with listeners attached.

Sequences of user operations are `List Op` (`Op.iter k` = `DoGlobalIteration(k)`, `Op.solve` = `Solve()`), run by `runOps`
from a fresh solver `{}`; an exception of `DoGlobalIteration` propagates to the caller, who may go on.
`idsOf log` is the concatenation of the id lists of all `OnEndIteration` notifications of the log.
-/

set_option linter.unusedSectionVars false

namespace C13
open AGP AGP.Ctl Proc

section generic
variable {α : Type} [Add α] [Sub α] [Mul α] [Div α] [Neg α] [LT α] [LE α]
  [DecidableLT α] [DecidableLE α] [OfNat α 0] [OfNat α 1] [OfNat α 2] [OfNat α 4] [Fns α]

/-- **C13, one `OnEndIteration` per `DoGlobalIteration` call.**  A call `DoGlobalIteration(k)` that does not raise appends to
the log: `BeforeMethodStart` if (and only if) it makes the first iteration ever (`firstMark`), and then exactly one
`OnEndIteration ids`, as the last event, where `ids` has length `k` and lists the ids of the `k` new trials in the
order of their evaluation (`nextId, nextId+1, …`).  A call that raises appends no `OnEndIteration`. -/
theorem C13_end_iteration (p : Params α) (f : Nat → List α → Option α) (k : Nat) (ps : PState α) :
    ((doGlobalIteration p f k ps []).raised = none →
      (doGlobalIteration p f k ps []).s.log =
        ps.log ++ firstMark ps k ++ [Event.endIteration (List.range' ps.nextId k)] ∧
      (List.range' ps.nextId k).length = k ∧
      (firstMark ps k = [] ∨ firstMark ps k = [Event.beforeStart]) ∧
      (doGlobalIteration p f k ps []).s.nextId = ps.nextId + k) ∧
    (∀ e, (doGlobalIteration p f k ps []).raised = some e →
      (doGlobalIteration p f k ps []).s.log = ps.log ++ firstMark ps 1) := by
  obtain ⟨j, ids, r, Y, D⟩ := dgi_passes p f k ps []
  have e := D.passes.eff
  rw [D.eq]
  cases r with
  | none =>
    cases D.full rfl
    refine ⟨fun _ => ⟨?_, by simp, firstMark_cases _ _, e.nextId⟩, nofun⟩
    rw [PState.appendLog_log, e.log, e.ids]; rfl
  | some e' => exact ⟨nofun, fun _ _ => by rw [PState.appendLog_log, e.log, firstMark_pos ps (a := j + _) (Nat.succ_pos j)]; simp⟩

/-- **C13, one `OnMethodStop` per `Solve`, as its last event.**  `Solve` appends to the log: `BeforeMethodStart` if it makes
(or attempts) the first iteration ever, one `OnEndIteration [id]` for each of the `j` iterations it completes (ids
`nextId, nextId+1, …` in order), the printed line if the loop was ended by an exception, and then exactly one
`OnMethodStop(status)`, which is the last event; `status` is the value of the stop criterion at that moment. -/
theorem C13_method_stop (p : Params α) (f : Nat → List α → Option α) (refine : PState α → Option (LocalResult α)) (ps : PState α) :
    ∃ (j a : Nat) (exc : List Event) (st : Bool),
      (solve p f refine ps).log =
        ps.log ++ (firstMark ps a ++ endEach (List.range' ps.nextId j) ++ exc) ++ [Event.methodStop st] ∧
      (∀ st', Event.methodStop st' ∉ firstMark ps a ++ endEach (List.range' ps.nextId j) ++ exc) ∧
      (exc = [] ∨ exc = [Event.exceptionPrinted]) ∧
      st = stopNow p (solve p f refine ps) ∧
      (solve p f refine ps).nTrials = ps.nTrials + j := by
  obtain ⟨j, psj, ids, r, Y, L⟩ := solve_passes p f ps
  have e := L.passes.eff
  have heq := L.solve_eq refine
  cases e.ids
  refine ⟨j, j + r.toList.length, excOf r, stopNow p Y, by rw [heq]; simp [e.log], fun st' hmem => ?_,
    by cases r <;> simp [excOf], by rw [heq]; simp [stopNow_refineStep], by rw [heq]; simpa using e.nTrials⟩
  simp only [List.mem_append] at hmem
  rcases hmem with (hmem | hmem) | hmem
  · rcases firstMark_cases ps (j + r.toList.length) with h | h <;> rw [h] at hmem <;> simp at hmem
  · simp [endEach] at hmem
  · cases r <;> simp [excOf] at hmem

/-- **C13, the log of any sequence of operations is well formed (general form, objective may raise).**  After any sequence of
`DoGlobalIteration(k_j)` (`k_j ≥ 1`) and `Solve` calls on a fresh solver:

1. `BeforeMethodStart` has been notified iff at least one iteration was started (i.e. the objective was called at least once);
2. it has been notified exactly once in that case, provided no call of the objective has raised so far
   (in general at most `1 +` the number of failed calls: Python repeats the first iteration, and its notification,
   after a failed first evaluation — see the example at the end of the file);
3. every `OnEndIteration` comes after a `BeforeMethodStart`;
4. the concatenation of the id lists of all `OnEndIteration` notifications is a subsequence of the ids `2, 3, 4, …` of the
   evaluated trials in evaluation order, and is the whole sequence `2, …, numberOfGlobalTrials + 1` if no
   `DoGlobalIteration` call of the sequence raised (a raising call loses its `savedNewPoints`). -/
theorem C13_events_wellformed_partial (p : Params α) (f : Nat → List α → Option α) (refine : PState α → Option (LocalResult α))
    (ops : List Op) (hops : ∀ k, Op.iter k ∈ ops → 1 ≤ k) :
    let ps := runOps p f refine ops {}
    (Event.beforeStart ∈ ps.log ↔ 1 ≤ ps.calls) ∧
    (ps.calls = ps.evals.length → ps.log.count Event.beforeStart = if ps.calls = 0 then 0 else 1) ∧
    ps.log.count Event.beforeStart ≤ 1 + (ps.calls - ps.evals.length) ∧
    Ordered ps.log ∧
    (idsOf ps.log).Sublist (List.range' 2 ps.nTrials) ∧
    (NoIterRaise p f refine ops {} → idsOf ps.log = List.range' 2 ps.nTrials) := by
  intro ps
  obtain ⟨h, hfull⟩ : EvInv ps ∧ (NoIterRaise p f refine ops {} → AllReported {} → AllReported ps) :=
    (EvInv.fresh (α := α)).runOps_pres ops hops
  have hcount := h.count
  have hev := h.cons.calls
  have hle : (if ps.m.isNone = true then 0 else 1) ≤ 1 := by split <;> decide
  have h1 : Event.beforeStart ∈ ps.log ↔ 1 ≤ ps.calls := by
    refine ⟨fun hmem => Nat.pos_of_ne_zero fun h0 => ?_, fun hc => h.called.resolve_left (Nat.ne_of_gt hc)⟩
    -- no call: no record, so the first iteration is not done, and the count bounds the log
    have hpos : 0 < ps.log.count Event.beforeStart := List.count_pos_iff.2 hmem
    cases hm : ps.m with
    | none => rw [hm] at hcount; simp at hcount; omega
    | some s =>
      have := h.pos (by rw [hm]; exact Option.some_ne_none s)
      have := h.cons.trials
      omega
  refine ⟨h1, fun heq => ?_, by omega, h.ordered, h.ids, fun hnr => hfull hnr rfl⟩
  split
  · next h0 => exact List.count_eq_zero_of_not_mem fun hmem => absurd (h1.1 hmem) (by omega)
  · next h0 =>
    have hpos : 0 < ps.log.count Event.beforeStart := List.count_pos_iff.2 (h1.2 (Nat.pos_of_ne_zero h0))
    omega

/-- **C13, the log of any sequence of operations is well formed (objective that never raises).**  After any sequence of
`DoGlobalIteration(k_j)` (`k_j ≥ 1`) and `Solve` calls on a fresh solver, with an objective that never raises:
`BeforeMethodStart` occurs in the log exactly once if at least one iteration was started (the objective was called) and not at
all otherwise; every `OnEndIteration` comes after it; the concatenation of the id lists of all `OnEndIteration`
notifications is a subsequence of the ids `2, 3, 4, …` of the evaluated trials, in evaluation order, and is exactly
`2, …, numberOfGlobalTrials + 1` if no `DoGlobalIteration` call raised (over an ordered field nothing else can raise:
`CalculateIterationPoint` never raises on reachable states, see C02). -/
theorem C13_events_wellformed (p : Params α) (f : Nat → List α → Option α) (refine : PState α → Option (LocalResult α))
    (hf : ∀ j pt, f j pt ≠ none) (ops : List Op) (hops : ∀ k, Op.iter k ∈ ops → 1 ≤ k) :
    let ps := runOps p f refine ops {}
    (ps.log.count Event.beforeStart = if ps.calls = 0 then 0 else 1) ∧
    Ordered ps.log ∧
    (idsOf ps.log).Sublist (List.range' 2 ps.nTrials) ∧
    (NoIterRaise p f refine ops {} → idsOf ps.log = List.range' 2 ps.nTrials) := by
  intro ps
  obtain ⟨-, h2, -, h4, h5, h6⟩ := C13_events_wellformed_partial p f refine ops hops
  obtain ⟨hc, hcalls⟩ := (Consistent.fresh (α := α)).runOps_pres (p := p) (f := f) (refine := refine) ops
  have h0 : ({} : PState α).calls = 0 := rfl
  have h1 : ({} : PState α).evals.length = 0 := rfl
  have hfc := failedCalls_total (p := p) (refine := refine) hf (Consistent.fresh (α := α)) ops
  exact ⟨h2 (by show (runOps p f refine ops {}).calls = _; omega), h4, h5, h6⟩

end generic

section examples
open ProcToy

example : (runOps (P 6 (1/100)) F noRefine [Op.iter 2, Op.iter 1, Op.solve, Op.solve] {}).log =
    [Event.beforeStart, Event.endIteration [2, 3], Event.endIteration [4], Event.endIteration [5],
     Event.endIteration [6], Event.endIteration [7], Event.methodStop true, Event.methodStop true] := by
  decide +kernel

example : (∀ k, Op.iter k ∈ [Op.iter 2, Op.iter 1, Op.solve, Op.solve] → 1 ≤ k) := by
  intro k hk; simp at hk; omega

example : NoIterRaise (P 6 (1/100)) F noRefine [Op.iter 2, Op.iter 1, Op.solve, Op.solve] {} := by
  refine ⟨?_, ?_, ?_, ?_, trivial⟩
  · rintro ⟨k, hk, hr⟩; cases hk; revert hr; decide +kernel
  · rintro ⟨k, hk, hr⟩; cases hk; revert hr; decide +kernel
  · rintro ⟨k, hk, -⟩; cases hk
  · rintro ⟨k, hk, -⟩; cases hk

example := C13_events_wellformed (P 6 (1/100)) F noRefine F_total [Op.iter 2, Op.iter 1, Op.solve, Op.solve]
  (by intro k hk; simp at hk; omega)

/-- a `DoGlobalIteration(3)` whose third evaluation raises loses the two trials it made: ids 2, 3 are never reported -/
example : (runOps (P 6 (1/100)) (failAt 2) noRefine [Op.iter 3, Op.solve] {}).log =
    [Event.beforeStart, Event.endIteration [4], Event.endIteration [5], Event.endIteration [6], Event.endIteration [7],
     Event.methodStop true] := by
  decide +kernel

/-- **Why "exactly once" needs the proviso**: if the very first evaluation raises and the user calls again, the first iteration is
repeated and `BeforeMethodStart` is notified a second time. -/
example : (runOps (P 6 (1/100)) (failAt 0) noRefine [Op.iter 1, Op.iter 1] {}).log =
    [Event.beforeStart, Event.beforeStart, Event.endIteration [2]] := by
  decide +kernel

end examples

end C13

import IOptProofs.EvObj

/-!
# C17 — evolvent queries are pure

Property (verbatim): "The result of an image or inverse-image query depends only on its argument and
the configured bounds and density, not on earlier queries made on the same object; arguments are
not modified, and arrays returned by earlier queries are not changed by later ones."  Proved for every
interleaved sequence of GetImage / GetInverseImage / GetPreimages / SetBounds calls on one object,
every N and m.

Model: `IOptModel/EvObj.lean` — a heap of arrays addressed by `Nat` refs (`Heap`), the object
`EvObj.Obj` with its scratch array `self.yValues` (`scratch`), `EvObj.init` (`__init__`) and
`EvObj.step` (one call).  Pure functions: `Ev.getImage`, `Ev.getInverseImage`
(`IOptModel/Evolvent.lean`).  What one call does, and the state invariant `EvObj.Inv` it keeps: `IOptProofs/EvObj.lean`.
The theorems are about aliasing only and hold for an arbitrary carrier `α` with the operator
classes of the model (no field axioms).

## Vocabulary
* `Setup`      : the caller's heap before the object exists, `n`, `m`, the refs `lo hi` of the two
                 bounds arrays handed to the constructor.  `Setup.WF`: these two refs are valid and
                 the arrays have `n` entries.
* `s.run ops`  : state (`Trace`: heap, object, outputs so far) after `__init__` and the calls `ops`.
                 A *point of a run* is a prefix `ops` of the call sequence.
* `s.returned ops` : refs returned by `GetImage` calls so far.
* `s.Knows ops r`  : `r` is an array the CALLER can name after `ops`: it existed before the object
                 was created (`r < s.heap.size`) or was returned by an earlier `GetImage`.
* `s.visible ops`  : the caller-visible refs of the property: the two bounds arrays, every ref used
                 as an argument so far, every ref returned so far.  (`⊆ Knows`, `knows_of_visible`.)
* `s.ArgsOK ops op`: every argument ref of the call `op` issued after `ops` is known to the caller
                 and is, at that time, an array with `n` entries.
* `s.Valid ops`    : `s.WF` and every call of `ops` had OK arguments when it was issued.  The caller
                 never writes (only the object acts: a run consists of calls only).
* `s.boundsInForce ops` : the CONTENTS, AT THE TIME OF THAT CALL, of the arrays passed to the last
                 `SetBounds` of `ops` (to the constructor if there is none).
* `s.answer ops op` : the value answered by the call `op` issued after `ops` (for an array output:
                 its contents right after the call).

## Hypotheses (all bundled in `s.Valid ops`; satisfiable, see `Example.valid1`, `Example.valid2`)
* the constructor's bounds arrays are valid refs with `n` entries (`Setup.WF`);
* every argument ref of every call is, when the call is issued, an array the caller can name
  (`Knows`: it existed before the object was created or was returned by an earlier `GetImage` —
  hence it is a valid ref) and has `n` entries;
* the caller never writes and allocates nothing during the session: all its arrays exist
  beforehand (the statements quantify over every initial heap) or are results of `GetImage`.
`Knows` cannot be weakened to "valid ref": a caller that passes the object's own scratch array
(Python attribute `yValues`) as an argument does see it modified (`Example`, below).
The length hypotheses are used only for `N = 1` (in-place `self.yValues[0] = x - 0.5` needs a
scratch array with one entry, and the scratch array is a copy of the last inverse-query argument).
-/

set_option linter.unusedSectionVars false

namespace EvObj

section
variable {α : Type} [Add α] [Sub α] [Mul α] [Div α] [Neg α] [LT α] [LE α]
  [DecidableLT α] [DecidableLE α] [OfNat α 0] [OfNat α 1] [OfNat α 2] [NatCast α] [TruncNat α]

inductive Val (α : Type) where
  | array (v : List α)
  | number (x : α)
  | unit
  deriving DecidableEq

def Out.value (h : Heap α) : Out α → Val α
  | .array r => .array (h.read r)
  | .number x => .number x
  | .unit => .unit

/-- heap, object and the outputs of the calls made so far (oldest first) -/
structure Trace (α : Type) where
  heap : Heap α
  obj : Obj α
  outs : List (Out α)

def Trace.call (t : Trace α) (op : Op α) : Trace α :=
  let r := step t.heap t.obj op
  { heap := r.heap, obj := r.obj, outs := t.outs ++ [r.out] }

def run (h : Heap α) (o : Obj α) (ops : List (Op α)) : Trace α :=
  ops.foldl Trace.call { heap := h, obj := o, outs := [] }

structure Setup (α : Type) where
  /-- the caller's arrays -/
  heap : Heap α
  n : Nat
  m : Nat
  /-- refs of the bounds arrays passed to `Evolvent(...)` -/
  lo : Nat
  hi : Nat

def Setup.WF (s : Setup α) : Prop :=
  s.lo < s.heap.size ∧ s.hi < s.heap.size ∧
    (s.heap.read s.lo).length = s.n ∧ (s.heap.read s.hi).length = s.n

def Setup.run (s : Setup α) (ops : List (Op α)) : Trace α :=
  EvObj.run (init s.heap s.n s.m s.lo s.hi).1 (init s.heap s.n s.m s.lo s.hi).2 ops

def Setup.returned (s : Setup α) (ops : List (Op α)) : List Nat :=
  (s.run ops).outs.flatMap Out.refs

def Setup.Knows (s : Setup α) (ops : List (Op α)) (r : Nat) : Prop :=
  r < s.heap.size ∨ r ∈ s.returned ops

def Setup.visible (s : Setup α) (ops : List (Op α)) : List Nat :=
  s.lo :: s.hi :: (ops.flatMap Op.args ++ s.returned ops)

def Setup.ArgsOK (s : Setup α) (ops : List (Op α)) (op : Op α) : Prop :=
  ∀ r ∈ op.args, s.Knows ops r ∧ ((s.run ops).heap.read r).length = s.n

inductive Setup.Valid (s : Setup α) : List (Op α) → Prop
  | nil : s.WF → Setup.Valid s []
  | snoc {ops : List (Op α)} {op : Op α} :
      Setup.Valid s ops → s.ArgsOK ops op → Setup.Valid s (ops ++ [op])

def Setup.boundsInForce (s : Setup α) (ops : List (Op α)) : List α × List α :=
  (ops.foldl (fun (c : Trace α × (List α × List α)) op =>
      (c.1.call op,
        match op with
        | .setBounds lo hi => (c.1.heap.read lo, c.1.heap.read hi)
        | _ => c.2))
    (s.run [], (s.heap.read s.lo, s.heap.read s.hi))).2

def Setup.answer (s : Setup α) (ops : List (Op α)) (op : Op α) : Val α :=
  let r := step (s.run ops).heap (s.run ops).obj op
  r.out.value r.heap

theorem Setup.run_nil (s : Setup α) :
    s.run [] = { heap := (init s.heap s.n s.m s.lo s.hi).1, obj := (init s.heap s.n s.m s.lo s.hi).2,
                 outs := [] } := rfl

theorem Setup.run_snoc (s : Setup α) (ops : List (Op α)) (op : Op α) :
    s.run (ops ++ [op]) = (s.run ops).call op := by
  simp [Setup.run, EvObj.run, List.foldl_append]

theorem Setup.answer_eq (s : Setup α) (ops : List (Op α)) (op : Op α) :
    (s.run (ops ++ [op])).outs =
        (s.run ops).outs ++ [(step (s.run ops).heap (s.run ops).obj op).out] ∧
      s.answer ops op =
        (step (s.run ops).heap (s.run ops).obj op).out.value (s.run (ops ++ [op])).heap := by
  rw [Setup.run_snoc]; exact ⟨rfl, rfl⟩

theorem Setup.returned_nil (s : Setup α) : s.returned [] = [] := rfl

theorem Setup.returned_snoc (s : Setup α) (ops : List (Op α)) (op : Op α) :
    s.returned (ops ++ [op]) =
      s.returned ops ++ (step (s.run ops).heap (s.run ops).obj op).out.refs := by
  simp [Setup.returned, Setup.run_snoc, Trace.call]

private theorem boundsFold_fst (s : Setup α) (ops : List (Op α)) :
    (ops.foldl (fun (c : Trace α × (List α × List α)) op =>
      (c.1.call op,
        match op with
        | .setBounds lo hi => (c.1.heap.read lo, c.1.heap.read hi)
        | _ => c.2))
    (s.run [], (s.heap.read s.lo, s.heap.read s.hi))).1 = s.run ops := by
  induction ops using EvObj.list_snoc_induction with
  | nil => rfl
  | snoc ops op ih => rw [List.foldl_append, Setup.run_snoc, ← ih]; rfl

theorem Setup.boundsInForce_nil (s : Setup α) :
    s.boundsInForce [] = (s.heap.read s.lo, s.heap.read s.hi) := rfl

theorem Setup.boundsInForce_snoc (s : Setup α) (ops : List (Op α)) (op : Op α) :
    s.boundsInForce (ops ++ [op]) = op.bounds (s.run ops).heap (s.boundsInForce ops) := by
  unfold Setup.boundsInForce
  rw [List.foldl_append]
  simp only [List.foldl_cons, List.foldl_nil]
  rw [boundsFold_fst]
  cases op <;> rfl

theorem Setup.Valid.wf {s : Setup α} {ops : List (Op α)} (hv : s.Valid ops) : s.WF := by
  induction hv with
  | nil h => exact h
  | snoc _ _ ih => exact ih

theorem Setup.Valid.of_snoc {s : Setup α} {ops : List (Op α)} {op : Op α}
    (hv : s.Valid (ops ++ [op])) : s.Valid ops ∧ s.ArgsOK ops op := by
  generalize hl : ops ++ [op] = l at hv
  cases hv with
  | nil h => simp at hl
  | snoc hv' ha =>
    obtain ⟨e1, e2⟩ := List.append_inj' hl rfl
    cases e2; subst e1; exact ⟨hv', ha⟩

theorem Setup.Valid.prefix {s : Setup α} {ops1 ops2 : List (Op α)}
    (hv : s.Valid (ops1 ++ ops2)) : s.Valid ops1 := by
  induction ops2 using EvObj.list_snoc_induction with
  | nil => simpa using hv
  | snoc l op ih =>
    rw [← List.append_assoc] at hv
    exact ih hv.of_snoc.1

/-- THE INVARIANT at every point of every valid session (see `EvObj.Inv`): in particular the object's private bounds ARE the
bounds in force (they were copied at the time of the call) -/
theorem Setup.Valid.inv {s : Setup α} {ops : List (Op α)} (hv : s.Valid ops) :
    Inv s.heap.size s.n s.m (s.boundsInForce ops) (s.returned ops) (s.run ops).heap (s.run ops).obj := by
  induction hv with
  | nil h =>
    obtain ⟨h1, h2, h3, h4⟩ := h
    exact Inv.init s.heap s.n s.m s.lo s.hi h1 h2 h3 h4
  | snoc hv' ha ih =>
    rw [Setup.returned_snoc, Setup.run_snoc, Setup.boundsInForce_snoc]
    exact ih.step _ ha

theorem Setup.Knows.mono {s : Setup α} {ops1 : List (Op α)} {r : Nat} (hk : s.Knows ops1 r)
    (ops2 : List (Op α)) : s.Knows (ops1 ++ ops2) r := by
  induction ops2 using EvObj.list_snoc_induction with
  | nil => simpa using hk
  | snoc l op ih =>
    rw [← List.append_assoc]
    rcases ih with h | h
    · exact Or.inl h
    · exact Or.inr (by rw [Setup.returned_snoc]; exact List.mem_append_left _ h)

theorem Setup.Valid.knows_of_visible {s : Setup α} {ops : List (Op α)} (hv : s.Valid ops) {r : Nat}
    (hr : r ∈ s.visible ops) : s.Knows ops r := by
  have hwf := hv.wf
  simp only [Setup.visible, List.mem_cons, List.mem_append] at hr
  rcases hr with e | e | hr | hr
  · exact Or.inl (e ▸ hwf.1)
  · exact Or.inl (e ▸ hwf.2.1)
  · clear hwf
    induction hv with
    | nil h => simp at hr
    | @snoc ops op hv' ha ih =>
      rw [List.flatMap_append, List.mem_append] at hr
      rcases hr with hr | hr
      · exact (ih hr).mono [op]
      · simp only [List.flatMap_cons, List.flatMap_nil, List.append_nil] at hr
        exact (ha r hr).1.mono [op]
  · exact Or.inr hr

/-- **C17, scratch privacy (invariant).**  At every point of every valid session the object's
scratch array `self.yValues` is a valid ref that the caller cannot name: it is not caller-visible
(neither a bounds array, nor an argument so far, nor a result so far), it did not exist before the
object was created, and it was never returned.  It is the array allocated by `__init__` or one
allocated inside a later call.  For `N = 1` it has exactly one entry. -/
theorem C17_scratch_private (s : Setup α) (ops : List (Op α)) (hv : s.Valid ops) :
    (s.run ops).obj.scratch < (s.run ops).heap.size ∧
    (s.run ops).obj.scratch ∉ s.visible ops ∧
    ¬ s.Knows ops (s.run ops).obj.scratch ∧
    ((s.run ops).obj.scratch = s.heap.size ∨
      ∃ pre op post, ops = pre ++ op :: post ∧
        (s.run ops).obj.scratch ∈ (step (s.run pre).heap (s.run pre).obj op).allocated) ∧
    (s.n = 1 → ((s.run ops).heap.read (s.run ops).obj.scratch).length = 1) := by
  have hi := hv.inv
  have hnk : ¬ s.Knows ops (s.run ops).obj.scratch := fun hk => (hi.known hk).2 rfl
  refine ⟨hi.scratch_lt, fun hvis => hnk (hv.knows_of_visible hvis), hnk, ?_, hi.scratch_len⟩
  clear hnk hi
  induction hv with
  | nil h => exact Or.inl rfl
  | @snoc ops op hv' ha ih =>
    rw [Setup.run_snoc]
    show (step _ _ _).obj.scratch = _ ∨ _
    obtain ⟨-, -, hsc, -⟩ := step_writes (s.run ops).heap (s.run ops).obj op
    rcases hsc with e | hal
    · show (step _ _ _).obj.scratch = _ ∨
        ∃ pre op' post, _ ∧ (step _ _ _).obj.scratch ∈ _
      rw [e]
      rcases ih with h | ⟨pre, op', post, h1, h2⟩
      · exact Or.inl h
      · exact Or.inr ⟨pre, op', post ++ [op], by rw [h1]; simp, h2⟩
    · exact Or.inr ⟨ops, op, [], rfl, hal⟩

/-- **C17, write set of one call** (any heap, any object state, any call): every ref the call
writes is the object's scratch array before or after the call, and is the old scratch array or an
array allocated by this very call; allocated refs are fresh; and the report is honest — an array
that is neither reported written nor allocated has the same contents afterwards. -/
theorem C17_step_writes (h : Heap α) (o : Obj α) (op : Op α) :
    (∀ r ∈ (step h o op).wrote, r = o.scratch ∨ r = (step h o op).obj.scratch) ∧
    (∀ r ∈ (step h o op).wrote, r = o.scratch ∨ r ∈ (step h o op).allocated) ∧
    (∀ r ∈ (step h o op).allocated, h.size ≤ r ∧ r < (step h o op).heap.size) ∧
    (∀ r, r ∉ (step h o op).wrote → r ∉ (step h o op).allocated →
      (step h o op).heap.read r = h.read r) :=
  have ⟨hfresh, hw, hsc, hread⟩ := step_writes h o op
  ⟨fun r hr => Or.inr (hw r hr), fun r hr => hw r hr ▸ hsc, hfresh, hread⟩

/-- **C17, frame.**  In a valid session, an array the caller can name at some point (it existed
before the object was created, or was returned by an earlier `GetImage`) has the same contents at
every later point: no call of the rest of the session modifies it. -/
theorem C17_frame (s : Setup α) (ops1 ops2 : List (Op α)) (hv : s.Valid (ops1 ++ ops2))
    (r : Nat) (hk : s.Knows ops1 r) :
    (s.run (ops1 ++ ops2)).heap.read r = (s.run ops1).heap.read r := by
  induction ops2 using EvObj.list_snoc_induction with
  | nil => simp
  | snoc l op ih =>
    rw [← List.append_assoc] at hv ⊢
    have hv' := hv.of_snoc.1
    rw [Setup.run_snoc, ← ih hv']
    have hkn := hv'.inv.known (hk.mono l)
    exact step_read_of_ne_scratch _ _ op hkn.1 hkn.2

/-- **C17, frame for the caller-visible refs.**  Arguments are not modified, the bounds arrays are
not modified, and arrays returned by earlier queries never change: every caller-visible ref at a
point of a valid session has the same contents at every later point. -/
theorem C17_frame_visible (s : Setup α) (ops1 ops2 : List (Op α)) (hv : s.Valid (ops1 ++ ops2))
    (r : Nat) (hr : r ∈ s.visible ops1) :
    (s.run (ops1 ++ ops2)).heap.read r = (s.run ops1).heap.read r :=
  C17_frame s ops1 ops2 hv r (hv.prefix.knows_of_visible hr)

/-- **C17, arguments are not modified** (special case of the frame, spelled out): the arguments of
a call have, after the call and at every later point, the contents they had when the call was
issued. -/
theorem C17_args_unchanged (s : Setup α) (ops : List (Op α)) (op : Op α) (rest : List (Op α))
    (hv : s.Valid (ops ++ op :: rest)) (r : Nat) (hr : r ∈ op.args) :
    (s.run (ops ++ op :: rest)).heap.read r = (s.run ops).heap.read r := by
  have hv1 : s.Valid (ops ++ [op]) := (List.append_cons ops op rest ▸ hv).prefix
  exact C17_frame s ops (op :: rest) hv r (hv1.of_snoc.2 r hr).1

/-- what a call must answer: a function of the argument VALUE, `n`, `m` and a pair of bounds -/
def Op.spec (n m : Nat) (b : List α × List α) (h : Heap α) : Op α → Val α
  | .image x => .array (Ev.getImage n m b.1 b.2 x)
  | .inverse a => .number (Ev.getInverseImage n m b.1 b.2 (h.read a))
  | .preimages a => .number (Ev.getInverseImage n m b.1 b.2 (h.read a))
  | .setBounds _ _ => .unit

/-- what ONE call answers in a state satisfying the invariant: read off the explicit result of each operation -/
theorem step_answer {base n m : Nat} {b : List α × List α} {ret : List Nat} {h : Heap α} {o : Obj α}
    (hi : Inv base n m b ret h o) (op : Op α) :
    (step h o op).out.value (step h o op).heap = op.spec n m b h := by
  rw [← hi.n_eq, ← hi.m_eq, ← hi.bounds]
  cases op with
  | image x =>
    by_cases hn : o.n = 1
    · rw [step_image_one h o x hn]
      simp only [Out.value, Op.spec]
      rw [← Heap.size_write h o.scratch, Heap.read_alloc_new, Heap.read_write_same _ _ hi.scratch_lt, Ev.getImage, hn, Ev.imageCube_one]
      have hl := hi.scratch_len (hi.n_eq ▸ hn)
      generalize h.read o.scratch = v at hl
      match v, hl with
      | [a], _ => rfl
    · rw [step_image_ne_one h o x hn]
      exact congrArg Val.array (by rw [← Heap.size_alloc h, Heap.read_alloc_new])
  | inverse a | preimages a => simp only [step_preimages, step_inverse]; rfl
  | setBounds lo hi => rfl

theorem Out.value_eq_array {h : Heap α} {out : Out α} {v : List α} (e : out.value h = .array v) :
    ∃ r, out = .array r ∧ h.read r = v := by
  cases out with
  | array r => exact ⟨r, rfl, Val.array.inj e⟩
  | _ => exact nomatch e

/-- **C17, functional.**  In a valid session the answer of every call is the pure function of its
argument value, `n`, `m` and the bounds in force (the contents of the arrays passed to the last
`SetBounds` / to the constructor at the time of that call) — nothing else of the history enters. -/
theorem C17_functional (s : Setup α) (ops : List (Op α)) (op : Op α)
    (hv : s.Valid ops) :
    s.answer ops op = op.spec s.n s.m (s.boundsInForce ops) (s.run ops).heap :=
  step_answer hv.inv op

/-- **C17, `GetImage x`** returns a fresh array whose contents are `Ev.getImage n m lower upper x`,
for every `n` (including the in-place case `n = 1`), with `lower, upper` the bounds in force. -/
theorem C17_functional_image (s : Setup α) (ops : List (Op α)) (x : α) (hv : s.Valid ops) :
    s.answer ops (.image x) =
      .array (Ev.getImage s.n s.m (s.boundsInForce ops).1 (s.boundsInForce ops).2 x) :=
  C17_functional s ops (.image x) hv

/-- **C17, `GetInverseImage y`** returns `Ev.getInverseImage n m lower upper (contents of y)`. -/
theorem C17_functional_inverse (s : Setup α) (ops : List (Op α)) (a : Nat) (hv : s.Valid ops) :
    s.answer ops (.inverse a) =
      .number (Ev.getInverseImage s.n s.m (s.boundsInForce ops).1 (s.boundsInForce ops).2
        ((s.run ops).heap.read a)) :=
  C17_functional s ops (.inverse a) hv

/-- **C17, `GetPreimages y`** returns `Ev.getInverseImage n m lower upper (contents of y)`. -/
theorem C17_functional_preimages (s : Setup α) (ops : List (Op α)) (a : Nat) (hv : s.Valid ops) :
    s.answer ops (.preimages a) =
      .number (Ev.getInverseImage s.n s.m (s.boundsInForce ops).1 (s.boundsInForce ops).2
        ((s.run ops).heap.read a)) :=
  C17_functional s ops (.preimages a) hv

/-- **C17, results are stable.**  The array returned by a `GetImage x` call contains
`Ev.getImage n m lower upper x` not only right after the call but at every later point of the
session, whatever calls follow. -/
theorem C17_result_stable (s : Setup α) (ops : List (Op α)) (x : α) (hv : s.Valid ops) :
    ∃ ref, (s.run (ops ++ [.image x])).outs = (s.run ops).outs ++ [.array ref] ∧
      ∀ rest, s.Valid (ops ++ .image x :: rest) →
        (s.run (ops ++ .image x :: rest)).heap.read ref =
          Ev.getImage s.n s.m (s.boundsInForce ops).1 (s.boundsInForce ops).2 x := by
  obtain ⟨r, h1, h2⟩ := Out.value_eq_array (C17_functional_image s ops x hv)
  refine ⟨r, ?_, ?_⟩
  · rw [(s.answer_eq ops (.image x)).1, h1]
  · intro rest hvr
    rw [List.append_cons] at hvr ⊢
    have hk : s.Knows (ops ++ [.image x]) r :=
      Or.inr (by rw [Setup.returned_snoc]; exact List.mem_append_right _ (Out.mem_refs.2 h1))
    rw [C17_frame s _ rest hvr r hk, Setup.run_snoc]
    exact h2

/-- **C17, history independence (`GetImage`).**  Two sessions — possibly on different heaps, with
different constructor arrays and different earlier calls — with the same `n`, `m` and the same
bounds in force answer `GetImage x` identically. -/
theorem C17_history_independent (s s' : Setup α) (ops ops' : List (Op α))
    (hv : s.Valid ops) (hv' : s'.Valid ops') (hn : s.n = s'.n) (hm : s.m = s'.m)
    (hb : s.boundsInForce ops = s'.boundsInForce ops') (x : α) :
    s.answer ops (.image x) = s'.answer ops' (.image x) := by
  rw [C17_functional_image s ops x hv, C17_functional_image s' ops' x hv', hn, hm, hb]

/-- **C17, history independence (`GetInverseImage` / `GetPreimages`).**  Two sessions with the same
`n`, `m` and the same bounds in force answer an inverse query identically whenever the argument
arrays have the same contents; it does not matter which of the two methods is called. -/
theorem C17_history_independent_inverse (s s' : Setup α) (ops ops' : List (Op α))
    (hv : s.Valid ops) (hv' : s'.Valid ops') (hn : s.n = s'.n) (hm : s.m = s'.m)
    (hb : s.boundsInForce ops = s'.boundsInForce ops') (a a' : Nat)
    (ha : (s.run ops).heap.read a = (s'.run ops').heap.read a')
    (q q' : Op α) (hq : q = .inverse a ∨ q = .preimages a)
    (hq' : q' = .inverse a' ∨ q' = .preimages a') :
    s.answer ops q = s'.answer ops' q' := by
  rw [C17_functional s ops q hv, C17_functional s' ops' q' hv', hn, hm, hb]
  rcases hq with e | e <;> rcases hq' with e' | e' <;> subst e <;> subst e' <;>
    simp only [Op.spec, ha]

/-- **C17, same object, different prefixes.**  On one object, after two different call histories
that end with the same bounds in force, the same query gives the same answer (for an inverse query:
the argument array is the same caller array, which no call modifies). -/
theorem C17_history_independent_same_object (s : Setup α) (ops ops' : List (Op α))
    (hv : s.Valid ops) (hv' : s.Valid ops')
    (hb : s.boundsInForce ops = s.boundsInForce ops') (q : Op α)
    (hq : ∀ a ∈ q.args, a < s.heap.size) (hq' : ∀ lo hi, q ≠ .setBounds lo hi) :
    s.answer ops q = s.answer ops' q := by
  have hr : ∀ a ∈ q.args, (s.run ops).heap.read a = (s.run ops').heap.read a := by
    intro a ha
    have h1 := C17_frame s [] ops (by simpa using hv) a (Or.inl (hq a ha))
    have h2 := C17_frame s [] ops' (by simpa using hv') a (Or.inl (hq a ha))
    simp only [List.nil_append] at h1 h2
    rw [h1, h2]
  rw [C17_functional s ops q hv, C17_functional s ops' q hv', hb]
  cases q with
  | image x => rfl
  | inverse a => simp only [Op.spec, hr a (by simp [Op.args])]
  | preimages a => simp only [Op.spec, hr a (by simp [Op.args])]
  | setBounds lo hi => exact absurd rfl (hq' lo hi)

/-- **C17, `GetPreimages` and `GetInverseImage` are the same function**: the same call effect on
every heap and object state, hence the same sessions. -/
theorem C17_preimages_eq_inverse (h : Heap α) (o : Obj α) (a : Nat) :
    step h o (.preimages a) = step h o (.inverse a) := rfl

/-- replacing every `GetPreimages` by `GetInverseImage` changes nothing in a session -/
theorem C17_preimages_eq_inverse_run (s : Setup α) (ops : List (Op α)) :
    s.run (ops.map fun | .preimages a => .inverse a | op => op) = s.run ops := by
  induction ops using EvObj.list_snoc_induction with
  | nil => rfl
  | snoc l op ih =>
    rw [List.map_append, List.map_singleton, Setup.run_snoc, Setup.run_snoc, ih]
    cases op <;> rfl

end

/-! ## Non-vacuity: concrete sessions over `ℚ`, and the negative control

`α := Rat` (core Lean), `TruncNat` = floor.  All facts below are checked by kernel evaluation. -/

namespace Example

local instance : TruncNat Rat := ⟨fun x => x.floor.toNat⟩

deriving instance DecidableEq for Out

instance (s : Setup Rat) : Decidable s.WF := by unfold Setup.WF; infer_instance
instance (s : Setup Rat) (ops : List (Op Rat)) (op : Op Rat) : Decidable (s.ArgsOK ops op) := by
  unfold Setup.ArgsOK Setup.Knows; infer_instance

/-! ### `N = 1`: the scratch array IS reused across calls -/

/-- caller arrays: `0 ↦ [0]` (lower), `1 ↦ [10]` (upper), `2 ↦ [7]`;  `N = 1`.
`__init__` allocates the scratch array at ref `3`. -/
def s1 : Setup Rat :=
  { heap := { cells := #[[0], [10], [7]] }, n := 1, m := 10, lo := 0, hi := 1 }

/-- `a = GetImage(1/4)` (returned at ref 4), `b = GetImage(3/4)` (ref 5), `GetInverseImage(a)` -/
def ops1 : List (Op Rat) := [.image (1/4), .image (3/4), .inverse 4]

theorem valid1_pre : s1.Valid [.image (1/4), .image (3/4)] :=
  .snoc (ops := [.image (1/4)])
    (.snoc (ops := []) (.nil (by decide)) (by decide)) (by decide +kernel)

/-- the session is valid: the hypotheses of all C17 theorems are satisfiable -/
theorem valid1 : s1.Valid ops1 :=
  .snoc (ops := [.image (1/4), .image (3/4)]) valid1_pre (by decide +kernel)

/-- the outputs: two fresh arrays and the number `1/4` -/
example : (s1.run ops1).outs = [.array 4, .array 5, .number (1/4)] := by decide +kernel

/-- the scratch array (ref 3, allocated by `__init__`) is reused by both `GetImage` calls; it
holds the second result after the second call -/
example : (s1.run []).obj.scratch = 3 ∧ (s1.run [.image (1/4)]).obj.scratch = 3 ∧
    (s1.run [.image (1/4), .image (3/4)]).obj.scratch = 3 ∧
    (s1.run [.image (1/4)]).heap.read 3 = [5/2] ∧
    (s1.run [.image (1/4), .image (3/4)]).heap.read 3 = [15/2] := by decide +kernel

/-- ... and nevertheless the FIRST returned array (ref 4) is unchanged: `[5/2]` right after its
call, after the second `GetImage`, and at the end of the session -/
example : (s1.run [.image (1/4)]).heap.read 4 = [5/2] ∧
    (s1.run [.image (1/4), .image (3/4)]).heap.read 4 = [5/2] ∧
    (s1.run ops1).heap.read 4 = [5/2] := by decide +kernel

/-- the same fact obtained from `C17_frame` (its hypotheses hold here) -/
example : (s1.run ops1).heap.read 4 = (s1.run [.image (1/4)]).heap.read 4 :=
  C17_frame s1 [.image (1/4)] [.image (3/4), .inverse 4] valid1 4 (Or.inr (by decide +kernel))

example := C17_scratch_private s1 ops1 valid1
example := C17_functional_inverse s1 [.image (1/4), .image (3/4)] 4 valid1_pre
example := C17_functional_image s1 [.image (1/4), .image (3/4)] (1/2) valid1_pre
example : s1.answer [.image (1/4), .image (3/4)] (.inverse 4) = .number (1/4) := by decide +kernel
example : s1.answer [.image (1/4)] (.image (3/4)) = .array [15/2] := by decide +kernel
example := C17_result_stable s1 [] (1/4) (.nil (by decide))

/-- history independence: `GetImage(3/4)` asked first, or after `GetImage(1/4)`, `GetInverseImage`
and a `SetBounds` with the same contents, gives the same answer -/
example : s1.answer [] (.image (3/4)) =
    s1.answer [.image (1/4), .inverse 4, .setBounds 0 1] (.image (3/4)) :=
  C17_history_independent s1 s1 [] [.image (1/4), .inverse 4, .setBounds 0 1]
    (.nil (by decide))
    (.snoc (ops := [.image (1/4), .inverse 4])
      (.snoc (ops := [.image (1/4)])
        (.snoc (ops := []) (.nil (by decide)) (by decide)) (by decide +kernel)) (by decide +kernel))
    rfl rfl (by decide +kernel) (3/4)

/-- a ref the caller cannot know (the scratch ref 3) is NOT an OK argument: the validity
hypothesis is not trivially true either -/
example : ¬ s1.ArgsOK [.image (1/4)] (.inverse 3) := by decide +kernel

/-- WHY `ArgsOK` asks for `Knows` and not merely for "a valid ref to an array with `n` entries":
if the caller got hold of the scratch ref (Python: by reading the attribute `ev.yValues`) and
passed it as an argument — here as the upper bound in `SetBounds(0, 3)`; ref 3 is valid and has
one entry — then this ARGUMENT array is modified by the next `GetImage`.  The property presupposes
that the caller only uses its own arrays and the returned ones. -/
example :
    3 < (s1.run [.image (1/4)]).heap.size ∧ ((s1.run [.image (1/4)]).heap.read 3).length = s1.n ∧
    (s1.run [.image (1/4), .setBounds 0 3]).heap.read 3 = [5/2] ∧
    (s1.run [.image (1/4), .setBounds 0 3, .image (3/4)]).heap.read 3 = [15/8] := by
  decide +kernel

/-! ### `N = 2`, with `SetBounds` in the middle -/

def s2 : Setup Rat :=
  { heap := { cells := #[[0, 0], [1, 2], [1/3, 1/5], [-1, -1]] }, n := 2, m := 3, lo := 0, hi := 1 }

def ops2 : List (Op Rat) :=
  [.image (1/3), .inverse 6, .setBounds 3 1, .preimages 2, .image (5/7), .inverse 10]

theorem valid2 : s2.Valid ops2 :=
  .snoc (ops := [.image (1/3), .inverse 6, .setBounds 3 1, .preimages 2, .image (5/7)])
  (.snoc (ops := [.image (1/3), .inverse 6, .setBounds 3 1, .preimages 2])
  (.snoc (ops := [.image (1/3), .inverse 6, .setBounds 3 1])
  (.snoc (ops := [.image (1/3), .inverse 6])
  (.snoc (ops := [.image (1/3)])
  (.snoc (ops := []) (.nil (by decide)) (by decide)) (by decide +kernel)) (by decide +kernel))
    (by decide +kernel)) (by decide +kernel)) (by decide +kernel)

example : (s2.run ops2).outs =
    [.array 6, .number (21/64), .unit, .number (13/16), .array 10, .number (45/64)] := by
  decide +kernel
example : s2.boundsInForce ops2 = ([-1, -1], [1, 2]) := by decide +kernel
example : s2.boundsInForce [.image (1/3), .inverse 6] = ([0, 0], [1, 2]) := by decide +kernel
/-- the array returned by the first call still holds the first result at the end -/
example : (s2.run ops2).heap.read 6 = [1/16, 15/8] ∧
    (s2.run [.image (1/3)]).heap.read 6 = [1/16, 15/8] := by decide +kernel
example := C17_scratch_private s2 ops2 valid2
example := C17_frame_visible s2 [.image (1/3), .inverse 6] [.setBounds 3 1, .preimages 2,
  .image (5/7), .inverse 10] valid2 6 (by decide +kernel)

/-! ### Negative control: without `np.copy` the frame property FAILS

`stepNoCopy` (`IOptProofs/EvObj.lean`) is `step` with `GetImage` returning `self.yValues` itself
when `N = 1`.  Two calls `a = GetImage(1/4); b = GetImage(3/4)` on the object of `s1`: -/

def nc1 : StepResult Rat := stepNoCopy (s1.run []).heap (s1.run []).obj (.image (1/4))
def nc2 : StepResult Rat := stepNoCopy nc1.heap nc1.obj (.image (3/4))

/-- the array returned by the first call (ref 3 = the scratch array) is CHANGED by the second
call: `[5/2]` became `[15/2]`.  So the statement of `C17_frame` is false for this variant. -/
example : nc1.out.refs = [3] ∧ nc1.heap.read 3 = [5/2] ∧ nc2.heap.read 3 = [15/2] := by
  decide +kernel
example : ¬ ∀ r ∈ nc1.out.refs, nc2.heap.read r = nc1.heap.read r := by decide +kernel
example : nc2.heap.read 3 ≠ nc1.heap.read 3 := by decide +kernel
/-- the same two calls with the real `step`: the first result is kept -/
example : ∀ r ∈ (s1.run [.image (1/4)]).outs.flatMap Out.refs,
    (s1.run [.image (1/4), .image (3/4)]).heap.read r = (s1.run [.image (1/4)]).heap.read r := by
  decide +kernel

end Example
end EvObj

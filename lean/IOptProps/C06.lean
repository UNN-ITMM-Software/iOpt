import IOptProofs.MethodFacts
/-!
# C06 — the accumulated search information is a faithful record of the trials

"After any number of iterations the accumulated search information lists, in strictly increasing curve
coordinate from 0 to 1, exactly the evaluated trials plus the two unevaluated end points, with mutually
consistent neighbour links. Each stored interval length equals (x - x_left)^(1/N), each stored point is
the evolvent image of its coordinate and each stored value is the objective at that point."
The links clause is in `IOptProps/C06links.lean`.

`AGP.Reach p s log`: the state `s` is reachable by a run whose evaluation log (the points handed to the
objective with the values it returned, oldest first) is `log` (`IOptProofs/MethodRun.lean`).
-/
set_option linter.unusedSectionVars false

namespace AGP
variable {α : Type} [Field α] [LinearOrder α] [IsStrictOrderedRing α] [Fns α]
variable {p : Params α} {s : State α}

/-- **C06, the record.** In every reachable state:
1. the items are `left :: mid ++ [right]`, strictly increasing in `x`, from `left.x = 0` to `right.x = 1`;
   `left`, `right` are not evaluated and every item of `mid` is; ids are pairwise distinct, all below
   `nextId = ` number of items;
2. every item stores the Hoelder length `(x - x_left)^(1/N)` of the interval to its left neighbour
   (hence `delta > 0` and `delta ^ N = x - x_left`);
3. every item stores the evolvent image of its coordinate;
4. the `(point, z)` pairs of the evaluated items are, as a multiset, exactly the evaluation log: every
   evaluated trial appears exactly once and nothing else appears;
5. the value holder of every evaluated item contains its `z`. -/
theorem C06_record (hL : FnsLaws α) (hr : 1 < p.r) (hn : 0 < p.n) {log : List (List α × α)}
    (h : Reach p s log) :
    (∃ left mid right, s.items = left :: mid ++ [right] ∧ left.x = 0 ∧ right.x = 1 ∧
        left.ev = false ∧ right.ev = false ∧ mid ≠ [] ∧ (∀ m ∈ mid, m.ev = true)) ∧
    s.items.Pairwise (fun a b => a.x < b.x) ∧
    (s.items.map (·.id)).Nodup ∧ (∀ it ∈ s.items, it.id < s.nextId) ∧ s.nextId = s.items.length ∧
    (∀ a b, Neighbours s.items a b →
        b.delta = Fns.root (b.x - a.x) p.n ∧ 0 < b.delta ∧ b.delta ^ p.n = b.x - a.x) ∧
    (∀ it ∈ s.items, it.point = p.image it.x) ∧
    ((s.items.filter (·.ev)).map (fun it => (it.point, it.z))).Perm log ∧
    (∀ it ∈ s.items, it.ev = true → it.hv = it.z) := by
  have hI := (h.inv hL hr hn).toInvItems
  have hl := h.logInv hL hr hn
  refine ⟨hI.shape, hI.pairwise, hI.ids_nodup, hI.ids_lt, hI.nextId_eq, ?_, hI.point_eq, ?_, hI.hv_eq⟩
  · intro a b hab
    exact ⟨hI.nb_delta hab, hI.nb_delta_pos hL hn hab, hI.nb_delta_pow hL hn hab⟩
  · rw [← evalsOf_eq]; exact hl.perm

theorem C06_counts (hL : FnsLaws α) (hr : 1 < p.r) (hn : 0 < p.n) {log : List (List α × α)}
    (h : Reach p s log) :
    s.iters = log.length ∧ s.nTrials = log.length ∧ (s.items.filter (·.ev)).length = log.length := by
  have hI := (h.inv hL hr hn).toInvItems
  have hl := h.logInv hL hr hn
  have h1 : (s.items.filter (·.ev)).length = log.length := by
    have := hl.perm.length_eq
    rw [evalsOf_eq, List.length_map] at this; exact this
  have h2 : s.nTrials = log.length := by rw [hI.nTrials_eq, List.countP_eq_length_filter]; exact h1
  exact ⟨hI.iters_eq.trans h2, h2, h1⟩

/-- **C06, the insertion hint is correct.** The item `pr.old` before which `commit` inserts the new
item is the FIRST item of the list whose coordinate is `> pr.x` — what
`FindDataItemByOneDimensionalPoint` would return (the precondition under which the pointer-level
container of C19 behaves like the list). -/
theorem C06_hint_correct (hL : FnsLaws α) (hr : 1 < p.r) (hn : 0 < p.n) (h : Inv p s)
    {pr : Prep α} (hp : prepare p s = .ok pr) :
    pr.s.items.find? (fun it => decide (pr.x < it.x)) = some pr.old := by
  have hs := prepare_spec' hL hr hn h hp
  obtain ⟨pre, post, e, _⟩ := hs.decomp
  have hpw := hs.inv.pairwise
  rw [e] at hpw
  -- `old` has a larger coordinate, `left` and (the list being sorted) everything before it do not
  refine List.find?_eq_some_iff_append.2 ⟨by simpa using hs.inside.2, pre ++ [pr.left], post, by rw [e]; simp,
    fun c hc => ?_⟩
  rw [Bool.not_eq_true', decide_eq_false_iff_not, not_lt]
  rcases List.mem_append.1 hc with hc | hc
  · exact (lt_trans ((List.pairwise_append.1 hpw).2.2 c hc pr.left List.mem_cons_self) hs.inside.1).le
  · rw [List.mem_singleton.1 hc]; exact hs.inside.1.le

/-- **C06, the insertion.** `commit` inserts the new trial immediately before `pr.old`: the new list
is the old one with `pr.old` replaced by the new item followed by `pr.old` with its updated length (its
new characteristic is left open here: the last conjunct does not constrain `old'.R`). -/
theorem C06_commit_items (hL : FnsLaws α) (hr : 1 < p.r) (hn : 0 < p.n) (h : Inv p s)
    {pr : Prep α} (hp : prepare p s = .ok pr) (z : α) :
    ∃ pre post new old', pr.s.items = pre ++ pr.left :: pr.old :: post ∧
      (commit p pr z).items = pre ++ pr.left :: new :: old' :: post ∧
      new.x = pr.x ∧ new.point = pr.point ∧ new.z = z ∧ new.hv = z ∧ new.ev = true ∧
      new.id = pr.s.nextId ∧ new.delta = Fns.root (pr.x - pr.left.x) p.n ∧
      old' = { pr.old with delta := Fns.root (pr.old.x - pr.x) p.n, R := old'.R } := by
  have hs := prepare_spec' hL hr hn h hp
  obtain ⟨pre, post, e, _⟩ := hs.decomp
  exact ⟨pre, post, cNew2 p pr z, cOld2 p pr z, e, commit_items hs.inv.ids_nodup z e, rfl, rfl, rfl, rfl, rfl, rfl, rfl, rfl⟩

section NonVacuity
attribute [local instance] Fns.real

example : ∃ (p : Params ℝ) (s : State ℝ) (log : List (List ℝ × ℝ)) (pr : Prep ℝ),
    FnsLaws ℝ ∧ 1 < p.r ∧ 0 < p.n ∧ Reach p s log ∧ log.length = 5 ∧ Inv p s ∧ prepare p s = .ok pr := by
  let p : Params ℝ := { n := 2, r := 3, eps := 1 / 100, itersLimit := 100, image := fun x => [x, 1 - x] }
  have hr : (1 : ℝ) < p.r := by norm_num [p]
  have hn : 0 < p.n := by norm_num [p]
  obtain ⟨s, log, hre, hlog⟩ := exists_reach (p := p) FnsLaws.real hr hn (fun k => (k : ℝ) ^ 2 - 3 * k) 4
  have hI := hre.inv FnsLaws.real hr hn
  obtain ⟨pr, hp, _⟩ := prepare_spec FnsLaws.real hr hn hI
  refine ⟨p, s, log, pr, FnsLaws.real, hr, hn, hre, ?_, hI, hp⟩
  have := congrArg List.length hlog
  simpa using this

end NonVacuity
end AGP

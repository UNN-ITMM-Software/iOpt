import IOptGen.EvCopy
/-!
# Copy discipline of `Evolvent` — what the heap model `EvObj` assumes, checked against the CURRENT source text

The heap model of the evolvent object (`IOptModel/EvObj.lean`; an obligation of C07–C09, C17, C20) says, statement by statement, which
public call allocates a fresh array, which one stores a private copy of its argument, and that no call keeps or hands out an array the
caller can reach.  `IOptGen/EvCopy.lean` is regenerated on every run from the source text of `iOpt/evolvent/evolvent.py`: every
expression stored into an attribute of `self`, every returned expression and every local bound to a parameter and then updated in
place, each classified syntactically (`fresh` / `param-alias` / `self-alias` / `method-result` / `local` / `other`).
The obligations below are decided by the kernel on that list.
-/

namespace EvCopy
open Gen

/-- kinds that cannot create sharing with the caller: a new object / scalar, the (scalar) result of another method, a plain local -/
def safeKinds : List String := ["fresh", "method-result", "local"]

/-- the sites that are not of a safe kind and are known to be harmless: integer parameters stored as they are, and the private
`__GetYonX` returning the object's own buffer to `GetImage`, which ignores that result and returns a copy -/
def exceptions : List (String × String × String) :=
  [("__init__", "store self.evolventDensity", "param-alias"),
   ("__init__", "store self.numberOfFloatVariables", "param-alias"),
   ("__GetYonX", "return", "self-alias")]

def siteOK (s : String × String × String × String) : Bool :=
  safeKinds.contains s.2.2.1 || exceptions.contains (s.1, s.2.1, s.2.2.1)

/-- **No aliasing.** Every array the evolvent stores is a private copy or a new array, every array it returns is a copy, and no local
that stands for a caller's object is updated in place (defect F12, `d = _x` updated in place, and the seeded changes that replaced
`np.array(y, dtype=np.double)` by `np.asarray(...)` or returned `self.yValues` violate this). -/
theorem no_aliasing : evCopySites.all siteOK = true := by decide +kernel

/-- the public queries are present with the expected discipline: `GetImage` returns a fresh array; the inverse maps return a scalar
computed by a method of the object -/
theorem public_sites :
    ("GetImage", "return", "fresh", "np.copy(self.yValues)") ∈ evCopySites ∧
    (evCopySites.filter (fun s => s.1 == "GetInverseImage" && s.2.1 == "return")).all (fun s => s.2.2.1 == "method-result") = true ∧
    (evCopySites.filter (fun s => s.1 == "GetPreimages" && s.2.1 == "return")).all (fun s => s.2.2.1 == "method-result") = true ∧
    (evCopySites.filter (fun s => s.2.1 == "return" && (s.1 == "GetInverseImage" || s.1 == "GetPreimages" || s.1 == "GetImage"))).length = 3 := by
  decide +kernel

/-- every store into one of the three arrays of the object, in whatever method, is a fresh array -/
theorem stores_fresh :
    (evCopySites.filter (fun s => s.2.1 == "store self.yValues" || s.2.1 == "store self.lowerBoundOfFloatVariables"
      || s.2.1 == "store self.upperBoundOfFloatVariables")).all (fun s => s.2.2.1 == "fresh") = true ∧
    6 ≤ (evCopySites.filter (fun s => s.2.1 == "store self.yValues" || s.2.1 == "store self.lowerBoundOfFloatVariables"
      || s.2.1 == "store self.upperBoundOfFloatVariables")).length := by
  decide +kernel

end EvCopy

import IOptProofs.ProcessRefine
import IOptProofs.ProcessToy
/-!
# C05 (refinement part) — `DoLocalRefinement` only improves the reported best trial

`DoLocalRefinement` runs Nelder–Mead (scipy, with bounds) from the point of the reported trial
(`GetResults().bestTrials[0]`), then overwrites, in place, the point and the value holder of that trial and sets
`numberOfLocalTrials`.  In the model the result of the scipy call
is an input (`LocalResult`: point `x`, value `fx` of the objective there, `nfev`); its contract is `NM` below (validated
against scipy separately).  The box clause for the trials of the *global* phase is proved in `IOptProps/C05box.lean`
from the evolvent theorems.
-/

set_option linter.unusedSectionVars false

namespace C05
open AGP AGP.Ctl Proc

section generic
variable {α : Type} [Add α] [Sub α] [Mul α] [Div α] [Neg α] [LT α] [LE α]
  [DecidableLT α] [DecidableLE α] [OfNat α 0] [OfNat α 1] [OfNat α 2] [OfNat α 4] [Fns α]

def InBox (lo hi x : List α) : Prop :=
  x.length = lo.length ∧ x.length = hi.length ∧
  ∀ (i : Nat) (l u v : α), lo[i]? = some l → hi[i]? = some u → x[i]? = some v → l ≤ v ∧ v ≤ u

/-- The contract of the Nelder–Mead call `minimize(obj, x0 = start, method = 'Nelder-Mead', bounds = [lo, hi])` followed by
the re-evaluation `obj(result.x)`. -/
structure NM (obj : List α → α) (lo hi : List α) (lr : LocalResult α) (start : List α) : Prop where
  inside : InBox lo hi lr.x
  value : lr.fx = obj lr.x
  le_start : lr.fx ≤ obj start

/-- **C05, refinement.**  `DoLocalRefinement` on a solver that has done its first iteration (method state `s`); the trial it
refines is the REPORTED trial `rid = reportedId ps s` (what `GetResults()` returns: the method's best `s.best`, unless an earlier
refinement left another trial with a strictly smaller value holder; on the first refinement `rid = s.best`).  It

* changes ONLY the `point` and the value holder `hv` of the item(s) with id `rid`, `numberOfLocalTrials` (`nLocal := nfev`) and
  `__refinedTrial` (`refined := some rid`):
  every item keeps `id, x, z, ev, delta, R`, items with another id are untouched, the order and number of items,
  `M`, `Z`, `best`, the queue, `recalc`, `iters`, `minDelta`, `nTrials`, `nextId`, the records `evals`, `calls` and the event log are unchanged;
* the refined trial `b` becomes `b` with `point := lr.x`, `hv := lr.fx`; it is still the reported trial afterwards if it is the method's
  best or the new value is strictly below the value holder of the method's best (always the case under the Nelder–Mead contract over
  an ordered field: `C04.C04_refine_keeps_reported`);
* under the Nelder–Mead contract `NM` (started at `b.point`) and fidelity of the old record (`b.hv = obj b.point`), the new reported
  value is the objective at the new reported point, is `≤` the old reported value, and the new point is inside the box. -/
theorem C05_refine (ps : PState α) (s : State α) (lr : LocalResult α) (hm : ps.m = some s) :
    ∃ s', (doLocalRefinement ps lr).m = some s' ∧
      s' = { s with items := s.items.map (refineItem (reportedId ps s) lr) } ∧
      s'.items.length = s.items.length ∧
      (∀ (i : Nat) (it : Item α), s.items[i]? = some it → ∃ it' : Item α, s'.items[i]? = some it' ∧
        it'.id = it.id ∧ it'.x = it.x ∧ it'.z = it.z ∧ it'.ev = it.ev ∧ it'.delta = it.delta ∧ it'.R = it.R ∧
        (it.id ≠ reportedId ps s → it' = it) ∧ (it.id = reportedId ps s → it' = { it with point := lr.x, hv := lr.fx })) ∧
      s'.M = s.M ∧ s'.Z = s.Z ∧ s'.best = s.best ∧ s'.queue = s.queue ∧ s'.recalc = s.recalc ∧ s'.iters = s.iters ∧
      s'.minDelta = s.minDelta ∧ s'.nTrials = s.nTrials ∧ s'.nextId = s.nextId ∧
      (doLocalRefinement ps lr).evals = ps.evals ∧ (doLocalRefinement ps lr).calls = ps.calls ∧
      (doLocalRefinement ps lr).log = ps.log ∧ (doLocalRefinement ps lr).nLocal = lr.nfev ∧
      (doLocalRefinement ps lr).refined = some (reportedId ps s) ∧
      (∀ b : Item α, findItem s.items (reportedId ps s) = some b →
        findItem s'.items (reportedId ps s) = some { b with point := lr.x, hv := lr.fx } ∧
        ((reportedId ps s = s.best ∨ ∀ bi, findItem s.items s.best = some bi → lr.fx < bi.hv) →
          reportedId (doLocalRefinement ps lr) s' = reportedId ps s) ∧
        ∀ (obj : List α → α) (lo hi : List α), NM obj lo hi lr b.point → b.hv = obj b.point →
          lr.fx ≤ b.hv ∧ lr.fx = obj lr.x ∧ InBox lo hi lr.x) := by
  have hrep := fun (b : Item α) hb hcase => reportedId_doLocalRefinement lr hm (b := b) hb hcase
  rw [doLocalRefinement_some lr hm] at hrep ⊢
  refine ⟨_, rfl, rfl, by simp, fun i it hi => ?_,
    -- `M` … `nextId`, nine fields of the method state, then `evals`, `calls`, `log`, `nLocal`, `refined`: read off the update
    rfl, rfl, rfl, rfl, rfl, rfl, rfl, rfl, rfl,
    rfl, rfl, rfl, rfl, rfl,
    fun b hb => ?_⟩
  · refine ⟨refineItem (reportedId ps s) lr it, by simp [hi], ?_⟩
    have F := refineItem_fields (reportedId ps s) lr it
    exact ⟨F.id, F.x, F.z, F.ev, F.delta, F.R, fun h => refineItem_of_ne lr h, fun h => refineItem_of_eq lr h⟩
  · have hfind : findItem (s.items.map (refineItem (reportedId ps s) lr)) (reportedId ps s) =
        some { b with point := lr.x, hv := lr.fx } := by
      rw [findItem_map_refineItem, hb, Option.map_some, refineItem_of_eq lr (findItem_id_eq hb)]
    exact ⟨hfind, hrep b hb, fun obj lo hi hnm hfid => ⟨by rw [hfid]; exact hnm.le_start, hnm.value, hnm.inside⟩⟩

/-- **C05, first refinement.**  When nothing was refined before (`ps.refined = none`: the first `Solve`, or any use of the solver
before the first `DoLocalRefinement`), the refined trial is the method's best `s.best`, and it is the reported trial before and after. -/
theorem C05_refine_first (ps : PState α) (s : State α) (lr : LocalResult α) (hm : ps.m = some s) (hr : ps.refined = none) :
    reportedId ps s = s.best ∧
    (doLocalRefinement ps lr).m = some { s with items := s.items.map (refineItem s.best lr) } ∧
    (doLocalRefinement ps lr).refined = some s.best ∧
    reportedId (doLocalRefinement ps lr) { s with items := s.items.map (refineItem s.best lr) } = s.best ∧
    (∀ b : Item α, findItem s.items s.best = some b →
      findItem (s.items.map (refineItem s.best lr)) s.best = some { b with point := lr.x, hv := lr.fx }) := by
  have h0 := reportedId_of_none s hr
  refine ⟨h0, by rw [doLocalRefinement_some_first lr hm hr], by rw [doLocalRefinement_some_first lr hm hr], ?_, ?_⟩
  · exact reportedId_eq_best_of_refined_eq (by rw [doLocalRefinement_some_first lr hm hr])
  · intro b hb
    rw [findItem_map_refineItem, hb, Option.map_some, refineItem_of_eq lr (findItem_id_eq hb)]

/-- on a fresh solver (no iteration done) the model's `doLocalRefinement` does nothing -/
theorem C05_refine_fresh (ps : PState α) (lr : LocalResult α) (hm : ps.m = none) : doLocalRefinement ps lr = ps :=
  doLocalRefinement_none lr hm

end generic

section examples
open ProcToy

def obj (pt : List Rat) : Rat := (pt.headD 0 - 1/3) * (pt.headD 0 - 1/3)
def lr0 : LocalResult Rat := { x := [1/3], fx := 0, nfev := 7 }

/-- after `Solve` (5 iterations) there is a best trial `b` whose record is faithful, and the contract holds for `lr0` -/
def check : Bool :=
  match (solve (P 5 (1/100)) F noRefine {}).m with
  | none => false
  | some s =>
    match findItem s.items s.best with
    | none => false
    | some b => decide (b.hv = obj b.point) && decide (lr0.fx ≤ obj b.point) && decide (lr0.fx = obj lr0.x)

example : check = true := by decide +kernel

example : InBox [0] [1] lr0.x := by
  refine ⟨rfl, rfl, ?_⟩
  intro i l u v hl hu hv
  cases i with
  | zero =>
    simp [lr0] at hl hu hv
    subst hl; subst hu; subst hv
    decide +kernel
  | succ i => simp at hl

example :
    let ps0 := solve (P 5 (1/100)) F noRefine {}
    let ps := doLocalRefinement ps0 lr0
    ps0.refined = none ∧
    (ps.m.bind fun s => (findItem s.items s.best).map fun b => (b.point, b.hv)) = some ([1/3], 0) ∧
    (ps.m.bind fun s => (findItem s.items (reportedId ps s)).map fun b => (b.point, b.hv)) = some ([1/3], 0) ∧
    ps.nLocal = 7 ∧ ps.refined = ps0.m.map (·.best) ∧ ps.m.map (reportedId ps) = ps0.m.map (·.best) := by
  decide +kernel

end examples

end C05

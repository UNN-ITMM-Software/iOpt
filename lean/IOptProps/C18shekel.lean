import IOptProofs.ShekelTabCor
import IOptProofs.ShekelTabCertAll
import IOptProofs.ShekelTabRemark
/-!
# C18, second sentence, Shekel half: the published min / max / Lipschitz tables agree with the functions

"For Hill and Shekel the published per-function minimum, maximum and Lipschitz-constant tables agree with
the functions they describe (values within 1e-4, locations within 1e-4 of the range, constants within 0.1%)."

Shekel function `i` (0 ≤ i < 1000) is `f(x) = -Σ_{j<10} 1/(kⱼ (x - aⱼ)² + cⱼ)` on `[0,10]`
(`Shk.shekelFn i = Prob.shekel` with the real values of row `i` of the generated tables), with derivative
`Shk.shekelDeriv i x = Σⱼ 2 kⱼ (x - aⱼ)/(kⱼ (x - aⱼ)² + cⱼ)²`.  The tables of `shekel_generation.py`
(`minShekel`, `maxHill`, `lConstantHill`: the Shekel module keeps the Hill names for the last two) are regenerated from the running Python on every run:
`Gen.shekelMinValue/MinPoint/MaxValue/MaxPoint/Lip i`.  The range is 10, so "within 1e-4 of the range" is `1e-3`.

Everything depends on the data only through the Boolean certificate `Shk.shekelTabOK i`, evaluated by the
kernel for all 1000 rows in `IOptProofs/ShekelTabCert0..9.lean` (no exceptions: every clause holds for every
row with the tolerances of the property).
-/

namespace C18shekel
open Shk

/-- **C18 (Shekel tables), generic theorem.** If the Boolean certificate `Shk.shekelTabOK i` (computed from
row `i` of the generated tables only) evaluates to `true`, the clauses `Shk.ShekelTables` hold over ℝ. -/
theorem C18_shekel_tables_generic (i : Nat) (h : shekelTabOK i = true) :
    ShekelTables (shekelFn i) (shekelDeriv i) (dyR (Gen.shekelMinValue i)) (dyR (Gen.shekelMinPoint i))
      (dyR (Gen.shekelMaxValue i)) (dyR (Gen.shekelMaxPoint i)) (dyR (Gen.shekelLip i)) :=
  shekelTabOK_sound i h

/-- the table clauses for every shipped Shekel function -/
theorem C18_shekel_tables_clauses (i : Nat) (hi : i < 1000) :
    ShekelTables (shekelFn i) (shekelDeriv i) (dyR (Gen.shekelMinValue i)) (dyR (Gen.shekelMinPoint i))
      (dyR (Gen.shekelMaxValue i)) (dyR (Gen.shekelMaxPoint i)) (dyR (Gen.shekelLip i)) :=
  shekelTabOK_sound i (shekel_tab_all i hi)

/-- **C18, Shekel half of the second sentence, for each of the 1000 shipped functions.**
With `f = Shk.shekelFn i`, `f' = Shk.shekelDeriv i` and the tabulated `(vmin, pmin)`, `(vmax, pmax)`, `L`:
* `f'` is the derivative of `f`;
* minimum: `f` has a global minimiser on `[0,10]`; at every global minimiser the value is within `1e-4` of
  `vmin` and the point is within `1e-3` (= `1e-4` of the range) of `pmin`; moreover every point of the box
  whose value is within `5e-7` of the minimum is within `1e-3` of `pmin`;
* maximum: the same with `vmax`, `pmax` (margin `3e-9`);
* Lipschitz constant: `sup_{[0,10]} |f'|` is within `0.1 %` of `L` (`|f'| ≤ 1.001 L` on the box and
  `|f'(w)| ≥ 0.999 L` for some `w` of the box), and `|f x - f y| ≤ 1.001 L |x - y|` on the box. -/
theorem C18_shekel_tables (i : Nat) (hi : i < 1000) :
    let f := shekelFn i
    let f' := shekelDeriv i
    let vmin := dyR (Gen.shekelMinValue i)
    let pmin := dyR (Gen.shekelMinPoint i)
    let vmax := dyR (Gen.shekelMaxValue i)
    let pmax := dyR (Gen.shekelMaxPoint i)
    let L := dyR (Gen.shekelLip i)
    (∀ x, HasDerivAt f (f' x) x) ∧
    -- minimum
    (∃ xs, 0 ≤ xs ∧ xs ≤ 10 ∧ ∀ x, 0 ≤ x → x ≤ 10 → f xs ≤ f x) ∧
    (∀ xs, 0 ≤ xs → xs ≤ 10 → (∀ x, 0 ≤ x → x ≤ 10 → f xs ≤ f x) →
      |f xs - vmin| ≤ 1e-4 ∧ |xs - pmin| ≤ 1e-3) ∧
    (∀ x, 0 ≤ x → x ≤ 10 → (∀ y, 0 ≤ y → y ≤ 10 → f x < f y + 5e-7) → |x - pmin| ≤ 1e-3) ∧
    -- maximum
    (∃ xs, 0 ≤ xs ∧ xs ≤ 10 ∧ ∀ x, 0 ≤ x → x ≤ 10 → f x ≤ f xs) ∧
    (∀ xs, 0 ≤ xs → xs ≤ 10 → (∀ x, 0 ≤ x → x ≤ 10 → f x ≤ f xs) →
      |f xs - vmax| ≤ 1e-4 ∧ |xs - pmax| ≤ 1e-3) ∧
    (∀ x, 0 ≤ x → x ≤ 10 → (∀ y, 0 ≤ y → y ≤ 10 → f y - 3e-9 < f x) → |x - pmax| ≤ 1e-3) ∧
    -- Lipschitz constant
    (∀ x, 0 ≤ x → x ≤ 10 → |f' x| ≤ 1.001 * L) ∧
    (∃ w, 0 ≤ w ∧ w ≤ 10 ∧ 0.999 * L ≤ |f' w|) ∧
    |sSup ((fun x => |f' x|) '' Set.Icc (0 : ℝ) 10) - L| ≤ 0.001 * L ∧
    (∀ x y, 0 ≤ x → x ≤ 10 → 0 ≤ y → y ≤ 10 → |f x - f y| ≤ 1.001 * L * |x - y|) := by
  intro f f' vmin pmin vmax pmax L
  have h := C18_shekel_tables_clauses i hi
  exact ⟨h.deriv, h.exists_min,
    fun xs h0 h10 hm => ⟨h.min_value xs h0 h10 hm, h.minimiser_near xs h0 h10 hm⟩, h.near_min,
    h.exists_max,
    fun xs h0 h10 hm => ⟨h.max_value xs h0 h10 hm, h.maximiser_near xs h0 h10 hm⟩, h.near_max,
    h.lip_upper, h.lip_lower, h.sup_deriv,
    fun x y hx0 hx10 hy0 hy10 => h.lipschitz x y hx0 hx10 hy0 hy10⟩

/-- the tables also contain the location of the minimum as the declared optimum of the problem (C10 uses
the same entries); here: the table points lie in the box -/
theorem C18_shekel_table_points_in_box (i : Nat) (hi : i < 1000) :
    0 ≤ dyR (Gen.shekelMinPoint i) ∧ dyR (Gen.shekelMinPoint i) ≤ 10 ∧
    0 ≤ dyR (Gen.shekelMaxPoint i) ∧ dyR (Gen.shekelMaxPoint i) ≤ 10 :=
  let h := C18_shekel_tables_clauses i hi
  ⟨h.pmin_in.1, h.pmin_in.2, h.pmax_in.1, h.pmax_in.2⟩

/-- **Remark (why the location clauses speak about true extremisers).** The tabulated locations are multiples of
`1e-3`; for the five rows 492, 640, 797, 913, 970 the true minimiser is slightly more than `5e-4` away from the
tabulated one, and some point of the box farther than `1e-3` from `pmin` has a value *below* `f pmin`.  So the
variant "every `x` with `f x ≤ f pmin` is within `1e-3` of `pmin`" is false for these rows, although every
global minimiser is within `1e-3` of `pmin` for all 1000 rows. -/
theorem C18_shekel_sublevel_remark : ∀ i ∈ [492, 640, 797, 913, 970],
    ∃ x : ℝ, 0 ≤ x ∧ x ≤ 10 ∧ 1e-3 < |x - dyR (Gen.shekelMinPoint i)| ∧
      shekelFn i x < shekelFn i (dyR (Gen.shekelMinPoint i)) :=
  fun i hi => sublevelOut_sound i (sublevelOut_rows i hi)

/-- non-vacuity: the certificate of a concrete row is `true`, and its table entries are non-trivial
(row 0: `vmin < -1.8`, `pmin = 7.288`, `vmax > -0.07`, `pmax = 10`, `L > 4`) -/
example : shekelTabOK 0 = true ∧ (Gen.shekelMinValue 0).toRat < -18 / 10 ∧
    (Gen.shekelMinPoint 0).toRat > 7 ∧ (Gen.shekelMaxValue 0).toRat > -7 / 100 ∧
    (Gen.shekelMaxPoint 0).toRat = 10 ∧ (Gen.shekelLip 0).toRat > 4 :=
  ⟨shekel_tab_all 0 (by norm_num), by decide +kernel, by decide +kernel, by decide +kernel, by decide +kernel,
   by decide +kernel⟩

/-- non-vacuity of the clauses: an interior maximum (row 4: `pmax = 2.138…`), so both rings of the
derivative-sign argument are non-empty there -/
example : (Gen.shekelMaxPoint 4).toRat > 2 ∧ (Gen.shekelMaxPoint 4).toRat < 3 := by
  constructor <;> decide +kernel

end C18shekel

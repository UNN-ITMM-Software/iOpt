import IOptModel.Solver
import IOptProofs.ComposeCert
import IOptProps.C01
import IOptProps.C01dimN
import IOptProps.C02
import IOptProps.C04
/-!
# C01 at the level of `Solve`: the accuracy certificate of a run that stopped by accuracy

"If Solve stops by the accuracy criterion and the reliability condition holds for the estimate M, the
reported best value exceeds the global minimum by less than (r M / 2) eps."

`Solve` on a fresh solver "stopped by accuracy" means that the reported accuracy `min_delta` is below
`eps` (`∃ d, minDelta = some d ∧ d < eps`), i.e. not only by the budget.

`M⁻ = Proc.mBeforeLast p f refine`: the estimate in force when the LAST interval was selected (the `M` of
the method state after `numberOfGlobalTrials - 1` iterations).  The certificate holds with `M⁻`
(`1 ≤ M⁻ ≤ M_final`); with the final `M` the statement is false in a corner case (finding F7), it
holds literally when the last trial did not change `M`.
-/
set_option linter.unusedSectionVars false

namespace AGP
open AGP.Ctl Proc

section Dim1
variable {α : Type} [Field α] [LinearOrder α] [IsStrictOrderedRing α] [Fns α]

/-- **C01 for `Solve`, `N = 1`.**  Let `p.n = 1`, `1 < r`, the objective `g` pure and total, and
`F x = g (p.image x)` `L`-Lipschitz on `[0,1]`.  If `Solve` on a fresh solver stopped by accuracy, then
the final method state `sf` and the estimate `M⁻` in force at the last selection satisfy
`1 ≤ M⁻ ≤ sf.M` (`= M_final`), `eps > 0`, and:
1. if `2 L ≤ r M⁻` then `sf.Z - F x < (r M⁻/2)·eps ≤ (r M_final/2)·eps` for all `x ∈ [0,1]`;
2. if `2 L ≤ r` the bound of 1 holds without the premise `2 L ≤ r M⁻`;
3. (literal statement of C01) if the last trial did not change `M` (`M⁻ = M_final`) and
   `2 L ≤ r M_final` then `sf.Z - F x < (r M_final/2)·eps` for all `x ∈ [0,1]`;
4. `sf.Z` is the smallest recorded value, and without refinement it is the value of the reported best
   trial (`C04_best`). -/
theorem C01_solve_dim1 (p : Params α) (hn1 : p.n = 1) (hL : FnsLaws α) (hr : 1 < p.r)
    (g : List α → α) (L : α)
    (hLip : ∀ x y, 0 ≤ x → x ≤ 1 → 0 ≤ y → y ≤ 1 →
      |g (p.image x) - g (p.image y)| ≤ L * |x - y|)
    (refine : PState α → Option (LocalResult α))
    (hacc : ∃ d, (solve p (pureObj g) refine {}).minDelta = some d ∧ d < p.eps) :
    ∃ sf Mm, (solve p (pureObj g) refine {}).m = some sf ∧
      mBeforeLast p (pureObj g) refine = some Mm ∧
      1 ≤ Mm ∧ Mm ≤ sf.M ∧ 0 < p.eps ∧
      (p.r * Mm / 2) * p.eps ≤ (p.r * sf.M / 2) * p.eps ∧
      (2 * L ≤ p.r * Mm → ∀ x, 0 ≤ x → x ≤ 1 → sf.Z - g (p.image x) < (p.r * Mm / 2) * p.eps) ∧
      (2 * L ≤ p.r → ∀ x, 0 ≤ x → x ≤ 1 → sf.Z - g (p.image x) < (p.r * Mm / 2) * p.eps) ∧
      (Mm = sf.M → 2 * L ≤ p.r * sf.M →
        ∀ x, 0 ≤ x → x ≤ 1 → sf.Z - g (p.image x) < (p.r * sf.M / 2) * p.eps) ∧
      (∀ e ∈ (solve p (pureObj g) refine {}).evals, sf.Z ≤ e.2) ∧
      (∃ e ∈ (solve p (pureObj g) refine {}).evals, e.2 = sf.Z) ∧
      ((∀ ps, refine ps = none) → ∃ b, findItem sf.items sf.best = some b ∧ b.hv = sf.Z ∧
        (b.point, b.hv) ∈ (solve p (pureObj g) refine {}).evals) := by
  have hn : 0 < p.n := by rw [hn1]; exact one_pos
  obtain ⟨log, s, pr, sf, hre, hlog, hpr, hlt, heps, hreK, -, hsf, hZ, hM, hno, hmb⟩ :=
    solve_last_step hL hr hn g refine hacc
  have hI := hre.inv hL hr hn
  have hF := C01_values_of_objective hL hr hn hre g hlog
  have hpt : pr.point = p.image pr.x := (prepare_spec' hL hr hn hI hpr).point_eq
  have hr0 : 0 < p.r := lt_trans one_pos hr
  have hcert : 2 * L ≤ p.r * s.M →
      ∀ x, 0 ≤ x → x ≤ 1 → sf.Z - g (p.image x) < (p.r * s.M / 2) * p.eps := by
    intro hrel
    have := (C01_cert_step hL hr hn1 hI (fun x => g (p.image x)) L hLip hF hpr hlt hrel).1
    rw [← hpt] at this
    rw [hZ]; exact this
  have hmono : s.M ≤ sf.M := by
    rw [hM]; exact prepare_commit_M_mono hL hpr _
  obtain ⟨hZmin, hZatt⟩ := C02_Z_is_min hL hr hn hreK
  refine ⟨sf, s.M, hsf, hmb, hI.M_ge, hmono, heps, ?_, hcert, ?_, ?_, ?_, ?_, ?_⟩
  · apply mul_le_mul_of_nonneg_right _ heps.le
    apply div_le_div_of_nonneg_right _ (by norm_num : (0:α) ≤ 2)
    exact mul_le_mul_of_nonneg_left hmono hr0.le
  · intro hflat
    exact hcert (le_trans hflat (le_mul_of_one_le_right hr0.le hI.M_ge))
  · intro hMM hrel
    rw [← hMM]; exact hcert (by rw [hMM]; exact hrel)
  · rw [hZ]; exact hZmin
  · rw [hZ]; exact hZatt
  · intro hnone
    obtain ⟨b, hb, -, -, -, hmem, -, -, -, -, hhv, hz⟩ := C04_best hL hr hn hreK
    rw [hno hnone]
    exact ⟨b, hb, by rw [hhv, hz], hmem⟩

/-- **C01 for `Solve`, `N = 1`, the literal statement.**  If `Solve` stopped by accuracy, its last
trial did not change the estimate (`M⁻ = M_final`, i.e. `mBeforeLast = some sf.M` for the final method
state `sf`) and the reliability condition `2 L ≤ r M_final` holds for the FINAL estimate, then the
reported best value `sf.Z` exceeds `F x` by less than `(r M_final / 2)·eps` at every `x ∈ [0,1]`. -/
theorem C01_solve_dim1_literal (p : Params α) (hn1 : p.n = 1) (hL : FnsLaws α) (hr : 1 < p.r)
    (g : List α → α) (L : α)
    (hLip : ∀ x y, 0 ≤ x → x ≤ 1 → 0 ≤ y → y ≤ 1 →
      |g (p.image x) - g (p.image y)| ≤ L * |x - y|)
    (refine : PState α → Option (LocalResult α))
    (hacc : ∃ d, (solve p (pureObj g) refine {}).minDelta = some d ∧ d < p.eps)
    (sf : State α) (hsf : (solve p (pureObj g) refine {}).m = some sf)
    (hsame : mBeforeLast p (pureObj g) refine = some sf.M) (hrel : 2 * L ≤ p.r * sf.M) :
    ∀ x, 0 ≤ x → x ≤ 1 → sf.Z - g (p.image x) < (p.r * sf.M / 2) * p.eps := by
  obtain ⟨sf', Mm, hsf', hmb, -, -, -, -, -, -, hlit, -⟩ :=
    C01_solve_dim1 p hn1 hL hr g L hLip refine hacc
  rw [hsf] at hsf'
  cases hsf'
  rw [hsame] at hmb
  exact hlit (Option.some.inj hmb).symm hrel

end Dim1

section DimN
open Ev
attribute [local instance] Ev.Num.floorTrunc
variable [Fns ℝ]

/-- **C01 for `Solve`, `Ev.DimOK N` (over ℝ), on the box.**  Let `c` be a solver configuration with
`Ev.DimOK N`, bounds `lower_i < upper_i`, `1 < r`; let the objective `fb` be pure and total, and let `L`
be its Lipschitz constant on the box normalised to unit side (`fb ∘ __TransformP2D` is `L`-Lipschitz on
the cube `[-1/2,1/2]^N`, Euclidean norm; e.g. `L = L_box · max_i (upper_i - lower_i)` by
`Ev.C01_lip_normalised`).  If `Solve` on a fresh solver stopped by accuracy, then with `M⁻` the estimate
in force at the last selection (`1 ≤ M⁻ ≤ M_final`), `K_N = 2^(3-1/N)·√(N+3)`, `m = evolventDensity`:
1. if `K_N·L ≤ r·M⁻` then at EVERY point `b` of the box
   `sf.Z - fb b < (r M⁻/2)·eps + L·2^-m·(√(N+3) + √N/2)`, and `(r M⁻/2)·eps ≤ (r M_final/2)·eps`;
2. if `K_N·L ≤ r` the bound of 1 holds without the premise `K_N·L ≤ r·M⁻`;
3. if the last trial did not change `M`, the bound holds with `M_final` under `K_N·L ≤ r·M_final`;
4. `sf.Z` is the smallest recorded value. -/
theorem C01_solve_dimN (c : Solver.Config ℝ) (hn : Ev.DimOK c.n) (hl : c.lower.length = c.n)
    (hu : c.upper.length = c.n)
    (hlt : ∀ i (h1 : i < c.lower.length) (h2 : i < c.upper.length), c.lower[i] < c.upper[i])
    (hL : FnsLaws ℝ) (hr : 1 < c.r) (fb : List ℝ → ℝ) (L : ℝ)
    (hf : LipCube c.n (fun y => fb (p2d c.lower c.upper y)) L)
    (refine : PState ℝ → Option (LocalResult ℝ))
    (hacc : ∃ d, (solve (Solver.mk c) (pureObj fb) refine {}).minDelta = some d ∧ d < c.eps) :
    ∃ sf Mm, (solve (Solver.mk c) (pureObj fb) refine {}).m = some sf ∧
      mBeforeLast (Solver.mk c) (pureObj fb) refine = some Mm ∧
      1 ≤ Mm ∧ Mm ≤ sf.M ∧ 0 < c.eps ∧
      (c.r * Mm / 2) * c.eps ≤ (c.r * sf.M / 2) * c.eps ∧
      (Kn c.n * L ≤ c.r * Mm → ∀ b : List ℝ, b.length = c.n →
        (∀ i (h0 : i < b.length) (h1 : i < c.lower.length) (h2 : i < c.upper.length),
          c.lower[i] ≤ b[i] ∧ b[i] ≤ c.upper[i]) →
        sf.Z - fb b < (c.r * Mm / 2) * c.eps +
          L * (1 / 2 ^ c.evolventDensity) * (Real.sqrt (c.n + 3) + Real.sqrt c.n / 2)) ∧
      (Kn c.n * L ≤ c.r → ∀ b : List ℝ, b.length = c.n →
        (∀ i (h0 : i < b.length) (h1 : i < c.lower.length) (h2 : i < c.upper.length),
          c.lower[i] ≤ b[i] ∧ b[i] ≤ c.upper[i]) →
        sf.Z - fb b < (c.r * Mm / 2) * c.eps +
          L * (1 / 2 ^ c.evolventDensity) * (Real.sqrt (c.n + 3) + Real.sqrt c.n / 2)) ∧
      (Mm = sf.M → Kn c.n * L ≤ c.r * sf.M → ∀ b : List ℝ, b.length = c.n →
        (∀ i (h0 : i < b.length) (h1 : i < c.lower.length) (h2 : i < c.upper.length),
          c.lower[i] ≤ b[i] ∧ b[i] ≤ c.upper[i]) →
        sf.Z - fb b < (c.r * sf.M / 2) * c.eps +
          L * (1 / 2 ^ c.evolventDensity) * (Real.sqrt (c.n + 3) + Real.sqrt c.n / 2)) ∧
      (∀ e ∈ (solve (Solver.mk c) (pureObj fb) refine {}).evals, sf.Z ≤ e.2) ∧
      (∃ e ∈ (solve (Solver.mk c) (pureObj fb) refine {}).evals, e.2 = sf.Z) := by
  have hn0 : 0 < (Solver.mk c).n := by show 0 < c.n; exact hn.pos
  have hr' : 1 < (Solver.mk c).r := hr
  obtain ⟨log, s, pr, sf, hre, hlog, hpr, hlt', heps, hreK, -, hsf, hZ, hM, -, hmb⟩ :=
    solve_last_step hL hr' hn0 fb refine hacc
  have hI := hre.inv hL hr' hn0
  have hF : ∀ it ∈ s.items, it.ev = true →
      it.z = fb (getImage (Solver.mk c).n c.evolventDensity c.lower c.upper it.x) :=
    C01_values_of_objective hL hr' hn0 hre fb hlog
  have hr0 : 0 < c.r := lt_trans one_pos hr
  have hcert : Kn c.n * L ≤ c.r * s.M → ∀ b : List ℝ, b.length = c.n →
      (∀ i (h0 : i < b.length) (h1 : i < c.lower.length) (h2 : i < c.upper.length),
        c.lower[i] ≤ b[i] ∧ b[i] ≤ c.upper[i]) →
      sf.Z - fb b < (c.r * s.M / 2) * c.eps +
        L * (1 / 2 ^ c.evolventDensity) * (Real.sqrt (c.n + 3) + Real.sqrt c.n / 2) := by
    intro hrel b hb hin
    have := (C01_cert_step_box (p := Solver.mk c) hL hr' hn hI c.evolventDensity c.lower c.upper hl hu hlt
      fb L hf hF hpr hlt' hrel (fb pr.point)).1 b hb hin
    rw [hZ]; exact this
  have hmono : s.M ≤ sf.M := by
    rw [hM]; exact prepare_commit_M_mono hL hpr _
  obtain ⟨hZmin, hZatt⟩ := C02_Z_is_min hL hr' hn0 hreK
  refine ⟨sf, s.M, hsf, hmb, hI.M_ge, hmono, heps, ?_, hcert, ?_, ?_, ?_, ?_⟩
  · apply mul_le_mul_of_nonneg_right _ heps.le
    apply div_le_div_of_nonneg_right _ (by norm_num : (0:ℝ) ≤ 2)
    exact mul_le_mul_of_nonneg_left hmono hr0.le
  · intro hflat
    exact hcert (le_trans hflat (le_mul_of_one_le_right hr0.le hI.M_ge))
  · intro hMM hrel
    rw [← hMM]; exact hcert (by rw [hMM]; exact hrel)
  · rw [hZ]; exact hZmin
  · rw [hZ]; exact hZatt

end DimN

/-! ## Non-vacuity (over ℝ with the real-number library functions)

Nothing can be computed over ℝ; the examples use `eps > 1`, for which `Solve` provably stops by accuracy
at its second iteration (`Proc.solve_accuracy_of_big_eps`). -/
section NonVacuity
open Ev
attribute [local instance] Fns.real
attribute [local instance] Ev.Num.floorTrunc

/-- `N = 1`: identity evolvent, objective `g [x] = x` (`L = 1`), `r = 2` (so `2 L ≤ r`), `eps = 2`:
all hypotheses of `C01_solve_dim1` hold (and the flat-case premise `2 L ≤ r`). -/
example : ∃ (p : Params ℝ) (g : List ℝ → ℝ) (L : ℝ),
    p.n = 1 ∧ FnsLaws ℝ ∧ 1 < p.r ∧
    (∀ x y, 0 ≤ x → x ≤ 1 → 0 ≤ y → y ≤ 1 → |g (p.image x) - g (p.image y)| ≤ L * |x - y|) ∧
    (∃ d, (solve p (pureObj g) (fun _ => none) {}).minDelta = some d ∧ d < p.eps) ∧ 2 * L ≤ p.r := by
  let p : Params ℝ := { n := 1, r := 2, eps := 2, itersLimit := 100, image := fun x => [x] }
  refine ⟨p, fun pt => pt.headD 0, 1, rfl, FnsLaws.real, by norm_num [p], ?_, ?_, by norm_num [p]⟩
  · intro x y _ _ _ _; simp [p]
  · exact solve_accuracy_of_big_eps FnsLaws.real (by norm_num [p]) (by norm_num [p])
      (pureObj_ne_none _) (by norm_num [p]) (by norm_num [p]) _

/-- `N = 2`: box `[-1,2] × [0,3]`, density 3, objective `fb b = (b₀ + 1)/3` — the first cube
coordinate up to a shift, so `fb ∘ p2d` is `1`-Lipschitz on the cube — `r = 18 ≥ K_2`, `eps = 2`:
all hypotheses of `C01_solve_dimN` hold (and the flat-case premise `K_2·L ≤ r`). -/
example : ∃ (c : Solver.Config ℝ) (fb : List ℝ → ℝ) (L : ℝ),
    (Ev.DimOK c.n) ∧ c.lower.length = c.n ∧ c.upper.length = c.n ∧
    (∀ i (h1 : i < c.lower.length) (h2 : i < c.upper.length), c.lower[i] < c.upper[i]) ∧
    FnsLaws ℝ ∧ 1 < c.r ∧ LipCube c.n (fun y => fb (p2d c.lower c.upper y)) L ∧
    (∃ d, (solve (Solver.mk c) (pureObj fb) (fun _ => none) {}).minDelta = some d ∧ d < c.eps) ∧
    Kn c.n * L ≤ c.r := by
  let c : Solver.Config ℝ :=
    { n := 2, lower := [-1, 0], upper := [2, 3], eps := 2, r := 18, itersLimit := 50, evolventDensity := 3 }
  let fb : List ℝ → ℝ := fun b => (getR b 0 + 1) / 3 - 1 / 2
  have hlt : ∀ i (h1 : i < c.lower.length) (h2 : i < c.upper.length), c.lower[i] < c.upper[i] := by
    intro i h1 h2
    have : i = 0 ∨ i = 1 := by simp [c] at h1; omega
    rcases this with rfl | rfl <;> norm_num [c]
  have hfun : ∀ y, InCube 2 y → fb (p2d c.lower c.upper y) = getR y 0 := by
    intro y hy
    match y, hy.1 with
    | [a, b], _ => simp [fb, c, p2d, getR]; ring
  refine ⟨c, fb, 1, (by show Ev.DimOK 2; decide), rfl, rfl, hlt, FnsLaws.real, by norm_num [c], ?_, ?_, ?_⟩
  · intro a b ha hb
    show |fb (p2d c.lower c.upper a) - fb (p2d c.lower c.upper b)| ≤ 1 * dist2 a b
    rw [hfun a ha, hfun b hb]
    exact lipCube_coord (n := 2) (i := 0) (by norm_num) a b ha hb
  · exact solve_accuracy_of_big_eps (p := Solver.mk c) FnsLaws.real (by norm_num [Solver.mk, c])
      (by norm_num [Solver.mk, c]) (pureObj_ne_none _) (by norm_num [Solver.mk, c])
      (by norm_num [Solver.mk, c]) _
  · have : Kn c.n * 1 ≤ 18 := Kn_two_le
    exact this

theorem M_eq_one_of_zero_values {p : Params ℝ} (hr : 1 < p.r) (hn : 0 < p.n) {s : State ℝ}
    {log : List (List ℝ × ℝ)} (h : Reach p s log) : (∀ e ∈ log, e.2 = 0) → s.M = 1 := by
  refine Reach.induction (P := fun s log => (∀ e ∈ log, e.2 = 0) → s.M = 1) ?_ ?_ h
  · intro z _; rfl
  · intro s log pr z hre ih hp hz
    have hM : s.M = 1 := ih (fun e he => hz e (List.mem_append_left _ he))
    have hI := hre.inv FnsLaws.real hr hn
    have hre' := hre.step z hp
    have hI' := hre'.inv FnsLaws.real hr hn
    rcases commit_M_attained FnsLaws.real (prepare_spec' FnsLaws.real hr hn hI hp) z with h1 | ⟨a, b, hab, ha, hb, h1⟩
    · rw [h1, hM]
    · exfalso
      have hv := C01_values_of_objective FnsLaws.real hr hn hre' (fun _ => 0) hz
      rw [hv a hab.mem_left ha, hv b hab.mem_right hb] at h1
      have := hI'.M_ge
      rw [h1] at this
      simp at this
      linarith

/-- the hypotheses of `C01_solve_dim1_literal` are satisfiable: for the constant objective `0`
(`L = 0`) the estimate never moves, so `M⁻ = M_final = 1`. -/
example : ∃ (p : Params ℝ) (g : List ℝ → ℝ) (L : ℝ) (sf : State ℝ),
    p.n = 1 ∧ FnsLaws ℝ ∧ 1 < p.r ∧
    (∀ x y, 0 ≤ x → x ≤ 1 → 0 ≤ y → y ≤ 1 → |g (p.image x) - g (p.image y)| ≤ L * |x - y|) ∧
    (∃ d, (solve p (pureObj g) (fun _ => none) {}).minDelta = some d ∧ d < p.eps) ∧
    (solve p (pureObj g) (fun _ => none) {}).m = some sf ∧
    mBeforeLast p (pureObj g) (fun _ => none) = some sf.M ∧ 2 * L ≤ p.r * sf.M := by
  let p : Params ℝ := { n := 1, r := 2, eps := 2, itersLimit := 100, image := fun x => [x] }
  have hr : (1 : ℝ) < p.r := by norm_num [p]
  have hn : 0 < p.n := by norm_num [p]
  have hacc := solve_accuracy_of_big_eps (p := p) (f := pureObj (fun _ => (0 : ℝ))) FnsLaws.real hr hn
    (pureObj_ne_none _) (by norm_num [p]) (by norm_num [p]) (fun _ => none)
  obtain ⟨log, s, pr, sf, hre, hlog, hpr, -, -, hreK, hev, hsf, -, hM, hno, hmb⟩ :=
    solve_last_step FnsLaws.real hr hn (fun _ => (0 : ℝ)) (fun _ => none) hacc
  have hsM : s.M = 1 := M_eq_one_of_zero_values hr hn hre hlog
  have hfM : sf.M = 1 := by
    rw [hM]; exact M_eq_one_of_zero_values hr hn hreK hev
  refine ⟨p, fun _ => 0, 0, sf, rfl, FnsLaws.real, hr, ?_, hacc, hsf, by rw [hmb, hsM, hfM], ?_⟩
  · intro x y _ _ _ _; simp
  · rw [hfM]; norm_num [p]

end NonVacuity
end AGP

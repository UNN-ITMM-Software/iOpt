import IOptGen.ListenerSig
/-!
# C13 — a listener overriding any subset of the base callbacks can be attached (arity clause)

`IOptGen/ListenerSig.lean` is regenerated on every run: `Gen.listenerArity` = (name, min, max) positional
arity of each base `Listener` callback (from `inspect.signature`), `Gen.listenerCalls` = (name, positional
args, keyword args, line) of every `listener.X(...)` call site in `process.py` (from `ast`).
A callback the user does not override is the base method, so every call site must fit the base arity;
defect F3 (signatures out of sync: `OnMethodStop` took 1 argument, was called with 3) makes this false.
-/
namespace C13

def callFits (c : String × Nat × Nat × Nat) : Bool :=
  Gen.listenerArity.any fun a => a.1 == c.1 && a.2.1 ≤ c.2.1 && c.2.1 ≤ a.2.2 && c.2.2.1 == 0

/-- every call site of a listener callback passes a number of positional arguments accepted by the base
method (and no keyword arguments) -/
theorem C13_arity_ok : Gen.listenerCalls.all callFits = true := by decide +kernel

/-- all three notifications are actually issued somewhere in `process.py` -/
theorem C13_all_callbacks_called :
    ["BeforeMethodStart", "OnEndIteration", "OnMethodStop"].all
      (fun n => Gen.listenerCalls.any fun c => c.1 == n) = true := by decide +kernel

/-- negative control: with the pre-repair base signatures (1, 2 and 1 positional arguments) the call
`OnMethodStop(searchData, solution, status)` does not fit -/
example : ([("OnMethodStop", 3, 0, 79)] : List (String × Nat × Nat × Nat)).all
    (fun c => ([("BeforeMethodStart", 1, 1), ("OnEndIteration", 2, 2), ("OnMethodStop", 1, 1)] :
      List (String × Nat × Nat)).any fun a => a.1 == c.1 && a.2.1 ≤ c.2.1 && c.2.1 ≤ a.2.2) = false := by decide +kernel

end C13

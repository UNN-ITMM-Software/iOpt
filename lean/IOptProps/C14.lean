import IOptProofs.GklsMain
import IOptProofs.GklsCont
import IOptProofs.GklsClass
import IOptProofs.GklsCertAll
/-!
# C14 — structure of the GKLS test functions

For every regenerated GKLS data set `r : Gen.GklsRaw` that passes the decidable certificate `Gkls.WF`
(exact integer arithmetic; kernel-decided for all 400 shipped data sets, `Gkls.wf_all`), the function
`F r x = Prob.gkls Gkls.consts (Gkls.toData r) x` (the model of `GKLSFunction.CalculateDFunction`
over the reals) is the paraboloid `‖x - T‖² + f_0` outside the nine balls `B_i = {‖x - M_i‖ ≤ ρ_i}`,
takes the prescribed value `f_i` at every minimiser `M_i`, is continuous across every sphere, is bounded
below by `f_i` inside ball `i`, and has global minimum `-1` attained only in the guard region of `M_1`.

Notation: `Gkls.dist x y = √(Σ (x_i - y_i)²)` (`= GKLS_norm`), `Gkls.M r i`, `Gkls.ρ r i`, `Gkls.fv r i`.
-/

namespace Gkls
open Prob

noncomputable def F (r : Gen.GklsRaw) (x : List ℝ) : ℝ := gkls consts (toData r) x
/-- minimiser `M_i` of data set `r` (`M_0 = T` is the paraboloid vertex, `M_1` the global minimiser) -/
noncomputable def M (r : Gen.GklsRaw) (i : Nat) : List ℝ := Mi (toData r) i
noncomputable def ρ (r : Gen.GklsRaw) (i : Nat) : ℝ := rhoi (toData r) i
noncomputable def fv (r : Gen.GklsRaw) (i : Nat) : ℝ := fi (toData r) i

/-- **C14 (paraboloid outside the balls).** If `x` passes the domain check and lies outside all balls
`1..9`, then `F x = ‖x - T‖² + f_0`. -/
theorem C14_paraboloid_outside (r : Gen.GklsRaw) (hwf : WF r = true) (x : List ℝ) (hdom : InDomain x)
    (hout : ∀ i, 1 ≤ i → i < 10 → ρ r i < dist x (M r i)) :
    F r x = dist x (M r 0) ^ 2 + fv r 0 :=
  paraboloid_outside (good_of_WF r hwf) x hdom hout

/-- **C14 (value at the minimisers).** `F M_i = f_i` for every `i = 0..9`. -/
theorem C14_value_at_minimiser (r : Gen.GklsRaw) (hwf : WF r = true) (i : Nat) (hi : i < 10) :
    F r (M r i) = fv r i :=
  value_at_minimiser (good_of_WF r hwf) i hi

/-- **C14 (splice).** On the sphere `‖x - M_i‖ = ρ_i` of ball `i ≥ 1` the cubic branch equals the
paraboloid value `‖x - T‖² + f_0`, and so does `F` itself: the function is continuous across the sphere. -/
theorem C14_splice (r : Gen.GklsRaw) (hwf : WF r = true) (x : List ℝ) (hx : x.length = r.dim)
    (hdom : InDomain x) (i : Nat) (h1i : 1 ≤ i) (hi : i < 10) (hb : dist x (M r i) = ρ r i) :
    cubicVal (toData r) i x = dist x (M r 0) ^ 2 + fv r 0 ∧ F r x = dist x (M r 0) ^ 2 + fv r 0 :=
  ⟨cubicVal_on_sphere (good_of_WF r hwf) x hx i hi hb, splice (good_of_WF r hwf) x hx hdom i h1i hi hb⟩

/-- **C14 (lower bound in a ball).** For `x` in ball `i ≥ 1`: `F x ≥ f_i`, with equality only in the
guard region `‖x - M_i‖ < 10⁻¹⁰`. -/
theorem C14_ball_lower_bound (r : Gen.GklsRaw) (hwf : WF r = true) (x : List ℝ) (hx : x.length = r.dim)
    (hdom : InDomain x) (i : Nat) (h1i : 1 ≤ i) (hi : i < 10) (hin : dist x (M r i) ≤ ρ r i) :
    fv r i ≤ F r x ∧ (F r x = fv r i → dist x (M r i) < 1e-10) :=
  ball_lower_bound (good_of_WF r hwf) x hx hdom i h1i hi hin

/-- **C14 (global minimum).** On the box `[-1,1]^n`: `F x ≥ -1`; `F M_1 = -1`; and `F x = -1` only
within `10⁻¹⁰` of `M_1`. -/
theorem C14_global_min (r : Gen.GklsRaw) (hwf : WF r = true) :
    (∀ x : List ℝ, x.length = r.dim → InBox x → -1 ≤ F r x) ∧
    F r (M r 1) = -1 ∧
    (∀ x : List ℝ, x.length = r.dim → InBox x → F r x = -1 → dist x (M r 1) < 1e-10) := by
  obtain ⟨h1, h2, h3⟩ := global_min (good_of_WF r hwf)
  exact ⟨fun x hx hb => h1 x hx hb.inDomain, h2, fun x hx hb => h3 x hx hb.inDomain⟩

/-- the same on the whole domain accepted by the domain check (box with slack `10⁻¹⁰`) -/
theorem C14_global_min_domain (r : Gen.GklsRaw) (hwf : WF r = true) :
    (∀ x : List ℝ, x.length = r.dim → InDomain x → -1 ≤ F r x) ∧
    (∀ x : List ℝ, x.length = r.dim → InDomain x → F r x = -1 → dist x (M r 1) < 1e-10) := by
  obtain ⟨h1, _, h3⟩ := global_min (good_of_WF r hwf)
  exact ⟨h1, h3⟩

/-- **C14 (class clauses).** For all 400 shipped data sets: the declared optimum point is `M_1`
(`gm_index[0] = 1`, exactly one global minimiser), the declared optimum value is `-1`, `ρ_1` is exactly the
class parameter `global_radius`, `‖M_1 - T‖²` agrees with `global_dist²` up to `10⁻⁹`, `isArgSet = 1`,
and the data set is the one requested (`dim = d`, `number = k`). -/
theorem C14_class : ∀ d ∈ [2, 3, 4, 5], ∀ k ∈ List.range' 1 100,
    ClassSpec (Gen.gkls d k) ∧ (Gen.gkls d k).dim = d ∧ (Gen.gkls d k).number = k := by
  intro d hd k hk
  obtain ⟨hwf, hcl, hdim, hnum⟩ := Cert.parts (cert_all d hd k hk)
  exact ⟨classSpec_of_ClassOK _ hwf hcl, hdim, hnum⟩

/-- **C14 (quadratic bound at the centres).** In ball `i ≥ 1` the cubic branch satisfies
`|cubic(x) - f_i| ≤ C_i ‖x - M_i‖²` with `C_i = (ρ_i² + 4 ‖T - M_i‖ ρ_i + 3 |a_i|) / ρ_i²`
(so the guard value `f_i` differs from the cubic by at most `C_i · 10⁻²⁰` inside the guard region). -/
theorem C14_quadratic_bound (r : Gen.GklsRaw) (hwf : WF r = true) (x : List ℝ) (hx : x.length = r.dim)
    (i : Nat) (h1i : 1 ≤ i) (hi : i < 10) (hin : dist x (M r i) ≤ ρ r i) :
    |cubicVal (toData r) i x - fv r i| ≤ quadC (toData r) i * dist x (M r i) ^ 2 :=
  cubicVal_sub_le (good_of_WF r hwf) x hx i h1i hi hin

/-- the ideal GKLS function of data set `r`: the model with the PRECISION constant (guard threshold and
domain slack) set to `0` -/
noncomputable def Fideal (r : Gen.GklsRaw) (x : List ℝ) : ℝ := gkls (constsP 0) (toData r) x

/-- **C14 (continuity).** The ideal function (guard threshold `0`) is continuous on the box `[-1,1]^n`
(points are coordinate functions `v : Fin n → ℝ`, evaluated at the list `List.ofFn v`). -/
theorem C14_continuous (r : Gen.GklsRaw) (hwf : WF r = true) :
    ContinuousOn (fun v : Fin r.dim → ℝ => Fideal r (List.ofFn v)) (boxSet r.dim) :=
  ideal_continuousOn (good_of_WF r hwf)

/-- the ideal function and the code's function differ only inside the guard regions: if `x` is in the box and
at distance `≥ 10⁻¹⁰` from every `M_i` (`i ≥ 1`) then `F x = Fideal x`. -/
theorem C14_ideal_eq (r : Gen.GklsRaw) (hwf : WF r = true) (x : List ℝ) (hx : x.length = r.dim) (hbox : InBox x)
    (hfar : ∀ i, 1 ≤ i → i < 10 → (1e-10 : ℝ) ≤ dist x (M r i)) : F r x = Fideal r x := by
  have hD := good_of_WF r hwf
  unfold F Fideal
  rcases in_ball_or_outside (toData r) x with ⟨i, h1i, hi, hin⟩ | hout
  · rw [value_inside hD x hx hbox.inDomain i h1i hi hin, ideal_in_ball hD x hx hbox i h1i hi hin]
    exact if_neg (not_lt.mpr (hfar i h1i hi))
  · rw [paraboloid_outside hD x hbox.inDomain hout,
      paraboloid_outsideP hD 0 x (hbox.inDomainP (le_refl 0)) hout]

/-- the certificate holds on a concrete data set (an instance of `Gkls.wf_all`) -/
example : WF (Gen.gkls 2 1) = true := wf_all 2 (by decide) 1 (by decide)

/-- the certificate discriminates: GKLS(2, 1) with a second global minimum (`f_2 := -1`) or with ball 3
enlarged to radius 1 is rejected -/
example : WF { Gen.gkls 2 1 with f := (Gen.gkls 2 1).f.set 2 (-1, 0) } = false ∧
    WF { Gen.gkls 2 1 with rho := (Gen.gkls 2 1).rho.set 3 (1, 0) } = false := by
  decide +kernel

/-- the hypotheses of `C14_ball_lower_bound` / `C14_splice` are satisfiable: the minimiser `M_3` of
GKLS(2, 1) lies in ball 3, has the right length and passes the domain check. -/
example : ∃ x : List ℝ, x.length = (Gen.gkls 2 1).dim ∧ InDomain x ∧
    dist x (M (Gen.gkls 2 1) 3) ≤ ρ (Gen.gkls 2 1) 3 := by
  have hD := good_of_WF _ (wf_all 2 (by decide) 1 (by decide))
  refine ⟨M (Gen.gkls 2 1) 3, hD.len_M 3 (by omega), (Mi_inBox hD 3 (by omega)).inDomain, ?_⟩
  rw [dist_self]
  exact (hD.rho_pos 3 (by omega)).le

/-- the hypotheses of `C14_paraboloid_outside` are satisfiable: the vertex `T = M_0` of GKLS(2, 1) is in the
domain and outside every ball. -/
example : InDomain (M (Gen.gkls 2 1) 0) ∧
    ∀ i, 1 ≤ i → i < 10 → ρ (Gen.gkls 2 1) i < dist (M (Gen.gkls 2 1) 0) (M (Gen.gkls 2 1) i) := by
  have hD := good_of_WF _ (wf_all 2 (by decide) 1 (by decide))
  exact ⟨(Mi_inBox hD 0 (by omega)).inDomain, fun i h1i hi => vertex_outside hD i h1i hi⟩

/-- the hypotheses of `C14_splice` are satisfiable for every well-formed data set and every ball: each sphere
contains a point of the box. -/
example (r : Gen.GklsRaw) (hwf : WF r = true) (i : Nat) (h1i : 1 ≤ i) (hi : i < 10) :
    ∃ x : List ℝ, x.length = r.dim ∧ InDomain x ∧ dist x (M r i) = ρ r i := by
  obtain ⟨x, hx, hb, hs⟩ := exists_on_sphere (good_of_WF r hwf) i h1i hi
  exact ⟨x, hx, hb.inDomain, hs⟩

/-- evaluating at a hypothesis-satisfying point: the value at the global minimiser of GKLS(2, 1) is `-1`. -/
example : F (Gen.gkls 2 1) (M (Gen.gkls 2 1) 1) = -1 :=
  (C14_global_min _ (wf_all 2 (by decide) 1 (by decide))).2.1

end Gkls

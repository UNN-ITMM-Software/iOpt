import IOptGen.AllocSites
/-!
# Census of shared-state sites (serves C06, C10–C15, C17–C20)

Every property that quantifies over several objects or several calls ("whatever other instances were created or evaluated",
"not on earlier queries", "creating other Solver instances never changes …") presupposes that no state is shared between
instances beyond what the model accounts for.  `IOptGen/AllocSites.lean` is REGENERATED from the sources on every run: a
census, by `ast`, of every place under `iOpt/` where such state can live —

* mutable default arguments (list / dict / set / comprehension / call),
* class-level attributes bound to a mutable literal, a comprehension or the result of a call,
* module-level names bound to a mutable literal or comprehension (the data tables of the `*_generation` modules are
  regenerated and fingerprinted separately),
* memoising decorators (`functools.lru_cache`, `cache`, …), `global` statements, stores to class attributes from inside functions,
  calls that change interpreter-wide state (`np.seterr`, `random.seed`, `warnings.filterwarnings`, `sys.setrecursionlimit`, …),
* assignments to attributes of a parameters object (`parameters.x = …`, `self.parameters.x = …`).

The obligation below says that the census of the CURRENT sources is covered, with multiplicity and ignoring line numbers, by
the explicit allow-list of sites that the model accounts for.  A new site (a class-level cache, a shared generator object, a
memoised method, a write to the shared default `SolverParameters()` …) breaks it.
-/

namespace SharedState

/-- the sites present in the validated sources, with multiplicity: (file, function or class, kind, callee/name) -/
def allowedSites : List (String × String × String × String) := [
  -- `Evolvent.__init__(lowerBoundOfFloatVariables=[], upperBoundOfFloatVariables=[])`: copied with `np.copy`, never written
  ("iOpt/evolvent/evolvent.py", "__init__", "List", ""),
  ("iOpt/evolvent/evolvent.py", "__init__", "List", ""),
  -- `Evolvent.SetBounds(lowerBoundOfFloatVariables=[], upperBoundOfFloatVariables=[])`: copied with `np.copy`, never written
  ("iOpt/evolvent/evolvent.py", "SetBounds", "List", ""),
  ("iOpt/evolvent/evolvent.py", "SetBounds", "List", ""),
  -- `StaticNDPaintListener.__init__(varsIndxs=[0, 1])`, `AnimationNDPaintListener.__init__(varsIndxs=[0, 1])`: read only
  ("iOpt/method/listener.py", "__init__", "List", ""),
  ("iOpt/method/listener.py", "__init__", "List", ""),
  -- `Solver.__init__(parameters=SolverParameters())`: one shared parameters object, never written by the library
  ("iOpt/solver.py", "__init__", "Call", "SolverParameters"),
  -- `SolverParameters.__init__(startPoint=[])`: unused
  ("iOpt/solver_parametrs.py", "__init__", "List", "")]

def siteKey (s : String × String × String × String × Nat) : String × String × String × String :=
  (s.1, s.2.1, s.2.2.1, s.2.2.2.1)

/-- **No shared-state site that the model does not know.**  Every site of the regenerated census is one of the allow-list,
with multiplicity (a second mutable default in an allow-listed function is NOT covered). -/
theorem census_covered :
    ∀ k ∈ Gen.allocSites.map siteKey, (Gen.allocSites.map siteKey).count k ≤ allowedSites.count k := by
  decide +kernel

/-- in particular: no class-level mutable attribute, no module-level mutable name, no memoising decorator, no `global`
statement and no write to a parameters object anywhere under `iOpt/` -/
theorem only_default_arguments :
    ∀ s ∈ Gen.allocSites, s.2.2.1 = "List" ∨ s.2.2.1 = "Call" := by
  decide +kernel

/-- non-vacuity: the census is not empty, and the kinds of site introduced by known defects / seeded changes are rejected -/
example : 0 < Gen.allocSites.length ∧
    allowedSites.count ("iOpt/solution.py", "__init__", "List", "") = 0 ∧
    allowedSites.count ("iOpt/method/search_data.py", "SearchData", "classattr:Call", "CharacteristicsQueue") = 0 ∧
    allowedSites.count ("iOpt/solver.py", "<parameters-write>", "attribute-store", "evolventDensity") = 0 := by decide +kernel

end SharedState

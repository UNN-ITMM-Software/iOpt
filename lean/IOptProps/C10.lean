import IOptProofs.BenchSym
import IOptProofs.BenchDy
import IOptProofs.BenchMeta1
import IOptProofs.BenchMeta3
import IOptProofs.BenchShekel
import IOptProofs.ShekelCertAll
import IOptProofs.BenchShekel4
import IOptProofs.ShekelCertS4
/-!
# C10: the declared optimum of each benchmark family is the true one

"For every instance of every shipped family (… Rastrigin and XSquared in any dimension …) the objective at
the declared optimum point equals the declared optimum value within 1e-4, no point of the box has a value
lower than the declared one by more than 2e-3*max(1,|f*|), and the declared point lies within 0.5% of the
box side of a true global minimiser."

This file:
* XSquared and Rastrigin, symbolically, in every dimension (no computation): all three clauses hold with
  error 0, over all of `ℝⁿ` (not only the box);
* Shekel 0..999 by a verified interval branch-and-bound evaluated by the kernel (`IOptProofs/ShekelCert*.lean`);
* Shekel4 1..3 (4-dimensional branch-and-bound).
(GKLS: `C10gkls.lean`; Hill: `C10hill.lean`; Grishagin: `C10grishagin.lean`; StronginC3: `C10strongin.lean`.)
-/

namespace C10
open BenchSym BenchMeta

/-- **C10, XSquared, any dimension.** `Σ xᵢ²` is non-negative everywhere, is 0 at the origin, and a point
whose value is at most `τ` has every coordinate with `xᵢ² ≤ τ`. -/
theorem C10_xsquared :
    (∀ x : List ℝ, 0 ≤ Prob.xsquared x) ∧
    (∀ n : Nat, Prob.xsquared (List.replicate n (0 : ℝ)) = 0) ∧
    (∀ (x : List ℝ) (τ : ℝ), Prob.xsquared x ≤ τ → ∀ xi ∈ x, xi ^ 2 ≤ τ) :=
  ⟨xsquared_nonneg, xsquared_origin, xsquared_local⟩

/-- localisation of the near-minimisers of XSquared: value `≤ τ` forces `|xᵢ| ≤ √τ` -/
theorem C10_xsquared_near (x : List ℝ) (τ : ℝ) (h : Prob.xsquared x ≤ τ) :
    ∀ xi ∈ x, |xi| ≤ Real.sqrt τ :=
  fun xi hxi => Real.abs_le_sqrt (xsquared_local x τ h xi hxi)

/-- the instance for the tolerance `2e-3` of C10 (box `[-1,1]`, side 2): every point whose value is within
`2e-3` of the optimum has all coordinates within `0.045` of the origin -/
theorem C10_xsquared_near_2e3 (x : List ℝ) (h : Prob.xsquared x ≤ 2e-3) : ∀ xi ∈ x, |xi| ≤ 0.045 := by
  intro xi hxi
  -- `xi² ≤ 2e-3 ≤ 0.045²`
  exact abs_le_of_sq_le_sq ((xsquared_local x _ h xi hxi).trans (by norm_num)) (by norm_num)

/-- the only global minimiser of XSquared is the origin (so the declared point IS the global minimiser) -/
theorem C10_xsquared_unique (x : List ℝ) (h : Prob.xsquared x ≤ 0) : x = List.replicate x.length 0 := by
  refine List.eq_replicate_iff.2 ⟨rfl, fun xi hxi => ?_⟩
  exact pow_eq_zero_iff two_ne_zero |>.1 (le_antisymm (xsquared_local x 0 h xi hxi) (sq_nonneg xi))

/-- **C10, Rastrigin, any dimension.** `Σ (xᵢ² - 10 cos 2πxᵢ + 10) ≥ Σ xᵢ² ≥ 0` (because
`10 - 10 cos(2πx) ≥ 0`), the value at the origin is 0, and near-minimisers are localised as for XSquared. -/
theorem C10_rastrigin :
    (∀ x : List ℝ, Prob.xsquared x ≤ Prob.rastrigin x ∧ 0 ≤ Prob.xsquared x) ∧
    (∀ n : Nat, Prob.rastrigin (List.replicate n (0 : ℝ)) = 0) ∧
    (∀ (x : List ℝ) (τ : ℝ), Prob.rastrigin x ≤ τ → ∀ xi ∈ x, xi ^ 2 ≤ τ) :=
  ⟨fun x => ⟨xsquared_le_rastrigin x, xsquared_nonneg x⟩, rastrigin_origin,
   fun x τ h => xsquared_local x τ (le_trans (xsquared_le_rastrigin x) h)⟩

theorem C10_rastrigin_near (x : List ℝ) (τ : ℝ) (h : Prob.rastrigin x ≤ τ) :
    ∀ xi ∈ x, |xi| ≤ Real.sqrt τ :=
  C10_xsquared_near x τ (le_trans (xsquared_le_rastrigin x) h)

/-- the only global minimiser of Rastrigin is the origin -/
theorem C10_rastrigin_unique (x : List ℝ) (h : Prob.rastrigin x ≤ 0) : x = List.replicate x.length 0 :=
  C10_xsquared_unique x (le_trans (xsquared_le_rastrigin x) h)

/-- non-vacuity: a non-trivial point and its values -/
example : Prob.xsquared [1, -2] = (5 : ℝ) := by
  rw [xsquared_eq_sum]; norm_num
example : (0 : ℝ) ≤ Prob.rastrigin [1, -2] ∧ Prob.rastrigin (List.replicate 3 (0 : ℝ)) = 0 :=
  ⟨le_trans (xsquared_nonneg _) (xsquared_le_rastrigin _), rastrigin_origin 3⟩

/-! ### the three clauses of C10 for the declared metadata of the two families, every `n` -/

theorem dyR_dyZero : dyR dyZero = 0 := dyR_eq_zero (by simp [dyZero, Dy.toRat])

theorem declared_point (n : Nat) : (List.replicate n dyZero).map dyR = List.replicate n (0 : ℝ) := by
  rw [List.map_replicate, dyR_dyZero]

/-- **C10 for `XSquared(n)`, every n.** With the metadata the constructor declares (`xsquaredMeta n`,
identical to the table rows for n = 1..50 by `C18_meta_open_rows`): the objective at the declared point
equals the declared value exactly; no point at all has a lower value; every global minimiser of dimension
`n` is the declared point itself. -/
theorem C10_xsquared_declared (n : Nat) :
    Prob.xsquared ((xsquaredMeta n).optPoint.map dyR) = dyR (xsquaredMeta n).optValue ∧
    (∀ x : List ℝ, dyR (xsquaredMeta n).optValue ≤ Prob.xsquared x) ∧
    (∀ x : List ℝ, x.length = n → Prob.xsquared x ≤ dyR (xsquaredMeta n).optValue →
      x = (xsquaredMeta n).optPoint.map dyR) := by
  simp only [xsquaredMeta, declared_point, dyR_dyZero]
  exact ⟨xsquared_origin n, xsquared_nonneg, fun x hx h => hx ▸ C10_xsquared_unique x h⟩

/-- **C10 for `Rastrigin(n)`, every n.** Same three clauses, all with error 0. -/
theorem C10_rastrigin_declared (n : Nat) :
    Prob.rastrigin ((rastriginMeta n).optPoint.map dyR) = dyR (rastriginMeta n).optValue ∧
    (∀ x : List ℝ, dyR (rastriginMeta n).optValue ≤ Prob.rastrigin x) ∧
    (∀ x : List ℝ, x.length = n → Prob.rastrigin x ≤ dyR (rastriginMeta n).optValue →
      x = (rastriginMeta n).optPoint.map dyR) := by
  simp only [rastriginMeta, declared_point, dyR_dyZero]
  exact ⟨rastrigin_origin n, fun x => le_trans (xsquared_nonneg x) (xsquared_le_rastrigin x),
    fun x hx h => hx ▸ C10_rastrigin_unique x h⟩

theorem open_decl (r : Gen.MetaRow) (n : Nat) (h : r = rastriginMeta n ∨ r = xsquaredMeta n) :
    r.optPoint.map dyR = List.replicate n (0 : ℝ) ∧ dyR r.optValue = 0 ∧ r.dimension = n := by
  rcases h with rfl | rfl <;> exact ⟨declared_point _, dyR_dyZero, rfl⟩

/-- **The declared optimum of every Rastrigin / XSquared table row is the origin with value 0**
(rows of family code 5 / 6 of the metadata table read from the running classes, n = 1..50;
`arg0` is the constructor argument `n`). -/
theorem C10_open_declared_table : ∀ i < Gen.metaRowsPacked.size,
    ((Gen.metaDecode Gen.metaRowsPacked[i]!).family = 5 ∨ (Gen.metaDecode Gen.metaRowsPacked[i]!).family = 6) →
      (Gen.metaDecode Gen.metaRowsPacked[i]!).optPoint.map dyR
        = List.replicate (Gen.metaDecode Gen.metaRowsPacked[i]!).arg0 (0 : ℝ) ∧
      dyR (Gen.metaDecode Gen.metaRowsPacked[i]!).optValue = 0 ∧
      (Gen.metaDecode Gen.metaRowsPacked[i]!).dimension = (Gen.metaDecode Gen.metaRowsPacked[i]!).arg0 := by
  intro i hi hfam
  apply open_decl
  rcases hfam with hf | hf
  · exact Or.inl ((open_rows i hi).1 hf).1
  · exact Or.inr ((open_rows i hi).2 hf).1

/-! ### Shekel (1000 one-dimensional functions on `[0,10]`) -/

/-- **C10, Shekel, generic theorem.** If the Boolean certificate `Shk.shekelOK i` (computed from the
generated tables `Gen.shekelK/A/C/MinValue/MinPoint i` only) evaluates to `true`, then for
`f = Prob.shekel` with the (real values of the) coefficients of row `i`, `v` the tabulated minimum value
and `p` the tabulated minimum point:
`p ∈ [0,10]`; `|f p - v| ≤ 1e-4`; `f x ≥ v - 2e-3·max(1,|v|)` for all `x ∈ [0,10]`; and `f p < f x` for all
`x ∈ [0,10]` with `|x - p| ≥ 51/1024` (`51/1024 < 0.05` = 0.5 % of the side).  Moreover `f` is continuous. -/
theorem C10_shekel_generic (i : Nat) (h : Shk.shekelOK i = true) :
    Shk.ShekelC10 (Shk.shekelFn i) (dyR (Gen.shekelMinValue i)) (dyR (Gen.shekelMinPoint i)) ∧
    Continuous (Shk.shekelFn i) :=
  Shk.shekelOK_sound i h

/-- **C10, Shekel 0..999.** For every shipped Shekel function the three clauses hold, and in the words of
C10: a global minimiser on `[0,10]` exists, and EVERY global minimiser is within `0.05` (0.5 % of the box
side) of the declared point. -/
theorem C10_shekel (i : Nat) (hi : i < 1000) :
    Shk.ShekelC10 (Shk.shekelFn i) (dyR (Gen.shekelMinValue i)) (dyR (Gen.shekelMinPoint i)) ∧
    (∃ xs, 0 ≤ xs ∧ xs ≤ 10 ∧ ∀ x, 0 ≤ x → x ≤ 10 → Shk.shekelFn i xs ≤ Shk.shekelFn i x) ∧
    (∀ xs, 0 ≤ xs → xs ≤ 10 → (∀ x, 0 ≤ x → x ≤ 10 → Shk.shekelFn i xs ≤ Shk.shekelFn i x) →
      |xs - dyR (Gen.shekelMinPoint i)| < 0.05) := by
  obtain ⟨h, hc⟩ := C10_shekel_generic i (Shk.shekel_all i hi)
  exact ⟨h, h.minimiser hc⟩

/-- the optimum that the `Shekel(i)` object declares (metadata row `1000 + i`, read from the running class)
is exactly the `minShekel` table entry used above, and its box is `[0, 10]` -/
theorem C10_shekel_declared (i : Nat) (hi : i < 1000) :
    1000 + i < Gen.metaRowsPacked.size ∧
    (Gen.metaDecode Gen.metaRowsPacked[1000 + i]!).family = 1 ∧
    (Gen.metaDecode Gen.metaRowsPacked[1000 + i]!).arg0 = i ∧
    (Gen.metaDecode Gen.metaRowsPacked[1000 + i]!).optPoint = [Gen.shekelMinPoint i] ∧
    (Gen.metaDecode Gen.metaRowsPacked[1000 + i]!).optValue = Gen.shekelMinValue i ∧
    (Gen.metaDecode Gen.metaRowsPacked[1000 + i]!).lower = [dyZero] ∧
    (Gen.metaDecode Gen.metaRowsPacked[1000 + i]!).upper = [dy10] :=
  shekel_meta_row i hi

/-- non-vacuity: the certificate of function 0 is `true`, its declared minimum value is below -1.8 -/
example : Shk.shekelOK 0 = true ∧ (Gen.shekelMinValue 0).toRat < -18 / 10 :=
  ⟨Shk.shekel_all 0 (by norm_num), by decide +kernel⟩

/-! ### Shekel4 (3 functions on `[0,10]⁴`) -/

/-- **C10, Shekel4, generic theorem.** If the Boolean certificate `Shk4.shekel4OK n` (computed from
`Gen.shekel4Rows`, `Gen.shekel4MaxI` and the metadata row of `Shekel4(n)`) evaluates to `true`, then the
metadata table has a row of family 2 with argument `n`, and for `f = Prob.shekel4` with the first
`maxI[n-1]` coefficient rows, the declared value `v` and the declared point `p` of that row:
every `pⱼ ∈ [0,10]`; `|f p - v| ≤ 1e-4`; `f x ≥ v - 2e-3·max(1,|v|)` on the whole cube; every point of the
cube with `f x ≤ f p` is within `25/1024` of `p` in every coordinate. -/
theorem C10_shekel4_generic (n : Nat) (h : Shk4.shekel4OK n = true) :
    ∃ row ∈ Gen.metaRowsPacked.toList, (Gen.metaDecode row).family = 2 ∧ (Gen.metaDecode row).arg0 = n ∧
      Shk4.Shekel4C10 (Shk4.shekel4Fn n) (dyR (Gen.metaDecode row).optValue)
        ((Gen.metaDecode row).optPoint.map dyR) :=
  let ⟨row, h1, h2, h3, h4, _⟩ := Shk4.shekel4OK_sound n h
  ⟨row, h1, h2, h3, h4⟩

/-- **C10, Shekel4 1..3.** The three clauses hold for the three shipped functions; a global minimiser on
the cube exists; every global minimiser is within `25/1024` of the declared point in every coordinate, hence
(dimension 4) within Euclidean distance `0.05` = 0.5 % of the box side. -/
theorem C10_shekel4 (n : Nat) (hn : n = 1 ∨ n = 2 ∨ n = 3) :
    ∃ row ∈ Gen.metaRowsPacked.toList, (Gen.metaDecode row).family = 2 ∧ (Gen.metaDecode row).arg0 = n ∧
      Shk4.Shekel4C10 (Shk4.shekel4Fn n) (dyR (Gen.metaDecode row).optValue)
        ((Gen.metaDecode row).optPoint.map dyR) ∧
      (∃ xs : List ℝ, xs.length = (Gen.metaDecode row).optPoint.length ∧ (∀ xj ∈ xs, 0 ≤ xj ∧ xj ≤ 10) ∧
        ∀ x : List ℝ, x.length = (Gen.metaDecode row).optPoint.length → (∀ xj ∈ x, 0 ≤ xj ∧ xj ≤ 10) →
          Shk4.shekel4Fn n xs ≤ Shk4.shekel4Fn n x) ∧
      (∀ xs : List ℝ, xs.length = (Gen.metaDecode row).optPoint.length → (∀ xj ∈ xs, 0 ≤ xj ∧ xj ≤ 10) →
        (∀ x : List ℝ, x.length = (Gen.metaDecode row).optPoint.length → (∀ xj ∈ x, 0 ≤ xj ∧ xj ≤ 10) →
          Shk4.shekel4Fn n xs ≤ Shk4.shekel4Fn n x) →
        List.Forall₂ (fun pj xj => |xj - pj| < 25 / 1024) ((Gen.metaDecode row).optPoint.map dyR) xs ∧
        Shk4.sqd xs ((Gen.metaDecode row).optPoint.map dyR)
          ≤ (Gen.metaDecode row).optPoint.length * (25 / 1024 : ℝ) ^ 2) := by
  have hok : Shk4.shekel4OK n = true := by
    rcases hn with rfl | rfl | rfl
    · exact Shk4.shekel4_cert_1
    · exact Shk4.shekel4_cert_2
    · exact Shk4.shekel4_cert_3
  obtain ⟨row, h1, h2, h3, h4, hc⟩ := Shk4.shekel4OK_sound n hok
  have hmin := h4.minimiser (by simpa using hc ((Gen.metaDecode row).optPoint.map dyR).length)
  simp only [List.length_map] at hmin
  refine ⟨row, h1, h2, h3, h4, hmin.1, fun xs hl hx hm => ?_⟩
  have hclose := hmin.2 xs hl hx hm
  refine ⟨hclose, ?_⟩
  have := Shk4.sqd_le_of_close (25 / 1024) _ _ hclose
  simpa using this

/-- the declared point of `Shekel4(1)` is `(4,4,4,4)` and `4·(25/1024)² < 0.05²` -/
example : (∃ row ∈ Gen.metaRowsPacked.toList, (Gen.metaDecode row).family = 2 ∧ (Gen.metaDecode row).arg0 = 1) ∧
    (4 : ℝ) * (25 / 1024) ^ 2 < 0.05 ^ 2 := by
  refine ⟨?_, by norm_num⟩
  obtain ⟨row, h1, h2, h3, _⟩ := C10_shekel4_generic 1 Shk4.shekel4_cert_1
  exact ⟨row, h1, h2, h3⟩

end C10

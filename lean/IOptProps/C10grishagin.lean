import IOptProofs.GrishSound7
import IOptProofs.GrishCertAll
import IOptProofs.GrishSoundMeta
/-!
# C10 (Grishagin part) — the declared optimum of each of the 100 Grishagin functions is the true global optimum

`Grish.grishFn k` is the model function `Prob.grishagin` (`GrishaginFunction.Calculate`) over `ℝ` with the
coefficient tables `Gen.grishMat k 0..3` (`af, bf, cf, df`) regenerated from the running Python objects;
`Gen.grishOptPoint k`, `Gen.grishOptValue k` are the optimum point and value that the `Grishagin(k)` object declares
(`C10_grishagin_declared`).  For every `k ∈ 1..100`, on the box `[0,1]²`:

* (V) the function value at the declared point is the declared value within `1e-4`;
* (G) no point of the box has a value below the declared value minus `2e-3·max(1,|v|)`;
* (P) a global minimiser exists, and every global minimiser is within `0.005` (0.5 % of the box side) of the
  declared point in both coordinates.

The proof is a kernel-evaluated certificate per function (`Grish.grishOK k`, adaptive bisection of the box with
first-order mean-value leaf tests in exact integer arithmetic, files `GrishCert0..9`) together with the soundness
theorem of the checker over `ℝ` (`Grish.grishOK_sound`, files `GrishSound1..7`).
No exception: all three clauses hold for all 100 functions with the tolerances above.
-/

namespace Grish

def InBox (x y : ℝ) : Prop := 0 ≤ x ∧ x ≤ 1 ∧ 0 ≤ y ∧ y ≤ 1

def IsGlobalMin (f : ℝ → ℝ → ℝ) (x y : ℝ) : Prop := InBox x y ∧ ∀ x' y', InBox x' y' → f x y ≤ f x' y'

/-- **C10 (Grishagin).** For `k ∈ 1..100` let `f = grishFn k` (the model of `GrishaginFunction(k).Calculate` over `ℝ`),
`(p0, p1)` the declared optimum point and `v` the declared optimum value.  Then `v < 0`, the declared point lies in
the box, and
(V) `|f(p) - v| ≤ 1e-4`;
(G) `f ≥ v - 2e-3·max(1,|v|)` on the box;
(P) `f` has a global minimiser on the box, and every global minimiser `(x, y)` satisfies
    `|x - p0| ≤ 0.005` and `|y - p1| ≤ 0.005`. -/
theorem C10_grishagin (k : ℕ) (h1 : 1 ≤ k) (h100 : k ≤ 100) :
    ∃ p0 p1 : Dy, Gen.grishOptPoint k = [p0, p1] ∧
      dyR (Gen.grishOptValue k) < 0 ∧ InBox (dyR p0) (dyR p1) ∧
      |grishFn k (dyR p0) (dyR p1) - dyR (Gen.grishOptValue k)| ≤ 1e-4 ∧
      (∀ x y, InBox x y →
        dyR (Gen.grishOptValue k) - 2e-3 * max 1 |dyR (Gen.grishOptValue k)| ≤ grishFn k x y) ∧
      (∃ x y, IsGlobalMin (grishFn k) x y) ∧
      (∀ x y, IsGlobalMin (grishFn k) x y → |x - dyR p0| ≤ 0.005 ∧ |y - dyR p1| ≤ 0.005) := by
  obtain ⟨p0, p1, hp, hc⟩ := grishOK_sound (grish_all k h1 h100)
  refine ⟨p0, p1, hp, hc.vneg, hc.box, ?_, ?_, ?_, ?_⟩
  · have := hc.V; norm_num at this ⊢; exact this
  · intro x y ⟨a, b, c, d⟩
    have := hc.G x y a b c d; norm_num at this ⊢; exact this
  · obtain ⟨x, y, hb, hmin⟩ := hc.Pex
    exact ⟨x, y, hb, fun x' y' ⟨a, b, c, d⟩ => hmin x' y' a b c d⟩
  · intro x y ⟨⟨a, b, c, d⟩, hmin⟩
    have := hc.Pall x y a b c d (fun x' y' a' b' c' d' => hmin x' y' ⟨a', b', c', d'⟩)
    norm_num at this ⊢; exact this

/-- **C10 (Grishagin), the declared optimum.** For `k ∈ 1..100` the metadata table (read from the running
`Grishagin(k)` object: `knownOptimum`, bounds, dimension) has a row of family code 3 (Grishagin) with argument `k`,
and every such row declares the optimum point `Gen.grishOptPoint k`, the optimum value `Gen.grishOptValue k`,
dimension 2 and the box `[0,1]²`. -/
theorem C10_grishagin_declared (k : ℕ) (h1 : 1 ≤ k) (h100 : k ≤ 100) :
    (∃ i, i < Gen.metaRowsPacked.size ∧ (Gen.metaDecode Gen.metaRowsPacked[i]!).family = 3 ∧
      (Gen.metaDecode Gen.metaRowsPacked[i]!).arg0 = k) ∧
    ∀ i, i < Gen.metaRowsPacked.size → (Gen.metaDecode Gen.metaRowsPacked[i]!).family = 3 →
      (Gen.metaDecode Gen.metaRowsPacked[i]!).arg0 = k →
      (Gen.metaDecode Gen.metaRowsPacked[i]!).optPoint = Gen.grishOptPoint k ∧
      (Gen.metaDecode Gen.metaRowsPacked[i]!).optValue = Gen.grishOptValue k ∧
      (Gen.metaDecode Gen.metaRowsPacked[i]!).dimension = 2 ∧
      (Gen.metaDecode Gen.metaRowsPacked[i]!).lower = [BenchMeta.dyZero, BenchMeta.dyZero] ∧
      (Gen.metaDecode Gen.metaRowsPacked[i]!).upper = [BenchMeta.dyOne, BenchMeta.dyOne] :=
  ⟨BenchMeta.grish_meta_exists k h1 h100, fun i hi hf ha => (BenchMeta.grish_meta_rows k i hi hf ha).2.2⟩

/-- the bounds of the declared box are the doubles `0.0` and `1.0` -/
example : dyR BenchMeta.dyZero = 0 ∧ dyR BenchMeta.dyOne = 1 :=
  ⟨dyR_eq_zero (by decide +kernel), by simpa using dyR_of_toRat (by decide +kernel : BenchMeta.dyOne.toRat = 1)⟩

/-- non-vacuity: the hypotheses hold e.g. for `k = 70`, the box is not empty and the function does have a global
minimiser there, which is then within `0.005` of the declared point -/
example : ∃ p0 p1 : Dy, Gen.grishOptPoint 70 = [p0, p1] ∧
    ∃ x y, IsGlobalMin (grishFn 70) x y ∧ |x - dyR p0| ≤ 0.005 ∧ |y - dyR p1| ≤ 0.005 := by
  obtain ⟨p0, p1, hp, _, _, _, _, ⟨x, y, hm⟩, hall⟩ := C10_grishagin 70 (by norm_num) (by norm_num)
  exact ⟨p0, p1, hp, x, y, hm, hall x y hm⟩

example : InBox (1 / 2) (1 / 3) := by unfold InBox; norm_num

end Grish

import IOptProofs.ProcessResume
import IOptProps.C03total
/-!
# C03 / C11 — resumed searches: `Solve` after the parameters object was changed in place

In the Python code `SolverParameters` is one mutable object shared by `Solver`, `Method` and `Process`, and
`Method.CheckStopCondition` reads `parameters.eps` and `parameters.itersLimit` live.  So a finished search can
be resumed: `Solve()`; `solver.parameters.itersLimit = L2` and/or `solver.parameters.eps = E2`; `Solve()` again.

In the model every operation takes the parameters as an argument, so the resumed run is
`solve p2 f refine (solve p1 f refine1 {})` where `p2` agrees with `p1` in `n`, `r` and the evolvent
(`AGP.SameMethod p1 p2`).  Local refinements may be configured in either phase: a refinement overwrites the point and
the value holder of the reported trial (after which the method state is no longer a state of the canonical sequence), but
the global search never reads these (`C11_resume_refinement_irrelevant`), so every statement about trials, records,
counters, accuracy and the stop status holds with or without them.

The statements about a resumed run (`C03_resume`, `C03_resume_accuracy`, `C11_resume_same_sequence`, `C03_resume_tighten`,
`C03_resume_raise_budget`, `C03_resume_many`) come in two forms: `…_generic` over any numeric type with a linear order, with "neither `Solve`
catches an exception" as hypotheses (so that it can be instantiated on executable runs over ℚ), and the headline
form over an ordered field with the laws of the library functions (`FnsLaws`), `1 < r`, `0 < n` and a total
objective, where those hypotheses are discharged.  Each generic proof applies `Proc.solve_along` (one more `Solve` from
a state along the canonical sequence) once per `Solve` call and reads the counters off `Proc.along_fields`.  Statements are written as
`∀ S1 S, S1 = solve p1 … {} → S = solve p2 … S1 → …` to keep them readable (instantiate with `_ _ rfl rfl`).
-/
set_option linter.unusedSectionVars false

namespace C03
open AGP AGP.Ctl Proc

/-- `StopsAt p f eps L K`, spelled out: `CheckStopCondition` with accuracy `eps` and budget `L`, read on the
trial sequence of `p` after `K` trials (`δ_k = delta p f k` is the Hölder length of the interval subdivided by
trial `k ≥ 2`). -/
theorem stopsAt_iff {α : Type} [Add α] [Sub α] [Mul α] [Div α] [Neg α] [LT α] [LE α]
    [DecidableLT α] [DecidableLE α] [OfNat α 0] [OfNat α 1] [OfNat α 2] [OfNat α 4] [Fns α]
    (p : Params α) (f : Nat → List α → Option α) (eps : α) (L K : Nat) :
    StopsAt p f eps L K ↔ (L ≤ K ∨ ∃ k d, k ≤ K ∧ delta p f k = some d ∧ d < eps) := Iff.rfl

/-- **The trial sequence does not depend on `eps` / `itersLimit`.**  For two parameter objects that agree in
`n`, `r` and the evolvent: one pass of `DoGlobalIteration` (selection `prepare`, evaluation, `commit`) gives the
same result, hence the canonical sequences, the selected lengths `δ_k`, the set of reachable method states and
the invariant `AGP.Inv` coincide. -/
theorem C03_sequence_independent_of_stop_parameters {α : Type} [Field α] [LinearOrder α] [IsStrictOrderedRing α]
    [Fns α] (p1 p2 : Params α) (hs : SameMethod p1 p2) (f : Nat → List α → Option α) :
    (∀ s, prepare p2 s = prepare p1 s) ∧ (∀ pr z, commit p2 pr z = commit p1 pr z) ∧
    (∀ z, firstIteration p2 z = firstIteration p1 z) ∧
    (∀ ps, oneIteration p2 f ps = oneIteration p1 f ps) ∧
    (∀ k ps, iterN p2 f k ps = iterN p1 f k ps) ∧
    (∀ k, delta p2 f k = delta p1 f k) ∧
    (∀ s log, Reach p2 s log ↔ Reach p1 s log) ∧ (∀ s, Inv p2 s ↔ Inv p1 s) := by
  refine ⟨?_, ?_, ?_, oneIteration_sameMethod hs f, iterN_sameMethod hs f, delta_sameMethod hs f,
    fun s log => Reach_sameMethod hs, fun s => Inv_sameMethod hs⟩
  · intro s; rw [hs.eq_update]; rfl
  · intro pr z; rw [hs.eq_update]; rfl
  · intro z; rw [hs.eq_update]; rfl

section linear
variable {α : Type} [Add α] [Sub α] [Mul α] [Div α] [Neg α] [LinearOrder α]
  [OfNat α 0] [OfNat α 1] [OfNat α 2] [OfNat α 4] [Fns α]

/-- **C03 for a resumed search (any ordered numeric type; "nothing raises" as hypotheses).**
The conclusion of `C03_resume` below (which adds that neither call catches an exception). -/
theorem C03_resume_generic (p1 p2 : Params α) (f : Nat → List α → Option α)
    (refine1 refine : PState α → Option (LocalResult α)) (hs : SameMethod p1 p2)
    (hnr1 : (solveLoop p1 f (p1.itersLimit + 1) {}).2 = false)
    (hnr2 : (solveLoop p2 f (p2.itersLimit + 1) (solve p1 f refine1 {})).2 = false) :
    ∀ S1 S : PState α, S1 = solve p1 f refine1 {} → S = solve p2 f refine S1 →
    ∃ K1 K2, S1.nTrials = K1 ∧ S.nTrials = K2 ∧ K1 ≤ K2 ∧ stopNow p2 S = true ∧
      StopsAt p1 f p2.eps p2.itersLimit K2 ∧
      (∀ K, K1 ≤ K → K < K2 → ¬ StopsAt p1 f p2.eps p2.itersLimit K) ∧
      (K2 = K1 ↔ StopsAt p1 f p2.eps p2.itersLimit K1) ∧
      (K2 = K1 ↔ stopNow p2 S1 = true) ∧
      (K2 = K1 → S = (refineStep refine S1).appendLog [Event.methodStop true]) ∧
      (∀ k, 2 ≤ k → k ≤ K2 → ∃ d, delta p1 f k = some d) ∧
      (S.evals.length = K2 ∧ S.iters = K2 ∧ S.calls = K2 ∧
        ∀ i pt z, S.evals[i]? = some (pt, z) → f i pt = some z) ∧
      K2 ≤ max p1.itersLimit p2.itersLimit := by
  rintro S1 S rfl rfl
  obtain ⟨K1, S1, a1⟩ := solve_along (SameMethod.refl p1) (along_fresh p1 f) hnr1 refine1
  obtain ⟨K2, S2, a2⟩ := solve_along hs a1 hnr2 refine
  obtain ⟨ps2, ids2, hrun2, hc2⟩ := id a2
  have F2 := along_fields hrun2 hc2
  have heq : K2 = K1 ↔ StopsAt p1 f p2.eps p2.itersLimit K1 := by
    constructor
    · intro h; rw [← h]; exact S2.stops
    · intro h
      rcases Nat.eq_or_lt_of_le S2.le with e | hlt
      · exact e.symm
      · exact absurd h (S2.first K1 (Nat.le_refl _) hlt)
  refine ⟨K1, K2, a1.nTrials, F2.nTrials, S2.le, (a2.stopNow_iff hs).2 S2.stops, S2.stops, S2.first, heq,
    heq.trans (a1.stopNow_iff hs).symm, ?_, delta_defined_of_run hrun2, ⟨F2.length, F2.iters, F2.calls, F2.oracle⟩, ?_⟩
  · intro h
    have hst : stopNow p2 (solve p1 f refine1 {}) = true := (a1.stopNow_iff hs).2 (heq.1 h)
    rw [solve_of_loop (f := f) (refine := refine) (solveLoop_of_stop _ hst), hst]
  · rcases Nat.eq_or_lt_of_le S2.le with e | hlt
    · -- the first phase stops at the latest when its budget is used up
      rw [← e]
      refine Nat.le_trans (Nat.le_of_not_lt fun h => ?_) (Nat.le_max_left _ _)
      exact S1.first _ (Nat.zero_le _) h (.inl (Nat.le_refl _))
    · have hns := S2.first (K2 - 1) (by omega) (by omega)
      have : ¬ p2.itersLimit ≤ K2 - 1 := fun h => hns (.inl h)
      exact Nat.le_trans (by omega) (Nat.le_max_right _ _)

/-- **C03, accuracy after a resumed search (any ordered numeric type; "nothing raises" as hypotheses).**
Same statement as `C03_resume_accuracy` below. -/
theorem C03_resume_accuracy_generic (p1 p2 : Params α) (f : Nat → List α → Option α)
    (refine1 refine : PState α → Option (LocalResult α)) (hs : SameMethod p1 p2)
    (hnr1 : (solveLoop p1 f (p1.itersLimit + 1) {}).2 = false)
    (hnr2 : (solveLoop p2 f (p2.itersLimit + 1) (solve p1 f refine1 {})).2 = false) :
    ∀ S1 S : PState α, S1 = solve p1 f refine1 {} → S = solve p2 f refine S1 →
    S.minDelta = foldMin none (deltas p1 f {} S.nTrials) ∧
    (∀ d, d ∈ deltas p1 f {} S.nTrials ↔ ∃ k, 2 ≤ k ∧ k ≤ S.nTrials ∧ delta p1 f k = some d) ∧
    (S.nTrials ≤ 1 → S.minDelta = none) ∧
    (2 ≤ S.nTrials → ∃ m, S.minDelta = some m ∧
      (∃ k, 2 ≤ k ∧ k ≤ S.nTrials ∧ delta p1 f k = some m) ∧
      ∀ k d, 2 ≤ k → k ≤ S.nTrials → delta p1 f k = some d → m ≤ d) ∧
    (∀ a, S1.minDelta = some a → ∃ m, S.minDelta = some m ∧ m ≤ a) := by
  rintro S1 S rfl rfl
  obtain ⟨K1, -, ps1, ids1, hrun1, hc1⟩ := solve_along (SameMethod.refl p1) (along_fresh p1 f) hnr1 refine1
  obtain ⟨K2, S2, ps2, ids2, hrun2, hc2⟩ := solve_along hs ⟨ps1, ids1, hrun1, hc1⟩ hnr2 refine
  have h12 := S2.le
  have F2 := along_fields hrun2 hc2
  obtain ⟨a1, a2⟩ := foldMin_deltas_spec hrun2
  obtain ⟨b1, b2⟩ := foldMin_deltas_spec hrun1
  rw [F2.nTrials, F2.minDelta, (along_fields hrun1 hc1).minDelta]
  refine ⟨rfl, fun d => mem_deltas_fresh, a1, a2, ?_⟩
  intro a ha
  have hK1 : 2 ≤ K1 := by
    rcases Nat.lt_or_ge K1 2 with h | h
    · rw [b1 (by omega)] at ha; cases ha
    · exact h
  obtain ⟨m', hm', ⟨k, hk2, hk, hd⟩, -⟩ := b2 hK1
  rw [ha] at hm'; cases hm'
  obtain ⟨m, hm, -, hle⟩ := a2 (by omega)
  exact ⟨m, hm, hle k a hk2 (by omega) hd⟩

/-- **C11 for a resumed search (any ordered numeric type; "nothing raises" as hypotheses).**
Same statement as `C11_resume_same_sequence` below. -/
theorem C11_resume_same_sequence_generic (p1 p2 : Params α) (f : Nat → List α → Option α)
    (refine1 refine refineU : PState α → Option (LocalResult α)) (hs : SameMethod p1 p2)
    (hnr1 : (solveLoop p1 f (p1.itersLimit + 1) {}).2 = false)
    (hnr2 : (solveLoop p2 f (p2.itersLimit + 1) (solve p1 f refine1 {})).2 = false)
    (hnrU : (solveLoop p2 f (p2.itersLimit + 1) {}).2 = false) :
    ∀ S1 S U : PState α, S1 = solve p1 f refine1 {} → S = solve p2 f refine S1 →
      U = solve p2 f refineU {} →
    S1.evals <+: S.evals ∧ U.evals <+: S.evals ∧ S.nTrials = max S1.nTrials U.nTrials ∧
    (S1.nTrials ≤ U.nTrials →
      S.evals = U.evals ∧ S.nTrials = U.nTrials ∧ S.calls = U.calls ∧ S.iters = U.iters ∧
      S.minDelta = U.minDelta ∧ S.forget.core = U.forget.core ∧
      (solve p2 f (fun _ => none) (solve p1 f (fun _ => none) {})).core = (solve p2 f (fun _ => none) {}).core) ∧
    (U.nTrials ≤ S1.nTrials → S.evals = S1.evals ∧ S.nTrials = S1.nTrials) := by
  rintro S1 S U rfl rfl rfl
  obtain ⟨K1, -, a1⟩ := solve_along (SameMethod.refl p1) (along_fresh p1 f) hnr1 refine1
  obtain ⟨K2, S2, a2⟩ := solve_along hs a1 hnr2 refine
  obtain ⟨Ku, SU, aU⟩ := solve_along hs (along_fresh p1 f) hnrU refineU
  have hmax := resume_max S2 SU
  rw [a1.nTrials, a2.nTrials, aU.nTrials]
  refine ⟨a1.evals_prefix S2.le a2, aU.evals_prefix (by rw [hmax]; exact Nat.le_max_right _ _) a2, hmax, ?_, ?_⟩
  · intro hle
    have hK : K2 = Ku := by rw [hmax]; exact Nat.max_eq_right hle
    subst hK
    obtain ⟨hFC, e1, e2, e4, e5⟩ := a2.same aU
    refine ⟨e1, rfl, e2, e4, e5, hFC, resume_core_exact hs hnr1 ?_ hnrU ?_⟩
    · rw [(solveLoop_forget_congr p2 f _ (solve_fresh_forget p1 f (fun _ => none) refine1)).2]; exact hnr2
    · rw [solve_nTrials_any_refine p1 f _ refine1, solve_nTrials_any_refine p2 f _ refineU, a1.nTrials, aU.nTrials]
      exact hle
  · intro hle
    have hK : K2 = K1 := by rw [hmax]; exact Nat.max_eq_left hle
    subst hK
    exact ⟨(a2.same a1).2.1, rfl⟩

/-- **C03, tightening the criterion and resuming = one uninterrupted run (any ordered numeric type; "nothing
raises" as hypotheses).**  Same statement as `C03_resume_tighten` below. -/
theorem C03_resume_tighten_generic (p1 p2 : Params α) (f : Nat → List α → Option α)
    (refine1 refine refineU : PState α → Option (LocalResult α)) (hs : SameMethod p1 p2)
    (heps : p2.eps ≤ p1.eps) (hlim : p1.itersLimit ≤ p2.itersLimit)
    (hnr1 : (solveLoop p1 f (p1.itersLimit + 1) {}).2 = false)
    (hnr2 : (solveLoop p2 f (p2.itersLimit + 1) (solve p1 f refine1 {})).2 = false)
    (hnrU : (solveLoop p2 f (p2.itersLimit + 1) {}).2 = false) :
    ∀ S1 S U : PState α, S1 = solve p1 f refine1 {} → S = solve p2 f refine S1 →
      U = solve p2 f refineU {} →
    S1.nTrials ≤ U.nTrials ∧ S.evals = U.evals ∧ S.nTrials = U.nTrials ∧ S.calls = U.calls ∧
    S.iters = U.iters ∧ S.minDelta = U.minDelta ∧ S.forget.core = U.forget.core ∧
    (solve p2 f (fun _ => none) (solve p1 f (fun _ => none) {})).core = (solve p2 f (fun _ => none) {}).core := by
  intro S1 S U h1 h2 h3
  have hle : S1.nTrials ≤ U.nTrials := by
    subst h1; subst h3
    obtain ⟨K1, S1, a1⟩ := solve_along (SameMethod.refl p1) (along_fresh p1 f) hnr1 refine1
    obtain ⟨Ku, SU, aU⟩ := solve_along hs (along_fresh p1 f) hnrU refineU
    rw [a1.nTrials, aU.nTrials]
    exact Nat.le_of_not_lt fun h => S1.first _ (Nat.zero_le _) h (SU.stops.weaken heps hlim)
  obtain ⟨-, -, -, h4, -⟩ :=
    C11_resume_same_sequence_generic p1 p2 f refine1 refine refineU hs hnr1 hnr2 hnrU S1 S U h1 h2 h3
  exact ⟨hle, h4 hle⟩

/-- **C03, raising the budget and resuming = one uninterrupted run with the larger budget (any ordered numeric
type; "nothing raises" as hypotheses).**  Same statement as `C03_resume_raise_budget` below. -/
theorem C03_resume_raise_budget_generic (p : Params α) (L2 : Nat) (f : Nat → List α → Option α)
    (refine1 refine refineU : PState α → Option (LocalResult α)) (hlim : p.itersLimit ≤ L2)
    (hnr1 : (solveLoop p f (p.itersLimit + 1) {}).2 = false)
    (hnr2 : (solveLoop { p with itersLimit := L2 } f (L2 + 1) (solve p f refine1 {})).2 = false)
    (hnrU : (solveLoop { p with itersLimit := L2 } f (L2 + 1) {}).2 = false) :
    ∀ S1 S U : PState α, S1 = solve p f refine1 {} → S = solve { p with itersLimit := L2 } f refine S1 →
      U = solve { p with itersLimit := L2 } f refineU {} →
    (S.evals = U.evals ∧ S.nTrials = U.nTrials ∧ S.calls = U.calls ∧ S.iters = U.iters ∧
      S.minDelta = U.minDelta ∧ S.forget.core = U.forget.core ∧
      (solve { p with itersLimit := L2 } f (fun _ => none) (solve p f (fun _ => none) {})).core =
        (solve { p with itersLimit := L2 } f (fun _ => none) {}).core) ∧
    (S1.nTrials < L2 → (¬ ∃ k d, k ≤ S1.nTrials ∧ delta p f k = some d ∧ d < p.eps) →
      S1.nTrials < S.nTrials) := by
  intro S1 S U h1 h2 h3
  have hs : SameMethod p { p with itersLimit := L2 } := ⟨rfl, rfl, rfl⟩
  obtain ⟨-, t⟩ := C03_resume_tighten_generic p { p with itersLimit := L2 } f refine1 refine refineU hs (le_refl _) hlim
    hnr1 hnr2 hnrU S1 S U h1 h2 h3
  refine ⟨t, ?_⟩
  obtain ⟨K1, K2, hK1, hK2, h12, -, -, -, heq, -⟩ :=
    C03_resume_generic p { p with itersLimit := L2 } f refine1 refine hs hnr1 hnr2 S1 S h1 h2
  intro hlt hno
  rw [hK1] at hlt hno
  rw [hK1, hK2]
  rcases Nat.eq_or_lt_of_le h12 with e | h
  · rcases heq.1 e.symm with hb | hd
    · exact absurd hb (by show ¬ L2 ≤ K1; omega)
    · exact absurd hd hno
  · exact h

end linear

section field
variable {α : Type} [Field α] [LinearOrder α] [IsStrictOrderedRing α] [Fns α]

/-- **C03 for a resumed search.**  Setting: ordered field with the laws of the library functions, `1 < r`,
`0 < n`, total objective; `p2` agrees with `p1` in `n`, `r` and the evolvent (`eps` and `itersLimit` may have been
changed in place).  `S1` is the solver after `Solve` with `p1` (with or without local refinement), `S` after a
further `Solve` with `p2`.
1. Neither call catches an exception.
2. With `K1`, `K2` the numbers of trials after the first and after the second call: `K1 ≤ K2`; the NEW criterion
   holds in the final state and (read on the trial sequence, `StopsAt`: `itersLimit₂ ≤ K ∨ ∃ k ≤ K, δ_k < eps₂`) at
   `K2`, and at no `K` with `K1 ≤ K < K2` — never earlier, never later.
3. `K2 = K1` iff the new criterion already held after the first phase (in both readings); then the second call
   does nothing but the optional refinement and the `OnMethodStop(True)` notification.
4. Every trial `2 ≤ k ≤ K2` subdivided an interval (`δ_k` defined).
5. `numberOfGlobalTrials = iterationsCount =` number of records `=` number of calls of the objective, every
   record is the value the objective returned at the call with that index, and `K2 ≤ max itersLimit₁ itersLimit₂`. -/
theorem C03_resume (p1 p2 : Params α) (f : Nat → List α → Option α)
    (refine1 refine : PState α → Option (LocalResult α)) (hL : FnsLaws α) (hr : 1 < p1.r) (hn : 0 < p1.n)
    (htot : ∀ k pt, (f k pt).isSome = true) (hs : SameMethod p1 p2) :
    ((solveLoop p1 f (p1.itersLimit + 1) {}).2 = false ∧
      (solveLoop p2 f (p2.itersLimit + 1) (solve p1 f refine1 {})).2 = false) ∧
    ∀ S1 S : PState α, S1 = solve p1 f refine1 {} → S = solve p2 f refine S1 →
    ∃ K1 K2, S1.nTrials = K1 ∧ S.nTrials = K2 ∧ K1 ≤ K2 ∧ stopNow p2 S = true ∧
      StopsAt p1 f p2.eps p2.itersLimit K2 ∧
      (∀ K, K1 ≤ K → K < K2 → ¬ StopsAt p1 f p2.eps p2.itersLimit K) ∧
      (K2 = K1 ↔ StopsAt p1 f p2.eps p2.itersLimit K1) ∧
      (K2 = K1 ↔ stopNow p2 S1 = true) ∧
      (K2 = K1 → S = (refineStep refine S1).appendLog [Event.methodStop true]) ∧
      (∀ k, 2 ≤ k → k ≤ K2 → ∃ d, delta p1 f k = some d) ∧
      (S.evals.length = K2 ∧ S.iters = K2 ∧ S.calls = K2 ∧
        ∀ i pt z, S.evals[i]? = some (pt, z) → f i pt = some z) ∧
      K2 ≤ max p1.itersLimit p2.itersLimit := by
  obtain ⟨h1, h2, -⟩ := resume_no_raise hL hr hn (ne_none_of_total htot) hs refine1
  exact ⟨⟨h1, h2⟩, C03_resume_generic p1 p2 f refine1 refine hs h1 h2⟩

/-- **C03, accuracy after a resumed search.**  (Setting of `C03_resume`.)  The reported accuracy
(`solution.solutionAccuracy = min_delta`) after the resumed run is the running Python-`min` over the Hölder lengths
`δ_2 … δ_K2` of ALL intervals subdivided in either phase (`K2 = S.nTrials`; `deltas p1 f {} K2` is exactly that
list): `inf` (`none`) if `K2 ≤ 1`, otherwise one of them and `≤` each of them.  In particular it is never larger
than the accuracy reported after the first phase. -/
theorem C03_resume_accuracy (p1 p2 : Params α) (f : Nat → List α → Option α)
    (refine1 refine : PState α → Option (LocalResult α)) (hL : FnsLaws α) (hr : 1 < p1.r) (hn : 0 < p1.n)
    (htot : ∀ k pt, (f k pt).isSome = true) (hs : SameMethod p1 p2) :
    ∀ S1 S : PState α, S1 = solve p1 f refine1 {} → S = solve p2 f refine S1 →
    S.minDelta = foldMin none (deltas p1 f {} S.nTrials) ∧
    (∀ d, d ∈ deltas p1 f {} S.nTrials ↔ ∃ k, 2 ≤ k ∧ k ≤ S.nTrials ∧ delta p1 f k = some d) ∧
    (S.nTrials ≤ 1 → S.minDelta = none) ∧
    (2 ≤ S.nTrials → ∃ m, S.minDelta = some m ∧
      (∃ k, 2 ≤ k ∧ k ≤ S.nTrials ∧ delta p1 f k = some m) ∧
      ∀ k d, 2 ≤ k → k ≤ S.nTrials → delta p1 f k = some d → m ≤ d) ∧
    (∀ a, S1.minDelta = some a → ∃ m, S.minDelta = some m ∧ m ≤ a) := by
  obtain ⟨h1, h2, -⟩ := resume_no_raise hL hr hn (ne_none_of_total htot) hs refine1
  exact C03_resume_accuracy_generic p1 p2 f refine1 refine hs h1 h2

end field

end C03

namespace C11
open AGP AGP.Ctl Proc C03
variable {α : Type} [Field α] [LinearOrder α] [IsStrictOrderedRing α] [Fns α]

/-- **C11 for a resumed search: resuming does not change the trials.**  (Setting of `C03_resume`.)  `S1`: after
`Solve` with `p1`; `S`: after a further `Solve` with `p2`; `U`: ONE uninterrupted `Solve` with `p2` on a fresh
solver (any local refinements configured).
1. The record of evaluations of `S` extends that of `S1`, and that of `U` (both are prefixes).
2. `S` has made exactly `max K1 Ku` trials (`K1`, `Ku` the numbers of trials of `S1`, `U`).
3. If the uninterrupted run makes at least `K1` trials, the resumed run IS the uninterrupted run: same
   evaluation sequence, same counters, same accuracy; the two solvers are equal in everything but the event log
   and what a local refinement overwrites (`forget`: point and value holder of the stored trials,
   `numberOfLocalTrials`; `core`: without the log), and literally equal up to the event log when no refinement is
   configured (method state incl. search information and queue, records, counters).
4. Otherwise (`Ku ≤ K1`) the second call makes no trial. -/
theorem C11_resume_same_sequence (p1 p2 : Params α) (f : Nat → List α → Option α)
    (refine1 refine refineU : PState α → Option (LocalResult α)) (hL : FnsLaws α) (hr : 1 < p1.r) (hn : 0 < p1.n)
    (htot : ∀ k pt, (f k pt).isSome = true) (hs : SameMethod p1 p2) :
    ∀ S1 S U : PState α, S1 = solve p1 f refine1 {} → S = solve p2 f refine S1 →
      U = solve p2 f refineU {} →
    S1.evals <+: S.evals ∧ U.evals <+: S.evals ∧ S.nTrials = max S1.nTrials U.nTrials ∧
    (S1.nTrials ≤ U.nTrials →
      S.evals = U.evals ∧ S.nTrials = U.nTrials ∧ S.calls = U.calls ∧ S.iters = U.iters ∧
      S.minDelta = U.minDelta ∧ S.forget.core = U.forget.core ∧
      (solve p2 f (fun _ => none) (solve p1 f (fun _ => none) {})).core = (solve p2 f (fun _ => none) {}).core) ∧
    (U.nTrials ≤ S1.nTrials → S.evals = S1.evals ∧ S.nTrials = S1.nTrials) := by
  obtain ⟨h1, h2, h3⟩ := resume_no_raise hL hr hn (ne_none_of_total htot) hs refine1
  exact C11_resume_same_sequence_generic p1 p2 f refine1 refine refineU hs h1 h2 h3

/-- **C11, the global search never reads what a local refinement overwrites** (any numeric type, any objective,
raising or not, any parameters).  Two consecutive `Solve` calls with the refinements `refine1`, `refine` configured
give the same result as with `refine1'`, `refine'`, up to the point and the value holder of the stored trials,
`numberOfLocalTrials` and the mark `__refinedTrial` of the trial refined last (`PState.forget`; these are exactly what
`DoLocalRefinement` writes and what only `GetResults` reads); in particular the same evaluations, calls, event log, trial and iteration
counters, accuracy and stop status. -/
theorem C11_resume_refinement_irrelevant {α : Type} [Add α] [Sub α] [Mul α] [Div α] [Neg α] [LT α] [LE α]
    [DecidableLT α] [DecidableLE α] [OfNat α 0] [OfNat α 1] [OfNat α 2] [OfNat α 4] [Fns α]
    (p1 p2 : Params α) (f : Nat → List α → Option α)
    (refine1 refine1' refine refine' : PState α → Option (LocalResult α)) :
    ∀ S S' : PState α, S = solve p2 f refine (solve p1 f refine1 {}) →
      S' = solve p2 f refine' (solve p1 f refine1' {}) →
    S.forget = S'.forget ∧ S.evals = S'.evals ∧ S.calls = S'.calls ∧ S.log = S'.log ∧ S.nTrials = S'.nTrials ∧
    S.iters = S'.iters ∧ S.minDelta = S'.minDelta ∧ ∀ q : Params α, stopNow q S = stopNow q S' := by
  rintro S S' rfl rfl
  have h := solve_forget_congr p2 f refine refine' (solve_fresh_forget p1 f refine1 refine1')
  exact ⟨h, fields_of_forget h⟩

end C11

namespace C03
open AGP AGP.Ctl Proc
variable {α : Type} [Field α] [LinearOrder α] [IsStrictOrderedRing α] [Fns α]

/-- **C03, resuming with unchanged parameters makes no further trial** (restatement of
`C11.C11_solve_idempotent_total`): the second `Solve` is exactly the optional refinement step plus one
`OnMethodStop(True)`; records, calls and trials are unchanged. -/
theorem C03_resume_unchanged (p : Params α) (f : Nat → List α → Option α)
    (refine1 refine : PState α → Option (LocalResult α)) (hL : FnsLaws α) (hr : 1 < p.r) (hn : 0 < p.n)
    (htot : ∀ k pt, (f k pt).isSome = true) :
    ∀ S1 S : PState α, S1 = solve p f refine1 {} → S = solve p f refine S1 →
    S = (refineStep refine S1).appendLog [Event.methodStop true] ∧
    S.evals = S1.evals ∧ S.calls = S1.calls ∧ S.nTrials = S1.nTrials := by
  rintro S1 S rfl rfl
  obtain ⟨-, h2, h3, h4, h5⟩ := C11.C11_solve_idempotent_total p f refine1 refine hL hr hn htot
  exact ⟨h2, h3, h4, h5⟩

/-- **C03, tightening the criterion and resuming = one uninterrupted run.**  (Setting of `C03_resume`.)  If the
second parameters are at least as demanding as the first (`eps₂ ≤ eps₁` and `itersLimit₁ ≤ itersLimit₂`), the
uninterrupted run `U` with `p2` makes at least as many trials as the first phase, and the resumed run `S` equals it:
same evaluation sequence, counters and accuracy, the same solver state up to the event log and what a local
refinement overwrites, and — without refinement — literally the same solver state up to the event log. -/
theorem C03_resume_tighten (p1 p2 : Params α) (f : Nat → List α → Option α)
    (refine1 refine refineU : PState α → Option (LocalResult α)) (hL : FnsLaws α) (hr : 1 < p1.r) (hn : 0 < p1.n)
    (htot : ∀ k pt, (f k pt).isSome = true) (hs : SameMethod p1 p2)
    (heps : p2.eps ≤ p1.eps) (hlim : p1.itersLimit ≤ p2.itersLimit) :
    ∀ S1 S U : PState α, S1 = solve p1 f refine1 {} → S = solve p2 f refine S1 →
      U = solve p2 f refineU {} →
    S1.nTrials ≤ U.nTrials ∧ S.evals = U.evals ∧ S.nTrials = U.nTrials ∧ S.calls = U.calls ∧
    S.iters = U.iters ∧ S.minDelta = U.minDelta ∧ S.forget.core = U.forget.core ∧
    (solve p2 f (fun _ => none) (solve p1 f (fun _ => none) {})).core = (solve p2 f (fun _ => none) {}).core := by
  obtain ⟨h1, h2, h3⟩ := resume_no_raise hL hr hn (ne_none_of_total htot) hs refine1
  exact C03_resume_tighten_generic p1 p2 f refine1 refine refineU hs heps hlim h1 h2 h3

/-- **C03, raising the budget and resuming = one uninterrupted run with the larger budget.**  (Setting of
`C03_resume`; `eps` unchanged, `itersLimit` raised in place from `p.itersLimit` to `L2 ≥ p.itersLimit`.)
1. The resumed run `S` equals the uninterrupted run `U` with budget `L2` (evaluation sequence, counters, accuracy,
   the solver state up to the event log and what a local refinement overwrites; without refinement the whole solver
   state up to the event log) — whether the first phase stopped on the budget or on the accuracy.
2. If the first phase stopped on the budget alone (`K1 < L2` trials made and no subdivided interval shorter than
   `eps` so far), the second call really continues: it makes at least one further trial. -/
theorem C03_resume_raise_budget (p : Params α) (L2 : Nat) (f : Nat → List α → Option α)
    (refine1 refine refineU : PState α → Option (LocalResult α)) (hL : FnsLaws α) (hr : 1 < p.r) (hn : 0 < p.n)
    (htot : ∀ k pt, (f k pt).isSome = true) (hlim : p.itersLimit ≤ L2) :
    ∀ S1 S U : PState α, S1 = solve p f refine1 {} → S = solve { p with itersLimit := L2 } f refine S1 →
      U = solve { p with itersLimit := L2 } f refineU {} →
    (S.evals = U.evals ∧ S.nTrials = U.nTrials ∧ S.calls = U.calls ∧ S.iters = U.iters ∧
      S.minDelta = U.minDelta ∧ S.forget.core = U.forget.core ∧
      (solve { p with itersLimit := L2 } f (fun _ => none) (solve p f (fun _ => none) {})).core =
        (solve { p with itersLimit := L2 } f (fun _ => none) {}).core) ∧
    (S1.nTrials < L2 → (¬ ∃ k d, k ≤ S1.nTrials ∧ delta p f k = some d ∧ d < p.eps) →
      S1.nTrials < S.nTrials) := by
  have hs : SameMethod p { p with itersLimit := L2 } := ⟨rfl, rfl, rfl⟩
  obtain ⟨h1, h2, h3⟩ := resume_no_raise hL hr hn (ne_none_of_total htot) hs refine1
  exact C03_resume_raise_budget_generic p L2 f refine1 refine refineU hlim h1 h2 h3

end C03

namespace C03
open AGP AGP.Ctl Proc

section linear
variable {α : Type} [Add α] [Sub α] [Mul α] [Div α] [Neg α] [LinearOrder α]
  [OfNat α 0] [OfNat α 1] [OfNat α 2] [OfNat α 4] [Fns α]

/-- **C03 / C11, any number of resumptions (any ordered numeric type; "nothing raises" as hypotheses).**
The conclusion of `C03_resume_many` below (which adds that no call catches an exception). -/
theorem C03_resume_many_generic (p : Params α) (f : Nat → List α → Option α)
    (qs : List (Params α × (PState α → Option (LocalResult α)))) (hs : ∀ x ∈ qs, SameMethod p x.1)
    (hnr : NoRaiseMany f qs {}) (hU : ∀ x ∈ qs, (solveLoop x.1 f (x.1.itersLimit + 1) {}).2 = false) :
    ∀ S : PState α, S = solveMany f qs {} →
    ∃ K psK ids, S.nTrials = K ∧
      K = (qs.map fun x => (solve x.1 f (fun _ => none) {}).nTrials).foldl max 0 ∧
      iterN p f K {} = .ok (psK, ids) ∧ S.evals = psK.evals ∧ S.forget.core = psK.forget.core ∧
      S.evals.length = K ∧ S.iters = K ∧ S.calls = K ∧
      S.minDelta = foldMin none (deltas p f {} K) ∧
      (∀ i pt z, S.evals[i]? = some (pt, z) → f i pt = some z) ∧
      (∀ x, qs.getLast? = some x → stopNow x.1 S = true) ∧
      (∀ x ∈ qs, ∀ r U, U = solve x.1 f r {} → U.nTrials ≤ K ∧ U.evals <+: S.evals ∧
        (U.nTrials = K → S.evals = U.evals ∧ S.forget.core = U.forget.core)) := by
  rintro S rfl
  obtain ⟨aS, hlast⟩ := solveMany_along (p := p) qs hs hU (along_fresh p f) hnr
  obtain ⟨psK, ids, hrun, hc⟩ := id aS
  have F := along_fields hrun hc
  refine ⟨_, psK, ids, F.nTrials, rfl, hrun, F.evals, hc, F.length, F.iters, F.calls, F.minDelta, F.oracle, hlast, ?_⟩
  rintro x hx r U rfl
  obtain ⟨Ku, -, aU⟩ := solve_along (hs x hx) (along_fresh p f) (hU x hx) r
  have hle : Ku ≤ (qs.map fun x => trialsAlone f x.1).foldl max 0 := by
    rw [← aU.nTrials, solve_nTrials_any_refine x.1 f r fun _ => none]
    exact (le_foldl_max _ 0).2 _ (List.mem_map.2 ⟨x, hx, rfl⟩)
  rw [aU.nTrials]
  refine ⟨hle, aU.evals_prefix hle aS, ?_⟩
  intro hK
  subst hK
  exact ⟨(aS.same aU).2.1, (aS.same aU).1⟩

end linear

section field
variable {α : Type} [Field α] [LinearOrder α] [IsStrictOrderedRing α] [Fns α]

/-- **C03 / C11, any number of resumptions.**  Setting of `C03_resume`; `qs` lists the parameter objects (each
agreeing with `p` in `n`, `r`, evolvent — i.e. `eps` / `itersLimit` changed in place any number of times) together
with the refinement configured for each call; `S = solveMany f qs {}` is the solver after `Solve` with each of them
in turn, starting fresh.
1. No call catches an exception.
2. `S` has made exactly `K = max_q Ku(q)` trials, `Ku(q)` being the number of trials of ONE uninterrupted `Solve`
   with `q` on a fresh solver (`0` for the empty list): the search never runs past the most demanding criterion met
   so far and never stops short of it.
3. `S` is, up to the event log and what a local refinement overwrites, state `K` of the canonical sequence:
   its records are exactly the first `K` trials of that sequence, `numberOfGlobalTrials = iterationsCount =`
   number of records `=` number of calls, each record is the value the objective returned at that call, and the
   reported accuracy is the running `min` over `δ_2 … δ_K`.
4. The criterion of the LAST parameter object holds in `S`.
5. For every `q ∈ qs` the uninterrupted run `U` with `q` (any refinement) makes at most `K` trials, its records are
   a prefix of those of `S`, and if it makes exactly `K` trials then `S` equals `U` (records; whole state up to the
   event log and what a refinement overwrites). -/
theorem C03_resume_many (p : Params α) (f : Nat → List α → Option α)
    (qs : List (Params α × (PState α → Option (LocalResult α)))) (hL : FnsLaws α) (hr : 1 < p.r) (hn : 0 < p.n)
    (htot : ∀ k pt, (f k pt).isSome = true) (hs : ∀ x ∈ qs, SameMethod p x.1) :
    NoRaiseMany f qs {} ∧
    ∀ S : PState α, S = solveMany f qs {} →
    ∃ K psK ids, S.nTrials = K ∧
      K = (qs.map fun x => (solve x.1 f (fun _ => none) {}).nTrials).foldl max 0 ∧
      iterN p f K {} = .ok (psK, ids) ∧ S.evals = psK.evals ∧ S.forget.core = psK.forget.core ∧
      S.evals.length = K ∧ S.iters = K ∧ S.calls = K ∧
      S.minDelta = foldMin none (deltas p f {} K) ∧
      (∀ i pt z, S.evals[i]? = some (pt, z) → f i pt = some z) ∧
      (∀ x, qs.getLast? = some x → stopNow x.1 S = true) ∧
      (∀ x ∈ qs, ∀ r U, U = solve x.1 f r {} → U.nTrials ≤ K ∧ U.evals <+: S.evals ∧
        (U.nTrials = K → S.evals = U.evals ∧ S.forget.core = U.forget.core)) := by
  have hne := ne_none_of_total htot
  have hnr := noRaiseMany_total hL hr hn hne qs hs (along_fresh p f)
  have hU : ∀ x ∈ qs, (solveLoop x.1 f (x.1.itersLimit + 1) {}).2 = false :=
    fun x hx => along_no_raise hL hr hn hne (hs x hx) (along_fresh p f)
  exact ⟨hnr, C03_resume_many_generic p f qs hs hnr hU⟩

end field
end C03

/-! ## Non-vacuity over ℝ (real-number library functions, `N = 1`): all hypotheses of the headline theorems hold,
and the resumed run really continues -/
section NonVacuityReal
open AGP AGP.Ctl Proc
attribute [local instance] Fns.real

noncomputable def C03.resumeParams1 : Params ℝ := { C03.exampleParams with itersLimit := 1 }

/-- The hypotheses of `C03_resume`, `C03_resume_accuracy`, `C11_resume_same_sequence`, `C03_resume_tighten`,
`C03_resume_raise_budget` hold for `p1 = resumeParams1` (budget 1), `p2 = p1` with the budget raised in place to 20,
objective `(x - 1/3)^2`; the first phase makes exactly one trial and the resumed run makes more: the second `Solve`
is not a no-op. -/
example : FnsLaws ℝ ∧ 1 < C03.resumeParams1.r ∧ 0 < C03.resumeParams1.n ∧
    (∀ k pt, (C03.exampleObj k pt).isSome = true) ∧
    SameMethod C03.resumeParams1 { C03.resumeParams1 with itersLimit := 20 } ∧
    ({ C03.resumeParams1 with itersLimit := 20 } : Params ℝ).eps ≤ C03.resumeParams1.eps ∧
    C03.resumeParams1.itersLimit ≤ 20 ∧
    (solve C03.resumeParams1 C03.exampleObj (fun _ => none) {}).nTrials = 1 ∧
    1 < (solve { C03.resumeParams1 with itersLimit := 20 } C03.exampleObj (fun _ => none)
          (solve C03.resumeParams1 C03.exampleObj (fun _ => none) {})).nTrials := by
  have hr : (1 : ℝ) < C03.resumeParams1.r := by norm_num [C03.resumeParams1, C03.exampleParams]
  have hn : 0 < C03.resumeParams1.n := by norm_num [C03.resumeParams1, C03.exampleParams]
  have htot : ∀ k pt, (C03.exampleObj k pt).isSome = true := fun _ _ => rfl
  have hlim : C03.resumeParams1.itersLimit ≤ 20 := by norm_num [C03.resumeParams1]
  obtain ⟨-, -, -, K, hK, hK1, hK2, -⟩ := C03.C03_total C03.resumeParams1 C03.exampleObj (fun _ => none)
    FnsLaws.real hr hn htot
  have hone : (solve C03.resumeParams1 C03.exampleObj (fun _ => none) {}).nTrials = 1 := by
    have h1 : K ≤ 1 := hK1
    have h2 : 1 ≤ K := hK2 (Nat.le_refl _)
    omega
  refine ⟨FnsLaws.real, hr, hn, htot, ⟨rfl, rfl, rfl⟩, le_refl _, hlim, hone, ?_⟩
  obtain ⟨-, hcont⟩ := C03.C03_resume_raise_budget C03.resumeParams1 20 C03.exampleObj (fun _ => none) (fun _ => none)
    (fun _ => none) FnsLaws.real hr hn htot hlim _ _ _ rfl rfl rfl
  have := hcont (by rw [hone]; norm_num) (by
    rw [hone]
    rintro ⟨k, d, hk, hd, -⟩
    have h0 : k - 1 = 0 := by omega
    have : C03.delta C03.resumeParams1 C03.exampleObj k = none := by
      show deltaAt _ _ {} (k - 1) = none
      rw [h0]; rfl
    rw [this] at hd; cases hd)
  rwa [hone] at this

/-- the hypotheses of `C03_resume_many` for three parameter objects obtained from `exampleParams` by changing
`itersLimit` and `eps` in place (budget 1; budget 20; `eps = 1/1000`) -/
example : (∀ x ∈ [(C03.resumeParams1, fun _ => none), (C03.exampleParams, fun _ => none),
      ({ C03.exampleParams with eps := 1 / 1000 }, fun _ => none)],
      SameMethod C03.exampleParams (x : Params ℝ × (PState ℝ → Option (LocalResult ℝ))).1) ∧
    FnsLaws ℝ ∧ 1 < C03.exampleParams.r ∧ 0 < C03.exampleParams.n := by
  refine ⟨?_, FnsLaws.real, by norm_num [C03.exampleParams], by norm_num [C03.exampleParams]⟩
  intro x hx
  simp only [List.mem_cons, List.not_mem_nil, or_false] at hx
  rcases hx with rfl | rfl | rfl <;> exact ⟨rfl, rfl, rfl⟩

end NonVacuityReal

/-! ## Executable instances over ℚ (the toy instance `ProcToy`: `N = 1`, `root x _ = x`, objective `(x - 1/3)^2`).
The `…_generic` theorems apply (their hypotheses are checked by kernel evaluation), and the numbers are computed. -/
section examples
open AGP AGP.Ctl Proc ProcToy C03

def C03.exRefine : PState Rat → Option (LocalResult Rat) := fun _ => some { x := [1/3], fx := 0, nfev := 7 }

/-- **budget raised in place 5 → 50** (`eps = 1/10` unchanged): the first phase stops on the budget after 5 trials;
the resumed run stops after 12 trials, exactly like the uninterrupted run with budget 50, with the same evaluations
and the same accuracy `2875/49152 < 1/10`. -/
example :
    (solve (P 5 (1/10)) F noRefine {}).nTrials = 5 ∧
    (solve (P 50 (1/10)) F noRefine (solve (P 5 (1/10)) F noRefine {})).nTrials = 12 ∧
    (solve (P 50 (1/10)) F noRefine {}).nTrials = 12 ∧
    (solve (P 50 (1/10)) F noRefine (solve (P 5 (1/10)) F noRefine {})).evals = (solve (P 50 (1/10)) F noRefine {}).evals ∧
    (solve (P 5 (1/10)) F noRefine {}).minDelta = some (1/4) ∧
    (solve (P 50 (1/10)) F noRefine (solve (P 5 (1/10)) F noRefine {})).minDelta = some (2875/49152) := by
  decide +kernel

/-- the same with a local refinement after each `Solve`: same trials; the refined solver differs from the
unrefined one (in the point / value holder of the refined trial), but not after `forget` -/
example :
    (solve (P 50 (1/10)) F exRefine (solve (P 5 (1/10)) F exRefine {})).nTrials = 12 ∧
    (solve (P 50 (1/10)) F exRefine (solve (P 5 (1/10)) F exRefine {})).evals = (solve (P 50 (1/10)) F noRefine {}).evals ∧
    (solve (P 50 (1/10)) F exRefine (solve (P 5 (1/10)) F exRefine {})).nLocal = 7 ∧
    (solve (P 50 (1/10)) F exRefine (solve (P 5 (1/10)) F exRefine {})).m.map (fun s => s.items.map (·.hv)) ≠
      (solve (P 50 (1/10)) F noRefine (solve (P 5 (1/10)) F noRefine {})).m.map (fun s => s.items.map (·.hv)) := by
  decide +kernel

/-- the METHOD's best trial (`Method.best`), which need not be the reported one -/
def C03.exBest (ps : PState Rat) : Option (List Rat × Rat) :=
  ps.m.bind fun s => (findItem s.items s.best).map fun it => (it.point, it.hv)

/-- what `GetResults()` reports as the optimum -/
def C03.exReported (ps : PState Rat) : Option (List Rat × Rat) :=
  ps.m.bind fun s => (findItem s.items (reportedId ps s)).map fun it => (it.point, it.hv)

/-- **Remark.**  `UpdateOptimum` compares a new value with the
stored `z` of the best trial, not with the value holder that `DoLocalRefinement` overwrote.  So resuming after a
refined `Solve` moves the METHOD's best to a trial with a WORSE (positive) value — the same trial an unrefined first phase
leads to (`C11_resume_refinement_irrelevant`): here the first `Solve` (with refinement) reports `(1/3, 0)`, and after the
resumed `Solve` (raised budget, no refinement) `Method.best` is a trial with a positive value.  But `GetResults()` remembers the
refined trial (`Process.__refinedTrial`) and the reported optimum of the resumed run is still the refined `(1/3, 0)`
(in general: `C04.C04_reported_after_resume`, `C04.C04_reported_mono`). -/
example :
    exReported (solve (P 5 (1/10)) F exRefine {}) = some ([1/3], 0) ∧
    exReported (solve (P 50 (1/10)) F noRefine (solve (P 5 (1/10)) F exRefine {})) = some ([1/3], 0) ∧
    exBest (solve (P 5 (1/10)) F exRefine {}) = some ([1/3], 0) ∧
    exBest (solve (P 50 (1/10)) F noRefine (solve (P 5 (1/10)) F exRefine {})) =
      exBest (solve (P 50 (1/10)) F noRefine (solve (P 5 (1/10)) F noRefine {})) ∧
    (exBest (solve (P 50 (1/10)) F noRefine (solve (P 5 (1/10)) F exRefine {}))).any (fun b => decide (0 < b.2)) = true := by
  decide +kernel

/-- the hypotheses of the generic theorems for that pair of runs (with the refinement `exRefine` in the first phase) -/
theorem C03.resume_example_hyps :
    SameMethod (P 5 (1/10)) (P 50 (1/10)) ∧
    (solveLoop (P 5 (1/10)) F ((P 5 (1/10)).itersLimit + 1) {}).2 = false ∧
    (solveLoop (P 50 (1/10)) F ((P 50 (1/10)).itersLimit + 1) (solve (P 5 (1/10)) F exRefine {})).2 = false ∧
    (solveLoop (P 50 (1/10)) F ((P 50 (1/10)).itersLimit + 1) {}).2 = false :=
  ⟨⟨rfl, rfl, rfl⟩, by decide +kernel, by decide +kernel, by decide +kernel⟩

example := C03_resume_generic (P 5 (1/10)) (P 50 (1/10)) F exRefine exRefine C03.resume_example_hyps.1
  C03.resume_example_hyps.2.1 C03.resume_example_hyps.2.2.1
example := C03_resume_accuracy_generic (P 5 (1/10)) (P 50 (1/10)) F exRefine exRefine C03.resume_example_hyps.1
  C03.resume_example_hyps.2.1 C03.resume_example_hyps.2.2.1
example := C11_resume_same_sequence_generic (P 5 (1/10)) (P 50 (1/10)) F exRefine exRefine noRefine
  C03.resume_example_hyps.1 C03.resume_example_hyps.2.1 C03.resume_example_hyps.2.2.1 C03.resume_example_hyps.2.2.2
example := C03_resume_tighten_generic (P 5 (1/10)) (P 50 (1/10)) F exRefine exRefine noRefine C03.resume_example_hyps.1
  (le_refl _) (by decide) C03.resume_example_hyps.2.1 C03.resume_example_hyps.2.2.1 C03.resume_example_hyps.2.2.2
example := C03_resume_raise_budget_generic (P 5 (1/10)) 50 F exRefine exRefine noRefine (by decide)
  C03.resume_example_hyps.2.1 C03.resume_example_hyps.2.2.1 C03.resume_example_hyps.2.2.2
example := C11.C11_resume_refinement_irrelevant (P 5 (1/10)) (P 50 (1/10)) F exRefine noRefine exRefine noRefine

/-- **`eps` lowered in place 1/10 → 1/20** (budget 50 unchanged): the first phase stops on the accuracy after 12
trials; the resumed run goes on and ends like the uninterrupted run with `eps = 1/20`. -/
example :
    (solve (P 50 (1/10)) F noRefine {}).nTrials = 12 ∧
    (solve (P 50 (1/20)) F noRefine (solve (P 50 (1/10)) F noRefine {})).nTrials =
      (solve (P 50 (1/20)) F noRefine {}).nTrials ∧
    12 < (solve (P 50 (1/20)) F noRefine {}).nTrials ∧
    (solve (P 50 (1/20)) F noRefine (solve (P 50 (1/10)) F noRefine {})).evals = (solve (P 50 (1/20)) F noRefine {}).evals := by
  decide +kernel

/-- **the new criterion already holds** (budget lowered in place 50 → 8 after 12 trials were made): the second
`Solve` makes no trial (`K2 = K1 = 12 = max 12 8`), the records are those of the first phase — NOT those of an
uninterrupted run with budget 8, which has 8 trials — and the log gains one more `OnMethodStop(True)`. -/
example :
    (solve (P 50 (1/10)) F noRefine {}).nTrials = 12 ∧
    stopNow (P 8 (1/10)) (solve (P 50 (1/10)) F noRefine {}) = true ∧
    (solve (P 8 (1/10)) F noRefine (solve (P 50 (1/10)) F noRefine {})).nTrials = 12 ∧
    (solve (P 8 (1/10)) F noRefine {}).nTrials = 8 ∧
    (solve (P 8 (1/10)) F noRefine (solve (P 50 (1/10)) F noRefine {})).evals = (solve (P 50 (1/10)) F noRefine {}).evals ∧
    (solve (P 8 (1/10)) F noRefine (solve (P 50 (1/10)) F noRefine {})) =
      (solve (P 50 (1/10)) F noRefine {}).appendLog [Event.methodStop true] := by
  refine ⟨by decide +kernel, by decide +kernel, by decide +kernel, by decide +kernel, by decide +kernel, ?_⟩
  exact C11.C11_solve_nothing_to_do (P 8 (1/10)) F _ (by decide +kernel)

def C03.exMany : List (Params Rat × (PState Rat → Option (LocalResult Rat))) :=
  [(P 5 (1/10), exRefine), (P 50 (1/10), noRefine), (P 8 (1/10), exRefine), (P 20 (1/20), noRefine)]

/-- **three resumptions**: budget 5, then budget 50 (12 trials), then budget 8 (no further trial), then `eps = 1/20`
with budget 20: the solver ends with `max(5, 12, 8, 16) = 16` trials, and its records are those of the fourth
uninterrupted run -/
example :
    (C03.exMany.map fun x => (solve x.1 F noRefine {}).nTrials) = [5, 12, 8, 16] ∧
    (solveMany F C03.exMany {}).nTrials = 16 ∧
    (solveMany F C03.exMany {}).evals = (solve (P 20 (1/20)) F noRefine {}).evals := by
  decide +kernel

example := C03_resume_many_generic (P 5 (1/10)) F C03.exMany
  (by intro x hx
      simp only [C03.exMany, List.mem_cons, List.not_mem_nil, or_false] at hx
      rcases hx with rfl | rfl | rfl | rfl <;> exact ⟨rfl, rfl, rfl⟩)
  (by refine ⟨by decide +kernel, by decide +kernel, by decide +kernel, by decide +kernel, trivial⟩)
  (by intro x hx
      simp only [C03.exMany, List.mem_cons, List.not_mem_nil, or_false] at hx
      rcases hx with rfl | rfl | rfl | rfl <;> decide +kernel)

end examples

import IOptProofs.EvFwd
import IOptProofs.EvDimFacts
import IOptProps.C07
import Mathlib.Algebra.Order.Group.Abs
import Mathlib.Algebra.Order.Group.Int
/-!
# C08 (integer layer): the evolvent is continuous — adjacency, nesting, coordinate bound

Statements about `Ev.cubeY n ds` (cube coordinates in units of `2^-(m+1)`, `m = ds.length`; one cell
width is `2` units) for every dimension `n` with `Ev.DimOK n` (`IOptProofs/EvDims.lean`: EVERY `n ≥ 2`) and
**every** density `m`.
`getI l i` is the model's coordinate accessor (`l.getD i 0`).
The analytic Hölder inequality over ℝ is in `IOptProps/C08holder.lean`.
-/

namespace Ev

/-- **C08 (adjacent)**: consecutive subintervals (`indexOf n ds' = indexOf n ds + 1`, same density)
are mapped to face-adjacent cells: the centres differ in exactly one coordinate `c`, and there by
exactly `2` units = one cell width. -/
theorem C08_adjacent {n : Nat} (hn : Ev.DimOK n) {ds ds' : List Nat}
    (hd : validDigits n ds) (hd' : validDigits n ds') (hl : ds.length = ds'.length)
    (hi : indexOf n ds' = indexOf n ds + 1) :
    ∃ c, c < n ∧ (∀ i, i ≠ c → getI (cubeY n ds) i = getI (cubeY n ds') i) ∧
      |getI (cubeY n ds) c - getI (cubeY n ds') c| = 2 := by
  obtain ⟨hlen, hY⟩ := cubeY_spec hn.pos ds
  obtain ⟨hlen', hY'⟩ := cubeY_spec hn.pos ds'
  obtain ⟨c, hc, h1, h2⟩ :=
    Yc_adjacent (evFacts_of_dimOK hn) (validState_init hn.pos) hd hd' hl hi
  refine ⟨c, hc, fun i hic => ?_, ?_⟩
  · rcases Nat.lt_or_ge i n with hin | hin
    · rw [hY i hin, hY' i hin, h1 i hin hic]
    · rw [getI_of_le (by omega), getI_of_le (by omega)]
  · rw [hY c hc, hY' c hc, abs_eq (by omega)]; exact h2

/-- **C08 (nested)**: appending a digit `d` refines the cell: each coordinate becomes `2·Y + o`
with `o = ±1`, where `o` is the level-`(m+1)` offset vector — so the `2^n` children of a subinterval
lie inside the density-`m` cell of that subinterval. -/
theorem C08_nested {n : Nat} (hn : Ev.DimOK n) {ds : List Nat} {d : Nat}
    (hd : validDigits n (ds ++ [d])) :
    signVec n (step n (stateAfter n (St.init n) ds) d).2 ∧
    cubeY n (ds ++ [d]) =
      List.zipWith (fun Y s => 2 * Y + s) (cubeY n ds)
        (step n (stateAfter n (St.init n) ds) d).2 := by
  obtain ⟨_, ho⟩ := step_shape (stateAfter_valid (validState_init hn.pos) ds) d
  obtain ⟨hlen, hY⟩ := cubeY_spec hn.pos ds
  obtain ⟨hlen', hY'⟩ := cubeY_spec hn.pos (ds ++ [d])
  refine ⟨ho, ?_⟩
  apply ext_getI hlen' (by simp [List.length_zipWith, hlen, ho.1])
  intro i hi
  rw [hY' i hi, Yc_snoc, getI_zipWith (by omega) (by rw [ho.1]; exact hi), hY i hi]

/-- **C08 (nested, ∃-form)**: `cubeY n (ds ++ [d]) = 2·cubeY n ds + o` for some sign vector `o`. -/
theorem C08_nested_exists {n : Nat} (hn : Ev.DimOK n) {ds : List Nat} {d : Nat}
    (hd : validDigits n (ds ++ [d])) :
    ∃ o, signVec n o ∧ cubeY n (ds ++ [d]) = List.zipWith (fun Y s => 2 * Y + s) (cubeY n ds) o :=
  ⟨_, C08_nested hn hd⟩

/-- **C08 (nested, distinct children)**: the `2^n` children of a subinterval are mapped to `2^n`
different sub-cells. -/
theorem C08_children_distinct {n : Nat} (hn : Ev.DimOK n) {ds : List Nat} {d d' : Nat}
    (hd : validDigits n (ds ++ [d])) (hd' : validDigits n (ds ++ [d'])) (hne : d ≠ d') :
    cubeY n (ds ++ [d]) ≠ cubeY n (ds ++ [d']) := by
  intro h
  have := C07_injective hn hd hd' (by simp) h
  exact hne (by simpa using this)

/-- **C08 (coordinate bound)**: two subintervals of density `m` whose density-`p` ancestors
(`p ≤ m`; the first `p` digits) are equal or consecutive are mapped to cells whose centres differ by
less than `2·2^(m-p+1)` units in every coordinate, and by less than `2^(m-p+1)` units in all but at
most one coordinate `c`.  (In cube units `2^-(m+1)`: `< 2·2^-p` resp. `< 2^-p`.)
The statement does not need `p ≤ m` (for `p > m` it is the case `p = m`). -/
theorem C08_coord_bound {n : Nat} (hn : Ev.DimOK n) {ds ds' : List Nat}
    (hd : validDigits n ds) (hd' : validDigits n ds') (hl : ds.length = ds'.length) (p : Nat)
    (hidx : |(indexOf n (ds.take p) : Int) - (indexOf n (ds'.take p) : Int)| ≤ 1) :
    (∀ i, |getI (cubeY n ds) i - getI (cubeY n ds') i| < 2 * 2^(ds.length - p + 1)) ∧
    ∃ c, c < n ∧
      ∀ i, i ≠ c → |getI (cubeY n ds) i - getI (cubeY n ds') i| < 2^(ds.length - p + 1) := by
  obtain ⟨hlen, hY⟩ := cubeY_spec hn.pos ds
  obtain ⟨hlen', hY'⟩ := cubeY_spec hn.pos ds'
  rw [abs_le] at hidx
  obtain ⟨c, hc, h1, h2⟩ :=
    Yc_coord_bound (evFacts_of_dimOK hn) (validState_init hn.pos) hd hd' hl p (by omega)
  have small : ∀ i, i ≠ c →
      |getI (cubeY n ds) i - getI (cubeY n ds') i| < 2^(ds.length - p + 1) := by
    intro i hic
    rcases Nat.lt_or_ge i n with hin | hin
    · rw [hY i hin, hY' i hin, abs_lt]
      exact h1 i hin hic
    · rw [getI_of_le (by omega), getI_of_le (by omega), sub_self, abs_zero]
      exact two_pow_pos_int _
  refine ⟨fun i => ?_, c, hc, small⟩
  by_cases hic : i = c
  · subst hic
    rw [hY i hc, hY' i hc, abs_lt]
    exact h2
  · have := small i hic
    have h0 := two_pow_pos_int (ds.length - p + 1)
    omega

/-- hypotheses of `C08_adjacent` on a pair that crosses a level-1 boundary: subintervals `47`, `48`,
digits `[5, 7]`, `[6, 0]`; the centres `(3,1,1)`, `(3,-1,1)` differ in coordinate `1` by `2`. -/
example : validDigits 3 [5, 7] ∧ validDigits 3 [6, 0] ∧ [5, 7].length = [6, 0].length ∧
    indexOf 3 [6, 0] = indexOf 3 [5, 7] + 1 ∧
    cubeY 3 [5, 7] = [3, 1, 1] ∧ cubeY 3 [6, 0] = [3, -1, 1] := by
  decide

example : ∃ c, c < 3 ∧ (∀ i, i ≠ c → getI (cubeY 3 [5, 7]) i = getI (cubeY 3 [6, 0]) i) ∧
    |getI (cubeY 3 [5, 7]) c - getI (cubeY 3 [6, 0]) c| = 2 :=
  C08_adjacent (by decide) (by decide) (by decide) (by decide) (by decide)

/-- hypotheses of `C08_nested`/`C08_children_distinct`: `ds = [5]`, children `2` and `3`. -/
example : validDigits 3 ([5] ++ [2]) ∧ validDigits 3 ([5] ++ [3]) ∧ 2 ≠ 3 ∧
    cubeY 3 [5] = [1, 1, 1] ∧ cubeY 3 ([5] ++ [2]) = [1, 3, 3] := by
  decide

/-- hypotheses of `C08_coord_bound`: `ds = [5, 7]`, `ds' = [6, 3]`, `p = 1` (ancestors `5`, `6`). -/
example : validDigits 3 [5, 7] ∧ validDigits 3 [6, 3] ∧ [5, 7].length = [6, 3].length ∧
    |(indexOf 3 ([5, 7].take 1) : Int) - (indexOf 3 ([6, 3].take 1) : Int)| ≤ 1 := by
  decide

/-- `C08_coord_bound` applied to that pair (`m - p + 1 = 2`) -/
example : ∀ i, |getI (cubeY 3 [5, 7]) i - getI (cubeY 3 [6, 3]) i| < 2 * 2^2 :=
  (C08_coord_bound (by decide) (by decide) (by decide) (by decide) 1 (by decide)).1

end Ev

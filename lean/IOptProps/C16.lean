import IOptProofs.ProcessFail
import IOptProofs.ProcessToy
/-!
# C16 — an objective that raises during `Solve` is contained

"If the objective raises on its k-th evaluation (k>=2) during Solve, Solve still returns; the result reflects
exactly the k-1 completed trials - trial count, best point and value - the search information still satisfies
its ordering and fidelity rules, and the failed point is not recorded."

`Solve still returns` is built into the model: `Proc.solve` is a total function that catches every exception of
the loop (`solveLoop`), prints, and goes on to the refinement / `OnMethodStop` part.

The theorem is named `_partial` because one clause of the property quoted above is false as literally written: the
`items` of the returned state are NOT in general equal to the `items` after `k-1` successful iterations, because
`CalculateIterationPoint` of the failed iteration first runs `RecalcAllCharacteristics` (when `recalc` is set),
which rewrites the characteristic `R` of every item (see the counter-example at the end of this file).
What is true, and proved here: the items are equal up to their `R` fields (`eraseR`), equal outright if `recalc`
was not set, and the returned state is exactly the state `pr.s` = "recalculated state, selected interval popped,
`min_delta` lowered" of the iteration that failed.
-/

set_option linter.unusedSectionVars false

namespace C16
open AGP AGP.Ctl Proc

section generic
variable {α : Type} [Add α] [Sub α] [Mul α] [Div α] [Neg α] [LT α] [LE α]
  [DecidableLT α] [DecidableLE α] [OfNat α 0] [OfNat α 1] [OfNat α 2] [OfNat α 4] [Fns α]

theorem C16_fail_contained_refine (p : Params α) (f g : Nat → List α → Option α) (k : Nat) (hk : 2 ≤ k)
    (hf : ∀ j pt, f j pt = none ↔ j = k - 1) (hg : ∀ j pt, j ≠ k - 1 → g j pt = f j pt)
    (hK : k ≤ (solve p g (fun _ => none) {}).nTrials) (refine : PState α → Option (LocalResult α)) :
    ∃ psk s pr, iterN p g (k - 1) {} = .ok (psk, List.range' 2 (k - 1)) ∧ psk.m = some s ∧ prepare p s = .ok pr ∧
      solve p f refine {} =
        (refineStep refine
          { m := some pr.s, log := [Event.beforeStart] ++ endEach (List.range' 2 (k - 1)) ++ [Event.exceptionPrinted],
            evals := psk.evals, nLocal := 0, calls := k }).appendLog [Event.methodStop (stopCond p pr.s)] := by
  obtain ⟨n, rfl⟩ : ∃ n, k = n + 1 := ⟨k - 1, (Nat.sub_add_cancel (Nat.le_of_lt hk)).symm⟩
  have hn : 0 < n := Nat.lt_of_succ_lt_succ hk
  simp only [Nat.add_sub_cancel] at hf hg ⊢
  have h0 : ∀ j, ({} : PState α).calls + j = j := Nat.zero_add
  obtain ⟨psk, ids, s, pr, hrun, hms, hpr, -, hsolve⟩ :=
    fail_contained_of_run (p := p) (f := f) (g := g) (ps := {}) (i := n) (refine' := fun _ => none) (.inr hn)
      (fun pt => (hf _ pt).2 (h0 n)) (fun j pt _ h2 => hg j pt (Nat.ne_of_lt (h0 n ▸ h2)))
      (by rw [show ({} : PState α).nTrials + n + 1 = n + 1 by rw [Nat.add_assoc]; exact Nat.zero_add _]; exact hK)
  cases (iterN_eff hrun).ids
  rw [firstMark_of_none rfl hn] at hsolve
  exact ⟨psk, s, pr, hrun, hms, hpr, (hsolve refine).trans (by rw [h0 n]; rfl)⟩

/-- **C16, failure containment.**  Let the objective `f` raise exactly at its `k`-th call (`f j pt = none ↔ j = k-1`, `k ≥ 2`),
let `g` be any oracle that agrees with `f` at every other call index (e.g. a never-failing one), and let the run of `Solve`
with `g` on a fresh solver make at least `k` trials.  Let `psk` (method state `s`) be the state of the `g`-run after `k-1`
successful iterations and `pr` the selection its `k`-th iteration makes.  Then `Solve` with `f` on a fresh solver returns a
state with method state `sf` such that:

* `items` (up to the characteristics `R`, which the recalculation of the failed iteration refreshed; literally equal if
  `recalc` was not set), `M`, `Z`, `best`, the best item's point and values, `nTrials = iters = k-1`, `nextId` and `evals`
  are those after the `k-1` successful iterations: the failed point got no item, no id and no record;
* the only differences are `minDelta` (already lowered by the interval selected for the failed iteration), `queue` (the
  selected entry is popped from the — refreshed — queue), `recalc = false`, `calls = k`;
* the event log is `BeforeMethodStart`, one `OnEndIteration` for each of the trials `2 … k`, the printed line, `OnMethodStop`. -/
theorem C16_fail_contained_partial (p : Params α) (f g : Nat → List α → Option α) (k : Nat) (hk : 2 ≤ k)
    (hf : ∀ j pt, f j pt = none ↔ j = k - 1) (hg : ∀ j pt, j ≠ k - 1 → g j pt = f j pt)
    (hK : k ≤ (solve p g (fun _ => none) {}).nTrials) :
    ∃ psk s pr sf,
      iterN p g (k - 1) {} = .ok (psk, List.range' 2 (k - 1)) ∧ psk.m = some s ∧ prepare p s = .ok pr ∧
      f (k - 1) pr.point = none ∧
      (solve p f (fun _ => none) {}).m = some sf ∧
      sf.items.map eraseR = s.items.map eraseR ∧ (s.recalc = false → sf.items = s.items) ∧
      sf.M = s.M ∧ sf.Z = s.Z ∧ sf.best = s.best ∧
      (findItem sf.items sf.best).map eraseR = (findItem s.items s.best).map eraseR ∧
      sf.nTrials = s.nTrials ∧ sf.nTrials = k - 1 ∧ sf.iters = s.iters ∧ sf.iters = k - 1 ∧ sf.nextId = s.nextId ∧
      (solve p f (fun _ => none) {}).evals = psk.evals ∧ (solve p f (fun _ => none) {}).evals.length = k - 1 ∧
      (solve p f (fun _ => none) {}).nLocal = 0 ∧
      sf = pr.s ∧
      sf.minDelta = some (minOpt pr.old.delta s.minDelta) ∧
      (∃ key oid, (selState p s).queue = (key, oid) :: sf.queue) ∧
      sf.recalc = false ∧
      (solve p f (fun _ => none) {}).calls = k ∧
      (solve p f (fun _ => none) {}).log =
        [Event.beforeStart] ++ endEach (List.range' 2 (k - 1)) ++ [Event.exceptionPrinted, Event.methodStop (stopCond p sf)] := by
  obtain ⟨psk, s, pr, hrun, hms, hpr, hs⟩ := C16_fail_contained_refine p f g k hk hf hg hK (fun _ => none)
  obtain ⟨hlen, hnt, hit⟩ := fresh_run_fields hrun hms
  rw [hs]
  exact ⟨psk, s, pr, pr.s, hrun, hms, hpr, (hf _ _).2 rfl, rfl, prepare_fail_kept hpr hnt hit
    ⟨rfl, hlen, rfl, rfl, prepare_fail_changed hpr ⟨rfl, by simp [refineStep, PState.appendLog]⟩⟩⟩

end generic

section examples
open ProcToy

example : (2 ≤ 4) ∧ (∀ j pt, failAt 3 j pt = none ↔ j = 4 - 1) ∧ (∀ j pt, j ≠ 4 - 1 → F j pt = failAt 3 j pt) ∧
    4 ≤ (solve (P 5 (1/100)) F (fun _ => none) {}).nTrials :=
  ⟨by decide, fun j pt => failAt_iff 3 j pt, fun j pt h => (failAt_agree 3 j pt h).symm, by decide +kernel⟩

example := C16_fail_contained_partial (P 5 (1/100)) (failAt 3) F 4 (by decide) (fun j pt => failAt_iff 3 j pt)
  (fun j pt h => (failAt_agree 3 j pt h).symm) (by decide +kernel)

example : (solve (P 5 (1/100)) (failAt 3) (fun _ => none) {}).nTrials = 3 ∧
    (solve (P 5 (1/100)) (failAt 3) (fun _ => none) {}).calls = 4 ∧
    (solve (P 5 (1/100)) (failAt 3) (fun _ => none) {}).log =
      [Event.beforeStart, Event.endIteration [2], Event.endIteration [3], Event.endIteration [4],
       Event.exceptionPrinted, Event.methodStop false] := by
  decide +kernel

/-- **Counter-example to literal equality of `items`** (`k = 3`): after the failed third iteration the characteristic of the
right end point is `23/24`, whereas after two successful iterations it is `1`: the second trial found a new best value, so
`recalc` was set and the failed iteration recalculated all characteristics before selecting. -/
example :
    ((solve (P 5 (1/100)) (failAt 2) (fun _ => none) {}).m.map fun s => s.items.map fun it => (it.id, it.R)) =
      some [(0, none), (3, some (1/2)), (2, some (529/2304)), (1, some (23/24))] ∧
    ((doGlobalIteration (P 5 (1/100)) F 2 {} []).s.m.map fun s => s.items.map fun it => (it.id, it.R)) =
      some [(0, none), (3, some (1/2)), (2, some (529/2304)), (1, some 1)] := by
  decide +kernel

end examples

end C16

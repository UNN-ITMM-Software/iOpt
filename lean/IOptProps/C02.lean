import IOptProofs.MethodFacts
/-!
# C02 — the decision rule of the AGP iteration

"The first trial is the evolvent image of x=0.5; every later trial subdivides an interval of the
current partition of [0,1] whose characteristic is maximal, where for neighbours with values z_l,z_r
and Hoelder length D=(x_r-x_l)^(1/N) the characteristic is D+(z_r-z_l)^2/(r^2 M^2 D)-2(z_r+z_l-2z*)/(rM)
(2D-4(z-z*)/(rM) for the two boundary intervals whose outer ends 0 and 1 are never evaluated), z* is
the best value so far and M is the largest |z_r-z_l|/D over every neighbouring pair seen so far,
floored at 1. The new point is (x_l+x_r)/2 - sign(z_r-z_l)*(|z_r-z_l|/M)^N/(2r) (the midpoint for
boundary intervals), hence strictly inside the chosen interval, and no curve point is evaluated twice."

The model is `IOptModel/Method.lean`; a run is `AGP.Run` / `AGP.Reach` (`IOptProofs/MethodRun.lean`):
`s₁ = firstIteration p z₁`, `s_{k+1} = commit p pr_k z_{k+1}` with `prepare p s_k = .ok pr_k`, the
values `z_k` being arbitrary.  `AGP.Inv` is the invariant (`IOptProofs/MethodDefs.lean`); every
reachable state satisfies it (`C02_reach_inv`).  `FnsLaws α` are the laws of `abs`, `pow`, root
(`IOptProofs/Laws.lean`), satisfied by the real-number functions (`FnsLaws.real`).
-/
set_option linter.unusedSectionVars false

namespace AGP
variable {α : Type} [Field α] [LinearOrder α] [IsStrictOrderedRing α] [Fns α]

namespace Spec

/-- the Hoelder length `D` of the statement -/
def D (n : Nat) (a b : Item α) : α := Fns.root (b.x - a.x) n

/-- The characteristic of the statement for the neighbours `a` (left) and `b` (right); the second and
third branches are the boundary intervals at 0 and at 1. -/
def R (n : Nat) (r M Z : α) (a b : Item α) : α :=
  if a.ev = true ∧ b.ev = true then
    D n a b + (b.z - a.z) ^ 2 / (r ^ 2 * M ^ 2 * D n a b) - 2 * (b.z + a.z - 2 * Z) / (r * M)
  else if b.ev = true then 2 * D n a b - 4 * (b.z - Z) / (r * M)
  else 2 * D n a b - 4 * (a.z - Z) / (r * M)

/-- the `sign` of the statement -/
def sgn (d : α) : α := if 0 < d then 1 else if d < 0 then -1 else 0

/-- the new point of the statement -/
def newPoint (n : Nat) (r M : α) (a b : Item α) : α :=
  if a.ev = true ∧ b.ev = true then
    (a.x + b.x) / 2 - sgn (b.z - a.z) * (|b.z - a.z| / M) ^ n / (2 * r)
  else (a.x + b.x) / 2

end Spec

section
variable (n : Nat) (r M Z : α) {a b : Item α}

theorem Spec.R_interior (ha : a.ev = true) (hb : b.ev = true) : Spec.R n r M Z a b =
    Spec.D n a b + (b.z - a.z) ^ 2 / ((r * M) ^ 2 * Spec.D n a b) - 2 * (b.z + a.z - 2 * Z) / (r * M) := by
  rw [Spec.R, if_pos ⟨ha, hb⟩, mul_pow]

theorem Spec.R_first (ha : a.ev = false) (hb : b.ev = true) :
    Spec.R n r M Z a b = 2 * Spec.D n a b - 4 * (b.z - Z) / (r * M) := by
  rw [Spec.R, if_neg (by rw [ha]; simp), if_pos hb]

theorem Spec.R_last (hb : b.ev = false) :
    Spec.R n r M Z a b = 2 * Spec.D n a b - 4 * (a.z - Z) / (r * M) := by
  rw [Spec.R, if_neg (by rw [hb]; simp), if_neg (by rw [hb]; simp)]

end

/-- `Method.CalculateGlobalR` computes the characteristic of the statement (for neighbours that are not
both unevaluated, which never happens: `InvItems.nb_ev`), when the stored length is the Hoelder length. -/
theorem calcR_eq_spec (n : Nat) (r M Z : α) (a b : Item α) (hd : b.delta = Fns.root (b.x - a.x) n)
    (hev : a.ev = true ∨ b.ev = true) : calcR r M Z a b = Spec.R n r M Z a b := by
  have hD : Spec.D n a b = b.delta := hd.symm
  unfold calcR
  cases ha : a.ev <;> cases hb : b.ev
  · rw [ha, hb] at hev; simp at hev
  · rw [Spec.R_first n r M Z ha hb, hD]; rfl
  · rw [Spec.R_last n r M Z hb, hD]; rfl
  · rw [Spec.R_interior n r M Z ha hb, hD]
    simp only [beq_self_eq_true, if_true]
    ring

theorem Spec.R_congr (n : Nat) (r M Z : α) {a a' b b' : Item α} (ha : eraseR a' = eraseR a)
    (hb : eraseR b' = eraseR b) : Spec.R n r M Z a' b' = Spec.R n r M Z a b := by
  show Spec.R n r M Z (eraseR a') (eraseR b') = Spec.R n r M Z (eraseR a) (eraseR b)
  rw [ha, hb]

section
variable {p : Params α} {s : State α}

theorem C02_reach_inv (hL : FnsLaws α) (hr : 1 < p.r) (hn : 0 < p.n) {log : List (List α × α)}
    (h : Reach p s log) : Inv p s := h.inv hL hr hn

/-- **C02, first trial.** The first trial is the image of `x = 1/2`; in every reachable state the
search information is `left :: mid ++ [right]` where the end items `left` (at 0) and `right` (at 1)
are not evaluated and every other item is. -/
theorem C02_first_trial (hL : FnsLaws α) (hr : 1 < p.r) (hn : 0 < p.n) :
    firstPoint p = p.image (1 / 2) ∧
    ∀ s log, Reach p s log →
      ∃ left mid right, s.items = left :: mid ++ [right] ∧ left.x = 0 ∧ right.x = 1 ∧
        left.ev = false ∧ right.ev = false ∧ mid ≠ [] ∧ ∀ m ∈ mid, m.ev = true :=
  ⟨rfl, fun _ _ h => (h.inv hL hr hn).toInvItems.shape⟩

/-- **C02, the exceptions of `CalculateIterationPoint` are unreachable and the new point is strictly
inside the chosen interval.** Under the invariant `prepare` succeeds; `pr.left`, `pr.old` are
neighbouring items of the (recalculated) list `pr.s.items`, which is the list of `s` up to the
characteristics stored in the items. -/
theorem C02_prepare_ok (hL : FnsLaws α) (hr : 1 < p.r) (hn : 0 < p.n) (h : Inv p s) :
    ∃ pr, prepare p s = .ok pr ∧ Neighbours pr.s.items pr.left pr.old ∧
      pr.s.items.map eraseR = s.items.map eraseR ∧
      pr.left.x < pr.x ∧ pr.x < pr.old.x := by
  obtain ⟨pr, hp, hs⟩ := prepare_spec hL hr hn h
  exact ⟨pr, hp, hs.neighbours, hs.items_eq, hs.inside.1, hs.inside.2⟩

/-- **C02, the chosen interval has maximal characteristic.** For every neighbouring pair `(a, b)` of
items, its characteristic is at most that of the chosen pair `(pr.left, pr.old)`, all characteristics
being computed from the current `M` and `Z` (the queue is never stale when it is used). -/
theorem C02_selection_is_argmax (hL : FnsLaws α) (hr : 1 < p.r) (hn : 0 < p.n) (h : Inv p s)
    {pr : Prep α} (hp : prepare p s = .ok pr) :
    ∀ a b, Neighbours pr.s.items a b →
      Spec.R p.n p.r s.M s.Z a b ≤ Spec.R p.n p.r s.M s.Z pr.left pr.old := by
  have hs := prepare_spec' hL hr hn h hp
  have F := hs.inv.fresh hs.recalc_false
  have hR : ∀ a b, Neighbours pr.s.items a b → b.R = some (Spec.R p.n p.r s.M s.Z a b) := by
    intro a b hab
    have := isChain_iff_neighbours.1 F.chainR a b hab
    rw [this, calcR_eq_spec p.n _ _ _ a b (hs.inv.nb_delta hab) (hs.inv.nb_ev hab), hs.M_eq, hs.Z_eq]
  intro a b hab
  have h1 := hs.argmax b hab.mem_right
  rw [hR a b hab, hR _ _ hs.neighbours] at h1
  exact (keyLe_some_some _ _).1 h1

/-- The same with the neighbouring pairs taken in the list of `s` itself (which differs from
`pr.s.items` only in the characteristics stored in the items). -/
theorem C02_selection_is_argmax_items (hL : FnsLaws α) (hr : 1 < p.r) (hn : 0 < p.n) (h : Inv p s)
    {pr : Prep α} (hp : prepare p s = .ok pr) :
    ∀ a b, Neighbours s.items a b →
      Spec.R p.n p.r s.M s.Z a b ≤ Spec.R p.n p.r s.M s.Z pr.left pr.old := by
  intro a b hab
  have hs := prepare_spec' hL hr hn h hp
  obtain ⟨a', b', hab', ea, eb⟩ := neighbours_transfer hs.items_eq hab
  rw [← Spec.R_congr p.n p.r s.M s.Z ea eb]
  exact C02_selection_is_argmax hL hr hn h hp a' b' hab'

/-- **C02, the formula of the new point.** -/
theorem C02_new_point_formula (hL : FnsLaws α) (hr : 1 < p.r) (hn : 0 < p.n) (h : Inv p s)
    {pr : Prep α} (hp : prepare p s = .ok pr) :
    pr.x = Spec.newPoint p.n p.r s.M pr.left pr.old ∧ pr.point = p.image pr.x := by
  have hs := prepare_spec' hL hr hn h hp
  refine ⟨?_, hs.point_eq⟩
  rw [hs.x_eq, hs.M_eq]
  unfold Spec.newPoint Spec.sgn
  rcases hs.inv.nb_cases hs.neighbours with ⟨ha, hb⟩ | ⟨ha, hb⟩ | ⟨ha, hb⟩
  · rw [nextX_of_eq hL p s.M (ha.trans hb.symm), if_pos (And.intro ha hb)]
    rcases lt_trichotomy (pr.old.z - pr.left.z) 0 with hlt | heq | hgt
    · rw [if_neg hlt.not_gt, if_neg hlt.not_gt, if_pos hlt]; ring
    · rw [heq, if_neg (lt_irrefl _), if_neg (lt_irrefl _), if_neg (lt_irrefl _), abs_zero, zero_div,
        zero_pow hn.ne']
      ring
    · rw [if_pos hgt, if_pos hgt]; ring
  · rw [nextX_of_ne p s.M (by rw [ha, hb]; decide), if_neg (by rw [ha]; simp)]
  · rw [nextX_of_ne p s.M (by rw [ha, hb]; decide), if_neg (by rw [hb]; simp)]

/-- **C02, no curve point is evaluated twice.** The new coordinate differs from the coordinate of every
stored item. -/
theorem C02_no_repeat (hL : FnsLaws α) (hr : 1 < p.r) (hn : 0 < p.n) (h : Inv p s)
    {pr : Prep α} (hp : prepare p s = .ok pr) : ∀ it ∈ s.items, it.x ≠ pr.x := by
  have hs := prepare_spec' hL hr hn h hp
  refine (forall_transfer (P := fun it => it.x ≠ pr.x) hs.items_eq (fun _ => Iff.rfl)).1 fun it hit => ?_
  rcases hs.neighbours.outside hs.inv.pairwise hit with h1 | rfl | rfl | h1
  · exact (lt_trans h1 hs.inside.1).ne
  · exact hs.inside.1.ne
  · exact hs.inside.2.ne'
  · exact (lt_trans hs.inside.2 h1).ne'

/-- **C02, `M` is the largest slope seen so far, floored at 1.** Along any run (states `s :: hist`,
newest first): `M ≥ 1`, `M` dominates the slope `|z_r-z_l|/delta_r` of every neighbouring evaluated
pair of every state of the run so far, and `M` is `1` or equal to one of those slopes. -/
theorem C02_M_is_max_slope (hL : FnsLaws α) (hr : 1 < p.r) (hn : 0 < p.n) {hist : List (State α)}
    {log : List (List α × α)} (h : Run p (s :: hist) log) :
    1 ≤ s.M ∧
    (∀ s' ∈ s :: hist, ∀ a b, Neighbours s'.items a b → a.ev = true → b.ev = true →
      |b.z - a.z| / b.delta ≤ s.M) ∧
    (s.M = 1 ∨ ∃ s' ∈ s :: hist, ∃ a b, Neighbours s'.items a b ∧ a.ev = true ∧ b.ev = true ∧
      s.M = |b.z - a.z| / b.delta) := by
  refine ⟨(Reach.inv hL hr hn ⟨hist, h⟩).M_ge, ?_⟩
  refine Run.induction (P := fun s hist _ =>
    (∀ s' ∈ s :: hist, ∀ a b, Neighbours s'.items a b → a.ev = true → b.ev = true →
      |b.z - a.z| / b.delta ≤ s.M) ∧
    (s.M = 1 ∨ ∃ s' ∈ s :: hist, ∃ a b, Neighbours s'.items a b ∧ a.ev = true ∧ b.ev = true ∧
      s.M = |b.z - a.z| / b.delta)) ?_ ?_ h
  · intro z
    refine ⟨fun s' hs' a b hab ha hb => ?_, Or.inl rfl⟩
    rw [List.mem_singleton.1 hs'] at hab
    exact (firstIteration_inv p z).nb_slope hab ha hb
  · intro s0 hist0 log0 pr z hrun ⟨ihd, iha⟩ hp
    have hI0 : Inv p s0 := Reach.inv hL hr hn ⟨hist0, hrun⟩
    have spec := prepare_spec' hL hr hn hI0 hp
    have hmono := prepare_commit_M_mono hL hp z
    refine ⟨fun s' hs' a b hab ha hb => ?_, ?_⟩
    · -- the new state by its invariant, the earlier ones because `M` does not decrease
      rcases List.mem_cons.1 hs' with rfl | hs'
      · exact (commit_inv hL spec z).nb_slope hab ha hb
      · exact le_trans (ihd s' hs' a b hab ha hb) hmono
    · rcases commit_M_attained hL spec z with hM | ⟨a, b, hab, ha, hb, hM⟩
      · rcases iha with h1 | ⟨s', hs', a, b, hab, ha, hb, hM'⟩
        · left; rw [hM, h1]
        · right; exact ⟨s', List.mem_cons_of_mem _ hs', a, b, hab, ha, hb, by rw [hM, hM']⟩
      · right; exact ⟨_, List.mem_cons_self, a, b, hab, ha, hb, hM⟩

/-- **C02, `z*` is the best value so far.** `Z` is the minimum of all values in the evaluation log. -/
theorem C02_Z_is_min (hL : FnsLaws α) (hr : 1 < p.r) (hn : 0 < p.n) {log : List (List α × α)}
    (h : Reach p s log) : (∀ e ∈ log, s.Z ≤ e.2) ∧ ∃ e ∈ log, e.2 = s.Z := by
  have hI := h.inv hL hr hn
  have hl := h.logInv hL hr hn
  constructor
  · intro e he
    obtain ⟨it, hit, hev, rfl⟩ := hl.mem_log.1 he
    exact hI.Z_le it hit hev
  · obtain ⟨bi, hbi, _, hbe, hz⟩ := hI.best
    exact ⟨(bi.point, bi.z), hl.mem_log.2 ⟨bi, hbi, hbe, rfl⟩, hz⟩

end
end AGP

/-! ## Non-vacuity

The hypotheses of the theorems above (`FnsLaws`, `1 < r`, `0 < n`, `Run`/`Reach`, `Inv`,
`prepare p s = .ok pr`) are simultaneously satisfiable: over ℝ with the real-number functions, `N = 1`,
`r = 2`, and objective values `z_k = (-1)^k · k` there is a run with 4 trials whose last state
satisfies the invariant and on which `prepare` succeeds. -/
section NonVacuity
attribute [local instance] Fns.real

noncomputable def exampleParams : AGP.Params ℝ :=
  { n := 1, r := 2, eps := 1 / 100, itersLimit := 100, image := fun x => [x] }

example : ∃ (s : AGP.State ℝ) (hist : List (AGP.State ℝ)) (log : List (List ℝ × ℝ)) (pr : AGP.Prep ℝ),
    FnsLaws ℝ ∧ 1 < exampleParams.r ∧ 0 < exampleParams.n ∧
    AGP.Run exampleParams (s :: hist) log ∧ AGP.Reach exampleParams s log ∧
    log.map (·.2) = [0, -1, 2, -3] ∧ AGP.Inv exampleParams s ∧ AGP.prepare exampleParams s = .ok pr := by
  have hr : (1 : ℝ) < exampleParams.r := by norm_num [exampleParams]
  have hn : 0 < exampleParams.n := by norm_num [exampleParams]
  obtain ⟨s, log, hre, hlog⟩ :=
    AGP.exists_reach FnsLaws.real hr hn (fun k => (-1 : ℝ) ^ k * k) 3
  obtain ⟨pr, hp, _⟩ := AGP.C02_prepare_ok FnsLaws.real hr hn (hre.inv FnsLaws.real hr hn)
  obtain ⟨hist, hrun⟩ := hre
  refine ⟨s, hist, log, pr, FnsLaws.real, hr, hn, hrun, ⟨hist, hrun⟩, ?_, AGP.Reach.inv FnsLaws.real hr hn ⟨hist, hrun⟩, hp⟩
  rw [hlog]
  simp [List.range_succ]
  norm_num

end NonVacuity

import IOptProofs.HolderMinorant
import IOptProofs.HolderEuc
import IOptProps.C08holder
import IOptProps.C01
/-!
# C01 in dimension N ≥ 2: the minorant hypothesis holds for Lipschitz objectives along the evolvent,
and the certificate on the whole cube / box

Setting (over `ℝ`): `Ev.DimOK n` (`n ≥ 2`), density `m`, `y x = Ev.imageCube n m x` the evolvent on the cube
`[-1/2,1/2]^n` (`__GetYonX`, with `int(d)` = natural floor), `f` an objective that is `L`-Lipschitz
on the cube w.r.t. the Euclidean norm (`Ev.LipCube n f L` — "the Lipschitz constant on the box
normalised to unit side"), `F x = f (y x)` the reduced one-dimensional objective.
`Ev.Kn n = 2^(3-1/n)·√(n+3)`, `Ev.gridSlack n m L = L·√(n+3)·2^-m`.

* `Ev.C01_reduced_holder`: `|F x' - F x''| ≤ 2L√(n+3)·|x'-x''|^(1/n) + L√(n+3)·2^-m`.
* `Ev.C01_minorant_interval`: the three minorant inequalities on one interval (the mean of the two end values, the
  left end, the right end), stand-alone: `holder_minorant` with `C = 2 L √(n+3)`, `c = 2^(-1/n)` at the real root.
* `Ev.C01_curve_vs_box`: `f q ≥ F x - L·√n·2^-(m+1)` for a suitable `x`, every cube point `q`.
* `AGP.C01_minorant_evolvent`: the hypothesis `Minorant` of `C01_cert_step_modMinorant` holds (`minorant_of_holder` with
  the same `C`, `c`).
* `AGP.C01_cert_step_dimN`, `AGP.C01_flat_dimN`, `AGP.C01_cert_step_box`: the resulting certificate
  with the grid term `L·2^-m·(√(n+3) + √n/2)`.
-/
set_option linter.unusedSectionVars false

namespace Ev
attribute [local instance] Ev.Num.floorTrunc

/-- **C01 (the reduced objective is Hölder up to the resolution)**: for `f` `L`-Lipschitz on the
cube and all `x', x'' ∈ [0,1]`:
`|f(y x') - f(y x'')| ≤ 2·L·√(n+3)·|x' - x''|^(1/n) + L·√(n+3)·2^-m`. -/
theorem C01_reduced_holder {n : Nat} (hn : Ev.DimOK n) (m : Nat) {f : List ℝ → ℝ} {L : ℝ}
    (hf : LipCube n f L) {x' x'' : ℝ} (h0' : 0 ≤ x') (h1' : x' ≤ 1) (h0'' : 0 ≤ x'')
    (h1'' : x'' ≤ 1) :
    |f (imageCube n m x') - f (imageCube n m x'')| ≤
      2 * L * Real.sqrt (n + 3) * |x' - x''| ^ (1 / (n:ℝ)) + gridSlack n m L :=
  lip_along_curve hn m hf h0' h1' h0'' h1'' (rpow_inv_nonneg n (abs_nonneg _))
    (le_of_eq (rpow_inv_pow hn.ne_zero (abs_nonneg _)).symm)

/-- **C01 (minorant on one interval)**: let `0 ≤ x_l ≤ x ≤ x_r ≤ 1`, `δ = (x_r - x_l)^(1/n)` the
Hölder length of the interval and `K_n·L ≤ M`. Then
`F x ≥ (F x_l + F x_r)/2 - (M/4)·δ - g`, `F x ≥ F x_l - (M/2)·δ - g`, `F x ≥ F x_r - (M/2)·δ - g`
with `g = L·√(n+3)·2^-m`. -/
theorem C01_minorant_interval {n : Nat} (hn : Ev.DimOK n) (m : Nat) {f : List ℝ → ℝ} {L : ℝ}
    (hf : LipCube n f L) {xl xr x M : ℝ} (hl0 : 0 ≤ xl) (hr1 : xr ≤ 1) (hlx : xl ≤ x)
    (hxr : x ≤ xr) (hM : Kn n * L ≤ M) :
    (f (imageCube n m xl) + f (imageCube n m xr)) / 2 - (M / 4) * (xr - xl) ^ (1 / (n:ℝ))
        - gridSlack n m L ≤ f (imageCube n m x) ∧
    f (imageCube n m xl) - (M / 2) * (xr - xl) ^ (1 / (n:ℝ)) - gridSlack n m L
        ≤ f (imageCube n m x) ∧
    f (imageCube n m xr) - (M / 2) * (xr - xl) ^ (1 / (n:ℝ)) - gridSlack n m L
        ≤ f (imageCube n m x) := by
  have hd : 0 ≤ xr - xl := by linarith only [hlx, hxr]
  exact holder_minorant (mul_nonneg (mul_nonneg zero_le_two (hf.nonneg hn.pos)) (Real.sqrt_nonneg _))
    (holder_along_curve hn m hf) (fun _ => exists_root hn.ne_zero)
    (fun _ _ _ => add_le_of_pow_add_pow hn.ne_zero) (half_le_halfRoot hn.ne_zero)
    hl0 hr1 hlx hxr (rpow_inv_nonneg n hd) (rpow_inv_pow hn.ne_zero hd) (by rw [Kn_eq] at hM; linarith only [hM])

/-- **C01 (curve versus cube)**: every cube point `q` is within half a cell diagonal
`√n·2^-(m+1)` of a curve point, so `f q ≥ F x - L·√n·2^-(m+1)` for some `x ∈ [0,1)`
(namely `x = __GetXonY q`). -/
theorem C01_curve_vs_box {n : Nat} (hn : Ev.DimOK n) (m : Nat) {f : List ℝ → ℝ} {L : ℝ}
    (hf : LipCube n f L) {q : List ℝ} (hq : InCube n q) :
    ∃ x : ℝ, 0 ≤ x ∧ x < 1 ∧ f (imageCube n m x) - L * (Real.sqrt n / 2^(m+1)) ≤ f q := by
  obtain ⟨x, h0, h1, hd⟩ := exists_curve_point_near hn m hq
  refine ⟨x, h0, h1, ?_⟩
  have hL := hf.nonneg hn.pos
  have h2 := hf _ _ hq (imageCube_inCube hn m x)
  have h3 : L * dist2 q (imageCube n m x) ≤ L * (Real.sqrt n / 2^(m+1)) :=
    mul_le_mul_of_nonneg_left hd hL
  have := (abs_le.1 h2).1
  linarith

/-- **C01 (curve versus cube, minimum form)**: a lower bound `c` of the reduced objective on `[0,1]`
gives the lower bound `c - L·2^-m·√n/2` of `f` on the whole cube:
`min_cube f ≥ min_{x ∈ [0,1]} F x - L·2^-m·√n/2`. -/
theorem C01_curve_vs_box_min {n : Nat} (hn : Ev.DimOK n) (m : Nat) {f : List ℝ → ℝ} {L : ℝ}
    (hf : LipCube n f L) {c : ℝ} (hc : ∀ x : ℝ, 0 ≤ x → x ≤ 1 → c ≤ f (imageCube n m x))
    {q : List ℝ} (hq : InCube n q) : c - L * (1 / 2^m) * Real.sqrt n / 2 ≤ f q := by
  obtain ⟨x, h0, h1, h⟩ := C01_curve_vs_box hn m hf hq
  have := hc x h0 h1.le
  have e : L * (Real.sqrt n / 2^(m+1)) = L * (1 / 2^m) * Real.sqrt n / 2 := by ring
  linarith

/-- **C01 (normalisation of the box)**: an objective `fb` that is `Lb`-Lipschitz on the box
`[lower, upper]` (Euclidean norm) is, on the box normalised to unit side (`fb ∘ __TransformP2D` on
the cube), Lipschitz with constant `L = Lb·max_i(upper_i - lower_i)` — this `L` can be used in
`C01_cert_step_box`. -/
theorem C01_lip_normalised {n : Nat} {lower upper : List ℝ} (hl : lower.length = n)
    (hu : upper.length = n)
    (hle : ∀ i (h1 : i < lower.length) (h2 : i < upper.length), lower[i] ≤ upper[i])
    {fb : List ℝ → ℝ} {Lb : ℝ} (hLb : 0 ≤ Lb)
    (hfb : ∀ b b', InBox lower upper b → InBox lower upper b' → |fb b - fb b'| ≤ Lb * dist2 b b') :
    LipCube n (fun y => fb (p2d lower upper y)) (Lb * maxSide lower upper) := by
  intro a b ha hb
  have h1 := hfb _ _ (p2d_inBox hl hu hle ha) (p2d_inBox hl hu hle hb)
  have h2 : dist2 (p2d lower upper a) (p2d lower upper b) ≤ maxSide lower upper * dist2 a b :=
    dist2_p2d_le hl hu ha.1 hb.1 (maxSide_nonneg _ _) (abs_side_le_maxSide hl hu hle)
  calc _ ≤ Lb * dist2 (p2d lower upper a) (p2d lower upper b) := h1
    _ ≤ Lb * (maxSide lower upper * dist2 a b) := mul_le_mul_of_nonneg_left h2 hLb
    _ = _ := by ring

/-- non-vacuity of the `Ev.C01_*` statements: `n = 2`, `m = 3`, the objective `f q = q₀` is
`1`-Lipschitz on the cube; the interval `[1/4, 3/4] ∋ 1/2`, `M = 18 ≥ K_2`; the cube point
`(1/5, -1/3)`. -/
example : (Ev.DimOK 2) ∧ LipCube 2 (fun q => getR q 0) 1 ∧ (0:ℝ) ≤ 1/4 ∧ (3/4:ℝ) ≤ 1 ∧
    (1/4:ℝ) ≤ 1/2 ∧ (1/2:ℝ) ≤ 3/4 ∧ Kn 2 * 1 ≤ 18 ∧ InCube 2 [1/5, -1/3] := by
  refine ⟨by decide, lipCube_coord (by omega), by norm_num, by norm_num, by norm_num,
    by norm_num, ?_, ⟨rfl, ?_⟩⟩
  · exact Kn_two_le
  · intro v hv
    simp only [List.mem_cons, List.not_mem_nil, or_false] at hv
    rcases hv with rfl | rfl
    · rw [abs_of_nonneg (by norm_num)]; norm_num
    · rw [abs_of_nonpos (by norm_num)]; norm_num

end Ev

namespace AGP
open Ev
attribute [local instance] Ev.Num.floorTrunc

section Main
variable [Fns ℝ] {p : Params ℝ} {s : State ℝ} {pr : Prep ℝ}

/-- **C01 (the minorant hypothesis holds along the evolvent).** Let `Inv p s` with
`Ev.DimOK p.n` (`p.n ≥ 2`), let `f` be `L`-Lipschitz on the cube, let every evaluated item carry
`z = f (y x)`, and let the reliability condition `K_n·L ≤ r·M` hold. Then the hypothesis
`Minorant` of `C01_cert_step_modMinorant` holds for `F = f ∘ y` with slack `g = L·√(n+3)·2^-m`. -/
theorem C01_minorant_evolvent (hL : FnsLaws ℝ) (hn : Ev.DimOK p.n) (h : Inv p s) (m : Nat)
    (f : List ℝ → ℝ) (L : ℝ) (hf : LipCube p.n f L)
    (hF : ∀ it ∈ s.items, it.ev = true → it.z = f (imageCube p.n m it.x))
    (hrel : Kn p.n * L ≤ p.r * s.M) :
    Minorant p s (fun x => f (imageCube p.n m x)) (gridSlack p.n m L) :=
  minorant_of_holder hL hn.pos h (mul_nonneg (mul_nonneg zero_le_two (hf.nonneg hn.pos)) (Real.sqrt_nonneg _))
    (holder_along_curve hn m hf) (fun _ _ _ => add_le_of_pow_add_pow hn.ne_zero) (half_le_halfRoot hn.ne_zero) hF
    (by rw [Kn_eq] at hrel; linarith only [hrel])

/-- **C01, the certificate for `N ≥ 2` on the unit cube.** Let `f` be `L`-Lipschitz on the
cube `[-1/2,1/2]^n`, let every evaluated item carry `z = f (y x)` (`y` the evolvent of density `m`; `m` is arbitrary, the run is tied to it by this hypothesis only),
let `prepare` choose an interval of Hölder length `< eps` (the accuracy stop fires after this
iteration) and let the reliability condition `K_n·L ≤ r·M`, `K_n = 2^(3-1/n)·√(n+3)`, hold for the
estimate `M = s.M` used in that selection. Then after the trial (whatever value it returns) the
best value exceeds `f q` at EVERY point `q` of the cube by less than
`(r M/2)·eps + L·2^-m·(√(n+3) + √n/2)`; and `M` does not decrease. -/
theorem C01_cert_step_dimN (hL : FnsLaws ℝ) (hr : 1 < p.r) (hn : Ev.DimOK p.n) (h : Inv p s)
    (m : Nat) (f : List ℝ → ℝ) (L : ℝ) (hf : LipCube p.n f L)
    (hF : ∀ it ∈ s.items, it.ev = true → it.z = f (imageCube p.n m it.x))
    (hp : prepare p s = .ok pr) (heps : pr.old.delta < p.eps)
    (hrel : Kn p.n * L ≤ p.r * s.M) (z : ℝ) :
    (∀ q, InCube p.n q → (commit p pr z).Z - f q <
      (p.r * s.M / 2) * p.eps + L * (1 / 2^m) * (Real.sqrt (p.n + 3) + Real.sqrt p.n / 2)) ∧
    s.M ≤ (commit p pr z).M := by
  have hn0 : 0 < p.n := hn.pos
  obtain ⟨h1, h2⟩ := C01_cert_step_modMinorant hL hr hn0 h (fun x => f (imageCube p.n m x)) hp heps
    (gridSlack p.n m L) (C01_minorant_evolvent hL hn h m f L hf hF hrel) z
  refine ⟨?_, h2⟩
  intro q hq
  obtain ⟨x, hx0, hx1, hx⟩ := C01_curve_vs_box hn m hf hq
  have := h1 x hx0 hx1.le
  have e : L * (1 / 2^m) * (Real.sqrt (p.n + 3) + Real.sqrt p.n / 2) =
      gridSlack p.n m L + L * (Real.sqrt p.n / 2^(m+1)) := by
    unfold gridSlack; ring
  rw [e]
  linarith

/-- **C01 for `N ≥ 2`, flat objectives need no reliability hypothesis.** If `K_n·L ≤ r` the
reliability condition `K_n·L ≤ r·M` holds in every state (since `1 ≤ M`); the bound, which still contains `M`,
is that of `C01_cert_step_dimN`. -/
theorem C01_flat_dimN (hL : FnsLaws ℝ) (hr : 1 < p.r) (hn : Ev.DimOK p.n) (h : Inv p s)
    (m : Nat) (f : List ℝ → ℝ) (L : ℝ) (hf : LipCube p.n f L)
    (hF : ∀ it ∈ s.items, it.ev = true → it.z = f (imageCube p.n m it.x))
    (hp : prepare p s = .ok pr) (heps : pr.old.delta < p.eps)
    (hflat : Kn p.n * L ≤ p.r) (z : ℝ) :
    (∀ q, InCube p.n q → (commit p pr z).Z - f q <
      (p.r * s.M / 2) * p.eps + L * (1 / 2^m) * (Real.sqrt (p.n + 3) + Real.sqrt p.n / 2)) ∧
    s.M ≤ (commit p pr z).M := by
  have hr0 : 0 < p.r := lt_trans one_pos hr
  have : p.r ≤ p.r * s.M := le_mul_of_one_le_right hr0.le h.M_ge
  exact C01_cert_step_dimN hL hr hn h m f L hf hF hp heps (le_trans hflat this) z

/-- **C01, the certificate for `N ≥ 2` on the box.** As `C01_cert_step_dimN`, for an objective
`fb` on the box `[lower, upper]` (`lower_i < upper_i`) evaluated at `GetImage x`; `L` is the Lipschitz
constant of the objective on the box normalised to unit side (`fb ∘ __TransformP2D` on the cube).
The bound holds at every point `b` of the box. -/
theorem C01_cert_step_box (hL : FnsLaws ℝ) (hr : 1 < p.r) (hn : Ev.DimOK p.n) (h : Inv p s)
    (m : Nat) (lower upper : List ℝ) (hl : lower.length = p.n) (hu : upper.length = p.n)
    (hlt : ∀ i (h1 : i < lower.length) (h2 : i < upper.length), lower[i] < upper[i])
    (fb : List ℝ → ℝ) (L : ℝ) (hf : LipCube p.n (fun y => fb (p2d lower upper y)) L)
    (hF : ∀ it ∈ s.items, it.ev = true → it.z = fb (getImage p.n m lower upper it.x))
    (hp : prepare p s = .ok pr) (heps : pr.old.delta < p.eps)
    (hrel : Kn p.n * L ≤ p.r * s.M) (z : ℝ) :
    (∀ b : List ℝ, b.length = p.n →
      (∀ i (h0 : i < b.length) (h1 : i < lower.length) (h2 : i < upper.length),
        lower[i] ≤ b[i] ∧ b[i] ≤ upper[i]) →
      (commit p pr z).Z - fb b <
        (p.r * s.M / 2) * p.eps + L * (1 / 2^m) * (Real.sqrt (p.n + 3) + Real.sqrt p.n / 2)) ∧
    s.M ≤ (commit p pr z).M := by
  obtain ⟨h1, h2⟩ := C01_cert_step_dimN hL hr hn h m (fun y => fb (p2d lower upper y)) L hf hF hp
    heps hrel z
  refine ⟨?_, h2⟩
  intro b hb hin
  have hq : InCube p.n (d2p lower upper b) := Num.d2p_in_cube lower upper b hl hu hb hlt hin
  have := h1 _ hq
  rw [Num.p2d_d2p lower upper b (by rw [hl, hb]) (by rw [hu, hb])
    (fun i h1 h2 => (hlt i h1 h2).ne)] at this
  exact this

end Main

/-! ## Non-vacuity

Over ℝ with the real-number functions: `N = 2`, density `m = 3`, `r = 18`, `eps = 2`, the curve
`image x = imageCube 2 3 x`, objective `f q = q₀` (`L = 1`, and `K_2·L ≤ 18 = r ≤ r M`). After 4
trials driven by `f` there is a reachable state satisfying every hypothesis of `C01_cert_step_dimN`
(and of `C01_flat_dimN`, `C01_minorant_evolvent`). -/
section NonVacuity
attribute [local instance] Fns.real

example : ∃ (p : Params ℝ) (s : State ℝ) (log : List (List ℝ × ℝ)) (pr : Prep ℝ) (m : Nat)
    (f : List ℝ → ℝ) (L : ℝ),
    FnsLaws ℝ ∧ 1 < p.r ∧ (Ev.DimOK p.n) ∧ Reach p s log ∧ log.length = 4 ∧ Inv p s ∧
    LipCube p.n f L ∧ 0 < L ∧
    (∀ it ∈ s.items, it.ev = true → it.z = f (imageCube p.n m it.x)) ∧
    prepare p s = .ok pr ∧ pr.old.delta < p.eps ∧ Kn p.n * L ≤ p.r * s.M ∧ Kn p.n * L ≤ p.r ∧
    Minorant p s (fun x => f (imageCube p.n m x)) (gridSlack p.n m L) := by
  let p : Params ℝ := { n := 2, r := 18, eps := 2, itersLimit := 100,
                        image := fun x => imageCube 2 3 x }
  let f : List ℝ → ℝ := fun q => getR q 0
  have hr : (1 : ℝ) < p.r := by show (1 : ℝ) < 18; norm_num
  have hn2 : Ev.DimOK p.n := by show Ev.DimOK 2; decide
  have hn : 0 < p.n := hn2.pos
  obtain ⟨s, log, hre, hlen, hlog⟩ := exists_reach_obj (p := p) FnsLaws.real hr hn f 3
  have hI := hre.inv FnsLaws.real hr hn
  obtain ⟨pr, hp, hs⟩ := prepare_spec FnsLaws.real hr hn hI
  have himg : p.image = fun x => imageCube p.n 3 x := by simp only [p]
  have hF : ∀ it ∈ s.items, it.ev = true → it.z = f (imageCube p.n 3 it.x) := fun it hit hev =>
    (C01_values_of_objective FnsLaws.real hr hn hre f hlog it hit hev).trans
      (congrArg f (congrFun himg it.x))
  have hf : LipCube p.n f 1 := lipCube_coord hn
  have hflat : Kn p.n * 1 ≤ p.r := Kn_two_le
  have hrel : Kn p.n * 1 ≤ p.r * s.M :=
    hflat.trans (le_mul_of_one_le_right (zero_le_one.trans hr.le) hI.M_ge)
  have heps : pr.old.delta < p.eps :=
    lt_of_le_of_lt (hs.inv.nb_delta_le_one FnsLaws.real hn hs.neighbours) one_lt_two
  exact ⟨p, s, log, pr, 3, f, 1, FnsLaws.real, hr, hn2, hre, hlen, hI, hf, one_pos, hF, hp, heps,
    hrel, hflat, C01_minorant_evolvent FnsLaws.real hn2 hI 3 f 1 hf hF hrel⟩

end NonVacuity
end AGP

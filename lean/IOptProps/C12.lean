import IOptProofs.WorldShape
import IOptProps.SharedState
/-!
# C12 — solver instances are isolated

"Creating, running or interleaving the iterations of other Solver instances never changes a solver's trial sequence, its
search information or any Solution it has returned: after any interleaving each solver's result equals the result of
running it alone, and a Solution obtained earlier still reports its own optimum."

Model: `IOptModel/World.lean` — a heap of Python objects with explicit identity (`Ref` = allocating solver + serial
number; `owner = none` = module level), the fields of every `Solver`, and the user-level operations `construct`, `first`,
`iter`, `results` as pointer programs (every read / write goes through a `Ref` found by following pointers; nothing in
the step function confines it to the acting solver's region).  A schedule is a list of (solver id, operation);
`run repaired sched` runs it from the empty world; operations that are not applicable in the current state (e.g. a second
`construct` of the same id) leave the world unchanged.  The oracle inputs `z` (objective value of the new trial) and
`better` (the new trial became the best) are arbitrary: the theorems hold for every problem and every outcome of the
numeric search, for every number of solvers and every interleaving.

The component `(w.solver i)` consists of: the region of objects allocated by solver `i` (`heap`), its fields (`st`: Solution
reference, `_allTrials`, `method.best`, started flag) and the list `handed` of Solution references its user has received.
-/

namespace C12
open World

section
variable {V : Type} [OfNat V 0]

/-- **C12, ownership invariant.**  After every schedule, for every solver `i`: (1) every object reachable from its fields
— its Solution, the `bestTrials` list and the trial in it, every trial of `_allTrials`, `method.best`, with their
`functionValues` lists and `FunctionValue` holders — was allocated by `i` itself; (2) so is every pointer stored in any object
`i` ever allocated, and every Solution handed to its user; (3) objects reachable from two different solvers are disjoint. -/
theorem C12_ownership (sched : List (Nat × Op V)) :
    (∀ i, ∀ r ∈ reach (run repaired sched) i, r.owner = some i) ∧
    (∀ i, (∀ x ∈ ((run repaired sched).solver i).heap, ∀ r ∈ x.refs, r.owner = some i) ∧
          (∀ r ∈ ((run repaired sched).solver i).handed, r.owner = some i)) ∧
    (∀ i j, i ≠ j → ∀ r ∈ reach (run repaired sched) i, r ∉ reach (run repaired sched) j) := by
  have hw := allClosed_run sched
  refine ⟨fun i => mem_reach_owner _ (hw i), fun i => ⟨(hw i).heap, (hw i).handed⟩, ?_⟩
  intro i j hij r hri hrj
  have h1 := mem_reach_owner _ (hw i) r hri
  have h2 := mem_reach_owner _ (hw j) r hrj
  rw [h1] at h2
  exact hij (Option.some.inj h2)

/-- non-vacuity: after a genuine interleaving both solvers reach many objects (Solution, `bestTrials` list, and trial / list /
holder for `bestTrials[0]`, for every trial of `_allTrials` and for `best`; listed with repetitions) -/
example : (reach (run repaired ([(0, .construct), (1, .construct), (0, .first 5), (1, .first 7), (0, .iter 3 true)] :
    List (Nat × Op Int))) 0).length = 20 ∧
    (reach (run repaired ([(0, .construct), (1, .construct), (0, .first 5), (1, .first 7), (0, .iter 3 true)] :
    List (Nat × Op Int))) 1).length = 17 := by decide

/-- **C12, frame.**  After every schedule, an applicable step of solver `j` (result `w'`, report `o`):
assigns only to objects allocated by `j` (`o.wrote`); the objects it creates (`o.allocated`) are new and belong to `j`;
it leaves every object NOT allocated by `j` unchanged — in particular the whole component of every other solver `i ≠ j` and
all module-level objects; and inside `j`'s own region every pre-existing object not listed in `o.wrote` is unchanged
(the list of writes is complete). -/
theorem C12_frame (sched : List (Nat × Op V)) (j : Nat) (op : Op V) (w' : State V) (o : Out)
    (h : step repaired (run repaired sched) j op = some (w', o)) :
    (∀ r ∈ o.wrote, r.owner = some j) ∧
    (∀ r ∈ o.allocated, r.owner = some j ∧ (run repaired sched).read r = none ∧ (w'.read r).isSome) ∧
    (∀ r, r.owner ≠ some j → w'.read r = (run repaired sched).read r) ∧
    (∀ i, i ≠ j → w'.solver i = (run repaired sched).solver i) ∧
    w'.modHeap = (run repaired sched).modHeap ∧
    (∀ r, r ∉ o.wrote → ((run repaired sched).read r).isSome → w'.read r = (run repaired sched).read r) :=
  step_frame (allClosed_run sched) h

/-- non-vacuity: the step is applicable and does write (4 assignments, 3 new objects) -/
example : (step repaired (run repaired ([(0, .construct), (1, .construct), (0, .first 5), (1, .first 7)] :
    List (Nat × Op Int))) 0 (.iter 3 true)).map (fun p => (p.2.wrote.length, p.2.allocated.length)) = some (4, 3) := by
  decide

/-- **C12, isolation.**  For every schedule `sched` and every solver `i`, let `alone` be the schedule restricted to `i`'s own
steps.  Then (1) the whole component of `i` — its objects with their contents (the trial sequence with the values, the
Solution with its counters), its fields (`_allTrials`, `best`, started) and the list of Solutions handed out — after `sched`
is literally EQUAL to the one after running `alone`; and (2) for every Solution reference `s` that `GetResults` handed to
`i`'s user at any earlier point of the schedule (after any prefix `pre`), the same reference was handed out in the run
alone, and what it reports now (`bestTrials[0].functionValues[0].value`, `numberOfGlobalTrials`) equals what it reports after
the run alone.  The module-level heap is not touched. -/
theorem C12_isolation (sched : List (Nat × Op V)) (i : Nat) :
    (run repaired sched).solver i = (run repaired (sched.filter (·.1 = i))).solver i ∧
    (∀ pre post, sched = pre ++ post → ∀ s ∈ ((run repaired pre).solver i).handed,
      s ∈ ((run repaired (sched.filter (·.1 = i))).solver i).handed ∧
      report (run repaired sched) s = report (run repaired (sched.filter (·.1 = i))) s ∧
      reportTrials (run repaired sched) s = reportTrials (run repaired (sched.filter (·.1 = i))) s) ∧
    (run repaired sched).modHeap = (init repaired : State V).modHeap := by
  obtain ⟨hc, e⟩ := run_spec sched
  obtain ⟨hc', e'⟩ := run_spec (sched.filter (·.1 = i))
  have heq : (run repaired sched).solver i = (run repaired (sched.filter (·.1 = i))).solver i := by
    rw [e, e']; show lrun i _ _ = lrun i _ _; rw [List.filter_filter]; simp
  refine ⟨heq, fun pre post hsplit s hs => ?_, by rw [e]; rfl⟩
  have hmem : s ∈ ((run repaired sched).solver i).handed := hsplit ▸ handed_mono pre post i s hs
  have ho := (hc i).handed s hmem
  -- a closed component's observations look at that component only, and the two components are equal
  exact ⟨heq ▸ hmem, by rw [report_own _ (hc i) ho, report_own _ (hc' i) ho, heq],
    by rw [reportTrials_own _ ho, reportTrials_own _ ho, heq]⟩

/-- non-vacuity: a Solution handed out early (after 3 steps), then both solvers go on; it reports solver 0's optimum -/
example :
    ∃ s ∈ ((run repaired ([(0, .construct), (0, .first 5), (0, .results)] : List (Nat × Op Int))).solver 0).handed,
      report (run repaired ([(0, .construct), (0, .first 5), (0, .results), (1, .construct), (1, .first 7),
        (0, .iter 3 true), (1, .iter 9 false), (0, .iter 4 false)] : List (Nat × Op Int))) s = some 3 ∧
      reportTrials (run repaired ([(0, .construct), (0, .first 5), (0, .results), (1, .construct), (1, .first 7),
        (0, .iter 3 true), (1, .iter 9 false), (0, .iter 4 false)] : List (Nat × Op Int))) s = some 3 := by decide

/-- **C12, a Solution reports its own solver's optimum.**  `absRun ops` (`IOptProofs/WorldShape.lean`) is the view a user is
entitled to from the solver's OWN operations `ops` alone: `opt` = the value `z` of its last trial that became the best
(`first z`, or `iter z true`), `trials` = the number of its applicable `first` / `iter` operations.  For every schedule, every
solver `i` and every Solution reference `s` handed to `i`'s user at any earlier point: what `s` reports at the end
(`bestTrials[0].functionValues[0].value`, `numberOfGlobalTrials`) is exactly that view of `i`'s own operations — whatever the other
solvers did in between. -/
theorem C12_own_optimum (sched : List (Nat × Op V)) (i : Nat) (pre post : List (Nat × Op V))
    (hsplit : sched = pre ++ post) :
    ∀ s ∈ ((run repaired pre).solver i).handed,
      report (run repaired sched) s = (absRun ((sched.filter (·.1 = i)).map (·.2))).opt ∧
      reportTrials (run repaired sched) s = some (absRun ((sched.filter (·.1 = i)).map (·.2))).trials :=
  fun s hs => run_report sched i s (hsplit ▸ handed_mono pre post i s hs)

/-- non-vacuity / sanity of the abstract view: own operations of solver 0 in the schedule of the previous example -/
example : (absRun ([.construct, .first 5, .results, .iter 3 true, .iter 4 false] : List (Op Int))).opt = some 3 ∧
    (absRun ([.construct, .first 5, .results, .iter 3 true, .iter 4 false] : List (Op Int))).trials = 3 := by decide

/-- **C12, the steps never get stuck.**  After every schedule an operation of solver `i` is applicable (the step function
returns a new world) exactly when `i`'s own history allows it — `construct` once, `first` once after it, `iter` after `first`,
`results` after `construct`; in particular no pointer of the model ever dangles or has the wrong kind (no Python
`AttributeError` / `IndexError` path is taken), so the isolation theorems do not hold vacuously. -/
theorem C12_progress (sched : List (Nat × Op V)) (i : Nat) (op : Op V) :
    (step repaired (run repaired sched) i op).isSome =
      applicable (absRun ((sched.filter (·.1 = i)).map (·.2))) op :=
  step_applicable sched i op

end

/-- **C12, negative control (the repaired defect).**  In the legacy variant (`Solution.__init__(bestTrials=[Trial([], [])])`,
`SearchDataItem.__init__(functionValues=[FunctionValue()])`) the schedule
construct 0, first 0 (value 5), results 0, construct 1, first 1 (value 7) changes what solver 0's Solution reports: 5 when it was
handed out and in the run alone, 7 after solver 1's first iteration; and the two solvers reach common objects. -/
theorem C12_legacy_not_isolated :
    ∃ s ∈ ((run legacy ([(0, .construct), (0, .first 5), (0, .results)] : List (Nat × Op Int))).solver 0).handed,
      report (run legacy ([(0, .construct), (0, .first 5), (0, .results)] : List (Nat × Op Int))) s = some 5 ∧
      report (run legacy ([(0, .construct), (0, .first 5), (0, .results), (1, .construct), (1, .first 7)] :
        List (Nat × Op Int))) s = some 7 ∧
      report (run legacy (([(0, .construct), (0, .first 5), (0, .results), (1, .construct), (1, .first 7)] :
        List (Nat × Op Int)).filter (·.1 = 0))) s = some 5 ∧
      ∃ r ∈ reach (run legacy ([(0, .construct), (0, .first 5), (0, .results), (1, .construct), (1, .first 7)] :
        List (Nat × Op Int))) 0,
        r ∈ reach (run legacy ([(0, .construct), (0, .first 5), (0, .results), (1, .construct), (1, .first 7)] :
        List (Nat × Op Int))) 1 := by decide

/-- each of the two shared defaults alone already breaks isolation on the same schedule -/
theorem C12_legacy_each_default_not_isolated :
    ∀ vr ∈ [({ sharedBestTrials := true } : Variant), { sharedFunctionValues := true }],
    ∃ s ∈ ((run vr ([(0, .construct), (0, .first 5), (0, .results)] : List (Nat × Op Int))).solver 0).handed,
      report (run vr ([(0, .construct), (0, .first 5), (0, .results)] : List (Nat × Op Int))) s = some 5 ∧
      report (run vr ([(0, .construct), (0, .first 5), (0, .results), (1, .construct), (1, .first 7)] :
        List (Nat × Op Int))) s = some 7 := by decide

/-- the repaired code keeps reporting 5 on that schedule -/
example :
    ∃ s ∈ ((run repaired ([(0, .construct), (0, .first 5), (0, .results)] : List (Nat × Op Int))).solver 0).handed,
      report (run repaired ([(0, .construct), (0, .first 5), (0, .results), (1, .construct), (1, .first 7)] :
        List (Nat × Op Int))) s = some 5 := by decide

/-- the mutable defaults present in the current sources that the model accounts for, with multiplicity:
(file, function, kind of default expression, callee) -/
def allowedSites : List (String × String × String × String) := [
  -- `Evolvent.__init__(lowerBoundOfFloatVariables=[], upperBoundOfFloatVariables=[])`: copied with `np.copy`, never written
  ("iOpt/evolvent/evolvent.py", "__init__", "List", ""),
  ("iOpt/evolvent/evolvent.py", "__init__", "List", ""),
  -- `Evolvent.SetBounds(lowerBoundOfFloatVariables=[], upperBoundOfFloatVariables=[])`: copied with `np.copy`, never written
  ("iOpt/evolvent/evolvent.py", "SetBounds", "List", ""),
  ("iOpt/evolvent/evolvent.py", "SetBounds", "List", ""),
  -- `StaticNDPaintListener.__init__(varsIndxs=[0, 1])`, `AnimationNDPaintListener.__init__(varsIndxs=[0, 1])`: read only
  ("iOpt/method/listener.py", "__init__", "List", ""),
  ("iOpt/method/listener.py", "__init__", "List", ""),
  -- `Solver.__init__(parameters=SolverParameters())`: one shared parameters object, never written by the library
  ("iOpt/solver.py", "__init__", "Call", "SolverParameters"),
  -- `SolverParameters.__init__(startPoint=[])`: unused
  ("iOpt/solver_parametrs.py", "__init__", "List", "")]

def siteKey (s : String × String × String × String × Nat) : String × String × String × String :=
  (s.1, s.2.1, s.2.2.1, s.2.2.2.1)

/-- **C12, allocation sites.**  Every mutable default argument / class-level mutable attribute that the translator finds
anywhere under `iOpt/` (`Gen.allocSites`, regenerated from the sources by `ast`) is one of the sites of the explicit
allow-list that the model accounts for — compared on (file, function, kind, callee), line numbers ignored, and with
multiplicity (a second mutable default in an allow-listed function is NOT covered).  A new mutable default such as the old
`Solution.__init__(bestTrials=[Trial([], [])])` breaks this obligation. -/
theorem C12_alloc_sites :
    ∀ k ∈ Gen.allocSites.map siteKey, (Gen.allocSites.map siteKey).count k ≤ allowedSites.count k :=
  -- the allow-list and the key are those of `IOptProps/SharedState.lean`, where the census is decided
  SharedState.census_covered

/-- non-vacuity: the generated list is not empty, and the legacy defaults would be rejected -/
example : 0 < Gen.allocSites.length ∧
    allowedSites.count ("iOpt/solution.py", "__init__", "List", "") = 0 ∧
    allowedSites.count ("iOpt/method/search_data.py", "__init__", "List", "") = 0 := by decide

end C12

import IOptProofs.BenchMeta1
/-!
# C18 (metadata part): every shipped problem instance declares well-formed metadata

"Every shipped problem instance declares a dimension equal to the lengths of its name and bound vectors,
bounds with lower<upper, exactly one objective, and a known optimum inside the box."

`Gen.metaRowsPacked` holds one row per shipped instance (Hill 0..999, Shekel 0..999, Shekel4 1..3,
Grishagin 1..100, GKLS 2..5 × 1..100, Rastrigin and XSquared n = 1..50, StronginC3), read from the
running Python classes.  The two open families are also covered symbolically, for every `n`.
The Hill/Shekel min/max/Lipschitz table clauses of C18 are in `IOptProps/C18hill.lean` and `IOptProps/C18shekel.lean`.
-/

namespace C18
open Gen BenchMeta

/-- the Boolean well-formedness check of one metadata row: dimension = numberOfFloatVariables =
number of names = |lower| = |upper| = |optimum point|, every `lower_i < upper_i` (exact `Dy.lt`),
every `lower_i ≤ optPoint_i ≤ upper_i` (exact `Dy.le`), one objective, one known optimum -/
abbrev metaOK : MetaRow → Bool := BenchMeta.metaOK

/-- **C18, metadata.** Every row of the metadata table passes the Boolean well-formedness check. -/
theorem C18_meta_all : ∀ i < metaRowsPacked.size, metaOK (metaDecode metaRowsPacked[i]!) = true :=
  fun i hi => (rowOK_sound (rows_ok i hi)).1

/-- **C18, metadata, in words.** For every shipped instance: the declared dimension equals
`numberOfFloatVariables`, the number of variable names and the lengths of the lower-bound, upper-bound
and optimum-point vectors; there is exactly one objective and one known optimum; `lower_i < upper_i`
and `lower_i ≤ optimum_i ≤ upper_i` for every coordinate (as exact rationals). -/
theorem C18_meta_wf : ∀ i < metaRowsPacked.size, MetaWF (metaDecode metaRowsPacked[i]!) :=
  fun i hi => metaWF_of_metaOK (C18_meta_all i hi)

/-- non-vacuity: the table has 2604 rows, the last one (StronginC3) has 3 constraints, 1 objective -/
example : metaRowsPacked.size = 2604 ∧ (metaDecode metaRowsPacked[2603]!).nConstraints = 3 ∧
    (metaDecode metaRowsPacked[2603]!).nObjectives = 1 ∧ (metaDecode metaRowsPacked[2603]!).dimension = 2 := by
  decide +kernel

/-- **C18 for Rastrigin and XSquared in EVERY dimension** (symbolic): the metadata written by the
constructors, `rastriginMeta n` (box `[-2.2, 1.8]^n`) and `xsquaredMeta n` (box `[-1, 1]^n`), optimum
value 0 at the origin, is well-formed for every `n`. -/
theorem C18_meta_open (n : Nat) : MetaWF (rastriginMeta n) ∧ MetaWF (xsquaredMeta n) :=
  ⟨rastriginMeta_wf n, xsquaredMeta_wf n⟩

/-- Every table row of family Rastrigin (code 5) / XSquared (code 6) is exactly `rastriginMeta n` /
`xsquaredMeta n` for its own constructor argument `n ≥ 1`. -/
theorem C18_meta_open_rows : ∀ i < metaRowsPacked.size,
    let r := metaDecode metaRowsPacked[i]!
    (r.family = 5 → r = rastriginMeta r.arg0 ∧ 1 ≤ r.arg0) ∧
    (r.family = 6 → r = xsquaredMeta r.arg0 ∧ 1 ≤ r.arg0) := by
  exact open_rows

/-- The table rows for n = 1..50 are these functions: for every `n` in 1..50 the table contains the
row `rastriginMeta n` and the row `xsquaredMeta n`. -/
theorem C18_meta_open_table (n : Nat) (h1 : 1 ≤ n) (h50 : n ≤ 50) :
    (∃ i, i < metaRowsPacked.size ∧ metaDecode metaRowsPacked[i]! = rastriginMeta n) ∧
    (∃ i, i < metaRowsPacked.size ∧ metaDecode metaRowsPacked[i]! = xsquaredMeta n) := by
  have hmem : n ∈ List.range' 1 50 := by simp [List.mem_range'_1]; omega
  exact ⟨table_has_row _ 5 n _ _ rastriginMeta (meta_rastrigin_args ▸ hmem)
      (fun i hi hf => ((C18_meta_open_rows i hi).1 hf).1),
    table_has_row _ 6 n _ _ xsquaredMeta (meta_xsquared_args ▸ hmem)
      (fun i hi hf => ((C18_meta_open_rows i hi).2 hf).1)⟩

/-- non-vacuity of `C18_meta_open_rows`: row 2503 is `Rastrigin(1)`, row 2504 is `XSquared(1)` -/
example : (metaDecode metaRowsPacked[2503]!).family = 5 ∧ (metaDecode metaRowsPacked[2504]!).family = 6 ∧
    (metaDecode metaRowsPacked[2503]!).arg0 = 1 := by decide +kernel

end C18

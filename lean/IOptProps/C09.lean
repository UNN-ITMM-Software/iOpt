import IOptProofs.EvNumInv
import IOptProps.C07num
import Mathlib.Data.Rat.Floor
import Mathlib.Tactic.NormNum
/-!
# C09: `GetInverseImage` inverts `GetImage` up to the subinterval grid

Field-level statements about the code's loops (`Ev.imageCube`, `Ev.inverseCube`, `Ev.p2d`,
`Ev.d2p`), with `int(d)` = natural floor (`Ev.Num.floorTrunc`).
-/

set_option linter.unusedSectionVars false
namespace Ev
variable {α : Type} [Field α] [LinearOrder α] [IsStrictOrderedRing α] [FloorSemiring α]
attribute [local instance] Ev.Num.floorTrunc

/-- **C09 (affine maps)**: `__TransformD2P` and `__TransformP2D` are mutually inverse when
`lower_i ≠ upper_i` for every `i` (all three lists of the same length). -/
theorem C09_affine_inverse (lower upper y : List α) (hl : lower.length = y.length)
    (hu : upper.length = y.length)
    (hne : ∀ i (h1 : i < lower.length) (h2 : i < upper.length), lower[i] ≠ upper[i]) :
    d2p lower upper (p2d lower upper y) = y ∧ p2d lower upper (d2p lower upper y) = y :=
  ⟨Num.d2p_p2d lower upper y hl hu hne, Num.p2d_d2p lower upper y hl hu hne⟩

example : d2p [(-1 : ℚ), 0] [2, 3] (p2d [(-1 : ℚ), 0] [2, 3] [1/8, -3/8]) = [1/8, -3/8] :=
  (C09_affine_inverse [(-1 : ℚ), 0] [2, 3] [1/8, -3/8] rfl rfl
    (Num.forall_getElem_pair (by norm_num) (by norm_num))).1

/-- **C09 (inverse of a centre)**: for a valid digit list `ds` (length `m`, base-`2^n` digits), the
centre of its cell, `y_i = (cubeY n ds)_i / 2^(m+1)`, is mapped by `__GetXonY` to
`indexOf n ds / (2^n)^m`, the left end of the subinterval with these digits. -/
theorem C09_inverse_of_centre {n : Nat} (hn : Ev.DimOK n) (ds : List Nat)
    (hd : validDigits n ds) :
    inverseCube n ds.length ((cubeY n ds).map fun (Y : Int) => (Y : α) / 2^(ds.length + 1)) =
      (indexOf n ds : α) / (2^n)^ds.length := by
  rw [Num.cubeY_map_eq_ptOf hn ds, Num.inverseCube_eq hn,
    Num.invDigits_ptOf hn ds _ _ (by positivity) (validState_init hn.pos) hd, Num.frac]

/-- non-vacuity of `C09_inverse_of_centre`: `n = 2`, digits `[1, 2]`, subinterval `6` of `16`. -/
example : inverseCube 2 2 ((cubeY 2 [1, 2]).map fun (Y : Int) => (Y : ℚ) / 2^(2 + 1)) = 6 / 16 := by
  have h := C09_inverse_of_centre (α := ℚ) (n := 2) (by decide) [1, 2] (by decide)
  simp only [List.length_cons, List.length_nil] at h
  rw [h]; norm_num [indexOf]

/-- for EVERY `x`, `__GetXonY (__GetYonX x)` is the left end of the subinterval of `x` -/
theorem inverse_image_cellIdx {n : Nat} (hn : Ev.DimOK n) (m : Nat) (x : α) :
    inverseCube n m (imageCube n m x) = (Num.cellIdx n m x : α) / (2^n)^m := by
  have h := C09_inverse_of_centre (α := α) hn _ (digitsOf_valid n m (Num.cellIdx n m x))
  rw [digitsOf_length] at h
  rw [Num.imageCube_cellIdx hn, h, indexOf_digitsOf (Num.cellIdx_lt n m x)]

/-- **C09 (inverse of the image)**: for `0 ≤ x < 1`, `__GetXonY (__GetYonX x)` is `x` rounded
down to the subinterval grid: `⌊x·(2^n)^m⌋₊ / (2^n)^m`. -/
theorem C09_inverse_image {n : Nat} (hn : Ev.DimOK n) (m : Nat) (x : α) (h0 : 0 ≤ x)
    (h1 : x < 1) :
    inverseCube n m (imageCube n m x) = (⌊x * (2^n)^m⌋₊ : α) / (2^n)^m := by
  rw [inverse_image_cellIdx hn, Num.cellIdx_of_lt_one n m h0 h1]

/-- **C09 (inverse of the image, end rule)**: for `x ≥ 1` the round trip gives the left end of the
last subinterval, `((2^n)^m - 1) / (2^n)^m`. -/
theorem C09_inverse_image_end {n : Nat} (hn : Ev.DimOK n) (m : Nat) (x : α) (h1 : 1 ≤ x) :
    inverseCube n m (imageCube n m x) = ((2^n)^m - 1) / (2^n)^m := by
  rw [inverse_image_cellIdx hn, Num.cellIdx_of_one_le n m h1,
    Nat.cast_pred (Nat.pow_pos (Nat.two_pow_pos n))]
  push_cast; rfl

/-- non-vacuity of `C09_inverse_image`: `n = 2`, `m = 2`, `x = 3/7 ↦ 6/16`. -/
example : inverseCube 2 2 (imageCube 2 2 (3/7 : ℚ)) = 6 / 16 := by
  rw [C09_inverse_image (α := ℚ) (n := 2) (by decide) 2 (3/7) (by norm_num) (by norm_num)]
  have e : ⌊(3/7 : ℚ) * (2^2)^2⌋₊ = 6 := by
    rw [Nat.floor_eq_iff (by norm_num)]; norm_num
  rw [e]; norm_num

example : inverseCube 2 2 (imageCube 2 2 (1 : ℚ)) = 15 / 16 := by
  rw [C09_inverse_image_end (α := ℚ) (n := 2) (by decide) 2 1 (le_refl _)]; norm_num

/-- **C09 (image of the inverse)**: for an arbitrary cube point `y` (`n` coordinates, each
`|y_i| ≤ 1/2`) the digits `ds` recovered by `__GetXonY` are valid, `__GetXonY y` is the left end
`indexOf n ds / (2^n)^m` of their subinterval, and `__GetYonX (__GetXonY y)` is the centre of the
cell of `ds`, which is within half a cell width `2^-(m+1)` of `y` in every coordinate — i.e. the
centre of the cell containing `y`. -/
theorem C09_image_of_inverse {n : Nat} (hn : Ev.DimOK n) (m : Nat) (y : List α)
    (hy : y.length = n) (hb : ∀ yi ∈ y, |yi| ≤ 1 / 2) :
    ∃ ds : List Nat, validDigits n ds ∧ ds.length = m ∧
      inverseCube n m y = (indexOf n ds : α) / (2^n)^m ∧
      imageCube n m (inverseCube n m y) = (cubeY n ds).map (fun (Y : Int) => (Y : α) / 2^(m+1)) ∧
      (imageCube n m (inverseCube n m y)).length = n ∧
      ∀ (i : Nat) (h1 : i < y.length) (h2 : i < (imageCube n m (inverseCube n m y)).length),
        |y[i] - (imageCube n m (inverseCube n m y))[i]| ≤ 1 / 2^(m+1) := by
  have hv := validState_init hn.pos
  obtain ⟨hd, hc⟩ := Num.invDigits_close hn m (1 / 2 : α) (St.init n) y (by positivity) hv hy hb
  have hinv := Num.inverseCube_eq hn m y
  have hlen := Num.length_invDigits (α := α) n m (1 / 2) (St.init n) y
  generalize Num.invDigits n m (1 / 2 : α) (St.init n) y = ds at hd hc hinv hlen
  subst hlen
  have himg := Num.imageCube_frac (α := α) hn ds hd
  rw [← Num.frac, ← hinv] at himg
  have hpt := himg.trans (Num.cubeY_map_eq_ptOf hn ds)
  refine ⟨ds, hd, rfl, hinv, himg, ?_, ?_⟩
  · rw [hpt, ← hc.length_eq, hy]
  · simp only [hpt, pow_succ', ← div_div]
    exact fun i h1 h2 => (List.forall₂_iff_get.1 hc).2 i h1 h2

/-- non-vacuity of `C09_image_of_inverse`: `n = 2`, `m = 2`, `y = (1/5, -1/3)`. -/
example : ∀ (i : Nat) (h1 : i < [(1/5 : ℚ), -1/3].length)
    (h2 : i < (imageCube 2 2 (inverseCube 2 2 [(1/5 : ℚ), -1/3])).length),
    |[(1/5 : ℚ), -1/3][i] - (imageCube 2 2 (inverseCube 2 2 [(1/5 : ℚ), -1/3]))[i]| ≤ 1 / 2^(2+1) := by
  obtain ⟨_, _, _, _, _, _, h⟩ := C09_image_of_inverse (α := ℚ) (n := 2) (by decide) 2
    [1/5, -1/3] rfl (by
      intro yi hyi
      simp only [List.mem_cons, List.not_mem_nil, or_false] at hyi
      rcases hyi with rfl | rfl <;> rw [abs_le] <;> constructor <;> norm_num)
  exact h

/-- **C09 (GetInverseImage ∘ GetImage)**: for bounds with `lower_i ≠ upper_i` and `0 ≤ x < 1`,
`GetInverseImage (GetImage x)` is `x` rounded down to the subinterval grid. -/
theorem C09_getInverseImage_getImage {n : Nat} (hn : Ev.DimOK n) (m : Nat)
    (lower upper : List α) (hl : lower.length = n) (hu : upper.length = n)
    (hne : ∀ i (h1 : i < lower.length) (h2 : i < upper.length), lower[i] ≠ upper[i])
    (x : α) (h0 : 0 ≤ x) (h1 : x < 1) :
    getInverseImage n m lower upper (getImage n m lower upper x) =
      (⌊x * (2^n)^m⌋₊ : α) / (2^n)^m := by
  rw [Num.getInverseImage_getImage n m lower upper hl hu hne x, C09_inverse_image hn m x h0 h1]

/-- **C09 (GetInverseImage ∘ GetImage, end rule)**: for `x ≥ 1` the result is the left end of the
last subinterval. -/
theorem C09_getInverseImage_getImage_end {n : Nat} (hn : Ev.DimOK n) (m : Nat)
    (lower upper : List α) (hl : lower.length = n) (hu : upper.length = n)
    (hne : ∀ i (h1 : i < lower.length) (h2 : i < upper.length), lower[i] ≠ upper[i])
    (x : α) (h1 : 1 ≤ x) :
    getInverseImage n m lower upper (getImage n m lower upper x) = ((2^n)^m - 1) / (2^n)^m := by
  rw [Num.getInverseImage_getImage n m lower upper hl hu hne x, C09_inverse_image_end hn m x h1]

/-- **C09 (GetImage ∘ GetInverseImage)**: for bounds with `lower_i < upper_i` and a box point `y`
(`lower_i ≤ y_i ≤ upper_i`), `GetImage (GetInverseImage y)` has `n` coordinates and is within half
a cell width `(upper_i - lower_i) / 2^(m+1)` of `y` in every coordinate. -/
theorem C09_getImage_getInverseImage {n : Nat} (hn : Ev.DimOK n) (m : Nat)
    (lower upper y : List α) (hl : lower.length = n) (hu : upper.length = n) (hy : y.length = n)
    (hlt : ∀ i (h1 : i < lower.length) (h2 : i < upper.length), lower[i] < upper[i])
    (hin : ∀ i (h0 : i < y.length) (h1 : i < lower.length) (h2 : i < upper.length),
      lower[i] ≤ y[i] ∧ y[i] ≤ upper[i]) :
    (getImage n m lower upper (getInverseImage n m lower upper y)).length = n ∧
    ∀ i (hp : i < (getImage n m lower upper (getInverseImage n m lower upper y)).length)
      (h0 : i < y.length) (h1 : i < lower.length) (h2 : i < upper.length),
      |y[i] - (getImage n m lower upper (getInverseImage n m lower upper y))[i]| ≤
        (upper[i] - lower[i]) / 2^(m+1) := by
  obtain ⟨hdl, hdb⟩ := Num.d2p_in_cube lower upper y hl hu hy hlt hin
  obtain ⟨ds, _, _, _, _, hil, hclose⟩ := C09_image_of_inverse hn m (d2p lower upper y) hdl hdb
  unfold getImage getInverseImage
  refine ⟨by simp [length_p2d, hl, hu, hil], ?_⟩
  intro i hp h0 h1 h2
  have hi1 : i < (d2p lower upper y).length := by omega
  have hi2 : i < (imageCube n m (inverseCube n m (d2p lower upper y))).length := by omega
  have hc := hclose i hi1 hi2
  rw [Num.getElem_p2d lower upper _ i hp hi2 h1 h2]
  rw [Num.getElem_d2p lower upper y i hi1 h0 h1 h2] at hc
  exact (Num.p2d_coord_close _ _ _ _ _ (hlt i h1 h2) hc).trans_eq (one_div_mul_eq_div _ _)

/-- non-vacuity of the end-to-end statements: box `[-1,2] × [0,3]`, `m = 2`. -/
example : getInverseImage 2 2 [(-1 : ℚ), 0] [2, 3] (getImage 2 2 [(-1 : ℚ), 0] [2, 3] (3/7)) =
    6 / 16 := by
  rw [C09_getInverseImage_getImage (α := ℚ) (n := 2) (by decide) 2 [(-1 : ℚ), 0] [2, 3] rfl rfl
    (Num.forall_getElem_pair (by norm_num) (by norm_num)) (3/7) (by norm_num) (by norm_num)]
  have e : ⌊(3/7 : ℚ) * (2^2)^2⌋₊ = 6 := by
    rw [Nat.floor_eq_iff (by norm_num)]; norm_num
  rw [e]; norm_num

example : (getImage 2 2 [(-1 : ℚ), 0] [2, 3]
    (getInverseImage 2 2 [(-1 : ℚ), 0] [2, 3] [1/2, 5/2])).length = 2 :=
  (C09_getImage_getInverseImage (α := ℚ) (n := 2) (by decide) 2 [(-1 : ℚ), 0] [2, 3] [1/2, 5/2]
    rfl rfl rfl
    (Num.forall_getElem_pair (by norm_num) (by norm_num))
    (by intro i h0 h1 h2
        have : i = 0 ∨ i = 1 := by simp at h1; omega
        rcases this with rfl | rfl <;> norm_num)).1

/-! ### N = 1 (the affine branch `if self.numberOfFloatVariables == 1`) -/

/-- **C09 (N = 1)**: `__GetYonX` is `x ↦ x - 1/2`. -/
theorem C09_dim1_imageCube (m : Nat) (x : α) : imageCube 1 m x = [x - 1/2] :=
  imageCube_one m x

/-- **C09 (N = 1)**: `__GetXonY` is `y ↦ y + 1/2`. -/
theorem C09_dim1_inverseCube (m : Nat) (y : α) : inverseCube 1 m [y] = y + 1/2 := by
  simp [inverseCube, Num.half_eq]

theorem dim1_ne {a b : α} (hab : a ≠ b) :
    ∀ i (_ : i < [a].length) (_ : i < [b].length), [a][i] ≠ [b][i]
  | 0, _, _ => hab

/-- **C09 (N = 1)**: `GetInverseImage (GetImage x) = x` for a non-degenerate interval `[a, b]`. -/
theorem C09_dim1_inverse_image (m : Nat) (a b x : α) (hab : a ≠ b) :
    getInverseImage 1 m [a] [b] (getImage 1 m [a] [b] x) = x := by
  rw [getInverseImage, getImage, C09_dim1_imageCube, Num.d2p_p2d [a] [b] [x - 1/2] rfl rfl (dim1_ne hab),
    C09_dim1_inverseCube, sub_add_cancel]

/-- **C09 (N = 1)**: `GetImage (GetInverseImage [y]) = [y]` for a non-degenerate interval. -/
theorem C09_dim1_image_inverse (m : Nat) (a b y : α) (hab : a ≠ b) :
    getImage 1 m [a] [b] (getInverseImage 1 m [a] [b] [y]) = [y] := by
  have e : d2p [a] [b] [y] = [(y - (b + a) / 2) / (b - a)] := rfl
  rw [getImage, getInverseImage, e, C09_dim1_inverseCube, C09_dim1_imageCube, add_sub_cancel_right,
    ← e, Num.p2d_d2p [a] [b] [y] rfl rfl (dim1_ne hab)]

example : getInverseImage 1 10 [(-2 : ℚ)] [5] (getImage 1 10 [(-2 : ℚ)] [5] (3/7)) = 3/7 :=
  C09_dim1_inverse_image 10 (-2) 5 (3/7) (by norm_num)

end Ev
